import MqttVerif.Conn.Lemmas.PairAbs
/-! generator of the phase tables `MqttVerif/Conn/Lemmas/PairTab*.lean` (scratch, not part of the deliverable):
    breadth-first search over the pair system on concrete packets (v = 5), printed symbolically;
    run from `lean/`: `lake env lean ../tools/c01_tables_gen.lean` -/
open MqttVerif MqttVerif.Conn MqttVerif.Conn.Pair

def gA (q : Nat) : Pkt := exPub 5 q
def gB (q : Nat) : Pkt :=
  { ver := 5, kind := .publish, qos := q, pid := some 2, topic := [99], payloadLen := 3, tag := 78, size := 10 }
def gS (q : Nat) : Pkt :=
  { ver := 5, kind := .publish, qos := q, pid := some 1, topic := [100], payloadLen := 3, tag := 79, size := 10 }

structure Scen where
  name : String
  kind : Nat
  d : Bool
  q1 : Nat
  q2 : Nat

def Scen.p1 (s : Scen) : Pkt := gA s.q1
def Scen.p2 (s : Scen) : Pkt := if s.kind = 5 then gB s.q2 else gS s.q2
def Scen.start (s : Scen) : Sys :=
  if s.kind = 5 then startTwo 5 s.d s.p1 s.p2 else startBoth 5 s.p1 s.p2

def coreOf (y : Sys) : Sys := { y with logC := [], logS := [] }

structure Node where
  core : Sys
  c1 : Nat
  c2 : Nat
  r1 : Nat
  r2 : Nat
deriving DecidableEq

instance : Inhabited Node := ⟨⟨{ c := idle 5 true, s := idle 5 false }, 0, 0, 0, 0⟩⟩

structure GTrans where
  tgt : Nat
  nS : List Pkt
  nC : List Pkt
  rC : List Nat
  rS : List Nat

def acts4 : List Act4 := [.toS, .toC, .deliver, .lose]

def capc (q : Nat) : Nat := if q = 2 then 2 else 1

def succNode (s : Scen) (nd : Node) (a : Act4) : Node × (List Pkt × List Pkt × List Nat × List Nat) :=
  let y := act4 5 nd.core a
  let nS := pubNotes y.logS
  let nC := pubNotes y.logC
  let rC := releasedIds y.logC
  let rS := releasedIds y.logS
  let (d1, d2, e1, e2) :=
    if s.kind = 5 then
      let nR := if s.d then nS else nC
      let rP := if s.d then rC else rS
      ((nR.filter (fun Q => Q.pid = some 1)).length, (nR.filter (fun Q => Q.pid = some 2)).length, rP.count 1, rP.count 2)
    else (nS.length, nC.length, rC.length, rS.length)
  ({ core := coreOf y, c1 := min (capc s.q1) (nd.c1 + d1), c2 := min (capc s.q2) (nd.c2 + d2),
     r1 := min 2 (nd.r1 + e1), r2 := min 2 (nd.r2 + e2) }, (nS, nC, rC, rS))

partial def bfsLoop (s : Scen) (nodes : Array Node) (trans : Array (List GTrans)) (i : Nat) : Array Node × Array (List GTrans) :=
  if h : i < nodes.size then
    let nd := nodes[i]
    let (nodes, row) := acts4.foldl (fun (acc : Array Node × List GTrans) a =>
      let (nodes, row) := acc
      let (nd', (nS, nC, rC, rS)) := succNode s nd a
      match nodes.findIdx? (· == nd') with
      | some j => (nodes, row ++ [⟨j, nS, nC, rC, rS⟩])
      | none => (nodes.push nd', row ++ [⟨nodes.size, nS, nC, rC, rS⟩])) (nodes, [])
    bfsLoop s nodes (trans.push row) (i + 1)
  else (nodes, trans)

def kindName : Kind → String
  | .puback => "puback" | .pubrec => "pubrec" | .pubrel => "pubrel" | .pubcomp => "pubcomp"
  | .publish => "publish" | .connect => "connect" | .connack => "connack" | _ => "other"

def showPkt (s : Scen) (p : Pkt) : Except String String :=
  match p.kind with
  | .publish =>
    let (nm, orig) := if p.tag = 77 then ("P1", s.p1) else ("P2", s.p2)
    if p = orig then .ok nm else if p = orig.asDup then .ok s!"{nm}.asDup" else .error "unknown publish"
  | k =>
    let id := p.pid.getD 0
    if p = ackN 5 k id then .ok s!"(ackN v .{kindName k} {id})"
    else if p = ackRcN id then .ok s!"(pcA v {id})"
    else .error s!"unknown packet {kindName k}"

def showList (xs : List String) : String := "[" ++ ", ".intercalate xs ++ "]"

def showPkts (s : Scen) (ps : List Pkt) : Except String String := do
  let xs ← ps.mapM (showPkt s)
  return showList xs

def showSt (s : Scen) (st : St) (isC : Bool) : Except String String := do
  let pool := st.pidMan.pool
  let poolS := showList (pool.map (fun iv => s!"⟨{iv.lo}, {iv.hi}⟩"))
  let storeS ← st.store.mapM (fun e => do let x ← showPkt s e.2; return s!"({e.1}, {x})")
  if st ≠ mkSt 5 isC .connected pool st.store st.puback st.pubrec st.pubcomp st.handled st.publishRecv then
    throw "state is not of the mkSt shape"
  let prv := if st.publishRecv = [] then "[]" else s!"(prl v {st.publishRecv})"
  return s!"mkSt v {isC} .connected {poolS} {showList storeS} {st.puback} {st.pubrec} {st.pubcomp} {st.handled} {prv}"

def showSys (s : Scen) (y : Sys) : Except String String := do
  let c ← showSt s y.c true
  let sv ← showSt s y.s false
  let a ← showPkts s y.c2s
  let b ← showPkts s y.s2c
  return "{ c := " ++ c ++ ",\n      s := " ++ sv ++ ",\n      c2s := " ++ a ++ ", s2c := " ++ b ++ " }"

def rowsOf (n : Nat) (f : Nat → Option String) (dflt : String) : String := Id.run do
  let mut out := ""
  let mut omitted := false
  for i in List.range n do
    match f i with
    | some r => out := out ++ s!"  | .p{i} => {r}\n"
    | none => omitted := true
  if omitted then out := out ++ s!"  | _ => {dflt}\n"
  return out

def genScen (s : Scen) : Except String String := do
  let start : Node := { core := coreOf s.start, c1 := 0, c2 := 0, r1 := 0, r2 := 0 }
  let (nodes, trans) := bfsLoop s #[start] #[] 0
  let n := nodes.size
  -- checks
  for nd in nodes do
    if (s.q1 = 2 ∧ nd.c1 ≥ 2) ∨ (s.q2 = 2 ∧ nd.c2 ≥ 2) ∨ nd.r1 ≥ 2 ∨ nd.r2 ≥ 2 then
      throw s!"{s.name}: VIOLATION: a QoS 2 message notified twice or an identifier released twice"
  let idleSys : Sys := { c := idle 5 true, s := idle 5 false }
  let dones := (List.range n).filter (fun i => nodes[i]!.core = idleSys)
  let done ← match dones with
    | [i] => pure i
    | _ => throw s!"{s.name}: {dones.length} idle phases"
  let dn := nodes[done]!
  if dn.c1 ≠ 1 ∨ dn.c2 ≠ 1 ∨ dn.r1 ≠ 1 ∨ dn.r2 ≠ 1 then throw s!"{s.name}: counters at done"
  let isK5 := s.kind = 5
  let hAty := s!"IsPub v {s.q1} P1"
  let hBty := if isK5 then s!"IsPubN v {s.q2} 2 P2" else s!"IsPub v {s.q2} P2"
  let mut o := ""
  o := o ++ "import MqttVerif.Conn.Lemmas.PairAbs\n"
  o := o ++ "/-!\n# Generated phase table (helper for `Props/C01L2c.lean`)\n\n"
  o := o ++ (if isK5 then
      s!"Two SAME-direction exchanges in flight: `startTwo v {s.d} P1 P2`, `P1` QoS {s.q1} (identifier 1), `P2` QoS {s.q2} (identifier 2).\n"
    else
      s!"Two OPPOSITE exchanges in flight: `startBoth v P1 P2`, `P1` QoS {s.q1} client→server, `P2` QoS {s.q2} server→client.\n")
  o := o ++ s!"`Ph`: the {n} phases that ANY schedule of `Act4` actions passes through (found by a breadth-first search on concrete\n"
  o := o ++ "packets; a phase is a shape of the pair together with how often each message has been notified and each identifier\n"
  o := o ++ "released so far, so a shape may occur in several phases).\n"
  o := o ++ "`sysOf`: the shape; `next`: the successor; `nS nC rC rS`: the PUBLISH notifications at the server / client application and\n"
  o := o ++ "the identifiers released by the client / server in that step.  `tab` collects them; `ok`, `counts`, `loss` (`PairAbs.lean`):\n"
  o := o ++ "the kernel reads the table in tokens, runs the machine `astep` on every phase and action and finds the table's successor\n"
  o := o ++ "and outputs - so the table is right for arbitrary packets and both versions (`closure`) - and checks that the outputs\n"
  o := o ++ "follow the progress of the two exchanges as the shapes show it (`Counted`), and the runs with one loss.\n-/\n"
  o := o ++ "set_option linter.unusedVariables false\n"
  o := o ++ s!"namespace MqttVerif.Conn.Pair.{s.name}\nopen MqttVerif MqttVerif.Conn MqttVerif.Conn.Pair\n\n"
  o := o ++ "inductive Ph\n"
  for i in List.range n do o := o ++ s!"  | p{i}\n"
  o := o ++ "deriving DecidableEq, Repr\n\n"
  o := o ++ "def sysOf (v : Nat) (P1 P2 : Pkt) : Ph → Sys\n"
  for i in List.range n do
    let t ← showSys s nodes[i]!.core
    o := o ++ s!"  | .p{i} =>\n    {t}\n"
  o := o ++ "\ndef next (ph : Ph) (a : Act4) : Ph :=\n  match ph with\n"
  for i in List.range n do
    let r := trans[i]!
    o := o ++ s!"  | .p{i} => sel a" ++ String.join (r.map (fun t => s!" .p{t.tgt}")) ++ "\n"
  -- outputs
  let pktRow (f : GTrans → List Pkt) (i : Nat) : Except String (Option String) := do
    let r := trans[i]!
    if r.all (fun t => f t = []) then return none
    let xs ← r.mapM (fun t => showPkts s (f t))
    return some ("sel a " ++ " ".intercalate xs)
  let natRow (f : GTrans → List Nat) (i : Nat) : Option String :=
    let r := trans[i]!
    if r.all (fun t => f t = []) then none
    else some ("sel a " ++ " ".intercalate (r.map (fun t => toString (f t))))
  let mut emptyS := false
  let mut emptyC := false
  let mut emptyRC := false
  let mut emptyRS := false
  for (nm, f) in [("nS", GTrans.nS), ("nC", GTrans.nC)] do
    let rows ← (List.range n).mapM (pktRow f)
    if rows.all Option.isNone then
      o := o ++ s!"\ndef {nm} (P1 P2 : Pkt) (ph : Ph) (a : Act4) : List Pkt := []\n"
      if nm = "nS" then emptyS := true else emptyC := true
    else
      o := o ++ s!"\ndef {nm} (P1 P2 : Pkt) (ph : Ph) (a : Act4) : List Pkt :=\n  match ph with\n" ++ rowsOf n (fun i => rows[i]!) "[]"
  for (nm, f) in [("rC", GTrans.rC), ("rS", GTrans.rS)] do
    let rows := (List.range n).map (natRow f)
    if rows.all Option.isNone then
      o := o ++ s!"\ndef {nm} (ph : Ph) (a : Act4) : List Nat := []\n"
      if nm = "rC" then emptyRC := true else emptyRS := true
    else
      o := o ++ s!"\ndef {nm} (ph : Ph) (a : Act4) : List Nat :=\n  match ph with\n" ++ rowsOf n (fun i => rows[i]!) "[]"
  if isK5 then
    if (s.d && !(emptyC && emptyRS)) || (!s.d && !(emptyS && emptyRC)) then throw s!"{s.name}: the publisher is notified / the receiver releases"
  o := o ++ s!"\nabbrev tab : PhaseData := ⟨Ph, sysOf, next, nS, nC, rC, rS, .p0, .p{done}⟩\n"
  o := o ++ s!"\ninstance (p : Ph → Prop) [DecidablePred p] : Decidable (∀ ph, p ph) :=\n"
  o := o ++ s!"  decidableForallEnum Ph.ofNat Ph.ctorIdx Ph.ofNat_ctorIdx {n} (by intro ph; cases ph <;> decide) p\n"
  let x0 := if isK5 then s!"2 (astartTwo {s.q1} {s.q2} {s.d})" else s!"1 (astartBoth {s.q1} {s.q2})"
  let args := if isK5 then s!"{s.d} {s.q1} {s.q2}" else s!"{s.q1} {s.q2}"
  let k := if isK5 then "5" else "6"
  o := o ++ s!"\ntheorem ok : tab.Ok {s.q1} {s.q2} {x0} where\n"
  o := o ++ "  sys_abs v P1 P2 ph := by cases ph <;> rfl\n"
  let rowsAbs (empty : Bool) := if empty then "rfl" else "by cases ph <;> exact row_abs rfl a"
  o := o ++ s!"  nS_abs v P1 P2 ph a := {rowsAbs emptyS}\n"
  o := o ++ s!"  nC_abs v P1 P2 ph a := {rowsAbs emptyC}\n"
  o := o ++ "  steps := by decide +kernel\n"
  o := o ++ s!"\ntheorem counts : tab.Counts{k} {args} := by\n  decide +kernel\n"
  o := o ++ s!"\ntheorem loss : tab.Loss{k} {args} := by\n  decide +kernel\n"
  o := o ++ s!"\nsection\nvariable \{v : Nat} \{P1 P2 : Pkt} (hv : v = 4 ∨ v = 5) (hA : {hAty}) (hB : {hBty})\ninclude hv hA hB\n"
  let obsOf (i : String) := s!"Obs2 (sysOf v P1 P2 (next {i} a)) (nS P1 P2 {i} a) (nC P1 P2 {i} a) (rC {i} a) (rS {i} a) (act4 v (sysOf v P1 P2 {i}) a)"
  let hBN := if isK5 then "hB" else "hB.isPubN"
  o := o ++ s!"\ntheorem closure (ph : Ph) (a : Act4) :\n    {obsOf "ph"} :=\n"
  o := o ++ s!"  ok.closure hv hA {hBN} ph a\n"
  o := o ++ "end\n"
  o := o ++ s!"\nend MqttVerif.Conn.Pair.{s.name}\n"
  return o

def scens : List Scen :=
  [⟨"G5_11t", 5, true, 1, 1⟩, ⟨"G5_12t", 5, true, 1, 2⟩, ⟨"G5_21t", 5, true, 2, 1⟩, ⟨"G5_22t", 5, true, 2, 2⟩,
   ⟨"G5_11f", 5, false, 1, 1⟩, ⟨"G5_12f", 5, false, 1, 2⟩, ⟨"G5_21f", 5, false, 2, 1⟩, ⟨"G5_22f", 5, false, 2, 2⟩,
   ⟨"G6_11", 6, true, 1, 1⟩, ⟨"G6_12", 6, true, 1, 2⟩, ⟨"G6_21", 6, true, 2, 1⟩, ⟨"G6_22", 6, true, 2, 2⟩]

#eval (do
  for s in scens do
    match genScen s with
    | .ok txt =>
      IO.FS.writeFile s!"MqttVerif/Conn/Lemmas/PairTab{s.name}.lean" txt
      IO.println s!"{s.name}: written, {txt.length} chars"
    | .error e => IO.println s!"{s.name}: ERROR {e}" : IO Unit)
