import MqttVerif.Conn.Lemmas.R5Common
/-!
# C11 — `PacketTooLarge` is only reported against the limit in force

Driver monitor `VIOL sig=C11 refused_by_stale_limit@<site>` (= `C14 refused_within_limit`): a send
refused with `PacketTooLarge` although the peer's Maximum Packet Size in force is (well) above the
packet's size.  In the model every path of `send` that pushes `NotifyError(PacketTooLarge)` lies
behind a failed `sizeOk c p = !(p.sz c.cfg.pw > c.s.mpsSend)`, read from the state **before** the
call, where `p.sz` is `p.size` except for a v5.0 PUBLISH, whose size is derived from its parts
(`Pkt.pubSize`).  This holds in any context (reachable or not) and for any packet; after
`notify_closed` and on a fresh object `mpsSend = noLimit` (`C14_closed_resets_send_limit`).
-/
namespace MqttVerif.Conn
open MqttVerif

def r5_tl (l : List Ev) : Bool := l.any (fun e => e == Ev.error eTooLarge)

def r5_E (c : C) : Bool := r5_tl c.ev

theorem r5_tl_iff (l : List Ev) : r5_tl l = true ↔ Ev.error eTooLarge ∈ l := by
  simp [r5_tl]

theorem r5_ite_E (p : Prop) {_ : Decidable p} (a b : C) :
    r5_E (if p then a else b) = if p then r5_E a else r5_E b := apply_ite _ _ _ _

theorem r5_E_push (c : C) (e : Ev) (h : e ≠ .error eTooLarge) : r5_E (c.push e) = r5_E c := by
  simp [r5_E, r5_tl, C.push, h]

theorem r5_E_push_recv (c : C) (p) : r5_E (c.push (.recv p)) = r5_E c := r5_E_push c _ (by simp)
theorem r5_E_push_tc (c : C) (k) : r5_E (c.push (.timerCancel k)) = r5_E c := r5_E_push c _ (by simp)
theorem r5_E_setPanic (c : C) (x : String) : r5_E (c.setPanic x) = r5_E c := rfl
theorem r5_E_clearStoreRelated (c : C) : r5_E (clearStoreRelated c) = r5_E c := rfl
theorem r5_E_initConn (c : C) (b : Bool) : r5_E (initConn c b) = r5_E c := rfl

theorem r5_E_frame {T : List EvTag} {c c' : C} (h : Appends T c c') (hT : EvTag.error ∉ T) : r5_E c' = r5_E c := by
  refine h.any_eq _ (fun e he => ?_)
  cases e <;> first | rfl | exact absurd he hT

theorem r5_E_outcome {g : Prop} {rel : Option Nat} {c c' : C} (h : Outcome g rel c c') : r5_E c' = r5_E c ∨ g := by
  cases h with
  | refused e r hev he hr =>
    refine he.imp (fun he => ?_) id
    have : r.any (fun e => e == Ev.error eTooLarge) = false :=
      List.any_eq_false.2 (fun x hx => by have := hr x hx; cases x <;> simp_all [Ev.tag])
    simp [r5_E, r5_tl, hev, this, he]
  | quiet hev => exact .inl (congrArg r5_tl hev)
  | sent q h r hev hr _ =>
    left
    rcases hr with rfl | ⟨ms, rfl⟩ <;> simp [r5_E, r5_tl, hev]

/-! ## the handlers outside `Outcome`: guarded, with a body that pushes no error -/

theorem r5_E_guarded {g : Prop} {c : C} {large refuse : Prop} [Decidable large] [Decidable refuse] {rel : Option Nat}
    {body : C} (hg : large → g) (hb : r5_E body = r5_E c) : r5_E (Fp.guarded c large refuse rel body) = r5_E c ∨ g :=
  Fp.guarded_ind (Q := fun r => r5_E r = r5_E c ∨ g) (fun hl => .inr (hg hl))
    (fun _ _ => r5_E_outcome (rel := none) (.refusal _ (.inl (by decide)) _)) fun _ _ => .inl hb

theorem r5_E_disconnectBody (c : C) (p : Pkt) :
    r5_E (((cancelTimers { c with s := { c.s with status := .disconnected } }).push (.send p none)).push .close)
      = r5_E c :=
  r5_E_frame (T := [.timerCancel, .send, .close])
    ((((Fp.cancelTimers_ev _).congr_left rfl).mono (by decide)).send (by decide) _ _ |>.close (by decide)) (by decide)

theorem r5_psV3Disconnect (c : C) (p : Pkt) : r5_E (psV3Disconnect c p) = r5_E c ∨ False :=
  Fp.psV3Disconnect_eq c p ▸ r5_E_guarded id (r5_E_disconnectBody c p)

theorem r5_psV5Disconnect (c : C) (p : Pkt) : r5_E (psV5Disconnect c p) = r5_E c ∨ sizeOk c p = false :=
  Fp.psV5Disconnect_eq c p ▸ r5_E_guarded not_sizeOk (r5_E_disconnectBody c p)

theorem r5_E_connackBody (c c1 : C) (p : Pkt) (h : r5_E c1 = r5_E c) :
    r5_E (Fp.connackTail (c1.push (.send p none)) p) = r5_E c :=
  (r5_E_frame (Fp.connackTail_ev _ p) (by decide)).trans ((r5_E_push c1 _ (by simp)).trans h)

theorem r5_psV3Connack (c : C) (p : Pkt) : r5_E (psV3Connack c p) = r5_E c ∨ False :=
  Fp.psV3Connack_guarded c p ▸ r5_E_guarded id (r5_E_connackBody c c p rfl)

theorem r5_psV5Connack (c : C) (p : Pkt) : r5_E (psV5Connack c p) = r5_E c ∨ sizeOk c p = false := by
  rw [Fp.psV5Connack_guarded]
  refine r5_E_guarded not_sizeOk (r5_E_connackBody c _ p ?_)
  rw [r5_ite_E, r5_E_frame (Fp.propsFold_ev _ Fp.connackSendProp_ev c p.props) (by decide), ite_self]

theorem r5_psPingreq (c : C) (p : Pkt) : r5_E (psPingreq c p) = r5_E c ∨ (p.ver = 5 ∧ sizeOk c p = false) := by
  rw [Fp.psPingreq_eq]
  refine r5_E_guarded (fun h => ⟨h.1, not_sizeOk h.2⟩) ((r5_E_frame (Fp.sendPostProcess_ev _) (by decide)).trans ?_)
  rw [r5_ite_E, r5_E_push _ _ (by simp)]
  exact (ite_self _).trans (r5_E_push c _ (by simp))

/-! ## the handlers with an `Outcome` that only this property walks through -/

theorem r5_psV3Connect (g : Prop) (c : C) (p : Pkt) : Outcome g none c (psV3Connect c p) :=
  Fp.psV3Connect_eq c p ▸ .guarded False.elim fun _ _ => .post _ p none (ite_keeps C.ev rfl rfl) (.inl rfl)

theorem r5_psV5Connect (c : C) (p : Pkt) : Outcome (sizeOk c p = false) none c (psV5Connect c p) :=
  Fp.psV5Connect_eq c p ▸ .guarded not_sizeOk fun _ _ => .post _ p none
    ((Fp.propsFold_keeps C.ev _ Fp.connectSendProp_ev _ _).trans (ite_keeps C.ev rfl rfl)) (.inl rfl)

theorem r5_psSubUnsub (c : C) (p : Pkt) :
    Outcome (p.ver = 5 ∧ sizeOk c p = false) (some (p.pid.getD 0)) c (psSubUnsub c p) := by
  rw [Fp.psSubUnsub_eq]
  refine .guarded (fun h => ⟨h.1, not_sizeOk h.2⟩) fun _ _ => Fp.ite_ind (fun _ => .refuse _) fun _ => ?_
  exact .post _ p _ (ite_keeps C.ev rfl rfl) (.inr ⟨rfl, ite_keeps (fun x : C => x.s.store) rfl rfl⟩)

theorem r5_processSend (c : C) (p : Pkt) :
    r5_E (processSend c p) = r5_E c ∨ (p.ver ≠ 4 ∧ sizeOk c p = false) := by
  have v5 : ∀ {c' : C}, p.ver ≠ 4 → r5_E c' = r5_E c ∨ sizeOk c p = false →
      r5_E c' = r5_E c ∨ (p.ver ≠ 4 ∧ sizeOk c p = false) := fun hv h => h.imp id (fun h => ⟨hv, h⟩)
  have any : ∀ {c' : C}, r5_E c' = r5_E c ∨ (p.ver = 5 ∧ sizeOk c p = false) →
      r5_E c' = r5_E c ∨ (p.ver ≠ 4 ∧ sizeOk c p = false) := fun h => h.imp id (fun h => ⟨by omega, h.2⟩)
  exact Fp.processSend_cases (Q := fun c' => r5_E c' = r5_E c ∨ (p.ver ≠ 4 ∧ sizeOk c p = false)) c p
    (fun _ _ => r5_E_outcome (r5_psV3Connect _ c p))
    (fun _ _ => (r5_psV3Connack c p).imp id False.elim)
    (fun _ _ => r5_E_outcome (psV3Publish_outcome _ c p))
    (fun _ _ => r5_E_outcome (psV3Simple_outcome _ c p))
    (fun _ _ => (r5_psV3Disconnect c p).imp id False.elim)
    (fun _ _ => .inl rfl)
    (fun _ => any (r5_E_outcome (psPubrel_outcome c p)))
    (fun _ => any (r5_E_outcome (r5_psSubUnsub c p)))
    (fun _ => any (r5_psPingreq c p))
    (fun hv _ => v5 hv (r5_E_outcome (r5_psV5Connect c p)))
    (fun hv _ => v5 hv (r5_psV5Connack c p))
    (fun hv _ => v5 hv (r5_E_outcome (psV5Publish_outcome c p)))
    (fun hv _ => v5 hv (r5_E_outcome (psV5Puback_outcome c p)))
    (fun hv _ => v5 hv (r5_E_outcome (psV5Pubrec_outcome c p)))
    (fun hv _ => v5 hv (r5_E_outcome (psV5Pubcomp_outcome c p)))
    (fun hv _ => v5 hv (r5_psV5Disconnect c p))
    (fun hv _ => v5 hv (r5_E_outcome (psV5Auth_outcome c p)))
    (fun hv _ => v5 hv (r5_E_outcome (psV5Simple_outcome c p)))

theorem r5_send (c : C) (p : Pkt) :
    r5_E (send c p) = r5_E c ∨ (c.s.ver = p.ver ∧ p.ver ≠ 4 ∧ sizeOk c p = false) :=
  Fp.send_cases (Q := fun c' => r5_E c' = r5_E c ∨ (c.s.ver = p.ver ∧ p.ver ≠ 4 ∧ sizeOk c p = false)) c p
    (fun _ => (r5_E_outcome (g := False) (rel := none) (.refusal _ (.inl (by decide)) _)).imp id False.elim)
    (fun _ _ => (r5_E_outcome (g := False) (rel := none) (.refusal _ (.inl (by decide)) _)).imp id False.elim)
    (fun hv _ => (r5_processSend c p).imp id (fun h => ⟨hv, h⟩))

/-- **C11 refused_by_stale_limit** — `PacketTooLarge` (none among the events pushed before the
    call) is reported by `send` only for a packet of the connection's version that exceeds the
    limit held in `mpsSend` before the call (and never for a v3.1.1 packet) -/
theorem C11_too_large_needs_limit (c : C) (p : Pkt) (hold : Ev.error eTooLarge ∉ c.ev)
    (h : Ev.error eTooLarge ∈ (send c p).ev) :
    p.sz c.cfg.pw > c.s.mpsSend ∧ c.s.ver = p.ver ∧ p.ver ≠ 4 := by
  have h1 : r5_E (send c p) = true := (r5_tl_iff _).2 h
  have h0 : r5_E c = false := by
    cases hE : r5_E c with
    | false => rfl
    | true => exact absurd ((r5_tl_iff _).1 hE) hold
  rcases r5_send c p with e | ⟨hv, h4, hz⟩
  · rw [e, h0] at h1; cases h1
  · refine ⟨?_, hv, h4⟩
    simpa [sizeOk] using hz

/-- the same for one API call -/
theorem C11_too_large_needs_limit_step (cfg : Cfg) (s : St) (p : Pkt)
    (h : Ev.error eTooLarge ∈ (step cfg s (.send p)).ev) :
    p.sz cfg.pw > s.mpsSend ∧ s.ver = p.ver ∧ p.ver ≠ 4 :=
  C11_too_large_needs_limit { cfg := cfg, s := s } p (by simp) h

/-- with no limit in force nothing below the protocol's own maximum is refused as too large -/
theorem C11_no_limit_no_too_large (cfg : Cfg) (s : St) (p : Pkt) (hm : s.mpsSend = noLimit)
    (hp : p.sz cfg.pw ≤ noLimit) : Ev.error eTooLarge ∉ (step cfg s (.send p)).ev := by
  intro h
  have := (C11_too_large_needs_limit_step cfg s p h).1
  omega

/-! ## non-vacuity: states reached by running the model from `St.init` -/
namespace C11R5Ex
def cfg : Cfg := { role := .client, pw := 2 }
def connect : Pkt := { ver := 5, kind := .connect, size := 15 }
def connack : Pkt := { ver := 5, kind := .connack, size := 8, rc := some 0, props := [(pMPS, 10)] }
def pub (n : Nat) : Pkt := { ver := 5, kind := .publish, topic := [97], payloadLen := n }
/-- a client whose server announced Maximum Packet Size 10 -/
def s : St := run cfg (St.init cfg 5) [.send connect, .recv [0x20, 0] (fun _ _ _ => .ok connack)]
example : Reachable cfg 5 s := ⟨_, rfl⟩
example : s.mpsSend = 10 ∧ s.status = .connected ∧ (pub 20).sz cfg.pw = 26 ∧ (pub 2).sz cfg.pw = 8 := by decide
-- the hypothesis is satisfiable: a 26-byte PUBLISH is refused …
example : Ev.error eTooLarge ∈ (step cfg s (.send (pub 20))).ev := by decide
example : (pub 20).sz cfg.pw > s.mpsSend ∧ s.ver = (pub 20).ver ∧ (pub 20).ver ≠ 4 :=
  C11_too_large_needs_limit_step cfg s (pub 20) (by decide)
-- … an 8-byte one is sent
example : (step cfg s (.send (pub 2))).ev = [.send (pub 2) none] := by decide
-- after `closed` no limit is in force: the 26-byte PUBLISH is refused for the state, not for its size
example : (step cfg s .closed).s.mpsSend = noLimit ∧
    (step cfg (step cfg s .closed).s (.send (pub 20))).ev = [.error eNotAllowed] := by decide
end C11R5Ex

end MqttVerif.Conn
