import MqttVerif.Codec.LemmasSpecKinds
/-!
# C03 — wire format = specification (independent reference encoder)

`MqttVerif.Spec.Wire` (`Spec/WireSpec.lean`) is a second, declarative encoder written from the
OASIS MQTT v3.1.1 / v5.0 documents with its own constants: abstract packets without cached
lengths, `encode = (type·16 + flags) :: varInt |body| ++ body`.  `Packet.abs` forgets the
cached lengths of an impl-shaped packet and reads its flag bits.  A symmetric error in the code
(a field written and read at the same wrong offset, swapped flag bits, a mistyped property id)
would be copied into the impl-shaped model by the lock-step run and then break the theorems
below; the run also evaluates the reference encoder on every builder output and on every
re-encoded parsed packet (`C03 bytes@<kind>`).
-/
namespace MqttVerif.Props.C03
open MqttVerif.Codec MqttVerif.Spec.Wire

/-- fixed header bytes the library writes (`FixedHeader`) = control packet type (Table 2-1) · 16 +
    reserved flags (Table 2-2); PUBLISH, whose flags vary, has type nibble 3 -/
theorem C03_consts_eq_spec :
    [0x10, 0x20, 0x40, 0x50, 0x62, 0x70, 0x82, 0x90, 0xa2, 0xb0, 0xc0, 0xd0, 0xe0, 0xf0]
      = ([CPType.CONNECT, .CONNACK, .PUBACK, .PUBREC, .PUBREL, .PUBCOMP, .SUBSCRIBE, .SUBACK, .UNSUBSCRIBE, .UNSUBACK,
          .PINGREQ, .PINGRESP, .DISCONNECT, .AUTH].map fun t => t.value * 16 + t.reservedFlags)
    ∧ [AckKind.puback, .pubrec, .pubrel, .pubcomp].map AckKind.fh
      = ([AckKind.puback, .pubrec, .pubrel, .pubcomp].map fun k => k.cp.value * 16 + k.cp.reservedFlags)
    ∧ CPType.PUBLISH.value * 16 = 0x30 := by decide

/-- the 27 property identifiers and their wire types are those of Table 2-4; no other identifier
    below 43 is accepted -/
theorem C03_property_table : ∀ id, id < 43 → (propShape id).map Shape.data = propertyType id := propTable_eq_spec

/-- identifiers ≥ 43 are unknown to the library -/
theorem C03_property_table_bound (id : Nat) (h : propShape id ≠ none) : id < 43 := propShape_le id h

/-- the specification's Variable Byte Integer algorithm = `VariableByteInteger::from_u32` -/
theorem C03_varint_eq_spec (v : Nat) (hv : v ≤ vbiMax) : varInt v = vbiEnc v := spec_varInt v hv

example : (2097152 : Nat) ≤ vbiMax ∧ vbiEnc 2097152 = [0x80, 0x80, 0x80, 0x01] := by decide

/-- every property a constructor can produce is written as Table 2-4 prescribes -/
theorem C03_property_eq_spec (p : Property) (h : p.ok = true) : encodeProp p.abs = p.encode := spec_prop p h

example : (Property.u32 39 65536).ok = true ∧ (Property.pair 38 [0x6b] [0x76]).ok = true := by decide

/-- **encode_eq_spec**: for every well-formed packet (all 29 kinds, both id widths) the bytes of
    `to_continuous_buffer` are exactly the bytes the reference encoder prescribes for its field values -/
theorem C03_encode_eq_spec (pw : Nat) (p : Packet) (hpw : pw = 2 ∨ pw = 4) (h : p.wf pw = true) :
    p.encode pw = (Packet.abs p).encode pw := (Packet.spec_eq pw p hpw h).symm

example : (2 = 2 ∨ 2 = 4) ∧
    Packet.wf 2 (.connect5 ⟨29, 0x06, 60, 3, [.u16 33 5], [0x63], 5, [.u32 24 1], [0x74], [1], [], []⟩) = true := by decide

/-- **parse_spec_encoding**: the specification's encoding of a well-formed packet's field values
    splits into a frame whose body the library's parser accepts, consuming all of it, and the
    result has the field values that were encoded — every accessor returns the encoded value
    (`abs` of the result = the abstract packet that was encoded) -/
theorem C03_parse_spec_encoding (pw : Nat) (p : Packet) (hpw : pw = 2 ∨ pw = 4) (h : p.wf pw = true) :
    ∃ fh body q, frameBody ((Packet.abs p).encode pw) = some (fh, body.length, body) ∧
      Packet.parse p.version pw fh body = some (.ok q body.length) ∧ Packet.abs q = Packet.abs p := by
  obtain ⟨fh, body, _, hfb, hp, _, hrl⟩ := Packet.roundTrips pw p hpw h
  refine ⟨fh, body, p, ?_, hp, rfl⟩
  rw [Packet.spec_eq pw p hpw h, hfb, hrl]

end MqttVerif.Props.C03
