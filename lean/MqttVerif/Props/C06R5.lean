import MqttVerif.Conn.Lemmas.R5Common
/-!
# C06 — the send-error hint and the store

`RequestSendPacket { packet, release_packet_id_if_send_error: Some(id) }` tells the application to
release `id` when the write fails.  Driver monitor `VIOL sig=C06 hint_releases_stored_id@<site>`:
such a hint on a PUBLISH / PUBREL must not name an identifier a stored packet carries after the call.

A PUBLISH gets the hint only on the branch of `send` that does not store it, and a PUBREL never
gets one; so the hint can only name a stored identifier if that identifier was stored *before* the
call.  The `send` contract (`IdFresh`: the identifier awaits no response) excludes that on states
whose stored identifiers are all awaited (part of `StoreInv`, `StoreInv.fresh_not_stored`); both
enter here as plain hypotheses.  Without them the statement is false in the model
(`C06_r5_counterexample_hint_names_stored`, a state reached from `St.init`); the monitor is
evaluated on traces whose application respects the contract, so on those an alarm is a statement
about the code.
-/
namespace MqttVerif.Conn
open MqttVerif

/-- the identifier a `RequestSendPacket` names in `release_packet_id_if_send_error` -/
def r5_hint : Ev → Option Nat
  | .send _ (some j) => some j
  | _ => none

def r5_hs (l : List Ev) : List Nat := l.filterMap r5_hint

theorem r5_mem_hs {l : List Ev} {q : Pkt} {j : Nat} (h : Ev.send q (some j) ∈ l) : j ∈ r5_hs l :=
  List.mem_filterMap.2 ⟨_, h, rfl⟩

theorem r5_hs_setPanic (c : C) (x : String) : r5_hs (c.setPanic x).ev = r5_hs c.ev := rfl
theorem r5_store_setPanic (c : C) (x : String) : (c.setPanic x).s.store = c.s.store := rfl
theorem r5_store_push (c : C) (e : Ev) : (c.push e).s.store = c.s.store := rfl
theorem r5_store_err (c : C) (e : Nat) : (c.err e).s.store = c.s.store := rfl

theorem r5_hs_cons (l r : List Ev) (e : Ev) (hr : r.filterMap r5_hint = []) :
    r5_hs (l ++ e :: r) = r5_hs l ++ (r5_hint e).toList := by
  unfold r5_hs
  rw [List.filterMap_append, List.filterMap_cons, hr]
  cases r5_hint e <;> rfl

theorem r5_hs_outcome {g : Prop} {rel : Option Nat} {c c' : C} (h : Outcome g rel c c') :
    r5_hs c'.ev = r5_hs c.ev ∨ ∃ j, rel = some j ∧ r5_hs c'.ev = r5_hs c.ev ++ [j] ∧ c'.s.store = c.s.store := by
  cases h with
  | refused e r hev _ hr =>
    have : r.filterMap r5_hint = [] :=
      List.filterMap_eq_nil_iff.2 (fun x hx => by have := hr x hx; cases x <;> first | rfl | cases this)
    exact .inl (by rw [hev, r5_hs_cons _ _ _ this]; exact List.append_nil _)
  | quiet hev => exact .inl (congrArg r5_hs hev)
  | sent q h r hev hr hh =>
    have hr' : r.filterMap r5_hint = [] := by rcases hr with rfl | ⟨ms, rfl⟩ <;> rfl
    rw [hev, r5_hs_cons _ _ _ hr']
    cases h with
    | none => exact .inl (List.append_nil _)
    | some j => exact hh.elim (fun h => nomatch h) (fun h => .inr ⟨j, h.1.symm, rfl, h.2⟩)

/-- **C06 (hint shape), PUBLISH** — a `send` of a PUBLISH adds no hint, or exactly one: the
    packet's own identifier, on a call that left the store alone. -/
theorem C06_hint_shape_publish (c : C) (p : Pkt) (hk : p.kind = .publish) :
    r5_hs (send c p).ev = r5_hs c.ev ∨
    ∃ id, p.pid = some id ∧ r5_hs (send c p).ev = r5_hs c.ev ++ [id] ∧ (send c p).s.store = c.s.store := by
  refine r5_hs_outcome (g := sizeOk c p = false) (send_outcome ?_)
  unfold processSend
  rw [hk]
  exact Fp.ite_ind (fun _ => psV3Publish_outcome _ c p) (fun _ => psV5Publish_outcome c p)

/-- **C06 hint_releases_stored_id, PUBREL** (no hypothesis on the state) — a `send` of a PUBREL
    adds no hint. -/
theorem C06_hint_never_names_stored_pubrel (c : C) (p : Pkt) (hk : p.kind = .pubrel) :
    r5_hs (send c p).ev = r5_hs c.ev := by
  have h : Outcome (p.ver = 5 ∧ sizeOk c p = false) none c (send c p) := by
    refine send_outcome ?_
    unfold processSend
    rw [hk]
    exact Fp.ite_ind (fun _ => psPubrel_outcome c p) (fun _ => psPubrel_outcome c p)
  exact (r5_hs_outcome h).elim id (fun ⟨_, hj, _⟩ => nomatch hj)

/-- **C06 hint_releases_stored_id, PUBLISH** — *partial*: needs that the packet's identifier is
    not the identifier of a packet stored before the call (see
    `C06_r5_counterexample_hint_names_stored`; the hypothesis follows from the `send` contract,
    `C06_hint_never_names_stored_contract`): then no hint of the call names an identifier in the
    resulting store.  Stated
    for contexts with no hint pushed yet (an API call starts with no events). -/
theorem C06_hint_never_names_stored_partial (c : C) (p : Pkt) (hk : p.kind = .publish)
    (hev : r5_hs c.ev = [])
    (hst : ∀ id, p.pid = some id → storeHas id c.s.store = false) :
    ∀ q id, Ev.send q (some id) ∈ (send c p).ev → storeHas id (send c p).s.store = false := by
  intro q id hm
  have hmem := r5_mem_hs hm
  rcases C06_hint_shape_publish c p hk with h | ⟨j, hj, h, hs⟩
  · rw [h, hev] at hmem; cases hmem
  · rw [h, hev] at hmem
    simp only [List.nil_append, List.mem_singleton] at hmem
    subst hmem
    rw [hs]; exact hst id hj

/-- the same for one API call, PUBLISH or PUBREL -/
theorem C06_hint_never_names_stored_step (cfg : Cfg) (s : St) (p : Pkt)
    (hk : p.kind = .publish ∨ p.kind = .pubrel)
    (hst : p.kind = .publish → ∀ id, p.pid = some id → storeHas id s.store = false) :
    ∀ q id, Ev.send q (some id) ∈ (step cfg s (.send p)).ev →
      storeHas id (step cfg s (.send p)).s.store = false := by
  rcases hk with hk | hk
  · exact C06_hint_never_names_stored_partial { cfg := cfg, s := s } p hk rfl (hst hk)
  · intro q id hm
    have := r5_mem_hs hm
    have e : r5_hs (step cfg s (.send p)).ev = [] :=
      C06_hint_never_names_stored_pubrel { cfg := cfg, s := s } p hk
    rw [e] at this; cases this

/-- where the extra hypothesis comes from: the `send` contract (`IdFresh`: the identifier awaits
    no response) on a state whose stored identifiers are all awaited (`StoreInv`) -/
theorem C06_hint_never_names_stored_contract (cfg : Cfg) (s : St) (p : Pkt) (hk : p.kind = .publish)
    (hinv : ∀ x ∈ s.store, x.1 ∈ s.puback ∨ x.1 ∈ s.pubrec ∨ x.1 ∈ s.pubcomp)
    (hfresh : ∀ id, p.pid = some id → id ∉ s.puback ∧ id ∉ s.pubrec ∧ id ∉ s.pubcomp) :
    ∀ q id, Ev.send q (some id) ∈ (step cfg s (.send p)).ev →
      storeHas id (step cfg s (.send p)).s.store = false := by
  refine C06_hint_never_names_stored_step cfg s p (.inl hk) (fun _ id hid => ?_)
  obtain ⟨f1, f2, f3⟩ := hfresh id hid
  cases h : storeHas id s.store with
  | false => rfl
  | true =>
    exfalso
    simp only [storeHas, List.any_eq_true, decide_eq_true_eq] at h
    obtain ⟨x, hx, rfl⟩ := h
    rcases hinv x hx with h | h | h
    · exact f1 h
    · exact f2 h
    · exact f3 h

/-! ## the counter-example and non-vacuity: states reached by running the model from `St.init` -/
namespace C06R5Ex
def cfg : Cfg := { role := .client, pw := 2 }
def connect (props : List (Nat × Nat)) : Pkt :=
  { ver := 5, kind := .connect, size := 20, keepAlive := 0, clean := false, props := props }
def connack (sp : Bool) : Pkt := { ver := 5, kind := .connack, size := 5, rc := some 0, sp := sp }
def pub (tag : Nat) : Pkt :=
  { ver := 5, kind := .publish, qos := 1, pid := some 1, topic := [97], payloadLen := 1, tag := tag }
def parse (sp : Bool) : Nat → Nat → List Nat → Except Nat Pkt := fun _ _ _ => .ok (connack sp)

/-- session 1 with Session Expiry Interval 60: packet 1 is sent and stored; the transport closes;
    session resumed by a CONNECT without Session Expiry Interval (nothing new will be stored),
    CONNACK with session present: packet 1 is resent, still stored, still awaited -/
def s : St := run cfg (St.init cfg 5)
  [.send (connect [(pSEI, 60)]), .recv [0x20, 0x03, 0x00, 0x00, 0x00] (parse false),
   .acquire, .send (pub 0), .closed,
   .send (connect []), .recv [0x20, 0x03, 0x01, 0x00, 0x00] (parse true)]

example : Reachable cfg 5 s := ⟨_, rfl⟩
example : s.status = .connected ∧ s.needStore = false ∧ s.store = [(1, { pub 0 with dup := true })] ∧
    s.puback = [1] ∧ isUsed s 1 = true := by decide

/-- **counter-example to the statement without the extra hypothesis**: on the reachable state `s`
    a `send` of a (new) QoS 1 PUBLISH under the identifier 1 yields a `RequestSendPacket` whose hint
    names 1, and a packet with identifier 1 is in the resulting store.  The call breaks the `send`
    contract: identifier 1 awaits a PUBACK (`1 ∈ s.puback`), the application did not obtain it. -/
theorem C06_r5_counterexample_hint_names_stored :
    Ev.send (pub 7) (some 1) ∈ (step cfg s (.send (pub 7))).ev ∧
    storeHas 1 (step cfg s (.send (pub 7))).s.store = true ∧
    (pub 7).kind = .publish ∧ (pub 7).qos = 1 ∧ 1 ∈ s.puback := by decide

/-- non-vacuity of the partial theorem: a fresh identifier on the same state — the hint names it,
    and it is not stored -/
def pub2 : Pkt := { pub 7 with pid := some 2 }
def s2 : St := (step cfg s .acquire).s
example : isUsed s2 2 = true ∧ storeHas 2 s2.store = false := by decide
example : (step cfg s2 (.send pub2)).ev = [.send pub2 (some 2)] ∧
    storeHas 2 (step cfg s2 (.send pub2)).s.store = false := by decide
example : ∀ q id, Ev.send q (some id) ∈ (step cfg s2 (.send pub2)).ev →
    storeHas id (step cfg s2 (.send pub2)).s.store = false :=
  C06_hint_never_names_stored_step cfg s2 pub2 (.inl rfl) (fun _ id h => by cases h; decide)
/-- … and of the stored branch: in session 1 the PUBLISH is stored and carries no hint -/
def s1 : St := run cfg (St.init cfg 5)
  [.send (connect [(pSEI, 60)]), .recv [0x20, 0x03, 0x00, 0x00, 0x00] (parse false), .acquire]
example : (step cfg s1 (.send (pub 0))).ev = [.send (pub 0) none] ∧
    storeHas 1 (step cfg s1 (.send (pub 0))).s.store = true := by decide
/-- a PUBREL never carries a hint -/
example : (step cfg s2 (.send { ver := 5, kind := .pubrel, size := 4, pid := some 2 })).ev
    = [.send { ver := 5, kind := .pubrel, size := 4, pid := some 2 } none] := by decide
end C06R5Ex

end MqttVerif.Conn
