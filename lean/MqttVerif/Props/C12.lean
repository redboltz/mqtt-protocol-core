import MqttVerif.Conn.Lemmas.Credit
import MqttVerif.Conn.Lemmas.Pigeon
/-!
# C12 — Receive Maximum flow control is exact in both directions

Statement (properties.jsonl): on a v5.0 connection whose peer announced Receive Maximum M, a new
QoS>0 PUBLISH is accepted only while fewer than M outbound QoS>0 exchanges of this connection
are incomplete; the reported vacancy equals M minus that number, never wraps or panics, and returns
to M when all exchanges complete; conversely an excess inbound QoS>0 PUBLISH is answered with
DISCONNECT 'Receive Maximum exceeded' and not delivered.

Model fields: `sendMax` (M), `sendCount` (u32 since fix ab9a1ec), wait sets `puback pubrec pubcomp`, `store`;
`vacancy s = sendMax.map (· - sendCount)`.  The send gate is exactly `sendCount ≥ M`.  The exact
equation `sendCount = |puback| + |pubrec| + |pubcomp| + |limbo|` (`CreditEq`) is kept by each
transition of an exchange on a live connection and re-established on resume and at the start of a
new session (fix 9ba24a9); over all histories it is **false** (`C12_credit_invariant_full_false`,
findings #28, #29).
-/
set_option linter.unusedSimpArgs false
set_option linter.unusedVariables false
namespace MqttVerif.Conn
open MqttVerif

/-! ## 1. the counter never wraps -/

/-- **C12, the counter never wraps**: from a state without panic no call raises a panic at one of
    the two `publish_send_count += 1` sites, provided the peer's Receive Maximum is a `u16` value
    and at most 4294967295 packets are stored (`WrapPre`); for every M ≥ 0, every operation, every
    peer input. -/
theorem C12_no_wrap (cfg : Cfg) (s : St) (op : Op) (h : WrapPre s) (hp : s.panic = none) :
    (step cfg s op).s.panic ≠ some siteStored ∧ (step cfg s op).s.panic ≠ some sitePublish := by
  have := step_cp cfg s op h
  simp only [hp, cpOf] at this
  simp only [Option.some.injEq, reduceCtorEq, or_self, decide_false, decide_eq_false_iff_not, not_or] at this
  exact this

/-- `WrapPre` from what the connection's invariants give (C05 `Inv`: `StoreInv` — stored ids pairwise
    distinct, also `C08_store_ids_distinct` — and `StoreRange` — stored ids inside `[1, idMax]`):
    with identifiers of at most 4 bytes the store cannot hold more than `u32::MAX` packets
    (pigeonhole), so the store bound of `C12_no_wrap` needs no assumption on the session size. -/
theorem wrapPre_of_ids (cfg : Cfg) (s : St) (h4 : cfg.pw ≤ 4)
    (hM : ∀ M, s.sendMax = some M → M ≤ 65535)
    (hn : (s.store.map (·.1)).Nodup) (hr : ∀ x ∈ s.store, 1 ≤ x.1 ∧ x.1 ≤ cfg.idMax) : WrapPre s :=
  ⟨hM, Nat.le_trans (Pigeon.keys_length_le hn hr) (Pigeon.idMax_le_u32 h4)⟩

/-- **`C12_no_wrap` without a bound on the session size** (`u32` counter, fix ab9a1ec): neither
    `+= 1` site panics when the peer's Receive Maximum is a `u16`, identifiers are at most 4 bytes
    wide and the stored identifiers are pairwise distinct members of `[1, idMax]` — both
    invariants of every reachable state.  (The `u16` counter needed "at most 65535 stored
    packets", which 4-byte identifiers do not guarantee: finding fixed by ab9a1ec.) -/
theorem C12_no_wrap_ids (cfg : Cfg) (s : St) (op : Op) (h4 : cfg.pw ≤ 4)
    (hM : ∀ M, s.sendMax = some M → M ≤ 65535)
    (hn : (s.store.map (·.1)).Nodup) (hr : ∀ x ∈ s.store, 1 ≤ x.1 ∧ x.1 ≤ cfg.idMax)
    (hp : s.panic = none) :
    (step cfg s op).s.panic ≠ some siteStored ∧ (step cfg s op).s.panic ≠ some sitePublish :=
  C12_no_wrap cfg s op (wrapPre_of_ids cfg s h4 hM hn hr) hp

/-- the three decrements (PUBACK / failing PUBREC / PUBCOMP, and `erase`) go through
    `decSendCount`, which is guarded: never below zero, no panic site -/
theorem C12_dec_never_underflows (c : C) :
    (decSendCount c).s.sendCount = c.s.sendCount - 1 ∨ (decSendCount c).s.sendCount = c.s.sendCount := by
  unfold decSendCount; split <;> simp
theorem C12_dec_panic (c : C) : (decSendCount c).s.panic = c.s.panic := by
  unfold decSendCount; split <;> rfl

/-! ## 2. the send gate -/

/-- **C12, the send gate**: with `sendMax = some M` (M a `u16`), a v5.0 QoS>0 PUBLISH that passes
    all other checks (size, allowed, identifier in use and fresh, full topic, alias in range if
    any), handed to `psV5Publish` with no event pushed before, is refused with
    ReceiveMaximumExceeded **iff** `sendCount ≥ M`.  On refusal exactly `[error 0x93, released id]`
    is emitted, nothing is sent, the identifier is released and all of store / wait sets / alias
    tables / counters are as before (`core` = the 14 fields C12 and C13 talk about); otherwise
    `sendCount` grows by exactly 1 and the identifier enters its wait set. -/
theorem C12_send_accepted_iff_credit (c : C) (p : Pkt) (id M : Nat) (hev : c.ev = [])
    (hsz : sizeOk c p = true) (hq : p.qos > 0)
    (hid : p.pid = some id) (hna : pubNotAllowed c.s = false) (hu : isUsed c.s id = true)
    (hk : p.kind = .publish) (ht : p.topic ≠ [])
    (halias : ∀ a, p.alias = some a → validateTopicAliasRange c.s a = true)
    (hM : c.s.sendMax = some M) (hM65 : M ≤ 65535)
    (h1 : id ∉ c.s.puback) (h2 : id ∉ c.s.pubrec) (h3 : lookup id c.s.store = none) :
    (Ev.error eRMExceeded ∈ (psV5Publish c p).ev ↔ c.s.sendCount ≥ M) ∧
    (c.s.sendCount ≥ M →
      (psV5Publish c p).ev = [.error eRMExceeded, .released id] ∧
      (psV5Publish c p).s.core = c.s.core ∧
      (psV5Publish c p).s.pidMan = (Alloc.deallocate c.s.pidMan id).2) ∧
    (c.s.sendCount < M →
      (psV5Publish c p).s.sendCount = c.s.sendCount + 1 ∧
      (psV5Publish c p).s.puback = (addWait c p.qos id).s.puback ∧
      (psV5Publish c p).s.pubrec = (addWait c p.qos id).s.pubrec) := by
  have hA := fun hge => psV5Publish_refused c p id M hsz hq hid hna hu hk ht hM hge h1 h2 h3
  have hB := fun hlt => psV5Publish_accepted c p id M hsz hq hid hna hu ht halias hM hlt hM65
  refine ⟨⟨?_, ?_⟩, ?_, ?_⟩
  · intro hin
    by_cases hge : c.s.sendCount ≥ M
    · exact hge
    · have := (hB (by omega)).2.1 _ hin
      simp [hev] at this
  · intro hge; rw [(hA hge).1]; simp
  · intro hge; have := hA hge; simpa [hev] using this
  · intro hlt; exact ⟨(hB hlt).1, (hB hlt).2.2⟩

/-! ## 5. receiver side -/

/-- **C12, receiver side**: with `recvMax = some L` and at least `L` identifiers unanswered, a
    received v5.0 QoS>0 PUBLISH (carrying an identifier) that passed the alias stage is **not
    delivered** (no `.recv` event) and not entered into `publishRecv`; while connected: timers
    cancelled, DISCONNECT 0x93 + close (or only close when the DISCONNECT exceeds the peer's Maximum
    Packet Size), then the error ReceiveMaximumExceeded, status `disconnected` -/
theorem C12_recv_excess_disconnects (c : C) (p p' : Pkt) (L : Nat) (hL : c.s.recvMax = some L)
    (hge : c.s.publishRecv.length ≥ L) (hq : p.qos > 0) (hpid : p.pid.isSome)
    (hpass : (prV5PublishAlias c p).2 = some p') :
    recvs (prV5Publish c (.ok p)).ev = recvs c.ev ∧
    (prV5Publish c (.ok p)).s.publishRecv = c.s.publishRecv ∧
    (c.s.status = .connected →
      (prV5Publish c (.ok p)).s.status = .disconnected ∧
      ∃ tc, (∀ x ∈ tc, IsTimerCancel x) ∧
        (prV5Publish c (.ok p)).ev = c.ev ++ tc ++
          (if sizeOk c (mkV5Disconnect 0x93) then [.send (mkV5Disconnect 0x93) none, .close] else [.close]) ++
          [.error eRMExceeded]) := by
  obtain ⟨e1, e2, e3⟩ := prvAlias_pass c p p' hpass
  rw [recv_excess_eq c p p' L hL hge hq hpid hpass]
  refine ⟨(handleV5Error_recvs _ _).trans (prV5PublishAlias_recvs c p),
    by rw [Fp.handleV5Error_s, Fp.prV5PublishAlias_s], ?_⟩
  intro hc
  obtain ⟨s1, tc, h1, h2⟩ := handleV5Error_connected (prV5PublishAlias c p).1 eRMExceeded (by rw [e2]; exact hc)
  refine ⟨s1, tc, h1, ?_⟩
  have hsz : sizeOk (prV5PublishAlias c p).1 (mkV5Disconnect 0x93) = sizeOk c (mkV5Disconnect 0x93) := by
    unfold sizeOk; simp [e3]
  simpa [errToDisconnectRc, eRMExceeded, e1, hsz] using h2

/-- the bookkeeping stage of an accepted PUBLISH (`prvBook`) inserts the identifier into
    `publishRecv` iff QoS>0 … -/
theorem C12_publishRecv_insert (c : C) (qos id : Nat) :
    (prvBook c qos id).s.publishRecv = if qos > 0 then ins id c.s.publishRecv else c.s.publishRecv := by
  unfold prvBook; dsimp only; (repeat' split) <;> simp_all

/-- … and sending a PUBACK / PUBCOMP (`psV5Pubcomp` is `psV5Puback`) or a PUBREC deletes the
    packet's identifier from it only if the packet is actually sent (requested in the same call) —
    a PUBREC moreover only with a failing reason code (≥ 0x80) -/
theorem C12_publishRecv_delete (c : C) (p : Pkt) :
    ((psV5Puback c p).s.publishRecv = c.s.publishRecv ∨
      ((psV5Puback c p).s.publishRecv = del (p.pid.getD 0) c.s.publishRecv ∧ Ev.send p none ∈ (psV5Puback c p).ev)) ∧
    ((psV5Pubrec c p).s.publishRecv = c.s.publishRecv ∨
      ((psV5Pubrec c p).s.publishRecv = del (p.pid.getD 0) c.s.publishRecv ∧
        (∃ rc, p.rc = some rc ∧ rc ≥ 0x80) ∧ Ev.send p none ∈ (psV5Pubrec c p).ev)) := by
  have sent : ∀ c' : C, Ev.send p none ∈ (sendPostProcess (c'.push (.send p none))).ev := fun c' =>
    (Fp.sendPostProcess_ev _).mem (List.mem_append_right _ (List.mem_singleton_self _))
  have post : ∀ c' : C, (sendPostProcess (c'.push (.send p none))).s.publishRecv = c'.s.publishRecv := fun c' => by
    rw [Fp.sendPostProcess_s]
    rfl
  constructor
  · have key := @Fp.ite_ind C (fun r => r.s.publishRecv = c.s.publishRecv ∨
      (r.s.publishRecv = del (p.pid.getD 0) c.s.publishRecv ∧ Ev.send p none ∈ r.ev))
    unfold psV5Puback
    exact key (fun _ => .inl rfl) (fun _ => key (fun _ => .inl rfl)
      (fun _ => .inr ⟨post _, sent _⟩))
  · exact Fp.psV5Pubrec_paths (Q := fun r => r.s.publishRecv = c.s.publishRecv ∨
        (r.s.publishRecv = del (p.pid.getD 0) c.s.publishRecv ∧ (∃ rc, p.rc = some rc ∧ rc ≥ 0x80) ∧
          Ev.send p none ∈ r.ev)) c p (fun _ => .inl rfl) (fun _ _ => .inl rfl)
      (fun _ _ rc e h => .inr ⟨post _, ⟨rc, e, h⟩, sent _⟩)
      (fun _ _ _ => .inl (post c))

/-- every other public call leaves `publishRecv` alone (a CONNECT re-initialises it) -/
theorem C12_publishRecv_frame (cfg : Cfg) (s : St) (op : Op)
    (h : match op with | .send _ => False | .recv _ _ => False | _ => True) :
    (step cfg s op).s.publishRecv = s.publishRecv := by
  cases op with
  | send p => exact h.elim
  | recv inp parse => exact h.elim
  | timer k => rw [step, Fp.notifyTimerFired_s]
  | closed => rw [step, Fp.notifyClosed_s]
  | setInterval d => rw [step, Fp.setPingreqSendInterval_s]
  | setFlag f b => cases f <;> rfl
  | release id => rw [step, Fp.releasePacketId_s]
  | erase id => rw [step, Fp.eraseStoredPublish_s]
  | restorePackets ps => rw [step, Fp.restorePackets_s]
  | _ => rfl

/-! ## 3./4. the exact equation -/

def waitCount (s : St) : Nat := s.puback.length + s.pubrec.length + s.pubcomp.length

/-- `sendCount = |puback| + |pubrec| + |pubcomp| + |limbo|` whenever a Receive Maximum is known;
    `limbo` = identifiers whose PUBREC arrived and whose PUBREL was not sent yet (manual mode) -/
def CreditEq (s : St) (limbo : List Nat) : Prop :=
  ∀ M, s.sendMax = some M → s.sendCount = waitCount s + limbo.length

/-- ghost limbo set after a call: still-owned identifiers that left `pubrec` without entering
    `pubcomp` -/
def limboNext (s s' : St) (limbo : List Nat) : List Nat :=
  ((limbo ++ s.pubrec.filter (· ∉ s'.pubrec)).filter
    (fun id => id ∉ s'.pubcomp ∧ id ∉ s'.pubrec ∧ isUsed s' id)).eraseDups

def limboRun (cfg : Cfg) : St → List Nat → List Op → List Nat
  | _, limbo, [] => limbo
  | s, limbo, op :: ops => limboRun cfg (step cfg s op).s (limboNext s (step cfg s op).s limbo) ops

/-- minimal legality of a call relative to the state: a QoS>0 PUBLISH uses an identifier owned
    by no other exchange, a PUBREL continues an exchange in limbo, stored packets are restored or
    erased only consistently -/
def opLegal (s : St) (limbo : List Nat) : Op → Bool
  | .send p =>
    if p.kind = .publish ∧ p.qos > 0 then
      match p.pid with
      | some id => id ∉ s.puback ∧ id ∉ s.pubrec ∧ id ∉ s.pubcomp ∧ id ∉ limbo ∧ (lookup id s.store).isNone
      | none => false
    else if p.kind = .pubrel then decide (p.pid.getD 0 ∈ limbo) else true
  | .restorePackets _ => s.status = .disconnected
  | .erase id => id ∈ s.puback ∨ id ∈ s.pubrec
  | _ => true

def legalRun (cfg : Cfg) : St → List Nat → List Op → Bool
  | _, _, [] => true
  | s, limbo, op :: ops =>
    opLegal s limbo op && legalRun cfg (step cfg s op).s (limboNext s (step cfg s op).s limbo) ops

/-- the full statement: along every legal history of a fresh v5.0 connection object -/
def C12_credit_invariant_full : Prop :=
  ∀ (cfg : Cfg) (ops : List Op), legalRun cfg (St.init cfg 5) [] ops = true →
    CreditEq (run cfg (St.init cfg 5) ops) (limboRun cfg (St.init cfg 5) [] ops)

namespace C12Ex
def cfg : Cfg := { role := .client, pw := 2 }
def connect (props : List (Nat × Nat)) : Pkt := { ver := 5, kind := .connect, size := 15, props := props }
def connack (sp : Bool) (props : List (Nat × Nat)) : Pkt :=
  { ver := 5, kind := .connack, size := 8, rc := some 0, sp := sp, props := props }
def pub (qos id : Nat) : Pkt := { ver := 5, kind := .publish, topic := [97], qos := qos, pid := some id }
def ack (k : Kind) (id : Nat) : Pkt := { ver := 5, kind := k, size := 4, pid := some id }
def rx (fh : Nat) (p : Pkt) : Op := .recv [fh, 0] (fun _ _ _ => .ok p)
def fin (ops : List Op) : St := run cfg (St.init cfg 5) ops

/-- **witness, finding #29**: after the transport of a non-persistent session closed nothing is
    outstanding, but the old counter and limit are still in force (vacancy 1 instead of 2) -/
def w29 : List Op :=
  [.send (connect []), rx 0x20 (connack false [(pRM, 2)]), .acquire, .send (pub 1 1), .closed]
/-- **witness, finding #28**: a QoS 2 exchange in limbo (PUBREC seen, PUBREL not yet sent) carried
    across a reconnect is not recounted: after the manual PUBREL the counter is one too low -/
def w28 : List Op :=
  [.send (connect [(pSEI, 60)]), rx 0x20 (connack false [(pRM, 5)]), .acquire, .send (pub 2 1),
   rx 0x50 (ack .pubrec 1), .closed,
   .send (connect [(pSEI, 60)]), rx 0x20 (connack true [(pRM, 5)]), .send (ack .pubrel 1)]
/-- **witness, finding #29 (second half)**: an offline PUBLISH between two connections is
    counted against, and the next one refused by, the *previous* connection's Receive Maximum -/
def w29b : List Op :=
  [.send (connect [(pSEI, 60)]), rx 0x20 (connack false [(pRM, 1)]), .closed, .setFlag .offline true,
   .acquire, .send (pub 1 1), .acquire]

theorem w29_violates : legalRun cfg (St.init cfg 5) [] w29 = true ∧ (fin w29).sendMax = some 2 ∧
    (fin w29).sendCount = 1 ∧ waitCount (fin w29) = 0 ∧ limboRun cfg (St.init cfg 5) [] w29 = [] ∧
    vacancy (fin w29) = some 1 := by decide
theorem w28_violates : legalRun cfg (St.init cfg 5) [] w28 = true ∧ (fin w28).sendMax = some 5 ∧
    (fin w28).status = .connected ∧ (fin w28).sendCount = 0 ∧ (fin w28).pubcomp = [1] ∧
    waitCount (fin w28) = 1 ∧ limboRun cfg (St.init cfg 5) [] w28 = [] := by decide
theorem w29b_refused_offline : legalRun cfg (St.init cfg 5) [] w29b = true ∧
    (fin w29b).status = .disconnected ∧
    (step cfg (fin w29b) (.send (pub 1 2))).ev = [.error eRMExceeded, .released 2] := by decide
end C12Ex

/-- the full equation does **not** hold for all legal histories (findings #28, #29) -/
theorem C12_credit_invariant_full_false : ¬ C12_credit_invariant_full := by
  intro h
  have h28 := C12Ex.w28_violates
  have := h C12Ex.cfg C12Ex.w28 h28.1 5 h28.2.1
  rw [show run C12Ex.cfg (St.init C12Ex.cfg 5) C12Ex.w28 = C12Ex.fin C12Ex.w28 from rfl,
    h28.2.2.2.1, h28.2.2.2.2.2.1, h28.2.2.2.2.2.2] at this
  simp at this

theorem waitCount_congr {s s' : St} (h1 : s'.puback = s.puback) (h2 : s'.pubrec = s.pubrec) (h3 : s'.pubcomp = s.pubcomp) :
    waitCount s' = waitCount s := by
  unfold waitCount
  rw [h1, h2, h3]

theorem waitCount_addWait (c : C) (qos id : Nat) (h1 : id ∉ c.s.puback) (h2 : id ∉ c.s.pubrec) :
    waitCount (addWait c qos id).s = waitCount c.s + 1 := by
  unfold addWait
  refine Fp.ite_ind (Q := fun r : C => waitCount r.s = waitCount c.s + 1) (fun _ => ?_) (fun _ => ?_)
  · show c.s.puback.length + (ins id c.s.pubrec).length + c.s.pubcomp.length = _
    rw [length_ins h2, waitCount]
    omega
  · show (ins id c.s.puback).length + c.s.pubrec.length + c.s.pubcomp.length = _
    rw [length_ins h1, waitCount]
    omega

theorem CreditEq.of_core {s s' : St} {limbo : List Nat} (heq : CreditEq s limbo) (h : s'.core = s.core) :
    CreditEq s' limbo := fun M hM =>
  (congrArg Core.sendCount h).trans ((heq M ((congrArg Core.sendMax h).symm.trans hM)).trans
    (congrArg (· + limbo.length)
      (waitCount_congr (congrArg Core.puback h) (congrArg Core.pubrec h) (congrArg Core.pubcomp h)).symm))

/-- the equation is kept by a call that moves the counter and the number of awaited identifiers alike, `a` up and `b`
    down; the counter stops at zero, which the equation rules out -/
theorem CreditEq.move {s s' : St} {limbo : List Nat} (a b : Nat) (heq : CreditEq s limbo) (hm : s'.sendMax = s.sendMax)
    (hc : s.sendMax.isSome → s'.sendCount = s.sendCount + a - b) (hw : waitCount s' + b = waitCount s + a) :
    CreditEq s' limbo := by
  intro M hM
  rw [hm] at hM
  have := heq M hM
  have := hc (by rw [hM]; rfl)
  omega

/-- **partial invariant** — the equation is maintained by each transition of an exchange on a
    live connection (the class of histories without reconnect-in-limbo and without reading the
    counter between connections): an accepted QoS>0 PUBLISH (+1 on both sides), a refused one
    (nothing changes), a v5.0 PUBACK and PUBCOMP for an identifier awaited in a duplicate-free wait
    set (−1 on both sides).  Since fix ba1a812 also `release_packet_id`
    (−1 on both sides for an abandoned PUBLISH, nothing otherwise): `C12_credit_invariant_release`. -/
theorem C12_credit_invariant_partial (c : C) (limbo : List Nat) (heq : CreditEq c.s limbo) :
    -- accepted / refused PUBLISH
    (∀ (p : Pkt) (id M : Nat), sizeOk c p = true → p.qos > 0 → p.pid = some id → pubNotAllowed c.s = false →
      isUsed c.s id = true → p.kind = .publish → p.topic ≠ [] →
      (∀ a, p.alias = some a → validateTopicAliasRange c.s a = true) →
      c.s.sendMax = some M → M ≤ 65535 → id ∉ c.s.puback → id ∉ c.s.pubrec → lookup id c.s.store = none →
      CreditEq (psV5Publish c p).s limbo) ∧
    (∀ p : Pkt, p.ver = 5 → p.pid.getD 0 ∈ c.s.puback → c.s.puback.Nodup →
      CreditEq (prPuback c (.ok p)).s limbo) ∧
    (∀ p : Pkt, p.ver = 5 → p.pid.getD 0 ∈ c.s.pubcomp → c.s.pubcomp.Nodup →
      CreditEq (prPubcomp c (.ok p)).s limbo) := by
  refine ⟨?_, ?_, ?_⟩
  · intro p id M hsz hq hid hna hu hk ht halias hM hM65 h1 h2 h3
    by_cases hge : c.s.sendCount ≥ M
    · have hcore := (psV5Publish_refused c p id M hsz hq hid hna hu hk ht hM hge h1 h2 h3).2.1
      exact heq.of_core hcore
    · obtain ⟨b1, -, b2, b3⟩ := psV5Publish_accepted c p id M hsz hq hid hna hu ht halias hM (by omega) hM65
      exact heq.move 1 0 (by rw [Fp.psV5Publish_s]) (fun _ => b1)
        ((waitCount_congr b2 b3 (by rw [Fp.psV5Publish_s, Fp.addWait_s])).trans (waitCount_addWait c p.qos id h1 h2))
  · intro p hv hin hnd
    obtain ⟨a1, a2, a3, a4⟩ := prPuback_credit c p hv hin
    refine heq.move 0 1 (by rw [Fp.prPuback_s]) a4 ?_
    have := length_del hin hnd
    unfold waitCount
    rw [a1, a2, a3]
    omega
  · intro p hv hin hnd
    obtain ⟨a1, a2, a3, a4⟩ := prPubcomp_credit c p hv hin
    refine heq.move 0 1 (by rw [Fp.prPubcomp_s]) a4 ?_
    have := length_del hin hnd
    unfold waitCount
    rw [a1, a2, a3]
    omega

/-- **the equation is preserved by `release_packet_id`** (fix ba1a812; before the fix `release` of an
    identifier awaited by PUBACK / PUBREC freed the identifier and left both the wait set and the
    counter alone — the application could not get the credit back, `C12Ex.release_returns_credit`):
    for every identifier, in use or not, awaited or not, `puback` and `pubrec` duplicate-free.  An
    abandoned QoS>0 PUBLISH (identifier in `puback` or `pubrec`) leaves its wait set and, under a
    Receive Maximum, the counter moves by exactly one; otherwise
    neither changes.  (`hdis`: the identifier is not awaited by PUBACK and PUBREC at once.) -/
theorem C12_credit_invariant_release (c : C) (limbo : List Nat) (heq : CreditEq c.s limbo) (id : Nat)
    (hn1 : c.s.puback.Nodup) (hn2 : c.s.pubrec.Nodup) (hdis : id ∈ c.s.puback → id ∉ c.s.pubrec) :
    CreditEq (releasePacketId c id).s limbo ∧
    (∀ M, c.s.sendMax = some M → isUsed c.s id = true → (id ∈ c.s.puback ∨ id ∈ c.s.pubrec) →
      (releasePacketId c id).s.sendCount + 1 = c.s.sendCount ∧
      waitCount (releasePacketId c id).s + 1 = waitCount c.s) ∧
    (¬ (isUsed c.s id = true ∧ (id ∈ c.s.puback ∨ id ∈ c.s.pubrec)) →
      (releasePacketId c id).s.sendCount = c.s.sendCount ∧ waitCount (releasePacketId c id).s = waitCount c.s) := by
  have e1 := releasePacketId_puback c id
  have e2 := releasePacketId_pubrec c id
  have e3 : (releasePacketId c id).s.pubcomp = c.s.pubcomp := by rw [Fp.releasePacketId_s]
  have e4 := releasePacketId_sendCount c id
  -- an exchange is abandoned if the identifier is in use and awaited: one awaited identifier fewer
  have hw : waitCount (releasePacketId c id).s +
      (if isUsed c.s id = true ∧ (id ∈ c.s.puback ∨ id ∈ c.s.pubrec) then 1 else 0) = waitCount c.s := by
    unfold waitCount
    rw [e1, e2, e3]
    by_cases hu : isUsed c.s id = true
    · rw [if_pos hu, if_pos hu]
      by_cases h1 : id ∈ c.s.puback
      · have := length_del h1 hn1
        rw [if_pos ⟨hu, .inl h1⟩, del_not_mem (hdis h1)]
        omega
      · rw [del_not_mem h1]
        by_cases h2 : id ∈ c.s.pubrec
        · have := length_del h2 hn2
          rw [if_pos ⟨hu, .inr h2⟩]
          omega
        · rw [del_not_mem h2, if_neg fun h => h.2.elim h1 h2]
          rfl
    · rw [if_neg hu, if_neg hu, if_neg fun h => hu h.1]
      rfl
  refine ⟨heq.move 0 _ (by rw [Fp.releasePacketId_s]) (fun hs => ?_) hw, fun M hM hu ha => ?_, fun hna => ?_⟩
  · rw [e4]
    by_cases ha : isUsed c.s id = true ∧ (id ∈ c.s.puback ∨ id ∈ c.s.pubrec)
    · rw [if_pos ha]
      by_cases hp : c.s.sendCount > 0
      · rw [if_pos ⟨ha.1, ha.2, hs, hp⟩]
        rfl
      · rw [if_neg fun h => hp h.2.2.2]
        omega
    · rw [if_neg ha, if_neg fun h => ha ⟨h.1, h.2.1⟩]
      rfl
  · rw [if_pos ⟨hu, ha⟩] at hw
    have := heq M hM
    rw [e4, if_pos ⟨hu, ha, by rw [hM]; rfl, by omega⟩]
    omega
  · rw [if_neg hna] at hw
    exact ⟨by rw [e4, if_neg fun h => hna ⟨h.1, h.2.1⟩], hw⟩

/-- on resume (`send_stored`), under a Receive Maximum and with at most `u32::MAX` stored packets,
    the counter is recounted: it equals the number of stored packets that are resent on the new
    connection, i.e. those left in the store (fix of finding #10 / #10b) -/
theorem C12_resume_recount (c : C) (hs : c.s.sendMax.isSome) (hlen : c.s.store.length ≤ 4294967295) :
    (sendStored c).s.sendCount = (sendStored c).s.store.length := by
  have hsub := (Fp.sendStoredLoop_sublist (resetCount c) c.s.store).length_le
  rw [sendStored_eq]
  have := (sendStoredLoop_count dealloc_site (resetCount c) c.s.store (by rw [Fp.resetCount_s]; exact hs)
    (by rw [resetCount_sendCount]; simp only [hs, if_true]; omega)).1
  simp only [this, resetCount_sendCount, hs, if_true]; omega

/-- where the equation holds: when all of puback / pubrec / pubcomp / limbo are empty the
    vacancy is M again -/
theorem C12_vacancy_returns (s : St) (limbo : List Nat) (M : Nat) (heq : CreditEq s limbo)
    (hM : s.sendMax = some M) (h1 : s.puback = []) (h2 : s.pubrec = []) (h3 : s.pubcomp = [])
    (h4 : limbo = []) : vacancy s = some M := by
  have := heq M hM
  simp [waitCount, h1, h2, h3, h4] at this
  simp [vacancy, hM, this]

/-- fix 9ba24a9: the start of a new session (`clearStoreRelated`: CONNECT sent / received with
    clean start, CONNACK sent / received with session_present = false or Session Expiry 0)
    re-establishes the equation from **any** state — no exchange is left, the counter is 0 and the
    vacancy is the full Receive Maximum (before the fix the stale counter survived) -/
theorem C12_new_session_credit (c : C) :
    (clearStoreRelated c).s.sendCount = 0 ∧ waitCount (clearStoreRelated c).s = 0 ∧
    CreditEq (clearStoreRelated c).s [] ∧
    (∀ M, c.s.sendMax = some M → vacancy (clearStoreRelated c).s = some M) := by
  refine ⟨rfl, rfl, fun _ _ => rfl, ?_⟩
  intro M hM
  simp [vacancy, clearStoreRelated, hM]

/-! ## non-vacuity -/
namespace C12Ex

/-- established v5.0 session, Receive Maximum 1 announced by the peer, persistent (store in use) -/
def sA : St := fin [.send (connect [(pSEI, 60), (pRM, 1)]), rx 0x20 (connack false [(pRM, 1)]), .acquire]
/-- the same with one QoS 1 exchange outstanding (credit exhausted) and a second identifier -/
def sB : St := run cfg sA [.send (pub 1 1), .acquire]
def cA : C := { cfg := cfg, s := sA }
def cB : C := { cfg := cfg, s := sB }

/-- `C12_no_wrap` -/
example : WrapPre sB ∧ sB.panic = none ∧ sB.store.length = 1 ∧ sB.sendMax = some 1 := by
  refine ⟨⟨?_, by decide⟩, by decide, by decide, by decide⟩
  intro M h; have : sB.sendMax = some 1 := by decide
  rw [this] at h; cases h; decide
/-- `C12_no_wrap_ids`: the id hypotheses in the reachable state `sB` (one stored packet, id 1) -/
example : cfg.pw ≤ 4 ∧ (sB.store.map (·.1)).Nodup ∧ (∀ x ∈ sB.store, 1 ≤ x.1 ∧ x.1 ≤ cfg.idMax) ∧
    sB.panic = none := by decide
/-- `C12_send_accepted_iff_credit`: accepted in `sA` (count 0 < 1), refused in `sB` (count 1 ≥ 1) -/
example : cA.ev = [] ∧ sizeOk cA (pub 1 1) = true ∧ (pub 1 1).qos > 0 ∧ pubNotAllowed sA = false ∧
    isUsed sA 1 = true ∧ sA.sendMax = some 1 ∧ sA.sendCount = 0 ∧ 1 ∉ sA.puback ∧ 1 ∉ sA.pubrec ∧
    lookup 1 sA.store = none := by decide
example : isUsed sB 2 = true ∧ sB.sendMax = some 1 ∧ sB.sendCount = 1 ∧ 2 ∉ sB.puback ∧ lookup 2 sB.store = none ∧
    (psV5Publish cB (pub 1 2)).ev = [.error eRMExceeded, .released 2] := by decide
/-- `C12_recv_excess_disconnects`: our Receive Maximum is 1, identifier 7 is unanswered -/
def cR : C := { cfg := cfg, s := { sA with publishRecv := [7] } }
example : cR.s.recvMax = some 1 ∧ cR.s.publishRecv.length ≥ 1 ∧ (prV5PublishAlias cR (pub 1 8)).2 = some (pub 1 8) ∧
    cR.s.status = .connected := by decide
/-- `C12_credit_invariant_partial`, `C12_vacancy_returns`, `C12_resume_recount` -/
example : CreditEq sB [] ∧ sB.puback = [1] ∧ sB.puback.Nodup := by
  refine ⟨?_, by decide, by decide⟩
  intro M h; have : sB.sendMax = some 1 := by decide
  rw [this] at h; cases h; decide
example : CreditEq sA [] ∧ sA.sendMax = some 1 ∧ sA.puback = [] ∧ sA.pubrec = [] ∧ sA.pubcomp = [] := by
  refine ⟨?_, by decide, by decide, by decide, by decide⟩
  intro M h; have : sA.sendMax = some 1 := by decide
  rw [this] at h; cases h; decide
example : cB.s.sendMax.isSome ∧ cB.s.store.length ≤ 4294967295 ∧ (sendStored cB).s.sendCount = 1 := by decide

/-- `C12_credit_invariant_release`, fixed by ba1a812: Receive Maximum 1, the QoS 1 PUBLISH id 1 is
    outstanding (credit exhausted: a second PUBLISH is refused); the application abandons it with
    `release 1` — the identifier leaves `puback`, the counter returns to 0, the equation holds, and
    the next PUBLISH is accepted.  (Before the fix: `puback = [1]`, `sendCount = 1` for ever — no
    PUBACK will come for a packet that was never transmitted — and every later PUBLISH refused.) -/
theorem release_returns_credit :
    CreditEq sB [] ∧ sB.puback = [1] ∧ sB.sendCount = 1 ∧ vacancy sB = some 0 ∧
    (step cfg sB (.release 1)).ev = [.released 1] ∧ (step cfg sB (.release 1)).s.puback = [] ∧
    (step cfg sB (.release 1)).s.sendCount = 0 ∧ vacancy (step cfg sB (.release 1)).s = some 1 ∧
    (step cfg sB (.send (pub 1 2))).ev = [.error eRMExceeded, .released 2] ∧
    (step cfg (step cfg sB (.release 1)).s (.send (pub 1 2))).ev.head? = some (.send { pub 1 2 with dup := false } none) := by
  refine ⟨?_, by decide, by decide, by decide, by decide, by decide, by decide, by decide, by decide, by decide⟩
  intro M h; have : sB.sendMax = some 1 := by decide
  rw [this] at h; cases h; decide
example : sB.puback.Nodup ∧ sB.pubrec.Nodup ∧ (1 ∈ sB.puback → 1 ∉ sB.pubrec) ∧ isUsed sB 1 = true := by decide

end C12Ex

end MqttVerif.Conn
