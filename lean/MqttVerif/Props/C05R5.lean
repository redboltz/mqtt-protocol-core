import MqttVerif.Conn.Lemmas.R5Common
import MqttVerif.Conn.Lemmas.FootprintApi
/-!
# C05 — a disconnected server delivers a well-formed CONNECT

Driver monitor `VIOL sig=C05 connect_not_delivered_while_disconnected@<site>`: role server or any,
`status = disconnected` before the call, the ghost assembler (empty at the start of the transport)
completes a frame with fixed header `0x10`, the version is acceptable (undetermined and protocol
level 4 / 5 in the frame, or determined and equal to it), the codec parses the frame: then the
events must contain the delivery `recv{k=1,…}`.

`C05_connect_delivered_when_disconnected` of Props/C05 gives membership of `.recv p` for `step`;
here the statement is for an arbitrary context with the exact shape of the events
(`r5_Delivered`), and for an empty packet builder.

Side conditions (all necessary in the model, see the examples at the end):
* `hr`  : the role may receive a CONNECT (`cfg.role ≠ .client`, i.e. server or any);
* `hs`  : `status = .disconnected` (otherwise: protocol error);
* `hsz` : the frame respects OUR Maximum Packet Size currently stored,
          `totalSize data.length ≤ mpsRecv` — `mpsRecv = noLimit` after `notify_closed`
          (`C14_closed_resets_both_limits`, Props/C14R5) and on a fresh object, but NOT in every
          disconnected state: the field survives a DISCONNECT we sent until `notify_closed`;
* `hv`  : version — determined (`ver ≠ 0`): the parser for that version returns `.ok p`;
          undetermined (`ver = 0`): the frame has at least 7 bytes, its 7th byte (protocol
          level) is 4 or 5 and the parser for that level returns `.ok p`.
  Nothing else about `p` is used (not even `p.kind = .connect`: the handler is chosen by the fixed
  header).
-/
namespace MqttVerif.Conn
open MqttVerif

/-- an accepted CONNECT: the events are `c.ev`, then at most one
    `RequestTimerReset(PingreqRecv, _)`, then `.recv p` as the LAST event — no error, no close
    request, nothing sent; afterwards `status = .connecting`, `is_client = false` -/
def r5_Delivered (c : C) (p : Pkt) (c' : C) : Prop :=
  (∃ mid, c'.ev = c.ev ++ mid ++ [.recv p] ∧ (mid = [] ∨ ∃ ms, mid = [.timerReset .pingreqRecv ms])) ∧
  c'.s.status = .connecting ∧ c'.s.isClient = false ∧ c'.cfg = c.cfg

theorem r5_refresh_ev (c : C) :
    ∃ mid, (refreshPingreqRecv c).ev = c.ev ++ mid ∧ (mid = [] ∨ ∃ ms, mid = [.timerReset .pingreqRecv ms]) := by
  unfold refreshPingreqRecv
  by_cases h : c.s.recvTimeoutMs ≠ 0 ∧ c.s.status ≠ .disconnected
  · rw [if_pos h]; exact ⟨[_], rfl, .inr ⟨_, rfl⟩⟩
  · rw [if_neg h]; exact ⟨[], (List.append_nil _).symm, .inl rfl⟩

def r5_obs (x : C) : List Ev × Cfg × Status × Bool × Nat := (x.ev, x.cfg, x.s.status, x.s.isClient, x.s.ver)

theorem r5_tail (c0 c : C) (p : Pkt) (v : Nat) (h : r5_obs c = (c0.ev, c0.cfg, .connecting, false, v)) :
    r5_Delivered c0 p ((refreshPingreqRecv c).push (.recv p)) ∧
    ((refreshPingreqRecv c).push (.recv p)).s.ver = v := by
  simp only [r5_obs, Prod.mk.injEq] at h
  obtain ⟨hev, hcfg, hst, hcl, hv⟩ := h
  obtain ⟨mid, h1, h2⟩ := r5_refresh_ev c
  have hs : ((refreshPingreqRecv c).push (.recv p)).s = { c.s with recvSet := (refreshPingreqRecv c).s.recvSet } :=
    Fp.refreshPingreqRecv_s c
  refine ⟨⟨⟨mid, ?_, h2⟩, ?_, ?_, (Fp.refreshPingreqRecv_cfg c).trans hcfg⟩, ?_⟩
  · show (refreshPingreqRecv c).ev ++ [Ev.recv p] = _
    rw [h1, hev]
  · rw [hs]; exact hst
  · rw [hs]; exact hcl
  · rw [hs]; exact hv

/-- a CONNECT that parses is delivered to a `disconnected` connection; setting the connection up and settling the
    session touch only the receive timeout, the limits and session fields -/
theorem r5_connectIn {c : C} {p : Pkt} {busy : C} {nack : C → Nat → C} {settle : Pkt → C → C}
    (hs : c.s.status = .disconnected) (hk : ∀ x, r5_obs (settle p x) = r5_obs x) :
    r5_Delivered c p (Fp.connectIn c (.ok p) busy nack settle) ∧
      (Fp.connectIn c (.ok p) busy nack settle).s.ver = c.s.ver := by
  refine Fp.connectIn_ind (Q := fun r => r5_Delivered c p r ∧ r.s.ver = c.s.ver) (fun h => absurd hs h) nofun
    (fun _ q h => ?_)
  cases h
  exact r5_tail c _ p _ ((hk _).trans rfl)

theorem r5_prV3Connect (c : C) (p : Pkt) (hs : c.s.status = .disconnected) :
    r5_Delivered c p (prV3Connect c (.ok p)) ∧ (prV3Connect c (.ok p)).s.ver = c.s.ver :=
  Fp.prV3Connect_eq c _ ▸ r5_connectIn hs fun _ => ite_keeps r5_obs rfl rfl

theorem r5_prV5Connect (c : C) (p : Pkt) (hs : c.s.status = .disconnected) :
    r5_Delivered c p (prV5Connect c (.ok p)) ∧ (prV5Connect c (.ok p)).s.ver = c.s.ver := by
  rw [Fp.prV5Connect_eq]
  refine r5_connectIn hs fun x => Eq.trans ?_ (ite_keeps r5_obs (b := p.clean = true) (x := clearStoreRelated x) rfl rfl)
  unfold r5_obs
  rw [Fp.propsFold_connectRecvProp_ev, Fp.propsFold_connectRecvProp_cfg, Fp.propsFold_connectRecvProp_s]

/-- the version side condition of `process_recv_packet` for a CONNECT frame, and the version the
    connection has afterwards -/
def r5_VerOk (ver : Nat) (data : List Nat) (parse : Nat → Except Nat Pkt) (p : Pkt) : Prop :=
  (ver ≠ 0 ∧ parse ver = .ok p) ∨
  (ver = 0 ∧ 7 ≤ data.length ∧ (data.getD 6 0 = 4 ∨ data.getD 6 0 = 5) ∧ parse (data.getD 6 0) = .ok p)

def r5_verAfter (ver : Nat) (data : List Nat) : Nat := if ver = 0 then data.getD 6 0 else ver

/-- **C05 connect_not_delivered_while_disconnected**, packet handler
    `processRecvPacket c 0x10 data parse`: the events have the shape `r5_Delivered`, the version
    afterwards is the CONNECT's -/
theorem C05_connect_delivered_when_disconnected_handler (c : C) (data : List Nat)
    (parse : Nat → Except Nat Pkt) (p : Pkt)
    (hr : c.cfg.role ≠ .client) (hs : c.s.status = .disconnected)
    (hsz : totalSize data.length ≤ c.s.mpsRecv)
    (hv : r5_VerOk c.s.ver data parse p) :
    r5_Delivered c p (processRecvPacket c 0x10 data parse) ∧
    (processRecvPacket c 0x10 data parse).s.ver = r5_verAfter c.s.ver data := by
  rw [Fp.processRecvPacket_fits c 0x10 data parse hsz, show (0x10 : Nat) / 16 = 1 from rfl,
    if_neg (by rw [Fp.mayReceive_connect hr]; decide), Fp.dispatchRecv_connect, r5_verAfter]
  rcases hv with ⟨h0, hp⟩ | ⟨h0, hl, hlv, hp⟩
  · rw [if_neg h0, if_neg h0, hp]
    exact Fp.ite_ind (Q := fun x => r5_Delivered c p x ∧ x.s.ver = c.s.ver) (fun _ => r5_prV3Connect c p hs)
      fun _ => r5_prV5Connect c p hs
  · rw [if_pos h0, if_pos h0, if_pos rfl, if_neg (by omega)]
    rcases hlv with e | e
    · rw [e] at hp ⊢
      rw [if_pos rfl, hp]
      exact r5_prV3Connect ({ c with s := { c.s with ver := 4 } } : C) p hs
    · rw [e] at hp ⊢
      rw [if_neg (by decide), if_pos rfl, hp]
      exact r5_prV5Connect ({ c with s := { c.s with ver := 5 } } : C) p hs

/-- **C05 connect_not_delivered_while_disconnected**, `recv`: the one `feed` call of `recv`
    completes a frame with fixed header `0x10` (any builder state) -/
theorem C05_connect_delivered_when_disconnected_recv (c : C) (inp : List Nat)
    (parse : Nat → Nat → List Nat → Except Nat Pkt)
    (pb' : Framing.PB) (data rest : List Nat) (p : Pkt)
    (hf : Framing.feed c.s.pb inp = (pb', some (.complete 0x10 data), rest))
    (hr : c.cfg.role ≠ .client) (hs : c.s.status = .disconnected)
    (hsz : totalSize data.length ≤ c.s.mpsRecv)
    (hv : r5_VerOk c.s.ver data (fun v => parse v 0x10 data) p) :
    r5_Delivered c p (recv c inp parse).1 ∧ Ev.recv p ∈ (recv c inp parse).1.ev ∧
    (recv c inp parse).1.s.ver = r5_verAfter c.s.ver data ∧ (recv c inp parse).2 = rest := by
  have e : recv c inp parse =
      (processRecvPacket ({ c with s := { c.s with pb := pb' } } : C) 0x10 data (fun v => parse v 0x10 data), rest) := by
    unfold recv; rw [hf]
  rw [e]
  obtain ⟨h1, h2⟩ := C05_connect_delivered_when_disconnected_handler
    ({ c with s := { c.s with pb := pb' } } : C) data (fun v => parse v 0x10 data) p hr hs hsz hv
  refine ⟨h1, ?_, h2, rfl⟩
  obtain ⟨⟨mid, hm, _⟩, _⟩ := h1
  rw [hm]; simp

theorem r5_feed_small_frame (fh n : Nat) (data : List Nat) (hn : 0 < n) (hn' : n < 128)
    (hl : data.length = n) :
    Framing.feed {} (fh :: n :: data) = (Framing.PB.reset, some (.complete fh data), []) := by
  have h1 : n % 128 = n := Nat.mod_eq_of_lt hn'
  have h2 : min n data.length = n := by omega
  simp only [Framing.feed, List.cons_ne_nil, if_false, List.length_cons]
  unfold Framing.feedLoop
  simp only []
  unfold Framing.feedLoop
  simp only [List.nil_append, List.headD_cons, Nat.mul_one, Nat.zero_add, h1]
  rw [if_neg (by omega), if_pos hn', if_neg (by omega)]
  unfold Framing.feedLoop
  simp only [h2]
  rw [if_neg (by omega), if_pos (by omega)]
  subst hl
  simp

/-- **C05 connect_not_delivered_while_disconnected**, empty packet builder (`pb = {}`), the buffer
    is exactly one CONNECT frame with a one-byte Remaining Length (`0x10 :: n :: data`,
    `data.length = n`, `0 < n < 128`; a CONNECT without will / credentials): the frame completes,
    nothing is left unread, `.recv p` is delivered -/
theorem C05_connect_delivered_when_disconnected_fresh_builder (c : C) (n : Nat) (data : List Nat)
    (parse : Nat → Nat → List Nat → Except Nat Pkt) (p : Pkt)
    (hpb : c.s.pb = {}) (hn : 0 < n) (hn' : n < 128) (hl : data.length = n)
    (hr : c.cfg.role ≠ .client) (hs : c.s.status = .disconnected)
    (hsz : totalSize data.length ≤ c.s.mpsRecv)
    (hv : r5_VerOk c.s.ver data (fun v => parse v 0x10 data) p) :
    r5_Delivered c p (recv c (0x10 :: n :: data) parse).1 ∧
    Ev.recv p ∈ (recv c (0x10 :: n :: data) parse).1.ev ∧
    (recv c (0x10 :: n :: data) parse).2 = [] := by
  have hf := r5_feed_small_frame 0x10 n data hn hn' hl
  rw [← hpb] at hf
  obtain ⟨h1, h2, _, h4⟩ := C05_connect_delivered_when_disconnected_recv c _ parse _ data [] p hf hr hs hsz hv
  exact ⟨h1, h2, h4⟩

/-! ## non-vacuity and necessity of the side conditions: states reached from `St.init` -/
namespace C05R5Ex
def cfgS : Cfg := { role := .server, pw := 2 }
def connect (v : Nat) : Pkt := { ver := v, kind := .connect, size := 14, keepAlive := 10, clean := true }
def frame4 : List Nat := [0x10, 12, 0, 4, 77, 81, 84, 84, 4, 2, 0, 10, 0, 0]
def body4 : List Nat := [0, 4, 77, 81, 84, 84, 4, 2, 0, 10, 0, 0]
def parse : Nat → Nat → List Nat → Except Nat Pkt := fun v fh _ =>
  if fh = 0x10 then .ok (connect v) else .error eMalformed

-- a fresh server object (version undetermined): all side conditions hold, the CONNECT is delivered
example : (St.init cfgS 0).pb = {} ∧ (St.init cfgS 0).status = .disconnected ∧
    totalSize body4.length ≤ (St.init cfgS 0).mpsRecv ∧ body4.getD 6 0 = 4 := by decide
example : (step cfgS (St.init cfgS 0) (.recv frame4 parse)).ev
    = [.timerReset .pingreqRecv 15000, .recv (connect 4)] := by decide
example : Ev.recv (connect 4) ∈ (recv { cfg := cfgS, s := St.init cfgS 0 } frame4 parse).1.ev :=
  (C05_connect_delivered_when_disconnected_fresh_builder { cfg := cfgS, s := St.init cfgS 0 } 12 body4
    parse (connect 4) rfl (by decide) (by decide) rfl (by decide) rfl (by decide)
    (.inr ⟨rfl, by decide, .inl (by decide), rfl⟩)).2.1

/-- a server that had announced Maximum Packet Size 10 in its CONNACK and then sent DISCONNECT:
    `status = disconnected`, but `mpsRecv` still holds the old limit until `notify_closed` -/
def connack5 : Pkt := { ver := 5, kind := .connack, size := 8, rc := some 0, props := [(pMPS, 10)] }
def frame5 : List Nat := [0x10, 13, 0, 4, 77, 81, 84, 84, 5, 2, 0, 10, 0, 0, 0]
def sStale : St := run cfgS (St.init cfgS 0)
  [.recv frame5 parse, .send connack5, .send { ver := 5, kind := .disconnect, size := 2 }]
example : Reachable cfgS 0 sStale := ⟨_, rfl⟩
example : sStale.status = .disconnected ∧ sStale.mpsRecv = 10 ∧ sStale.pb = {} ∧ sStale.ver = 5 := by decide
-- `hsz` is necessary: the next CONNECT (15 bytes > 10) is refused on the stale limit …
example : (step cfgS sStale (.recv frame5 parse)).ev = [.error eNotAllowed, .error eTooLarge] := by decide
-- … and delivered once `notify_closed` has been called
example : (step cfgS (step cfgS sStale .closed).s (.recv frame5 parse)).ev
    = [.timerReset .pingreqRecv 15000, .recv (connect 5)] := by decide
-- `hs` is necessary: a second CONNECT on the established connection is a protocol error
example : (step cfgS (run cfgS (St.init cfgS 0) [.recv frame5 parse, .send { connack5 with props := [] }])
      (.recv frame5 parse)).ev
    = [.timerCancel .pingreqRecv, .send (mkV5Disconnect eProtocol) none, .close, .error eProtocol] := by decide
-- `hr` is necessary: a client does not accept a CONNECT
example : (step ⟨.client, 2⟩ (St.init ⟨.client, 2⟩ 0) (.recv frame4 parse)).ev = [.error eProtocol] := by decide
end C05R5Ex

end MqttVerif.Conn
