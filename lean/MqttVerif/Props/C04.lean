import MqttVerif.Codec.LemmasKinds
import MqttVerif.Codec.LemmasRTAll
import MqttVerif.Codec.LemmasView
/-!
# C04 — decoder totality; accepted input canonical and valid

Statements are about the executable impl-shaped model `MqttVerif.Codec` (tied to the Rust
parsers by the lock-step run `harness codec` ⟷ `mqttdrv`).  In the model every Rust index,
slice and `unwrap` site is explicit (`idx`, `slice`, `sliceFrom`, `vbiOf`, `usub`) and yields
`PRes.panic site` when the Rust would panic, so `≠ .panic _` is a theorem about the guards.

`vbiMax = 268435455`.  Parsers that cache a Remaining Length derived from the input length need
`body.length < vbiMax`: beyond, `VariableByteInteger::from_u32(..).unwrap()` panics in the code
and in the model alike; the framing layer (C09) never delivers such a body.
-/
namespace MqttVerif.Props.C04
open MqttVerif.Codec

/-! ## totality of the primitives — every `List Nat` -/

/-- `VariableByteInteger::decode_stream`: reads at most 4 bytes, never more than the buffer holds;
    the value is in range and exactly its canonical encoding was read (non-minimal encodings are rejected). -/
theorem C04_vbi_total (buf : List Nat) (v c : Nat) (h : vbiDec buf = .ok v c) :
    v ≤ vbiMax ∧ vbiSize v = c ∧ c ≤ buf.length ∧ c ≤ 4 := vbiDec_ok h

/-- `MqttString::decode`: no panic; consumed = 2 + length ≤ input; the content is valid UTF-8
    (what `from_utf8_unchecked` in `as_str` relies on). -/
theorem C04_string_total (data : List Nat) :
    (∀ s, decStr data ≠ .panic s) ∧
    (∀ str c, decStr data = .ok str c → c = 2 + str.length ∧ c ≤ data.length ∧ utf8Ok str = true) :=
  ⟨(decStr_sat data).noPanic, (decStr_sat data).post⟩

theorem C04_binary_total (data : List Nat) :
    (∀ s, decBin data ≠ .panic s) ∧ (∀ b c, decBin data = .ok b c → c = 2 + b.length ∧ c ≤ data.length) :=
  ⟨(decBin_sat data).noPanic, (decBin_sat data).post⟩

theorem C04_subentry_total (data : List Nat) :
    (∀ s, SubEntry.parse data ≠ .panic s) ∧
    (∀ e c, SubEntry.parse data = .ok e c → c = e.size ∧ c ≤ data.length ∧ utf8Ok e.topic = true) :=
  ⟨(SubEntry.parse_sat data).noPanic, (SubEntry.parse_sat data).post⟩

/-- `Property::parse`: no panic; at least one byte and at most the input consumed; the size of
    the property is exactly the number of bytes consumed. -/
theorem C04_property_total (bytes : List Nat) :
    (∀ s, Property.parse bytes ≠ .panic s) ∧
    (∀ p c, Property.parse bytes = .ok p c → p.size = c ∧ c ≤ bytes.length ∧ 1 ≤ c) :=
  ⟨(Property.parse_sat bytes).noPanic, fun p c h => have ⟨a, b, d, _⟩ := (Property.parse_sat bytes).post p c h; ⟨a, b, d⟩⟩

/-- `Properties::parse`: no panic (in particular the `while cursor < props_end` loop never
    slices with `cursor > props_end` and the model's fuel is never exhausted). -/
theorem C04_properties_total (data : List Nat) :
    (∀ s, Props.parse data ≠ .panic s) ∧
    (∀ ps c, Props.parse data = .ok ps c →
        vbiSize ps.size + ps.size = c ∧ c ≤ data.length ∧ ps.size ≤ vbiMax ∧ 1 ≤ c) :=
  ⟨(Props.parse_sat data).noPanic, fun ps c h => have ⟨a, b, d, e, _⟩ := (Props.parse_sat data).post ps c h; ⟨a, b, d, e⟩⟩

/-! ## totality of the 29 packet parsers -/

/-- No parser panics: both versions, both id widths, every fixed-header byte, every body the
    framing layer can deliver. -/
theorem C04_no_panic (version pw fh : Nat) (body : List Nat) (r : PRes Packet)
    (hpw : pw = 2 ∨ pw = 4) (hl : body.length < vbiMax)
    (h : Packet.parse version pw fh body = some r) : ∀ site, r ≠ .panic site :=
  ((Packet.parse_tri version pw fh body r h).sat ⟨hpw, hl⟩).noPanic

/-- No parser claims to have consumed more than it was given. -/
theorem C04_consumed_le (version pw fh : Nat) (body : List Nat) (p : Packet) (c : Nat)
    (hpw : pw = 2 ∨ pw = 4) (hl : body.length < vbiMax)
    (h : Packet.parse version pw fh body = some (.ok p c)) : c ≤ body.length :=
  ((Packet.parse_tri version pw fh body _ h).post p c rfl).1

example : (2 = 2 ∨ 2 = 4) ∧ [0x00, 0x01, 0x10].length < vbiMax ∧
    Packet.parse 5 2 0x40 [0x00, 0x01, 0x10] = some (.ok (.puback5 ⟨3, 1, some 16, 0, none⟩) 3) := by decide

/-- Parsers whose cached lengths do not grow with the input are total on *every* list. -/
theorem C04_no_panic_unbounded (data : List Nat) (k : AckKind) (pw : Nat) (hpw : pw = 2 ∨ pw = 4) :
    (∀ s, Connack3.parse data ≠ .panic s) ∧ (∀ s, Ack3.parse k pw data ≠ .panic s) ∧
    (∀ s, Unsuback3.parse pw data ≠ .panic s) ∧ (∀ s, Empty.parse data ≠ .panic s) := by
  have h1 : pw + 1 ≤ vbiMax := by unfold vbiMax; omega
  have h2 : pw ≤ vbiMax := by omega
  exact ⟨((Connack3.parse_tri data).sat trivial).noPanic, ((Ack3.parse_tri k pw data).sat h1).noPanic,
    ((Unsuback3.parse_tri pw data).sat h2).noPanic, ((Empty.parse_tri 0 data).sat trivial).noPanic⟩

/-! ## accepted input: size, re-parse, builder rules -/

/-- **every accepted packet reports the length of its own serialisation** — all 29 parsers, both
    id widths, every input, no well-formedness assumed.  (False before b1b35e9 of the Rust
    repository: six v5.0 parsers took `remaining_length` from the consumed byte count and accepted
    non-minimal variable-byte integers; `decode_stream` rejects those since.) -/
theorem C04_size_eq (version pw fh : Nat) (body : List Nat) (p : Packet) (c : Nat) (hpw : pw = 2 ∨ pw = 4)
    (h : Packet.parse version pw fh body = some (.ok p c)) : p.size = (p.encode pw).length :=
  ((Packet.parse_tri version pw fh body _ h).post p c rfl).2.1 hpw

example : (4 = 2 ∨ 4 = 4) ∧
    Packet.parse 5 4 0x34 [0, 1, 0x74, 0, 1, 0, 0] = some (.ok (.publish5 ⟨0x34, 8, [0x74], some 65536, 0, [], []⟩) 7) := by
  decide

def rejected : Option (PRes Packet) → Bool
  | some (.err _) => true
  | _ => false

/-- the witnesses of `size() ≠ |bytes|` before b1b35e9 (non-minimal property length / Subscription
    Identifier in CONNACK, CONNECT, SUBACK, UNSUBACK, SUBSCRIBE, UNSUBSCRIBE v5.0) are rejected -/
theorem C04_nonminimal_vbi_rejected :
    rejected (Packet.parse 5 2 0x20 [0x00, 0x00, 0x80, 0x00]) = true ∧
    rejected (Packet.parse 5 2 0x10 [0, 4, 77, 81, 84, 84, 5, 2, 0, 60, 0x80, 0x00, 0, 1, 0x61]) = true ∧
    rejected (Packet.parse 5 2 0x90 [0x00, 0x01, 0x80, 0x00, 0x00]) = true ∧
    rejected (Packet.parse 5 2 0xb0 [0x00, 0x01, 0x80, 0x00, 0x00]) = true ∧
    rejected (Packet.parse 5 2 0x82 [0x00, 0x01, 0x03, 0x0b, 0x81, 0x00, 0x00, 0x01, 0x61, 0x00]) = true ∧
    rejected (Packet.parse 5 2 0xa2 [0x00, 0x01, 0x80, 0x00, 0x00, 0x01, 0x61]) = true := by decide

/-- packets no builder produces are rejected: packet id 0
    (SUBSCRIBE, SUBACK, UNSUBSCRIBE, UNSUBACK, PUBLISH), CONNACK reserved flag bits, CONNECT
    reserved bit / Will QoS 3 / Will Retain without Will, wildcard and empty (v3.1.1) topics -/
theorem C04_unbuildable_rejected :
    rejected (Packet.parse 4 2 0x82 [0, 0, 0, 1, 0x61, 0]) = true ∧
    rejected (Packet.parse 5 2 0x90 [0, 0, 0, 0]) = true ∧
    rejected (Packet.parse 4 2 0xa2 [0, 0, 0, 1, 0x61]) = true ∧
    rejected (Packet.parse 4 2 0xb0 [0, 0]) = true ∧
    rejected (Packet.parse 4 2 0x32 [0, 1, 0x74, 0, 0]) = true ∧
    rejected (Packet.parse 5 2 0x20 [0xfe, 0, 0]) = true ∧
    rejected (Packet.parse 4 2 0x10 [0, 4, 77, 81, 84, 84, 4, 1, 0, 60, 0, 0]) = true ∧
    rejected (Packet.parse 4 2 0x10 [0, 4, 77, 81, 84, 84, 4, 0x1e, 0, 60, 0, 0, 0, 1, 0x74, 0, 0]) = true ∧
    rejected (Packet.parse 5 2 0x10 [0, 4, 77, 81, 84, 84, 5, 0x22, 0, 60, 0, 0, 0]) = true ∧
    rejected (Packet.parse 4 2 0x30 [0, 1, 0x23]) = true ∧
    rejected (Packet.parse 5 2 0x30 [0, 1, 0x2b, 0]) = true ∧
    rejected (Packet.parse 4 2 0x30 [0, 0]) = true := by decide

def reparses (version pw : Nat) (p : Packet) : Bool :=
  match frameBody (p.encode pw) with
  | some (fh', _, body') => decide (Packet.parse version pw fh' body' = some (.ok p body'.length))
  | none => false

/-- every accepted packet satisfies the structural rules of its builder -/
def C04_buildable_full : Prop :=
  ∀ version pw fh body p c, (pw = 2 ∨ pw = 4) → Packet.parse version pw fh body = some (.ok p c) →
    p.wf pw = true

/-- the one deviation: a v5.0 PUBLISH with an empty topic name and no Topic Alias
    property is accepted by the parser (the connection layer answers TopicAliasInvalid); the
    builder rejects it.  Reported by the run as `C04 buildable.topic_nonempty@v5.publish`. -/
theorem C04_buildable_counterexample_empty_topic : ¬ C04_buildable_full := by
  intro h
  have := h 5 2 0x30 [0, 0] (.publish5 ⟨0x30, 3, [], none, 0, [], []⟩) 2 (Or.inl rfl) (by decide)
  revert this; decide

theorem version_of_parse (version pw fh : Nat) (body : List Nat) (p : Packet) (c : Nat) (hv : version = 4 ∨ version = 5)
    (h : Packet.parse version pw fh body = some (.ok p c)) : p.version = version :=
  ((Packet.parse_tri version pw fh body _ h).post p c rfl).2.2.2 hv

/-- an accepted packet that satisfies the builder rules re-parses from its own serialisation
    to itself (C02_all) -/
theorem C04_reparse_partial (version pw fh : Nat) (body : List Nat) (p : Packet) (c : Nat) (hpw : pw = 2 ∨ pw = 4)
    (hv : version = 4 ∨ version = 5)
    (h : Packet.parse version pw fh body = some (.ok p c)) (hwf : p.wf pw = true) :
    reparses version pw p = true := by
  obtain ⟨fh', body', _, hfb, hp, _, _⟩ := Packet.roundTrips pw p hpw hwf
  rw [version_of_parse version pw fh body p c hv h] at hp
  unfold reparses
  rw [hfb]
  simp only [hp, decide_true]

example : (2 = 2 ∨ 2 = 4) ∧ (5 = 4 ∨ 5 = 5) ∧
    Packet.parse 5 2 0x40 [0x00, 0x01, 0x10] = some (.ok (.puback5 ⟨3, 1, some 16, 0, none⟩) 3) ∧
    Packet.wf 2 (.puback5 ⟨3, 1, some 16, 0, none⟩) = true := by decide

/-! ## builder rules enforced by the parsers; what L2 may assume of a parsed packet

`view : Codec.Packet → Conn.Pkt` is the interface through which the connection model (L2) sees
packets; the connection driver checks `view (parse frame)` against the descriptor the harness
prints from the real packet for every received frame and every sent packet
(`codec.view.<kind>.<field>`).  For input that consists of bytes: -/

/-- every accepted frame: PUBLISH has QoS ≤ 2, a packet id iff QoS > 0, and `1 ≤ id ≤ 256^pw − 1`;
    PUBACK … UNSUBACK carry an id in that range (packet identifier 0 is rejected by every
    parser); Receive Maximum / Maximum Packet Size property values are non-zero;
    `topic_name_extracted` is false. -/
theorem C04_accepted_view_wf (version pw fh : Nat) (body : List Nat) (v : MqttVerif.Conn.Pkt)
    (hb : ∀ b ∈ body, b < 256) (h : parseView version pw fh body = .ok v) : WfParsed pw v :=
  parseView_wfParsed version pw fh body v hb h

example : (∀ b ∈ [0x00, 0x01, 0x74, 0x12, 0x34, 0x00], b < 256) ∧
    (parseView 5 2 0x34 [0x00, 0x01, 0x74, 0x12, 0x34, 0x00]).toOption.map (·.pid) = some (some 0x1234) := by decide

/-- CONNACK v5.0: reserved acknowledge-flag bits are zero in every accepted packet -/
theorem C04_accepted_connack5_flags (data : List Nat) (p : Connack5) (c : Nat) (h : Connack5.parse data = .ok p c) :
    p.flags ≤ 1 := ((Connack5.parse_tri data).post p c h).2.2.2

/-- CONNECT (both versions): reserved flag clear, Will QoS ≤ 2, no Will QoS / Retain without Will -/
theorem C04_accepted_connect_flags (data : List Nat) :
    (∀ p c, Connect3.parse data = .ok p c → ConnFlagsOk p.flags) ∧
    (∀ p c, Connect5.parse data = .ok p c → ConnFlagsOk p.flags) :=
  ⟨fun p c h => ((Connect3.parse_tri data).post p c h).2.2, fun p c h => ((Connect5.parse_tri data).post p c h).2.2.1⟩

/-- PUBLISH: the topic name of an accepted packet is valid UTF-8 without `#` / `+`; v3.1.1: non-empty -/
theorem C04_accepted_publish_topic (pw flags : Nat) (data : List Nat) :
    (∀ p c, Publish3.parse pw flags data = .ok p c → noWildcard p.topic = true ∧ p.topic ≠ [] ∧ utf8Ok p.topic = true) ∧
    (∀ p c, Publish5.parse pw flags data = .ok p c → noWildcard p.topic = true ∧ utf8Ok p.topic = true) :=
  ⟨fun p c h => ((Publish3.parse_tri pw flags data).post p c h).2.2.2, fun p c h => ((Publish5.parse_tri pw flags data).post p c h).2.2.2⟩

end MqttVerif.Props.C04
