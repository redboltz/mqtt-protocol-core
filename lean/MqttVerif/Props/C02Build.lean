import MqttVerif.Codec.LemmasBuild5
import MqttVerif.Props.C02
import MqttVerif.Props.C03
/-!
# C02 (builders) — `build()` establishes `Packet.wf`, keeps the requested field values, and
therefore its result round-trips

`Codec/Build.lean` is the model of the 29 builders (`Args.build : Args → Except BuildError Packet`,
run next to the real builders on every `B` line of the codec traces).  Whatever a builder
returns with `Ok` satisfies `Packet.wf` — the hypothesis of `C02_all` / `C03_encode_eq_spec` —
and its abstract field values (`Packet.abs`, the packet of the wire specification) are the
arguments with the defaults filled in (`Args.abs`, defined without reference to `build`).

Hypotheses: `Args.typed` (what the Rust argument types guarantee: `&str` is UTF-8, `u16` < 65536,
enum arguments are variants, `Property` values came out of their constructors, ids fit their
type) and `Args.fits32` (the size `build()` computes in `usize` is below 2³², so that no
`as u32` cast truncates; without it the statement is FALSE for the code as written — a ≥ 4 GiB
argument list yields `Ok` with truncated cached lengths).
-/
namespace MqttVerif.Props.C02Build
open MqttVerif.Codec MqttVerif.Spec.Wire

/-! ## all 29 kinds

Per kind the builder's own lemma (`X.build_ok`, `Codec/LemmasBuild*.lean`) gives the checks, which are `Packet.wf` of
the constructor, and the abstract field values. -/

/-- `Args.build` is the builder of the kind, mapped into `Packet` by the constructor `f` -/
theorem lift {pw : Nat} {α : Type} {f : α → Packet} {x : BRes α} {p : Packet} {A : APkt} {v : Nat}
    (h : x.map f = .ok p) (hk : ∀ q, x = .ok q → (f q).wf pw = true ∧ (f q).abs = A) (hv : ∀ q, (f q).version = v) :
    p.wf pw = true ∧ Packet.abs p = A ∧ p.version = v := by
  cases x with
  | error e => cases h
  | ok q =>
    cases h
    exact ⟨(hk q rfl).1, (hk q rfl).2, hv q⟩

theorem build_ok (pw : Nat) (hpw : pw = 2 ∨ pw = 4) (a : Args) (p : Packet)
    (ht : a.typed pw = true) (hf : a.fits32 pw) (h : a.build pw = .ok p) :
    p.wf pw = true ∧ Packet.abs p = a.abs ∧ p.version = a.version := by
  cases a with
  | pingreq3 | pingresp3 | disconnect3 | pingreq5 | pingresp5 =>
    exact lift (x := buildEmpty) h (fun _ hq => ⟨buildEmpty_ok hq, rfl⟩) fun _ => rfl
  | connect3 a => exact lift h (fun _ => Connect3Args.build_ok ht hf) fun _ => rfl
  | connect5 a => exact lift h (fun _ => Connect5Args.build_ok ht hf) fun _ => rfl
  | connack3 a => exact lift h (fun _ => Connack3Args.build_ok ht) fun _ => rfl
  | connack5 a => exact lift h (fun _ => Connack5Args.build_ok ht hf) fun _ => rfl
  | publish3 a => exact lift h (fun _ => Publish3Args.build_ok ht hf) fun _ => rfl
  | publish5 a => exact lift h (fun _ => Publish5Args.build_ok ht hf) fun _ => rfl
  | puback3 a | pubrec3 a | pubrel3 a | pubcomp3 a => exact lift h (fun _ => Ack3Args.build_ok hpw ht) fun _ => rfl
  | puback5 a | pubrec5 a | pubrel5 a | pubcomp5 a => exact lift h (fun _ => Ack5Args.build_ok ht hf) fun _ => rfl
  | unsuback3 a => exact lift h (fun _ => Unsuback3Args.build_ok hpw ht) fun _ => rfl
  | suback3 a => exact lift h (fun _ => Suback3Args.build_ok ht hf) fun _ => rfl
  | subscribe3 a => exact lift h (fun _ => Subscribe3Args.build_ok ht hf) fun _ => rfl
  | unsubscribe3 a => exact lift h (fun _ => Unsubscribe3Args.build_ok ht hf) fun _ => rfl
  | suback5 a | unsuback5 a =>
    refine lift h (fun q hq => ?_) fun _ => rfl
    obtain ⟨hw, hpid, hps, hc⟩ := Codes5Args.build_ok ht hf hq
    exact ⟨hw, by simp [Packet.abs, Args.abs, hpid, hps, hc]⟩
  | subscribe5 a => exact lift h (fun _ => Subscribe5Args.build_ok ht hf) fun _ => rfl
  | unsubscribe5 a => exact lift h (fun _ => Unsubscribe5Args.build_ok ht hf) fun _ => rfl
  | disconnect5 a => exact lift h (fun _ => Disconnect5Args.build_ok ht hf) fun _ => rfl
  | auth5 a => exact lift h (fun _ => Auth5Args.build_ok ht hf) fun _ => rfl

/-- What a builder returns satisfies `Packet.wf`, the hypothesis of `C02_all`
    (every kind, both packet-id widths) -/
theorem build_ok_wf (pw : Nat) (hpw : pw = 2 ∨ pw = 4) (a : Args) (p : Packet)
    (ht : a.typed pw = true) (hf : a.fits32 pw) (h : a.build pw = .ok p) : p.wf pw = true :=
  (build_ok pw hpw a p ht hf h).1

/-- The abstract fields of the built packet are the builder arguments, defaults
    filled in (`Args.abs` does not mention `build`) -/
theorem build_fields (pw : Nat) (hpw : pw = 2 ∨ pw = 4) (a : Args) (p : Packet)
    (ht : a.typed pw = true) (hf : a.fits32 pw) (h : a.build pw = .ok p) : Packet.abs p = a.abs :=
  (build_ok pw hpw a p ht hf h).2.1

/-- **C02, builders.** A packet that came out of a builder: its serialisation is
    `fixed header :: vbi(remaining_length) ++ body`, the parser of its version returns an equal
    packet and consumes the body, `size()` is the serialised length, the Remaining Length on the
    wire is the body length; the bytes are the specification's encoding of the requested field
    values (`a.abs.encode`).  That the parsed packet, `p` itself, has those field values is
    `build_fields`. -/
theorem C02_builder_roundtrip (pw : Nat) (hpw : pw = 2 ∨ pw = 4) (a : Args) (p : Packet)
    (ht : a.typed pw = true) (hf : a.fits32 pw) (h : a.build pw = .ok p) :
    (∃ fh body, p.encode pw = fh :: vbiEnc p.remLen ++ body ∧
      frameBody (p.encode pw) = some (fh, p.remLen, body) ∧
      Packet.parse a.version pw fh body = some (.ok p body.length) ∧
      p.size = (p.encode pw).length ∧ p.remLen = body.length)
    ∧ p.encode pw = a.abs.encode pw := by
  obtain ⟨hw, ha, hv⟩ := build_ok pw hpw a p ht hf h
  refine ⟨?_, ?_⟩
  · rw [← hv]; exact C02.C02_all pw p hpw hw
  · rw [← ha]; exact C03.C03_encode_eq_spec pw p hpw hw

/-! ## the code as written: `fits32` is needed, and `Ok`/`Err` are not the only outcomes of `build()` -/

/-- **`fits32` cannot be dropped** (`remaining as u32`, `props_size as u32` truncate): a well-typed
    SUBACK call with 2³² − 1 return codes is answered with `Ok` and a packet that fails `Packet.wf`
    (the witness: its cached Remaining Length is 1; same pattern in every builder that sums list
    sizes) -/
theorem fits32_necessary_of (codes : List Nat) (hl : codes.length = 4294967295) (hc : codes.all subackRc3Ok = true) :
    (Args.suback3 { pid := some 1, codes := some codes }).typed 2 = true ∧
      ∃ p, (Args.suback3 { pid := some 1, codes := some codes }).build 2 = .ok p ∧ p.wf 2 = false := by
  have hne : codes.isEmpty = false := by
    cases codes with
    | nil => simp at hl
    | cons _ _ => rfl
  refine ⟨?_, .suback3 { remLen := 1, pid := 1, codes := codes }, ?_, ?_⟩
  · simp [Args.typed, optPidTyped, optCodesTyped, hc]
  · simp [Args.build, Suback3Args.build, needPid, listEmptyOrUnset, hne, vbiB, asU32, vbiMax, Except.map, hl]
  · simp [Packet.wf, Packet.checks, Suback3.checks, allOk, hl]

theorem all_replicate (f : Nat → Bool) (h : f 0 = true) (n : Nat) : (List.replicate n 0).all f = true := by
  induction n with
  | zero => rfl
  | succ m ih => simp [List.replicate_succ, h]

theorem fits32_necessary : ∃ (a : Args) (p : Packet), a.typed 2 = true ∧ a.build 2 = .ok p ∧ p.wf 2 = false :=
  have h := fits32_necessary_of (List.replicate 4294967295 0) List.length_replicate (all_replicate _ (by decide) _)
  ⟨_, h.2.choose, h.1, h.2.choose_spec⟩

/-- **a builder can panic**: `validate()` of PUBLISH bounds the payload (≤ 268 435 455 bytes), not
    the Remaining Length; with a payload of that size and any topic,
    `VariableByteInteger::from_u32(remaining as u32).unwrap()` is an `unwrap()` on `None`
    (well-typed arguments, far below 2³²) -/
theorem publish_build_panics_of (payload : List Nat) (hl : payload.length = 268435455) :
    (Args.publish3 { topic := some [116], payload := some payload }).typed 2 = true ∧
    (Args.publish3 { topic := some [116], payload := some payload }).fits32 2 ∧
      (Args.publish3 { topic := some [116], payload := some payload }).build 2
        = .error (.panic "v3_1_1::publish::build:remaining_length") := by
  refine ⟨?_, ?_, ?_⟩
  · simp [Args.typed, optStrTyped, optCodeTyped, optPidTyped]; decide
  · simp [Args.fits32, Args.rawSize, strSize, hl]
  · simp [Args.build, Publish3Args.build, topicSetterFails, tooLong, publishHeader, publishPidBad, payloadTooBig,
      vbiB, asU32, vbiMax, strSize, Except.map, hl]

end MqttVerif.Props.C02Build
