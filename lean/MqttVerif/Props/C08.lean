import MqttVerif.Conn.Lemmas.PidsStore
import MqttVerif.Conn.Lemmas.Pend5
/-!
# C08 — packet identifiers: unique while in use, released exactly once, never leaked

Statement (properties.jsonl): an identifier handed out by acquire is never handed out again,
and cannot be registered, while it is in use; every identifier from 1 to the type's maximum
can be in use simultaneously and exhaustion is reported as an error.  The library announces a
release exactly when it turns an in-use identifier free — never for a free identifier and
never twice — when the exchange owning it completes, when a send carrying it is refused, and
for every non-persistent in-flight exchange when the connection closes; the only unannounced
change is the wholesale reset of all identifiers when a new session starts; id-management
calls are total for every id value including 0.

Model: `step cfg s op` (`Conn/Step.lean`).  All theorems hold for **every** configuration with
a non-empty id range (`1 ≤ cfg.idMax`, in particular `cfg.pw = 2` and `cfg.pw = 4`), every
state satisfying the invariant `PidWf` (which holds initially and is preserved by every
operation, for arbitrary peer bytes and parser results), every operation.
-/
namespace MqttVerif.Conn
open MqttVerif

/-- u16 and u32 identifiers -/
theorem Cfg.idMax_pos {cfg : Cfg} (h : cfg.pw = 2 ∨ cfg.pw = 4) : 1 ≤ cfg.idMax :=
  Cfg.idMax_pos_of_pw (by omega)

/-! ## 1. allocator well-formedness is an invariant; the id calls are total -/

theorem C08_wf_init (cfg : Cfg) (ver : Nat) (h : 1 ≤ cfg.idMax) : PidWf cfg (St.init cfg ver) :=
  Alloc.W_new h

theorem C08_wf_step {cfg : Cfg} {s : St} (h : 1 ≤ cfg.idMax) (w : PidWf cfg s) (op : Op) :
    PidWf cfg (step cfg s op).s := w.step h op

theorem C08_wf_run {cfg : Cfg} (h : 1 ≤ cfg.idMax) (ops : List Op) :
    ∀ {s : St}, PidWf cfg s → PidWf cfg (run cfg s ops) :=
  run_ind (fun _ op w => w.step h op) ops

theorem C08_wf_reachable {cfg : Cfg} (h : 1 ≤ cfg.idMax) {ver : Nat} {s : St}
    (r : Reachable cfg ver s) : PidWf cfg s := PidWf.reachable h r

theorem C08_used_in_range {cfg : Cfg} {s : St} (w : PidWf cfg s) {id : Nat} (hu : isUsed s id = true) :
    1 ≤ id ∧ id ≤ cfg.idMax := w.w.isUsed_range hu

/-- **idcalls_total**: `acquire`, `register id`, `release id` never panic — for every id value,
    including 0 and values above the maximum (finding #6: `release 0`
    panicked): the panic field is as before the call.  What `release` changes:
    `C08_release_abandons_exchange`. -/
theorem C08_idcalls_total {cfg : Cfg} {s : St} (h : 1 ≤ cfg.idMax) (w : PidWf cfg s) :
    (step cfg s .acquire).s.panic = s.panic ∧
    (∀ id, (step cfg s (.register id)).s.panic = s.panic) ∧
    (∀ id, (step cfg s (.release id)).s.panic = s.panic) := by
  refine ⟨rfl, fun _ => rfl, fun id => ?_⟩
  have hw : Wf { cfg := cfg, s := s } := ⟨h, w⟩
  show (releasePacketId { cfg := cfg, s := s } id).s.panic = s.panic
  cases hu : isUsed s id with
  | false => rw [releasePacketId_unused hu]
  | true => rw [releasePacketId_used hw hu]; rfl

/-- **release_abandons_exchange** (fix ba1a812).  `release id` of an identifier in use: exactly one
    event `NotifyPacketIdReleased id`; the allocator frees `id` (every other identifier as before);
    `id` leaves the wait sets `suback` / `unsuback` / `puback` / `pubrec` (the exchange it was obtained
    for is abandoned); the Receive-Maximum counter decreases by one if `id` was awaited by PUBACK /
    PUBREC (`countAfterRelease`: only under a Receive Maximum, never below zero); nothing else
    changes (`pubcomp`, the store, … are untouched).  The point of the fix: afterwards `id` is in NONE
    of `suback` / `unsuback` / `puback` / `pubrec`, so a later `notify_closed` / SUBACK / UNSUBACK /
    PUBACK / PUBREC cannot release it again under a new owner.
    `release id` of an identifier not in use: no event, the state is unchanged. -/
theorem C08_release_abandons_exchange {cfg : Cfg} {s : St} (h : 1 ≤ cfg.idMax) (w : PidWf cfg s) (id : Nat) :
    (isUsed s id = true →
      (step cfg s (.release id)).ev = [.released id] ∧
      (step cfg s (.release id)).s =
        { s with pidMan := (Alloc.deallocate s.pidMan id).2, suback := del id s.suback, unsuback := del id s.unsuback, puback := del id s.puback, pubrec := del id s.pubrec, sendCount := countAfterRelease s id } ∧
      isUsed (step cfg s (.release id)).s id = false ∧
      (∀ x, x ≠ id → isUsed (step cfg s (.release id)).s x = isUsed s x) ∧
      id ∉ (step cfg s (.release id)).s.suback ∧ id ∉ (step cfg s (.release id)).s.unsuback ∧
      id ∉ (step cfg s (.release id)).s.puback ∧ id ∉ (step cfg s (.release id)).s.pubrec) ∧
    (isUsed s id = false →
      (step cfg s (.release id)).ev = [] ∧ (step cfg s (.release id)).s = s) := by
  have e : step cfg s (.release id) = releasePacketId { cfg := cfg, s := s } id := rfl
  constructor
  · intro hu
    have d := (w.w.dealloc hu).2.2
    have nd : ∀ l : List Nat, id ∉ del id l := fun l hm => (mem_del.1 hm).2 rfl
    rw [e, releasePacketId_used (c := { cfg := cfg, s := s }) ⟨h, w⟩ hu]
    exact ⟨rfl, rfl, (d id).trans (by simp), fun x hx => (d x).trans (by rw [bne_iff_ne.2 hx, Bool.and_true]; rfl), nd _, nd _, nd _, nd _⟩
  · intro hu
    rw [e, releasePacketId_unused hu]
    exact ⟨rfl, rfl⟩

theorem C08_idcalls_total_run {cfg : Cfg} (h : 1 ≤ cfg.idMax) (ops : List Op)
    (hops : ∀ op ∈ ops, op = .acquire ∨ (∃ id, op = .register id) ∨ (∃ id, op = .release id)) :
    ∀ {s : St}, PidWf cfg s → (run cfg s ops).panic = s.panic := by
  induction ops with
  | nil => intro s w; rfl
  | cons op ops ih =>
    intro s w
    have t := C08_idcalls_total h w
    have := ih (fun o ho => hops o (List.mem_cons_of_mem _ ho)) (C08_wf_step h w op)
    simp only [run, this]
    rcases hops op (List.mem_cons_self) with rfl | ⟨id, rfl⟩ | ⟨id, rfl⟩
    · exact t.1
    · exact t.2.1 id
    · exact t.2.2 id

/-! ## 2. acquire / register -/

/-- **acquire_fresh**: `acquire` returns only an id that was not in use (and in range);
    afterwards exactly that id has been added to the ids in use. -/
theorem C08_acquire_fresh {cfg : Cfg} {s : St} (w : PidWf cfg s) {id : Nat}
    (ha : (acquire { cfg := cfg, s := s }).1 = some id) :
    isUsed s id = false ∧ 1 ≤ id ∧ id ≤ cfg.idMax ∧
      ∀ x, isUsed (step cfg s .acquire).s x = true ↔ (isUsed s x = true ∨ x = id) :=
  w.w.alloc_some ha

/-- **exhaustion**: `acquire` fails (`PacketIdentifierFullyUsed`) exactly when every id of
    `[1, idMax]` is in use; the state is then unchanged. -/
theorem C08_exhaustion {cfg : Cfg} {s : St} (w : PidWf cfg s) :
    ((acquire { cfg := cfg, s := s }).1 = none ↔ ∀ id, 1 ≤ id → id ≤ cfg.idMax → isUsed s id = true) ∧
    ((acquire { cfg := cfg, s := s }).1 = none → (step cfg s .acquire).s = s) := by
  refine ⟨⟨fun h => (w.w.alloc_none h).2, fun h => ?_⟩, fun h => ?_⟩
  · cases ha : (acquire { cfg := cfg, s := s }).1 with
    | none => rfl
    | some v =>
      obtain ⟨a, b, c, _⟩ := w.w.alloc_some ha
      have := h v b c
      simp [isUsed] at this a; simp_all
  · have := (w.w.alloc_none h).1
    show ({ s with pidMan := (Alloc.allocate s.pidMan).2 } : St) = s
    rw [this]

/-- **register_iff_free**: `register id` succeeds iff `id` is in range and not in use;
    afterwards the ids in use are the old ones plus `id` (when it succeeded). -/
theorem C08_register_iff_free {cfg : Cfg} {s : St} (w : PidWf cfg s) (id : Nat) :
    ((register { cfg := cfg, s := s } id).1 = true ↔ (1 ≤ id ∧ id ≤ cfg.idMax ∧ isUsed s id = false)) ∧
    (∀ x, isUsed (step cfg s (.register id)).s x = true ↔
      (isUsed s x = true ∨ ((register { cfg := cfg, s := s } id).1 = true ∧ x = id))) := by
  obtain ⟨a, _, c⟩ := w.w.use id
  exact ⟨a, c⟩

/-- an id in use is never handed out again, and cannot be registered -/
theorem C08_used_not_reissued {cfg : Cfg} {s : St} (w : PidWf cfg s) {id : Nat} (hu : isUsed s id = true) :
    (acquire { cfg := cfg, s := s }).1 ≠ some id ∧ (register { cfg := cfg, s := s } id).1 = false := by
  constructor
  · intro ha
    have := (C08_acquire_fresh w ha).1
    simp_all
  · cases hr : (register { cfg := cfg, s := s } id).1 with
    | false => rfl
    | true => have := ((C08_register_iff_free w id).1.1 hr).2.2; simp_all

theorem register_next {cfg : Cfg} {s : St} (w : PidWf cfg s) {n : Nat} (hn : n + 1 ≤ cfg.idMax)
    (u : ∀ id, isUsed s id = true ↔ (1 ≤ id ∧ id ≤ n)) (id : Nat) :
    isUsed (step cfg s (.register (n + 1))).s id = true ↔ (1 ≤ id ∧ id ≤ n + 1) := by
  obtain ⟨r1, r2⟩ := C08_register_iff_free w (n + 1)
  have hfree : isUsed s (n + 1) = false := Bool.eq_false_iff.2 fun hc => absurd ((u (n + 1)).1 hc).2 (by omega)
  rw [r2 id, u id]
  simp only [r1.2 ⟨by omega, hn, hfree⟩, true_and]
  omega

/-- **all ids usable simultaneously**: for every `n ≤ idMax` the `n` calls
    `register 1 … register n` on a fresh connection all succeed and leave exactly the ids
    `1..n` in use — with `n = idMax` every identifier of the type is in use at once (and then
    `acquire` reports exhaustion, `C08_exhaustion`). -/
theorem C08_all_ids_usable (cfg : Cfg) (ver : Nat) (h : 1 ≤ cfg.idMax) (n : Nat) (hn : n ≤ cfg.idMax) :
    let s := run cfg (St.init cfg ver) ((List.range n).map (fun k => Op.register (k + 1)))
    (∀ id, isUsed s id = true ↔ (1 ≤ id ∧ id ≤ n)) ∧
    (n = cfg.idMax → (acquire { cfg := cfg, s := s }).1 = none) := by
  have key : PidWf cfg (run cfg (St.init cfg ver) ((List.range n).map (fun k => Op.register (k + 1)))) ∧
      ∀ id, isUsed (run cfg (St.init cfg ver) ((List.range n).map (fun k => Op.register (k + 1)))) id = true ↔
        (1 ≤ id ∧ id ≤ n) := by
    induction n with
    | zero =>
      refine ⟨C08_wf_init cfg ver h, fun id => ?_⟩
      show isUsed (St.init cfg ver) id = true ↔ _
      rw [show isUsed (St.init cfg ver) id = false from Alloc.new_isUsed _ _ _ _]
      exact ⟨nofun, fun h => absurd h.1 (by omega)⟩
    | succ n ih =>
      obtain ⟨w, u⟩ := ih (by omega)
      rw [List.range_succ, List.map_append, run_append]
      exact ⟨C08_wf_step h w _, register_next w hn u⟩
  exact ⟨key.2, fun e => (C08_exhaustion key.1).1.2 fun id h1 h2 => (key.2 id).2 ⟨h1, by omega⟩⟩

/-! ## 3. announcements: released exactly when an in-use id turns free -/

/-- **release_exact.**  For every operation, with `rel` the ids announced by
    `NotifyPacketIdReleased` events of the call:
    (a) no duplicates; (b) each was in use before; (c) each is free afterwards;
    (d) unless the call starts a new session, an id in use before and free afterwards is in
        `rel`;
    (e) if the call starts a new session, no id is in use afterwards (the wholesale reset);
    (f) apart from `acquire` / `register` / `restorePackets` (which announce nothing and free
        nothing) no call makes an id used. -/
theorem C08_release_exact {cfg : Cfg} {s : St} (h : 1 ≤ cfg.idMax) (w : PidWf cfg s) (op : Op) :
    let rel := Mon.releasedIds (step cfg s op).ev
    let s' := (step cfg s op).s
    rel.Nodup ∧
    (∀ id ∈ rel, isUsed s id = true) ∧
    (∀ id ∈ rel, isUsed s' id = false) ∧
    (startsNewSession cfg s op = false → ∀ id, isUsed s id = true → isUsed s' id = false → id ∈ rel) ∧
    (startsNewSession cfg s op = true → ∀ id, isUsed s' id = false) ∧
    (takesIds op = false → ∀ id, isUsed s' id = true → isUsed s id = true) ∧
    (takesIds op = true → rel = [] ∧ ∀ id, isUsed s id = true → isUsed s' id = true) := by
  have hw : Wf { cfg := cfg, s := s } := ⟨h, w⟩
  cases hg : takesIds op with
  | false =>
    obtain ⟨_, _, r, e, a2, a3, a4, a5, a6⟩ := step_eff hw op hg
    simp only [Mon.releasedIds, List.nil_append] at e
    simp only [e]
    refine ⟨a2, fun id hm => (a3 id hm).1, fun id hm => (a3 id hm).2, ?_, a6, fun _ => a4, by simp⟩
    intro hb id hu hf
    cases hd : decide (id ∈ r) with
    | true => exact of_decide_eq_true hd
    | false => have := a5 hb id hu (of_decide_eq_false hd); simp_all
  | true =>
    obtain ⟨_, _, e, m⟩ := step_grow hw op hg
    simp only [Mon.releasedIds] at e
    have hs : startsNewSession cfg s op = false := by cases op <;> simp_all [takesIds, startsNewSession]
    simp only [e, hs]
    refine ⟨List.nodup_nil, by simp, by simp, ?_, by simp, by simp, fun _ => ⟨trivial, m⟩⟩
    intro _ id hu hf
    have := m id hu; simp_all

theorem C08_free_stays_free {cfg : Cfg} (h : 1 ≤ cfg.idMax) (ops : List Op)
    (hno : ∀ o ∈ ops, takesIds o = false) {id : Nat} :
    ∀ {s : St}, PidWf cfg s → isUsed s id = false →
      isUsed (run cfg s ops) id = false ∧ ∀ evs ∈ runEvents cfg s ops, id ∉ Mon.releasedIds evs := by
  induction ops with
  | nil => intro s w hf; exact ⟨hf, by simp [runEvents]⟩
  | cons op ops ih =>
    intro s w hf
    obtain ⟨_, b, _, _, _, f, _⟩ := C08_release_exact h w op
    have hop := hno op List.mem_cons_self
    have hf' : isUsed (step cfg s op).s id = false := by
      cases hc : isUsed (step cfg s op).s id with
      | false => rfl
      | true => have := f hop id hc; simp_all
    obtain ⟨r1, r2⟩ := ih (fun o ho => hno o (List.mem_cons_of_mem _ ho)) (C08_wf_step h w op) hf'
    refine ⟨r1, ?_⟩
    intro evs hm
    simp only [runEvents, List.mem_cons] at hm
    rcases hm with rfl | hm
    · intro hin; have := b id hin; simp_all
    · exact r2 evs hm

/-- **never twice**: once an id has been announced as released it is not announced again by
    any later call — until the application takes it again. -/
theorem C08_released_once {cfg : Cfg} {s : St} (h : 1 ≤ cfg.idMax) (w : PidWf cfg s) (op : Op)
    (ops : List Op) (hno : ∀ o ∈ ops, takesIds o = false) {id : Nat}
    (hr : id ∈ Mon.releasedIds (step cfg s op).ev) :
    ∀ evs ∈ runEvents cfg (step cfg s op).s ops, id ∉ Mon.releasedIds evs :=
  (C08_free_stays_free h ops hno (C08_wf_step h w op) ((C08_release_exact h w op).2.2.1 id hr)).2

/-! ## 4. when releases are announced -/

/-- **release_on_completion.**  A PUBACK / PUBCOMP / failing PUBREC (the model releases for
    every non-success reason code of a v5.0 PUBREC) / SUBACK / UNSUBACK that is delivered to
    its handler, parses, and whose id is in the corresponding wait set: the call announces
    exactly that id if it is in use (and nothing if it is not). -/
theorem C08_release_on_completion {cfg : Cfg} {s : St} {inp : List Nat}
    {parse : Nat → Nat → List Nat → Except Nat Pkt} {t : Nat} {p : Pkt}
    (d : Delivers cfg s inp parse t (.ok p))
    (hm : (t = 4 ∧ p.pid.getD 0 ∈ s.puback) ∨ (t = 7 ∧ p.pid.getD 0 ∈ s.pubcomp) ∨
          (t = 5 ∧ p.pid.getD 0 ∈ s.pubrec ∧ ¬ (p.ver = 4 ∨ p.rc = none ∨ p.rc = some 0)) ∨
          (t = 9 ∧ p.pid.getD 0 ∈ s.suback) ∨ (t = 11 ∧ p.pid.getD 0 ∈ s.unsuback)) :
    Mon.releasedIds (step cfg s (.recv inp parse)).ev =
      if isUsed s (p.pid.getD 0) = true then [p.pid.getD 0] else [] := by
  obtain ⟨pb, e⟩ := step_recv_delivers d
  rw [e]
  rcases hm with ⟨rfl, hm⟩ | ⟨rfl, hm⟩ | ⟨rfl, hm, hf⟩ | ⟨rfl, hm⟩ | ⟨rfl, hm⟩
  · exact (prPuback_ok (c := { cfg := cfg, s := { s with pb := pb } }) hm).rel
  · exact (prPubcomp_ok (c := { cfg := cfg, s := { s with pb := pb } }) hm).rel
  · exact (prPubrec_fail (c := { cfg := cfg, s := { s with pb := pb } }) hm hf).rel
  · exact (prSubUnsuback_ok (c := { cfg := cfg, s := { s with pb := pb } }) (isSub := true) hm).rel
  · exact (prSubUnsuback_ok (c := { cfg := cfg, s := { s with pb := pb } }) (isSub := false) hm).rel

/-- **release_on_refusal.**  A `send` of a QoS>0 PUBLISH, SUBSCRIBE or UNSUBSCRIBE carrying an
    in-use id that is answered with a `NotifyError` announces exactly that id — whatever the
    reason of the refusal.  The refusal reasons covered (all that exist for these packets once
    the id is in use): protocol version mismatch (`VersionMismatch`) and role check
    (`PacketNotAllowedToSend`) — fix 1d0ef05, see `C08_release_on_version_or_role_refusal`;
    v3.1.1/v5.0 PUBLISH not allowed in the current status
    (`PacketNotAllowedToSend`); v5.0 PUBLISH / SUBSCRIBE / UNSUBSCRIBE larger than the peer's
    Maximum Packet Size (`PacketTooLarge`); v5.0 PUBLISH over the peer's Receive Maximum
    (`ReceiveMaximumExceeded`); v5.0 PUBLISH with an unusable Topic Alias (empty topic and
    unknown / out-of-range alias, or alias out of range) (`PacketNotAllowedToSend`);
    SUBSCRIBE / UNSUBSCRIBE while not connected. -/
theorem C08_release_on_refusal {cfg : Cfg} {s : St} (p : Pkt) (id : Nat)
    (hk : (p.kind = .publish ∧ p.qos > 0) ∨ p.kind = .subscribe ∨ p.kind = .unsubscribe)
    (hp : p.pid = some id) (hu : isUsed s id = true)
    (he : errs (step cfg s (.send p)).ev ≠ []) :
    Mon.releasedIds (step cfg s (.send p)).ev = [id] := by
  have hi : initiatingId p = some id :=
    initiatingId_of_kind (by rcases hk with ⟨hk, _⟩ | hk | hk <;> simp [hk]) hp
  have key : Refuse { cfg := cfg, s := s } (step cfg s (.send p)) id := by
    refine Fp.send_cases (Q := fun r => Refuse _ r id) { cfg := cfg, s := s } p
      (fun _ => refuseSend_refuse _ _ p id hi hu) (fun _ _ => refuseSend_refuse _ _ p id hi hu) (fun _ _ => ?_)
    rcases hk with ⟨hk, hq⟩ | hk | hk
    · rw [Fp.processSend_publish _ hk]
      exact Refuse.ite (fun _ => psV3Publish_refuse _ p id hq hp hu) (fun _ => psV5Publish_refuse _ p id hq hp hu)
    · rw [Fp.processSend_subUnsub _ (.inl hk)]
      exact psSubUnsub_refuse _ p id hp hu
    · rw [Fp.processSend_subUnsub _ (.inr hk)]
      exact psSubUnsub_refuse _ p id hp hu
  rcases key with k | k
  · exact absurd k he
  · simpa [Mon.releasedIds] using k

theorem hasError_false_of_errs : ∀ (l : List Ev), errs l = [] → Mon.hasError l = false := by
  intro l
  induction l with
  | nil => intro _; rfl
  | cons e t ih =>
    intro h
    cases e <;> simp_all [errs, Mon.hasError]

theorem hasError_errs {l : List Ev} (h : Mon.hasError l = true) : errs l ≠ [] := by
  intro he
  rw [hasError_false_of_errs l he] at h
  cases h

/-- **the refused-send monitor is a theorem of the model** (driver monitor
    `VIOL sig=C08 refused_send_keeps_id@<site>`).  A `send` of a packet that starts an exchange
    (QoS>0 PUBLISH, SUBSCRIBE, UNSUBSCRIBE) with identifier `id`, `id` in use before the call,
    whose events contain a `NotifyError`: `NotifyPacketIdReleased id` is among the events (it is
    the only announcement) and `id` is free afterwards — for every refusal path (listed at
    `C08_release_on_refusal`; `PacketIdentifierInvalid` cannot occur since the identifier is in use).
    The monitor's further
    conditions (no `RequestSendPacket` among the events, the identifier not stored afterwards, owned
    by no exchange and not stored before) are not needed. -/
theorem C08_refused_send_releases {cfg : Cfg} {s : St} (h : 1 ≤ cfg.idMax) (w : PidWf cfg s) (p : Pkt) (id : Nat)
    (hk : (p.kind = .publish ∧ p.qos > 0) ∨ p.kind = .subscribe ∨ p.kind = .unsubscribe)
    (hp : p.pid = some id) (hu : isUsed s id = true)
    (he : Mon.hasError (step cfg s (.send p)).ev = true) :
    Ev.released id ∈ (step cfg s (.send p)).ev ∧ Mon.releasedIds (step cfg s (.send p)).ev = [id] ∧
    isUsed (step cfg s (.send p)).s id = false := by
  have hr := C08_release_on_refusal (cfg := cfg) (s := s) p id hk hp hu (hasError_errs he)
  have hm : id ∈ Mon.releasedIds (step cfg s (.send p)).ev := by rw [hr]; simp
  exact ⟨Pend.mem_releasedIds.1 hm, hr, (C08_release_exact h w (.send p)).2.2.1 id hm⟩

set_option linter.unusedVariables false in
/-- the monitor's condition, literally: the violation it reports never occurs in the model -/
theorem C08_monitor_refused_send_sound {cfg : Cfg} {s : St} (h : 1 ≤ cfg.idMax) (w : PidWf cfg s) (p : Pkt) (id : Nat)
    (hstarts : (p.kind = .publish ∧ p.qos > 0) ∨ p.kind = .subscribe ∨ p.kind = .unsubscribe)
    (hp : p.pid = some id) (he : Mon.hasError (step cfg s (.send p)).ev = true)
    (hnosend : ∀ q r, Ev.send q r ∉ (step cfg s (.send p)).ev)
    (hnotstored : storeHas id (step cfg s (.send p)).s.store = false)
    (husedBefore : isUsed s id = true) (hnotowned : ¬ owned s id) :
    ¬ (isUsed (step cfg s (.send p)).s id = true) := by
  rw [(C08_refused_send_releases h w p id hstarts hp husedBefore he).2.2]; simp

/-- the error a send refused before its handler reports -/
def C08.gateErr (s : St) (p : Pkt) : Nat := if s.ver ≠ p.ver then eVersionMismatch else eNotAllowed

/-- **release_on_version_or_role_refusal** (fix 1d0ef05).  A `send` refused because the packet's
    protocol version is not the connection's, or because the role may never send the kind,
    with `id` the identifier the packet was given to start an exchange (`initiatingId`: that of
    a PUBLISH / SUBSCRIBE / UNSUBSCRIBE):
    * `id` in use: the events are exactly `[NotifyError e, NotifyPacketIdReleased id]`, only
      the allocator changes, `id` is free afterwards and every other id is as before;
    * `id` not in use: the events are exactly `[NotifyError e]` and the state (the allocator in
      particular) is unchanged.
    Before the fix the identifier stayed in use and nothing was announced. -/
theorem C08_release_on_version_or_role_refusal {cfg : Cfg} {s : St} (h : 1 ≤ cfg.idMax) (w : PidWf cfg s)
    (p : Pkt) (id : Nat)
    (hg : s.ver ≠ p.ver ∨ roleMaySend cfg.role p = false) (hi : initiatingId p = some id) :
    (isUsed s id = true →
      (step cfg s (.send p)).ev = [.error (C08.gateErr s p), .released id] ∧
      (step cfg s (.send p)).s = { s with pidMan := (Alloc.deallocate s.pidMan id).2 } ∧
      isUsed (step cfg s (.send p)).s id = false ∧
      ∀ x, x ≠ id → isUsed (step cfg s (.send p)).s x = isUsed s x) ∧
    (isUsed s id = false →
      (step cfg s (.send p)).ev = [.error (C08.gateErr s p)] ∧ (step cfg s (.send p)).s = s) := by
  have e : step cfg s (.send p) = refuseSend { cfg := cfg, s := s } (C08.gateErr s p) p := by
    unfold C08.gateErr
    refine Fp.send_cases (Q := fun r => r = refuseSend _ _ p) { cfg := cfg, s := s } p (fun hv => by rw [if_pos hv])
      (fun hv _ => by rw [if_neg (not_not_intro hv)]) (fun hv hr => ?_)
    rcases hg with hg | hg
    · exact absurd hv hg
    · exact absurd (hr.symm.trans hg) nofun
  rw [e]
  constructor
  · intro hu
    have d := (w.w.dealloc hu).2.2
    rw [refuseSend_used (c := { cfg := cfg, s := s }) ⟨h, w⟩ _ p id hi hu]
    exact ⟨rfl, rfl, (d id).trans (by simp), fun x hx => (d x).trans (by rw [bne_iff_ne.2 hx, Bool.and_true]; rfl)⟩
  · intro hu
    rw [refuseSend_unused _ _ p id hi hu]
    exact ⟨rfl, rfl⟩

/-- Refusals that do **not** release (nothing is announced, no id changes): a version or role
    refusal of a packet that does not start an exchange (`initiatingId p = none`: anything but
    PUBLISH / SUBSCRIBE / UNSUBSCRIBE with an identifier), and every refusal of a PUBREL
    (version, role, too large, not allowed — finding #23).  (`PacketIdentifierInvalid` cannot
    release: the id is not in use.)  Since fix 1d0ef05 a version or role refusal of a packet
    that does carry such an identifier releases it: `C08_release_on_version_or_role_refusal`. -/
theorem C08_refusal_without_release {cfg : Cfg} {s : St} (p : Pkt)
    (hk : ((s.ver ≠ p.ver ∨ roleMaySend cfg.role p = false) ∧ initiatingId p = none) ∨ p.kind = .pubrel) :
    Mon.releasedIds (step cfg s (.send p)).ev = [] ∧
      ∀ id, isUsed (step cfg s (.send p)).s id = isUsed s id := by
  have hi : initiatingId p = none := by
    rcases hk with hk | hk
    · exact hk.2
    · simp [initiatingId, hk]
  have q : Quiet { cfg := cfg, s := s } (step cfg s (.send p)) := by
    refine Fp.send_cases (Q := Quiet _) { cfg := cfg, s := s } p (fun _ => ?_) (fun _ _ => ?_) (fun hv hr => ?_)
    · rw [refuseSend_none _ _ p hi]
      exact (Quiet.refl _).err _
    · rw [refuseSend_none _ _ p hi]
      exact (Quiet.refl _).err _
    · rcases hk with ⟨hk | hk, -⟩ | hk
      · exact absurd hv hk
      · exact absurd (hr.symm.trans hk) nofun
      · rw [Fp.processSend_pubrel _ hk]
        exact psPubrel_q _ _
  exact ⟨by simpa [Mon.releasedIds] using q.2.2, fun id => isUsed_congr q.2.1 id⟩

/-- **release_on_close.**  `notify_closed` announces every in-use id of `suback ∪ unsuback`,
    and — when the session is not persistent (`¬ needStore`) — every in-use id of
    `puback ∪ pubrec ∪ pubcomp`. -/
theorem C08_release_on_close {cfg : Cfg} {s : St} (h : 1 ≤ cfg.idMax) (w : PidWf cfg s) {id : Nat}
    (hm : id ∈ s.suback ∨ id ∈ s.unsuback ∨
      (s.needStore = false ∧ (id ∈ s.puback ∨ id ∈ s.pubrec ∨ id ∈ s.pubcomp)))
    (hu : isUsed s id = true) :
    id ∈ Mon.releasedIds (step cfg s .closed).ev := by
  have hw : Wf { cfg := cfg, s := s } := ⟨h, w⟩
  have hf : isUsed (step cfg s .closed).s id = false := notifyClosed_free hw hm
  exact (C08_release_exact h w .closed).2.2.2.1 rfl id hu hf

/-! ## 5. the ownership invariant `PidInv` — what holds and what does not

`PidInv s` (`Conn/Lemmas/PidsStore.lean`): (i) every id of a wait set is in use, (ii) every
stored packet's id is in use, (iii) store ids are pairwise distinct.  It holds initially.
(iii) is an unconditional invariant (`C08_store_ids_distinct`).  (i)+(ii) are **not**
preserved by arbitrary peer input: see `C08_PidInv_step_full_false` and the witnesses below. -/

theorem C08_PidInv_init (cfg : Cfg) (ver : Nat) : PidInv (St.init cfg ver) := by
  refine ⟨by simp [waitIds, St.init], by simp [St.init], by simp [St.init]⟩

/-- **(iii) holds unconditionally**: store ids are pairwise distinct initially and after every
    operation — every `send`, arbitrary `recv` bytes / parser results, `restorePackets` of any
    list — with no hypothesis at all (`store.add` refuses a duplicate: it is then the panic
    site `store.add().unwrap()`, and the state is unchanged). -/
theorem C08_store_ids_distinct_step {cfg : Cfg} {s : St} (hs : (s.store.map (·.1)).Nodup) (op : Op) :
    ((step cfg s op).s.store.map (·.1)).Nodup := step_kn hs op

theorem C08_store_ids_distinct {cfg : Cfg} {ver : Nat} {s : St} (r : Reachable cfg ver s) :
    (s.store.map (·.1)).Nodup :=
  r.ind (P := fun s => KN s.store) KN_nil (fun _ op h => step_kn h op)

/-- legality of an application call with respect to identifiers (no condition on `recv`, none
    on `restorePackets`): an id carried by a sent PUBLISH / SUBSCRIBE / UNSUBSCRIBE is not owned by
    another exchange or stored packet (if it is, every refusal path of the send frees it under its
    owner); an id that is released by hand is not awaited by PUBCOMP and carried by no stored packet
    (`witness_release_stored`, `witness_release_pubcomp`).  Since fix ba1a812 `release` of an id
    awaited by SUBACK / UNSUBACK / PUBACK / PUBREC is legal — the exchange is abandoned with it
    (`C08_release_abandons_exchange`, `witness_release_owned_fixed`). -/
def LegalOp (s : St) : Op → Prop
  | .release id => id ∉ s.pubcomp ∧ storeHas id s.store = false
  | .send p => (p.kind = .publish ∨ p.kind = .subscribe ∨ p.kind = .unsubscribe) → ¬ owned s (p.pid.getD 0)
  | _ => True

instance (s : St) (op : Op) : Decidable (LegalOp s op) := by
  cases op <;> simp only [LegalOp] <;> infer_instance

/-- every legal call preserves `PidInv`: false (`C08_PidInv_step_full_false`), peer input breaks it -/
def C08_PidInv_step_full : Prop :=
  ∀ (cfg : Cfg) (s : St) (op : Op), 1 ≤ cfg.idMax → PidWf cfg s → PidInv s → LegalOp s op →
    PidInv (step cfg s op).s

/-- **restorePackets keeps the ownership invariant for ANY packet list** (duplicate ids, id 0,
    ids above the maximum, ids already in use): the wait-set entry and the store entry are made
    only for a packet whose id could be registered (the fix of finding #24). -/
theorem C08_PidInv_restorePackets {cfg : Cfg} {s : St} (h : 1 ≤ cfg.idMax) (w : PidWf cfg s)
    (i : PidInv s) (ps : List Pkt) : PidInv (step cfg s (.restorePackets ps)).s :=
  restorePackets_inv ps { cfg := cfg, s := s } ⟨h, w⟩ i

/-- the ops for which preservation is proved: the id calls (with legality for `release`),
    `restorePackets` (any list), timers and settings, and `notify_closed` of a non-persistent
    session -/
def simpleOp (s : St) : Op → Bool
  | .acquire | .register _ | .release _ | .timer _ | .setInterval _ | .setFlag _ _
  | .setRespTimeout _ | .restoreHandled _ | .restorePackets _ => true
  | .closed => !s.needStore
  | _ => false

theorem C08_PidInv_step_partial {cfg : Cfg} {s : St} (h : 1 ≤ cfg.idMax) (w : PidWf cfg s)
    (i : PidInv s) (op : Op) (hs : simpleOp s op = true) (hl : LegalOp s op) :
    PidInv (step cfg s op).s := by
  have hw : Wf { cfg := cfg, s := s } := ⟨h, w⟩
  -- the calls that `StepOut` lists with no primitive
  have same : ∀ op, (∀ l, StepOut cfg s (step cfg s op).s.mpsSend op l → l = []) → PidInv (step cfg s op).s :=
    fun op hk => by
      obtain ⟨l, ho, hr⟩ := Fp.step_ids cfg s op
      obtain rfl := hk l ho
      exact i.of_ids hr.ids
  cases op with
  | acquire =>
    exact PidInv.of_still (c := { cfg := cfg, s := s }) i ⟨rfl, rfl, rfl, rfl, rfl, rfl⟩
      (fun id _ hu => (acquire_grow hw).mono id hu)
  | register id =>
    exact PidInv.of_still (c := { cfg := cfg, s := s }) i ⟨rfl, rfl, rfl, rfl, rfl, rfl⟩
      (fun x _ hu => (register_grow hw id).mono x hu)
  | release id => exact releasePacketId_inv hw i hl.1 hl.2
  | timer k => exact same (.timer k) fun _ ho => by cases ho; rfl
  | setInterval d => exact same (.setInterval d) fun _ ho => by cases ho; rfl
  | setFlag f b => exact same (.setFlag f b) fun _ ho => by cases ho; rfl
  | setRespTimeout ms => exact same (.setRespTimeout ms) fun _ ho => by cases ho; rfl
  | restoreHandled ids => exact same (.restoreHandled ids) fun _ ho => by cases ho; rfl
  | closed =>
    simp only [simpleOp, Bool.not_eq_true'] at hs
    obtain ⟨e1, e2⟩ := notifyClosed_nonpersistent (c := { cfg := cfg, s := s }) hs
    show PidInv (notifyClosed _).s
    unfold PidInv
    rw [e1, e2]
    exact ⟨by simp, by simp, by simp⟩
  | send p => simp [simpleOp] at hs
  | recv a b => simp [simpleOp] at hs
  | erase id => simp [simpleOp] at hs
  | restorePackets ps => exact C08_PidInv_restorePackets h w i ps

/-! ### witnesses (all `decide`-checked on states reached from `St.init` by `run`) -/
namespace W
def cfgC : Cfg := { role := .client, pw := 2 }
def okp (p : Pkt) : Nat → Nat → List Nat → Except Nat Pkt := fun _ _ _ => .ok p
def connect5 : Pkt := { ver := 5, kind := .connect, size := 20, props := [(pSEI, 100)] }
def connack5 (sp : Bool) (props : List (Nat × Nat)) : Pkt :=
  { ver := 5, kind := .connack, size := 8, rc := some 0, sp := sp, props := props }
def pub1 : Pkt := { ver := 5, kind := .publish, pid := some 1, qos := 1, topic := [97], payloadLen := 100 }
def sub1 : Pkt := { ver := 5, kind := .subscribe, pid := some 1, size := 10 }
def puback (v id : Nat) : Pkt := { ver := v, kind := .puback, pid := some id, size := 4 }
def pubrel1 : Pkt := { ver := 5, kind := .pubrel, pid := some 1, size := 4 }
def disc5 : Pkt := { ver := 5, kind := .disconnect, size := 2 }
def pq (q id : Nat) : Pkt := { ver := 5, kind := .publish, pid := some id, qos := q, topic := [97] }
def connackBytes : List Nat := [0x20, 3, 0, 0, 0]
def pubackBytes : List Nat := [0x40, 2, 0, 1]
def s0 : St := St.init cfgC 5

/-- client, persistent session, connected, QoS 1 PUBLISH id 1 in flight and stored, connection
    closed, CONNECT sent again -/
def opsA : List Op :=
  [.send connect5, .recv connackBytes (okp (connack5 false [])), .acquire, .send pub1, .closed,
   .send connect5]
def sA : St := run cfgC s0 opsA
/-- the broker resumes the session, announcing Maximum Packet Size 20 -/
def opA : Op := .recv connackBytes (okp (connack5 true [(pMPS, 20)]))
end W
open W

/-- `send_stored` dropping an oversize stored packet (fix 08017c0): on resume the packet is
    dropped, its id released and announced, **and** removed from `pid_puback` / `pid_pubrec` /
    `pid_pubcomp`.  Before the fix the id stayed awaited: a later re-acquisition for a
    SUBSCRIBE plus a late PUBACK released it under the SUBSCRIBE. -/
theorem witness_sendStored_drop_fixed :
    PidWf cfgC sA ∧ PidInv sA ∧ sA.puback = [1] ∧ sA.store.length = 1 ∧
    Mon.releasedIds (step cfgC sA opA).ev = [1] ∧
    (step cfgC sA opA).s.puback = [] ∧ (step cfgC sA opA).s.store = [] ∧
    isUsed (step cfgC sA opA).s 1 = false ∧ PidInv (step cfgC sA opA).s := by decide

namespace W
/-- connected client with SUBSCRIBE id 1 in flight sends DISCONNECT (`notify_closed` not yet called) -/
def sD : St := run cfgC s0 [.send connect5, .recv connackBytes (okp (connack5 false [])), .acquire,
  .send sub1, .send disc5]
def opD : Op := .recv connackBytes (okp (connack5 false []))
end W

/-- the full statement is false: peer input needs no legality, the state is reachable by a legal
    application and satisfies everything (witness: `witness_connack_while_disconnected`) -/
theorem C08_PidInv_step_full_false : ¬ C08_PidInv_step_full := by
  intro hfull
  have := hfull cfgC sD opD (by decide) (by decide) (by decide) trivial
  exact absurd this (by decide)

/-- **finding (peer breaks (i))**: a CONNACK received while *disconnected* (after DISCONNECT
    was sent, before `notify_closed`; also: never connected at all) is accepted, makes the
    connection `connected` and resets all ids, while `pid_suback` still holds id 1: afterwards
    id 1 is free and awaited, nothing was announced. -/
theorem witness_connack_while_disconnected :
    let s' := (step cfgC sD opD).s
    PidWf cfgC sD ∧ PidInv sD ∧ sD.panic = none ∧ sD.status = .disconnected ∧
      s'.status = .connected ∧ s'.suback = [1] ∧ isUsed s' 1 = false ∧
      Mon.releasedIds (step cfgC sD opD).ev = [] ∧ ¬ PidInv s' := by decide

/-- second way (a modelling artefact, not a defect): `recv` quantifies over arbitrary parser
    results; a PUBACK *parsed as another protocol version* does not erase the stored packet
    (`Store::erase` compares versions) yet releases the id: (ii) breaks.  A real parser for
    version `v` returns version-`v` packets. -/
theorem witness_foreign_version_ack :
    let s := run cfgC s0 [.send connect5, .recv connackBytes (okp (connack5 false [])), .acquire, .send pub1]
    let s' := (step cfgC s (.recv pubackBytes (okp (puback 4 1)))).s
    PidInv s ∧ s'.store.length = 1 ∧ isUsed s' 1 = false := by decide

/-- fixed by ba1a812 (before it `release id` of an id owned by a wait set broke (i) — the id stayed
    awaited by SUBACK while free): the id leaves the wait set with the release, the ownership invariant holds afterwards, and `notify_closed` announces nothing for it. -/
theorem witness_release_owned_fixed :
    let s := run cfgC s0 [.send connect5, .recv connackBytes (okp (connack5 false [])), .acquire, .send sub1]
    PidInv s ∧ s.suback = [1] ∧ owned s 1 ∧ LegalOp s (.release 1) ∧
    (step cfgC s (.release 1)).ev = [.released 1] ∧ (step cfgC s (.release 1)).s.suback = [] ∧
    PidInv (step cfgC s (.release 1)).s ∧
    Mon.releasedIds (step cfgC (run cfgC s [.release 1, .acquire]) .closed).ev = [] := by decide

/-- the same for a QoS 1 PUBLISH in flight on a non-persistent session under Receive Maximum 10: the
    id leaves `puback` and the credit comes back -/
theorem witness_release_awaited_publish_fixed :
    let s := run cfgC s0 [.send { connect5 with props := [] }, .recv connackBytes (okp (connack5 false [(pRM, 10)])),
      .acquire, .send pub1]
    PidInv s ∧ s.puback = [1] ∧ s.store = [] ∧ s.sendCount = 1 ∧ LegalOp s (.release 1) ∧
    (step cfgC s (.release 1)).ev = [.released 1] ∧ (step cfgC s (.release 1)).s.puback = [] ∧
    (step cfgC s (.release 1)).s.sendCount = 0 ∧ PidInv (step cfgC s (.release 1)).s := by decide

/-- still there after ba1a812 (the fix does not touch the store): `release id` of the id of a STORED
    PUBLISH leaves the stored packet with a free identifier — (ii) breaks: legality must exclude it. -/
theorem witness_release_stored :
    let s := run cfgC s0 [.send connect5, .recv connackBytes (okp (connack5 false [])), .acquire, .send pub1]
    PidInv s ∧ s.puback = [1] ∧ s.store.map (·.1) = [1] ∧ ¬ LegalOp s (.release 1) ∧
    (step cfgC s (.release 1)).s.puback = [] ∧ (step cfgC s (.release 1)).s.store.map (·.1) = [1] ∧
    isUsed (step cfgC s (.release 1)).s 1 = false ∧ ¬ PidInv (step cfgC s (.release 1)).s := by decide

/-- still there after ba1a812 (`pubcomp` is not among the sets the release clears): `release id` of an
    id awaited by PUBCOMP breaks (i): legality must exclude it. -/
theorem witness_release_pubcomp :
    let s := run cfgC s0 [.send { connect5 with props := [] }, .recv connackBytes (okp (connack5 false [])), .acquire,
      .send pubrel1]
    PidInv s ∧ s.pubcomp = [1] ∧ s.store = [] ∧ ¬ LegalOp s (.release 1) ∧
    (step cfgC s (.release 1)).s.pubcomp = [1] ∧ isUsed (step cfgC s (.release 1)).s 1 = false ∧
    ¬ PidInv (step cfgC s (.release 1)).s := by decide

/-- finding #24 (fixed): a restored export with a duplicate id, id 0 and an id above the maximum
    registers id 5 once (first entry wins: `puback`), ignores the rest, and keeps `PidInv`
    (`C08_PidInv_restorePackets` proves this for every list). -/
theorem witness_restore_fixed :
    let s := (step cfgC s0 (.restorePackets [pq 1 5, pq 2 5, pq 1 0, pq 2 65536])).s
    s.puback = [5] ∧ s.pubrec = [] ∧ s.store.length = 1 ∧ isUsed s 5 = true ∧ PidInv s := by decide

/-- fixed by 1d0ef05: a version mismatch and a role
    refusal (`Server` sending SUBSCRIBE) release the identifier like every other refusal -/
theorem witness_gate_refusals_release :
    let s1 := (step cfgC s0 .acquire).s
    isUsed s1 1 = true ∧
    (step cfgC s1 (.send { sub1 with ver := 4 })).ev = [.error eVersionMismatch, .released 1] ∧
    isUsed (step cfgC s1 (.send { sub1 with ver := 4 })).s 1 = false ∧
    (step { cfgC with role := .server } s1 (.send sub1)).ev = [.error eNotAllowed, .released 1] ∧
    isUsed (step { cfgC with role := .server } s1 (.send sub1)).s 1 = false := by decide

/-- the refusal that still keeps the id silently (cf. `C08_refusal_without_release`): PUBREL
    while not connected and not persistent (finding #23: afterwards id 1 is in use, owned by
    nobody, and survives `notify_closed`). -/
theorem witness_silent_refusals :
    let s1 := (step cfgC s0 .acquire).s
    (step cfgC s1 (.send pubrel1)).ev = [.error eNotAllowed] ∧
    isUsed (run cfgC s1 [.send pubrel1, .closed]) 1 = true ∧
    waitIds (run cfgC s1 [.send pubrel1, .closed]) = [] := by decide

/-! ## 6. non-vacuity: concrete reachable states / inputs satisfying the hypotheses -/
namespace W
/-- connected client, SUBSCRIBE id 1 and QoS 1 PUBLISH id 2 in flight (the PUBLISH stored) -/
def sB : St := run cfgC s0 [.send connect5, .recv connackBytes (okp (connack5 false [])), .acquire,
  .send sub1, .acquire, .send { pub1 with pid := some 2 }]
/-- an allocator `[1, 255]` (`pw = 1`) with every id handed out -/
def cfg1 : Cfg := { role := .client, pw := 1 }
def sFull : St := run cfg1 (St.init cfg1 4) (List.replicate 255 .acquire)
end W

example : W.cfgC.pw = 2 ∨ W.cfgC.pw = 4 := by decide
example : 1 ≤ W.cfgC.idMax ∧ W.cfgC.idMax = 65535 := by decide
/-- hypotheses of §1–§3: a well-formed reachable state with ids in use, wait sets and store non-empty -/
example : Reachable W.cfgC 5 W.sB ∧ PidWf W.cfgC W.sB ∧ W.sB.suback = [1] ∧ W.sB.puback = [2] ∧
    W.sB.store.length = 1 ∧ isUsed W.sB 1 = true ∧ isUsed W.sB 2 = true ∧ isUsed W.sB 3 = false :=
  ⟨⟨_, rfl⟩, by decide⟩
/-- `C08_acquire_fresh`: the next id is 3 -/
example : (acquire { cfg := W.cfgC, s := W.sB }).1 = some 3 := by decide
/-- `C08_exhaustion`: all 255 ids of a one-byte id type in use, `acquire` reports exhaustion,
    and the id calls stay total there (0, max, max+1) -/
example : PidWf W.cfg1 W.sFull ∧ (acquire { cfg := W.cfg1, s := W.sFull }).1 = none ∧
    isUsed W.sFull 1 = true ∧ isUsed W.sFull 255 = true ∧ isUsed W.sFull 0 = false ∧
    isUsed W.sFull 256 = false ∧
    (step W.cfg1 W.sFull (.release 0)).s.panic = none ∧ (step W.cfg1 W.sFull (.release 255)).s.panic = none ∧
    (step W.cfg1 W.sFull (.release 256)).s.panic = none ∧
    (register { cfg := W.cfg1, s := W.sFull } 0).1 = false ∧
    (register { cfg := W.cfg1, s := (step W.cfg1 W.sFull (.release 255)).s } 255).1 = true := by
  decide +kernel
/-- `C08_used_not_reissued` / `C08_register_iff_free` -/
example : isUsed W.sB 2 = true ∧ (register { cfg := W.cfgC, s := W.sB } 2).1 = false ∧
    (register { cfg := W.cfgC, s := W.sB } 7).1 = true ∧ (register { cfg := W.cfgC, s := W.sB } 0).1 = false ∧
    (register { cfg := W.cfgC, s := W.sB } 65536).1 = false := by decide
/-- `C08_release_exact` (d)/(e): a call that starts a new session, and one that does not -/
example : startsNewSession W.cfgC (run W.cfgC W.sB [.closed]) (.send { W.connect5 with clean := true }) = true ∧
    startsNewSession W.cfgC W.sB (.recv W.pubackBytes (W.okp (W.puback 5 2))) = false ∧
    Mon.releasedIds (step W.cfgC W.sB (.recv W.pubackBytes (W.okp (W.puback 5 2)))).ev = [2] := by decide
/-- `C08_released_once`: PUBACK 2 announces id 2; a second PUBACK 2 and a close announce it no more -/
example : 2 ∈ Mon.releasedIds (step W.cfgC W.sB (.recv W.pubackBytes (W.okp (W.puback 5 2)))).ev ∧
    (∀ o ∈ [Op.recv W.pubackBytes (W.okp (W.puback 5 2)), Op.closed], takesIds o = false) ∧
    (runEvents W.cfgC (step W.cfgC W.sB (.recv W.pubackBytes (W.okp (W.puback 5 2)))).s
      [Op.recv W.pubackBytes (W.okp (W.puback 5 2)), Op.closed]).map Mon.releasedIds = [[], [1]] := by
  refine ⟨by decide, ?_, by decide⟩
  intro o ho
  simp only [List.mem_cons, List.not_mem_nil, or_false] at ho
  rcases ho with rfl | rfl <;> rfl
/-- `C08_release_on_completion`: a PUBACK for id 2 is delivered -/
example : Delivers W.cfgC W.sB W.pubackBytes (W.okp (W.puback 5 2)) 4 (.ok (W.puback 5 2)) ∧
    (W.puback 5 2).pid.getD 0 ∈ W.sB.puback :=
  ⟨⟨{}, 0x40, [0, 1], [], by decide, by decide, by decide, by decide, by decide, rfl⟩, by decide⟩
/-- `C08_release_on_refusal`: v5.0 PUBLISH QoS 1 with in-use id 3, larger than the peer's
    Maximum Packet Size (the refusal that kept the id silently before the fix of finding #5) -/
example :
    let s := run W.cfgC W.s0 [.send W.connect5, .recv W.connackBytes (W.okp (W.connack5 false [(pMPS, 50)])),
      .acquire]
    let p : Pkt := { W.pub1 with pid := some 1 }
    s.ver = p.ver ∧ roleMaySend W.cfgC.role p = true ∧ (p.kind = .publish ∧ p.qos > 0) ∧
      p.pid = some 1 ∧ isUsed s 1 = true ∧ errs (step W.cfgC s (.send p)).ev = [eTooLarge] := by decide
/-- `C08_refused_send_releases` on the same call: the monitor's hypotheses hold -/
example :
    let s := run W.cfgC W.s0 [.send W.connect5, .recv W.connackBytes (W.okp (W.connack5 false [(pMPS, 50)])),
      .acquire]
    let p : Pkt := { W.pub1 with pid := some 1 }
    Mon.hasError (step W.cfgC s (.send p)).ev = true ∧ (∀ q r, Ev.send q r ∉ (step W.cfgC s (.send p)).ev) ∧
      storeHas 1 (step W.cfgC s (.send p)).s.store = false ∧ isUsed s 1 = true ∧ ¬ owned s 1 ∧
      (step W.cfgC s (.send p)).ev = [.error eTooLarge, .released 1] := by
  refine ⟨by decide, ?_, by decide, by decide, by decide, by decide⟩
  intro q r hm
  have : (step W.cfgC (run W.cfgC W.s0 [.send W.connect5, .recv W.connackBytes (W.okp (W.connack5 false [(pMPS, 50)])),
      .acquire]) (.send { W.pub1 with pid := some 1 })).ev = [.error eTooLarge, .released 1] := by decide
  rw [this] at hm
  simp at hm
/-- `C08_release_on_close` -/
example : 1 ∈ W.sB.suback ∧ isUsed W.sB 1 = true ∧ W.sB.needStore = true := by decide
/-- `C08_PidInv_step_partial`: a legal `release` (id 3 held by the application) in a state with
    non-empty wait sets and store -/
example : PidInv (step W.cfgC W.sB .acquire).s ∧ simpleOp (step W.cfgC W.sB .acquire).s (.release 3) = true ∧
    LegalOp (step W.cfgC W.sB .acquire).s (.release 3) :=
  ⟨by decide, by decide, by show _ ∉ _ ∧ _ = false; decide⟩


/-! ## 7. the driver monitor `C08 completion_not_released` is a theorem of the model

The driver (`Driver/ConnDrv.lean`, `monitorCall`) keeps a ghost `pend : List (Nat × Nat)` of the
outbound exchanges of the running connection — `(id, type nibble of the awaited acknowledgement)` —
and reports `VIOL sig=C08 completion_not_released@<site>` when an awaited PUBACK / PUBREC / PUBCOMP
is not delivered, or its identifier not released.  The ghost update is restated as Lean functions
(`Pend.pendReset`, `Pend.pendStep` in `Conn/Lemmas/Pend.lean`, verbatim the driver's code); what
ties the ghost to the model is `PendAgree`, part of the invariant `C08.PendInv` that every call
within the contract `C08.PendLegal` keeps; the monitor's claim follows from `PendAgree` alone. -/

abbrev C08.pendReset (op : Op) (evs : List Ev) (pend : List (Nat × Nat)) : List (Nat × Nat) := Pend.pendReset op evs pend
abbrev C08.pendStep (pend0 : List (Nat × Nat)) (evs : List Ev) : List (Nat × Nat) := Pend.pendStep pend0 evs
abbrev C08.pendNext (op : Op) (evs : List Ev) (pend : List (Nat × Nat)) : List (Nat × Nat) :=
  C08.pendStep (C08.pendReset op evs pend) evs
abbrev C08.pendRun (cfg : Cfg) (s : St) (pend : List (Nat × Nat)) (ops : List Op) : List (Nat × Nat) :=
  Pend.pendRun cfg s pend ops

abbrev PendAgree (s : St) (pend : List (Nat × Nat)) : Prop := Pend.PendAgree s pend

/-- the inductive invariant (`Pend.PInv`): besides `PendAgree` it needs `Pend.StoreOk`, because `send_stored`
    re-creates ghost entries from the store, and an empty ghost while `connecting` -/
abbrev C08.PendInv (s : St) (pend : List (Nat × Nat)) : Prop := Pend.PInv s pend

/-- the contract (`Pend.Legal`, where each clause is written out; each is needed: examples at the end of the
    file).  NOTHING is required of identifier reuse, of `closed`, timers … -/
abbrev C08.PendLegal (s : St) (pend : List (Nat × Nat)) (op : Op) : Prop := Pend.Legal s pend op

theorem C08.pendAgree_def (s : St) (pend : List (Nat × Nat)) :
    PendAgree s pend ↔ ∀ id, ((id, 4) ∈ pend → id ∈ s.puback) ∧ ((id, 5) ∈ pend → id ∈ s.pubrec) ∧
      ((id, 7) ∈ pend → id ∈ s.pubcomp) := Iff.rfl

/-- justifies `VIOL sig=C08 completion_not_released@<site>` (ghost bookkeeping): initially -/
theorem C08_pend_init (cfg : Cfg) (ver : Nat) : C08.PendInv (St.init cfg ver) [] := Pend.PInv_init cfg ver

/-- justifies `VIOL sig=C08 completion_not_released@<site>` (ghost bookkeeping).  **Every** call keeps
    the invariant, the ghost being updated exactly as the driver does: reset judged on the whole
    event list of the call, then the fold.  In particular (a) an oversize stored packet dropped by
    `send_stored` whose identifier is not in use (no `NotifyPacketIdReleased`) leaves no ghost entry:
    the loop is entered with an empty ghost and distinct keys; (b) `notify_closed`, (c) every session
    reset (`clearStoreRelated`, incl. CONNACK Session Expiry Interval 0: a delivered successful CONNACK
    resets the ghost whatever its properties) happen in calls in which the driver empties the ghost;
    (d) `pubRefuseCleanup` deletes wait-set entries only together with `NotifyPacketIdReleased`;
    `erase_stored_publish` needs the contract; (e),(f) a PUBLISH / PUBREL is requested for sending
    only after its identifier entered the wait set, and only while connected. -/
theorem C08_pend_step {cfg : Cfg} {s : St} {pend : List (Nat × Nat)} (h : C08.PendInv s pend) (op : Op)
    (hl : C08.PendLegal s pend op) :
    C08.PendInv (step cfg s op).s (C08.pendNext op (step cfg s op).ev pend) := Pend.PInv_step h op hl

/-- justifies `VIOL sig=C08 completion_not_released@<site>`: along every run from a fresh connection
    object whose calls are within the contract, ghost `[]` initially -/
theorem C08_pend_run {cfg : Cfg} {ver : Nat} (ops : List Op)
    (hl : Pend.LegalRun cfg (St.init cfg ver) [] ops) :
    C08.PendInv (run cfg (St.init cfg ver) ops) (C08.pendRun cfg (St.init cfg ver) [] ops) :=
  Pend.PInv_run ops (Pend.PInv_init cfg ver) hl

/-- **the claim of `VIOL sig=C08 completion_not_released@<site>`**.  A `recv` that completes a frame
    `(fh, data)` not larger than the announced maximum, on a connection of determined version, whose
    parsed packet `p` is a PUBACK / PUBREC / PUBCOMP (kind = the frame's type nibble) carrying
    identifier `id`, with `(id, nibble)` in the ghost the monitor reads (`pend0`): the events contain
    `NotifyPacketReceived p`; and, for PUBACK, PUBCOMP and a v5.0 PUBREC with reason code ≥ 0x80, if
    `id` is in use, `NotifyPacketIdReleased id`.
    Not needed: status `connected` (the monitor's `stBefore = "C"`), `p.ver = s.ver`.
    `hpid` is what lets the monitor test `q.pid = some id`; `isUsed s id` follows from `PidInv`
    (`C08_completion_released_of_PidInv`) — it FAILS after the application reused the identifier
    of a running exchange for a SUBSCRIBE (`example` below): the ownership contract `LegalOp`. -/
theorem C08_completion_released {cfg : Cfg} {s : St} {pend : List (Nat × Nat)} {inp : List Nat}
    {parse : Nat → Nat → List Nat → Except Nat Pkt} {pb : Framing.PB} {fh : Nat} {data rest : List Nat}
    {p : Pkt} {id : Nat}
    (h : PendAgree s pend)
    (hf : Framing.feed s.pb inp = (pb, some (.complete fh data), rest))
    (hsz : totalSize data.length ≤ s.mpsRecv) (hv0 : s.ver ≠ 0)
    (hp : parse s.ver fh data = .ok p) (hnib : p.kind.nibble = fh / 16)
    (hk : p.kind.nibble = 4 ∨ p.kind.nibble = 5 ∨ p.kind.nibble = 7) (hpid : p.pid = some id)
    (hpend : (id, p.kind.nibble) ∈ C08.pendReset (.recv inp parse) (step cfg s (.recv inp parse)).ev pend) :
    Ev.recv p ∈ (step cfg s (.recv inp parse)).ev ∧
    ((p.kind.nibble = 4 ∨ p.kind.nibble = 7 ∨ (p.kind.nibble = 5 ∧ Mon.isErrorRc p.rc = true ∧ p.ver ≠ 4)) →
      isUsed s id = true → id ∈ Mon.releasedIds (step cfg s (.recv inp parse)).ev) := by
  have hid : p.pid.getD 0 = id := by simp [hpid]
  have ht : fh / 16 = 4 ∨ fh / 16 = 5 ∨ fh / 16 = 7 := hnib ▸ hk
  have hm : p.pid.getD 0 ∈ Pend.waitN s (fh / 16) := hid ▸ h.waitN ht (hnib ▸ Pend.pendReset_sub _ _ _ hpend)
  have d : Delivers cfg s inp parse (fh / 16) (.ok p) :=
    ⟨pb, fh, data, rest, hf, hsz, Pend.canReceive_ack _ _ ht, hv0, rfl, hp.symm⟩
  refine ⟨?_, fun hr hu => ?_⟩
  · obtain ⟨pb', e⟩ := step_recv_delivers d
    rw [e]
    exact Pend.ack_delivered _ p ht hm
  · rw [C08_release_on_completion d ?_, hid, if_pos hu]
    · exact List.mem_singleton_self id
    rw [hnib] at hr
    rcases hr with hr | hr | ⟨hr, hrc, hv⟩ <;> rw [hr] at hm
    · exact .inl ⟨hr, hm⟩
    · exact .inr (.inl ⟨hr, hm⟩)
    · refine .inr (.inr (.inl ⟨hr, hm, fun hs => ?_⟩))
      rcases hs with hs | hs | hs
      · exact hv hs
      · rw [hs] at hrc; cases hrc
      · rw [hs] at hrc; simp [Mon.isErrorRc] at hrc

/-- the ownership invariant `PidInv` (every identifier of a wait set is in use) supplies `isUsed` -/
theorem C08_completion_released_of_PidInv {cfg : Cfg} {s : St} {pend : List (Nat × Nat)} {inp : List Nat}
    {parse : Nat → Nat → List Nat → Except Nat Pkt} {pb : Framing.PB} {fh : Nat} {data rest : List Nat}
    {p : Pkt} {id : Nat}
    (h : PendAgree s pend) (hi : PidInv s)
    (hf : Framing.feed s.pb inp = (pb, some (.complete fh data), rest))
    (hsz : totalSize data.length ≤ s.mpsRecv) (hv0 : s.ver ≠ 0)
    (hp : parse s.ver fh data = .ok p) (hnib : p.kind.nibble = fh / 16)
    (hk : p.kind.nibble = 4 ∨ p.kind.nibble = 5 ∨ p.kind.nibble = 7) (hpid : p.pid = some id)
    (hpend : (id, p.kind.nibble) ∈ C08.pendReset (.recv inp parse) (step cfg s (.recv inp parse)).ev pend) :
    Ev.recv p ∈ (step cfg s (.recv inp parse)).ev ∧
    ((p.kind.nibble = 4 ∨ p.kind.nibble = 7 ∨ (p.kind.nibble = 5 ∧ Mon.isErrorRc p.rc = true ∧ p.ver ≠ 4)) →
      id ∈ Mon.releasedIds (step cfg s (.recv inp parse)).ev) := by
  obtain ⟨a, b⟩ := C08_completion_released (cfg := cfg) h hf hsz hv0 hp hnib hk hpid hpend
  refine ⟨a, fun hr => b hr (hi.1 id ?_)⟩
  have hin := h.waitN hk (Pend.pendReset_sub _ _ _ hpend)
  simp only [waitIds, List.mem_append]
  rcases hk with hk | hk | hk <;> rw [hk] at hin
  · exact .inl (.inl (.inr hin))
  · exact .inl (.inr hin)
  · exact .inr hin

/-- the monitor's tests, literally (`deliveredIt`, `mustRelease`, the reported condition) -/
def C08.deliveredIt (evs : List Ev) (p : Pkt) (id : Nat) : Bool :=
  evs.any fun (e : Ev) => match e with | .recv q => q.kind = p.kind ∧ q.pid = some id | _ => false
def C08.mustRelease (p : Pkt) : Prop :=
  p.kind.nibble = 4 ∨ p.kind.nibble = 7 ∨ (p.kind.nibble = 5 ∧ Mon.isErrorRc p.rc)
instance (p : Pkt) : Decidable (C08.mustRelease p) := by unfold C08.mustRelease; infer_instance
def C08.completionViol (evs : List Ev) (p : Pkt) (id : Nat) : Prop :=
  !C08.deliveredIt evs p id ∨ (C08.mustRelease p ∧ !(Mon.releasedIds evs).contains id)
instance (evs : List Ev) (p : Pkt) (id : Nat) : Decidable (C08.completionViol evs p id) := by
  unfold C08.completionViol; infer_instance

/-- **`VIOL sig=C08 completion_not_released@<site>` never fires on the model**: the monitor's
    condition, literally (`id = p.pid.getD 0`, `nib ∈ {4,5,7}`, `p.ver = ver`, `pend0.contains (id, nib)`,
    a complete frame within the announced maximum), under `PendAgree`, `p.pid = some id`, `id` in use,
    and the parser facts `p.kind.nibble = fh / 16`, `p.ver = 4 ∨ p.ver = 5`, and "a v3.1.1 PUBREC has
    no reason code". -/
theorem C08_monitor_completion_sound {cfg : Cfg} {s : St} {pend : List (Nat × Nat)} {inp : List Nat}
    {parse : Nat → Nat → List Nat → Except Nat Pkt} {pb : Framing.PB} {fh : Nat} {data rest : List Nat}
    {p : Pkt}
    (h : PendAgree s pend) (hu : isUsed s (p.pid.getD 0) = true)
    (hf : Framing.feed s.pb inp = (pb, some (.complete fh data), rest))
    (hsz : totalSize data.length ≤ s.mpsRecv)
    (hp : parse s.ver fh data = .ok p) (hnib : p.kind.nibble = fh / 16)
    (hver : p.ver = (step cfg s (.recv inp parse)).s.ver) (hv45 : p.ver = 4 ∨ p.ver = 5)
    (hrc4 : p.ver = 4 → p.rc = none) (hpid : p.pid.isSome = true)
    (hk : p.kind.nibble = 4 ∨ p.kind.nibble = 5 ∨ p.kind.nibble = 7)
    (hpend : (C08.pendReset (.recv inp parse) (step cfg s (.recv inp parse)).ev pend).contains (p.pid.getD 0, p.kind.nibble) = true) :
    ¬ C08.completionViol (step cfg s (.recv inp parse)).ev p (p.pid.getD 0) := by
  have hv0 : s.ver ≠ 0 := fun h0 => by
    rw [Pend.step_recv_ver_zero hf h0 (by omega)] at hver
    omega
  obtain ⟨id, hid⟩ := Option.isSome_iff_exists.1 hpid
  have hgd : p.pid.getD 0 = id := by simp [hid]
  rw [hgd] at hu hpend ⊢
  have hpend' := List.contains_iff_mem.1 hpend
  obtain ⟨a, b⟩ := C08_completion_released (cfg := cfg) h hf hsz hv0 hp hnib hk hid hpend'
  intro hviol
  rcases hviol with hv | ⟨hm, hv⟩
  · have : C08.deliveredIt (step cfg s (.recv inp parse)).ev p id = true := by
      unfold C08.deliveredIt
      rw [List.any_eq_true]
      exact ⟨_, a, by simp [hid]⟩
    rw [this] at hv; cases hv
  · have hr : id ∈ Mon.releasedIds (step cfg s (.recv inp parse)).ev := by
      refine b ?_ hu
      rcases hm with hm | hm | ⟨h5, hrc⟩
      · exact .inl hm
      · exact .inr (.inl hm)
      · refine .inr (.inr ⟨h5, hrc, fun h4 => ?_⟩)
        rw [hrc4 h4] at hrc; cases hrc
    rw [List.contains_iff_mem.2 hr] at hv; cases hv

/-- **run-level corollary** of `VIOL sig=C08 completion_not_released@<site>`: after any sequence of
    calls within the contract on a fresh connection object, with the ghost computed by the driver's
    rules from `[]`, the claim holds for the next `recv`. -/
theorem C08_completion_released_run {cfg : Cfg} {ver : Nat} (ops : List Op)
    (hl : Pend.LegalRun cfg (St.init cfg ver) [] ops)
    {inp : List Nat} {parse : Nat → Nat → List Nat → Except Nat Pkt} {pb : Framing.PB} {fh : Nat}
    {data rest : List Nat} {p : Pkt} {id : Nat}
    (hf : Framing.feed (run cfg (St.init cfg ver) ops).pb inp = (pb, some (.complete fh data), rest))
    (hsz : totalSize data.length ≤ (run cfg (St.init cfg ver) ops).mpsRecv)
    (hv0 : (run cfg (St.init cfg ver) ops).ver ≠ 0)
    (hp : parse (run cfg (St.init cfg ver) ops).ver fh data = .ok p) (hnib : p.kind.nibble = fh / 16)
    (hk : p.kind.nibble = 4 ∨ p.kind.nibble = 5 ∨ p.kind.nibble = 7) (hpid : p.pid = some id)
    (hpend : (id, p.kind.nibble) ∈ C08.pendReset (.recv inp parse)
      (step cfg (run cfg (St.init cfg ver) ops) (.recv inp parse)).ev (C08.pendRun cfg (St.init cfg ver) [] ops)) :
    Ev.recv p ∈ (step cfg (run cfg (St.init cfg ver) ops) (.recv inp parse)).ev ∧
    ((p.kind.nibble = 4 ∨ p.kind.nibble = 7 ∨ (p.kind.nibble = 5 ∧ Mon.isErrorRc p.rc = true ∧ p.ver ≠ 4)) →
      isUsed (run cfg (St.init cfg ver) ops) id = true →
      id ∈ Mon.releasedIds (step cfg (run cfg (St.init cfg ver) ops) (.recv inp parse)).ev) :=
  C08_completion_released (C08_pend_run ops hl).agree hf hsz hv0 hp hnib hk hpid hpend


/-! ### non-vacuity and necessity of every hypothesis (all `decide`-checked) -/
namespace W
def okv (p : Pkt) : Nat → Nat → List Nat → Except Nat Pkt :=
  fun v fh _ => if v = p.ver ∧ fh / 16 = p.kind.nibble then .ok p else .error eMalformed
theorem parseOk_okv (p : Pkt) : Pend.ParseOk (okv p) := by
  intro v fh data q h
  unfold okv at h
  split at h
  · rename_i hc; cases h; exact ⟨hc.1.symm, hc.2.symm⟩
  · cases h
theorem parseOk_err (e : Nat) : Pend.ParseOk (fun _ _ _ => .error e) := by
  intro v fh data q h; cases h
def pubackB (id : Nat) : List Nat := [0x40, 2, 0, id]
def pubrecB (id : Nat) : List Nat := [0x50, 2, 0, id]
def connectBytes : List Nat := [0x10, 7, 0, 4, 77, 81, 84, 84, 5]
def pubrec (v id : Nat) (rc : Option Nat) : Pkt := { ver := v, kind := .pubrec, pid := some id, size := 4, rc := rc }
/-- `sB` (connected client, SUBSCRIBE id 1 and QoS 1 PUBLISH id 2 in flight) as a run of legal calls -/
def opsB : List Op := [.send connect5, .recv connackBytes (okv (connack5 false [])), .acquire,
  .send sub1, .acquire, .send { pub1 with pid := some 2 }]
def sB' : St := run cfgC s0 opsB
def gB : List (Nat × Nat) := Pend.pendRun cfgC s0 [] opsB
end W

/-- `C08_pend_run`: a run within the contract; its ghost is `[(2, 4)]` and the invariant holds -/
example : Pend.LegalRun W.cfgC W.s0 [] W.opsB :=
  ⟨by simp only [Pend.Legal]; decide, ⟨W.parseOk_okv _, by decide⟩, trivial, by simp only [Pend.Legal]; decide, trivial,
    by simp only [Pend.Legal]; decide, trivial⟩
example : W.gB = [(2, 4)] ∧ C08.PendInv W.sB' W.gB ∧ W.sB'.puback = [2] ∧ W.sB'.store.length = 1 := by decide

/-- `C08_completion_released` / `C08_monitor_completion_sound`: every hypothesis holds for the PUBACK of
    identifier 2 in that state, and the conclusion is not vacuous: it is delivered and 2 is released -/
example :
    let op : Op := .recv (W.pubackB 2) (W.okv (W.puback 5 2))
    PendAgree W.sB' W.gB ∧ isUsed W.sB' 2 = true ∧
    Framing.feed W.sB'.pb (W.pubackB 2) = ({}, some (.complete 0x40 [0, 2]), []) ∧
    totalSize [0, 2].length ≤ W.sB'.mpsRecv ∧ W.sB'.ver ≠ 0 ∧
    (W.okv (W.puback 5 2) W.sB'.ver 0x40 [0, 2]).toOption = some (W.puback 5 2) ∧ (W.puback 5 2).kind.nibble = 0x40 / 16 ∧
    (2, 4) ∈ C08.pendReset op (step W.cfgC W.sB' op).ev W.gB ∧
    Ev.recv (W.puback 5 2) ∈ (step W.cfgC W.sB' op).ev ∧ Mon.releasedIds (step W.cfgC W.sB' op).ev = [2] ∧
    ¬ C08.completionViol (step W.cfgC W.sB' op).ev (W.puback 5 2) 2 ∧
    C08.pendNext op (step W.cfgC W.sB' op).ev W.gB = [] := by decide


/-! #### hypotheses of the claim (`C08_completion_released`) -/

/-- `hsz` is needed: the client announced Maximum Packet Size 3; the awaited PUBACK (4 bytes) is
    answered with `PacketTooLarge` and not delivered, although `(1, 4)` is in the ghost and `PendAgree`
    holds -/
example :
    let s := run W.cfgC W.s0 [.send { W.connect5 with props := [(pSEI, 100), (pMPS, 3)] },
      .recv W.connackBytes (W.okv (W.connack5 false [])), .acquire, .send W.pub1]
    let op : Op := .recv (W.pubackB 1) (W.okv (W.puback 5 1))
    PendAgree s [(1, 4)] ∧ s.ver ≠ 0 ∧ (1, 4) ∈ C08.pendReset op (step W.cfgC s op).ev [(1, 4)] ∧
    ¬ (totalSize [0, 1].length ≤ s.mpsRecv) ∧ Ev.recv (W.puback 5 1) ∉ (step W.cfgC s op).ev ∧
    Mon.hasErrorCode (step W.cfgC s op).ev eTooLarge = true := by decide

/-- `hv0` is needed (state not reachable within the contract: with an undetermined version nothing
    can have been sent): `PendAgree` holds, the PUBACK is refused as malformed -/
example :
    let s : St := { St.init W.cfgC 0 with puback := [1] }
    let op : Op := .recv (W.pubackB 1) (W.okp (W.puback 5 1))
    PendAgree s [(1, 4)] ∧ (1, 4) ∈ C08.pendReset op (step W.cfgC s op).ev [(1, 4)] ∧
    (step W.cfgC s op).ev = [.error eMalformed] := by decide

/-- `hnib` is needed: a frame of type 5 (PUBREC) for which the parser hands out a PUBACK goes to the
    PUBREC handler; `(2, 4)` is in the ghost, nothing is delivered -/
example :
    let op : Op := .recv (W.pubrecB 2) (W.okp (W.puback 5 2))
    PendAgree W.sB' W.gB ∧ (2, 4) ∈ C08.pendReset op (step W.cfgC W.sB' op).ev W.gB ∧
    (W.puback 5 2).kind.nibble ≠ 0x50 / 16 ∧ Ev.recv (W.puback 5 2) ∉ (step W.cfgC W.sB' op).ev := by decide

/-- `hpid` is needed for the monitor's test `q.pid = some id` (state not reachable: identifier 0 is
    never awaited): a packet without identifier is looked up as 0 and delivered, yet
    `deliveredIt` is false -/
example :
    let s : St := { W.sB' with puback := [0] }
    let p : Pkt := { ver := 5, kind := .puback, size := 2 }
    let op : Op := .recv (W.pubackB 0) (W.okp p)
    PendAgree s [(0, 4)] ∧ Ev.recv p ∈ (step W.cfgC s op).ev ∧ C08.deliveredIt (step W.cfgC s op).ev p 0 = false := by
  decide

namespace W
def suback1 : Pkt := { ver := 5, kind := .suback, pid := some 1, size := 5 }
def subackB (id : Nat) : List Nat := [0x90, 3, 0, id, 0]
/-- client, persistent session: QoS 1 PUBLISH id 1 in flight and stored; the APPLICATION REUSES
    identifier 1 for a SUBSCRIBE (allowed by `C08.PendLegal`, forbidden by the ownership contract
    `LegalOp`), whose SUBACK releases it; the connection closes and the session is resumed: the
    PUBLISH is sent again.  (`release 1` in place of the SUBSCRIBE / SUBACK is outside `C08.PendLegal`
    since fix ba1a812 — `opsO` below.) -/
def opsE : List Op := [.send connect5, .recv connackBytes (okv (connack5 false [])), .acquire, .send pub1,
  .send sub1, .recv (subackB 1) (okv suback1), .closed, .send connect5, .recv connackBytes (okv (connack5 true []))]
def sE : St := run cfgC s0 opsE
def gE : List (Nat × Nat) := Pend.pendRun cfgC s0 [] opsE
end W

/-- **`isUsed s id` is needed — and this is where the monitor is NOT a theorem of the model under
    `C08.PendLegal` alone**: after the run `W.opsE` (every call within `C08.PendLegal`; the SUBSCRIBE
    with identifier 1 violates only `LegalOp`: the identifier is `owned`) the ghost is `[(1, 4)]`, `PendInv` holds, identifier 1 is awaited but
    free; the PUBACK is delivered, nothing is released, and the monitor's condition holds
    (`completionViol`).  Under the ownership contract (`PidInv`) it cannot happen:
    `C08_completion_released_of_PidInv`. -/
example :
    let op : Op := .recv (W.pubackB 1) (W.okv (W.puback 5 1))
    W.gE = [(1, 4)] ∧ C08.PendInv W.sE W.gE ∧ isUsed W.sE 1 = false ∧ ¬ PidInv W.sE ∧
    owned (run W.cfgC W.s0 (W.opsE.take 4)) 1 ∧ ¬ LegalOp (run W.cfgC W.s0 (W.opsE.take 4)) (.send W.sub1) ∧
    Ev.recv (W.puback 5 1) ∈ (step W.cfgC W.sE op).ev ∧ Mon.releasedIds (step W.cfgC W.sE op).ev = [] ∧
    C08.completionViol (step W.cfgC W.sE op).ev (W.puback 5 1) 1 := by decide

/-- the `p.ver ≠ 4` / "a v3.1.1 PUBREC has no reason code" clause is needed: a v3.1.1 PUBREC to which
    the parser attaches reason code 0x80 is a success for the model (no release), the monitor's
    `mustRelease` holds -/
example :
    let s := run W.cfgC (St.init W.cfgC 4) [.send { W.connect5 with ver := 4 },
      .recv W.connackBytes (W.okp { W.connack5 false [] with ver := 4 }), .acquire,
      .send { ver := 4, kind := .publish, pid := some 1, qos := 2, topic := [97] }]
    let p := W.pubrec 4 1 (some 0x80)
    let op : Op := .recv (W.pubrecB 1) (W.okp p)
    PendAgree s [(1, 5)] ∧ isUsed s 1 = true ∧ C08.mustRelease p ∧
    Ev.recv p ∈ (step W.cfgC s op).ev ∧ Mon.releasedIds (step W.cfgC s op).ev = [] := by decide

/-- a failing v5.0 PUBREC (reason code 0x80) releases; reason code 0x10 (< 0x80) is "not success" for
    the model — it releases too — but the monitor does not ask for it -/
example :
    let s := run W.cfgC W.s0 [.send W.connect5, .recv W.connackBytes (W.okv (W.connack5 false [])), .acquire,
      .send (W.pq 2 1)]
    PendAgree s [(1, 5)] ∧
    Mon.releasedIds (step W.cfgC s (.recv (W.pubrecB 1) (W.okv (W.pubrec 5 1 (some 0x80))))).ev = [1] ∧
    Mon.releasedIds (step W.cfgC s (.recv (W.pubrecB 1) (W.okv (W.pubrec 5 1 (some 0x10))))).ev = [1] ∧
    ¬ C08.mustRelease (W.pubrec 5 1 (some 0x10)) ∧
    Mon.releasedIds (step W.cfgC s (.recv (W.pubrecB 1) (W.okv (W.pubrec 5 1 none)))).ev = [] := by decide


/-- the run `W.opsE` is within the contract `C08.PendLegal` -/
example : Pend.LegalRun W.cfgC W.s0 [] W.opsE :=
  ⟨by simp only [Pend.Legal]; decide, ⟨W.parseOk_okv _, by decide⟩, trivial, by simp only [Pend.Legal]; decide,
    by simp only [Pend.Legal]; decide, ⟨W.parseOk_okv _, by decide⟩, trivial,
    by simp only [Pend.Legal]; decide, ⟨W.parseOk_okv _, by decide⟩, trivial⟩

/-! #### clauses of the contract `C08.PendLegal` (`C08_pend_step`) -/

/-- `erase id` — "in use, or no ghost entry" is needed: in the state `W.sE` (reachable within the
    contract) `erase 1` removes identifier 1 from `pid_puback` without `NotifyPacketIdReleased`
    (the identifier is not in use): the ghost keeps `(1, 4)`, `PendAgree` breaks, and the next PUBACK
    of identifier 1 is a protocol error — the monitor fires -/
example :
    let s' := (step W.cfgC W.sE (.erase 1)).s
    let g' := C08.pendNext (.erase 1) (step W.cfgC W.sE (.erase 1)).ev W.gE
    let op : Op := .recv (W.pubackB 1) (W.okv (W.puback 5 1))
    C08.PendInv W.sE W.gE ∧ isUsed W.sE 1 = false ∧ (1, 4) ∈ W.gE ∧
    g' = [(1, 4)] ∧ s'.puback = [] ∧ ¬ PendAgree s' g' ∧
    Ev.recv (W.puback 5 1) ∉ (step W.cfgC s' op).ev ∧ Mon.hasErrorCode (step W.cfgC s' op).ev eProtocol = true := by
  decide

namespace W
/-- the application RELEASES the identifier of the stored QoS 1 PUBLISH, the connection closes and the session is resumed -/
def opsO : List Op := [.send connect5, .recv connackBytes (okv (connack5 false [])), .acquire, .send pub1,
  .release 1, .closed, .send connect5, .recv connackBytes (okv (connack5 true []))]
end W

/-- `release id` — "no stored packet carries `id`" is needed (new with fix ba1a812; before it the
    release left `pid_puback` alone and this run kept `PendInv`): the prefix is within the contract,
    `release 1` violates only this clause; it takes identifier 1 out of `pid_puback` and the ghost,
    the stored PUBLISH stays (`PendInv` breaks: the stored packet is not awaited), and the resumed
    session sends it again: the ghost holds `(1, 4)`, the model awaits nothing, the PUBACK is a
    protocol error — the monitor fires -/
example :
    let s4 := run W.cfgC W.s0 (W.opsO.take 4)
    let g4 := C08.pendRun W.cfgC W.s0 [] (W.opsO.take 4)
    let s5 := run W.cfgC W.s0 (W.opsO.take 5)
    let g5 := C08.pendRun W.cfgC W.s0 [] (W.opsO.take 5)
    let s := run W.cfgC W.s0 W.opsO
    let g := C08.pendRun W.cfgC W.s0 [] W.opsO
    let op : Op := .recv (W.pubackB 1) (W.okv (W.puback 5 1))
    C08.PendInv s4 g4 ∧ g4 = [(1, 4)] ∧ s4.puback = [1] ∧ storeHas 1 s4.store = true ∧
    g5 = [] ∧ s5.puback = [] ∧ s5.store.map (·.1) = [1] ∧ PendAgree s5 g5 ∧ ¬ C08.PendInv s5 g5 ∧
    g = [(1, 4)] ∧ s.puback = [] ∧ ¬ PendAgree s g ∧
    Ev.recv (W.puback 5 1) ∉ (step W.cfgC s op).ev ∧ Mon.hasErrorCode (step W.cfgC s op).ev eProtocol = true := by
  decide
example : Pend.LegalRun W.cfgC W.s0 [] (W.opsO.take 4) ∧
    ¬ C08.PendLegal (run W.cfgC W.s0 (W.opsO.take 4)) (C08.pendRun W.cfgC W.s0 [] (W.opsO.take 4)) (.release 1) := by
  refine ⟨⟨by simp only [Pend.Legal]; decide, ⟨W.parseOk_okv _, by decide⟩, trivial, by simp only [Pend.Legal]; decide, trivial⟩, ?_⟩
  show ¬ (storeHas 1 _ = false)
  decide

/-- `recv` — `ParseOk`, kind: a frame of type 5 for which the parser hands out a packet of kind
    PUBLISH is processed as a (successful) PUBREC — identifier 1 leaves `pid_pubrec`, nothing is
    released — but the delivered packet does not remove the ghost entry: `PendAgree` breaks at once.
    (For PUBACK / PUBCOMP the `NotifyPacketIdReleased` removes the entry as long as the identifier
    is in use.) -/
example :
    let s := run W.cfgC W.s0 [.send W.connect5, .recv W.connackBytes (W.okv (W.connack5 false [])), .acquire,
      .send (W.pq 2 1)]
    let p : Pkt := { ver := 5, kind := .publish, pid := some 1, topic := [97] }
    let op : Op := .recv (W.pubrecB 1) (W.okp p)
    C08.PendInv s [(1, 5)] ∧ p.ver = s.ver ∧ p.kind.nibble ≠ 0x50 / 16 ∧
    C08.pendNext op (step W.cfgC s op).ev [(1, 5)] = [(1, 5)] ∧ (step W.cfgC s op).s.pubrec = [] ∧
    ¬ PendAgree (step W.cfgC s op).s (C08.pendNext op (step W.cfgC s op).ev [(1, 5)]) := by decide

/-- `recv` — `ParseOk`, version: a PUBACK the parser labels v3.1.1 on a v5.0 connection does not erase
    the stored PUBLISH (`Store::erase` compares versions) while the identifier leaves `pid_puback`;
    after a close and a resumed session (calls within the contract) the PUBLISH is sent again: the
    ghost holds `(2, 4)`, the model awaits nothing -/
example :
    let p := W.puback 4 2
    let ops : List Op := [.recv (W.pubackB 2) (W.okp p), .closed, .send W.connect5,
      .recv W.connackBytes (W.okv (W.connack5 true []))]
    C08.PendInv W.sB' W.gB ∧ p.kind.nibble = 0x40 / 16 ∧ p.ver ≠ W.sB'.ver ∧
    C08.pendRun W.cfgC W.sB' W.gB ops = [(2, 4)] ∧ (run W.cfgC W.sB' ops).puback = [] ∧
    ¬ PendAgree (run W.cfgC W.sB' ops) (C08.pendRun W.cfgC W.sB' W.gB ops) := by decide

namespace W
def cfgA : Cfg := { role := .any, pw := 2 }
def pub0 : Pkt := { ver := 0, kind := .publish, pid := some 1, qos := 1, topic := [97] }
def connectS5 : Pkt := { ver := 5, kind := .connect, size := 20, props := [(pSEI, 100)] }
def connackS (sp : Bool) : Pkt := { ver := 5, kind := .connack, size := 8, rc := some 0, sp := sp }
/-- an undetermined connection with offline publishing sends a "version 0" PUBLISH (stored); then a
    v5.0 client connects twice, the session being resumed both times -/
def opsZ1 : List Op := [.setFlag .offline true, .acquire, .send pub0]
def opsZ2 : List Op := [.recv connectBytes (okv connectS5), .send (connackS true),
  .recv (pubackB 1) (okv (puback 5 1)), .closed, .recv connectBytes (okv connectS5), .send (connackS true)]
def opsZ : List Op := opsZ1 ++ opsZ2
end W

/-- the calls after the version-0 `send` are within the contract (so are `setFlag` and `acquire`) -/
example : Pend.LegalRun W.cfgA (run W.cfgA (St.init W.cfgA 0) W.opsZ1) (C08.pendRun W.cfgA (St.init W.cfgA 0) [] W.opsZ1) W.opsZ2 :=
  ⟨⟨W.parseOk_okv _, by decide⟩, by simp only [Pend.Legal]; decide, ⟨W.parseOk_okv _, by decide⟩, trivial,
    ⟨W.parseOk_okv _, by decide⟩, by simp only [Pend.Legal]; decide, trivial⟩

/-- `send` — `p.ver ≠ 0` is needed: every call of `W.opsZ` but the `send` of the version-0 PUBLISH is
    within the contract; the stored packet is not erased by the v5.0 PUBACK, and the second resume
    creates the ghost entry `(1, 4)` for an exchange the model completed -/
example :
    C08.pendRun W.cfgA (St.init W.cfgA 0) [] W.opsZ = [(1, 4)] ∧ (run W.cfgA (St.init W.cfgA 0) W.opsZ).puback = [] ∧
    (run W.cfgA (St.init W.cfgA 0) W.opsZ).ver = 5 ∧
    ¬ PendAgree (run W.cfgA (St.init W.cfgA 0) W.opsZ) (C08.pendRun W.cfgA (St.init W.cfgA 0) [] W.opsZ) := by decide

/-- `restorePackets` — "PUBLISH / PUBREL packets have the connection's version" is needed: a restored
    v3.1.1 PUBLISH on a v5.0 connection, then two resumed connections with the PUBACK in between -/
example :
    let ops : List Op := [.restorePackets [{ W.pq 1 1 with ver := 4 }], .send W.connect5,
      .recv W.connackBytes (W.okv (W.connack5 true [])), .recv (W.pubackB 1) (W.okv (W.puback 5 1)), .closed,
      .send W.connect5, .recv W.connackBytes (W.okv (W.connack5 true []))]
    C08.pendRun W.cfgC W.s0 [] ops = [(1, 4)] ∧ (run W.cfgC W.s0 ops).puback = [] ∧
    ¬ PendAgree (run W.cfgC W.s0 ops) (C08.pendRun W.cfgC W.s0 [] ops) := by decide

namespace W
def cfgS : Cfg := { role := .server, pw := 2 }
/-- a server whose client announced Maximum Packet Size 4 (and to which — in the model only, no real
    v5.0 CONNACK has 3 bytes — a 3-byte CONNACK was sent), PUBREL id 1 in flight, a protocol error
    (DISCONNECT sent, `notify_closed` NOT called), then a CONNECT that fails to parse: the refusing
    CONNACK (5 bytes) does not fit -/
def opsM : List Op := [.recv connectBytes (okv { connectS5 with props := [(pSEI, 100), (pMPS, 4)] }),
  .send { connackS false with size := 3 }, .acquire, .send pubrel1,
  .recv (pubackB 9) (okv (puback 5 9))]
def sM : St := run cfgS (St.init cfgS 5) opsM
def gM : List (Nat × Nat) := Pend.pendRun cfgS (St.init cfgS 5) [] opsM
end W

/-- `recv` — "between connections `closed` was called, or the last peer's Maximum Packet Size admits
    a 5-byte CONNACK": needed by the PROOF (clause `conn` of `PendInv` breaks: `connecting` with a
    non-empty ghost); no run was found in which `PendAgree` itself breaks without it -/
example :
    let op : Op := .recv W.connectBytes (fun _ _ _ => .error eMalformed)
    W.gM = [(1, 7)] ∧ C08.PendInv W.sM W.gM ∧ W.sM.status = .disconnected ∧ W.sM.mpsSend = 4 ∧
    (step W.cfgS W.sM op).s.status = .connecting ∧ C08.pendNext op (step W.cfgS W.sM op).ev W.gM = [(1, 7)] ∧
    PendAgree (step W.cfgS W.sM op).s (C08.pendNext op (step W.cfgS W.sM op).ev W.gM) ∧
    ¬ C08.PendInv (step W.cfgS W.sM op).s (C08.pendNext op (step W.cfgS W.sM op).ev W.gM) := by decide

/-- precision, not soundness: with automatic responses the PUBREL is requested BEFORE the PUBREC is
    delivered, so the fold removes `(1, 7)` again: the ghost is empty although the model awaits the
    PUBCOMP (the monitor never checks the PUBCOMP of an automatically sent PUBREL) -/
example :
    let s := run W.cfgC W.s0 [.setFlag .autoPub true, .send W.connect5,
      .recv W.connackBytes (W.okv (W.connack5 false [])), .acquire, .send (W.pq 2 1)]
    let op : Op := .recv (W.pubrecB 1) (W.okv (W.pubrec 5 1 none))
    (step W.cfgC s op).s.pubcomp = [1] ∧ C08.pendNext op (step W.cfgC s op).ev [(1, 5)] = [] := by decide


/-- in the two examples above (`ParseOk` version, `restorePackets` version) the calls after the
    offending one are within the contract -/
example : Pend.LegalRun W.cfgC (step W.cfgC W.sB' (.recv (W.pubackB 2) (W.okp (W.puback 4 2)))).s
    (C08.pendNext (.recv (W.pubackB 2) (W.okp (W.puback 4 2))) (step W.cfgC W.sB' (.recv (W.pubackB 2) (W.okp (W.puback 4 2)))).ev W.gB)
    [.closed, .send W.connect5, .recv W.connackBytes (W.okv (W.connack5 true []))] :=
  ⟨trivial, by simp only [Pend.Legal]; decide, ⟨W.parseOk_okv _, by decide⟩, trivial⟩
example : Pend.LegalRun W.cfgC (step W.cfgC W.s0 (.restorePackets [{ W.pq 1 1 with ver := 4 }])).s []
    [.send W.connect5, .recv W.connackBytes (W.okv (W.connack5 true [])), .recv (W.pubackB 1) (W.okv (W.puback 5 1)),
      .closed, .send W.connect5, .recv W.connackBytes (W.okv (W.connack5 true []))] :=
  ⟨by simp only [Pend.Legal]; decide, ⟨W.parseOk_okv _, by decide⟩, ⟨W.parseOk_okv _, by decide⟩, trivial,
    by simp only [Pend.Legal]; decide, ⟨W.parseOk_okv _, by decide⟩, trivial⟩
/-- the run to `W.sM` is within the contract, and the offending `recv` violates only the second clause -/
example : Pend.LegalRun W.cfgS (St.init W.cfgS 5) [] W.opsM ∧ Pend.ParseOk (fun _ _ _ => (.error eMalformed : Except Nat Pkt)) :=
  ⟨⟨⟨W.parseOk_okv _, by decide⟩, by simp only [Pend.Legal]; decide, trivial, by simp only [Pend.Legal]; decide,
    ⟨W.parseOk_okv _, by decide⟩, trivial⟩, W.parseOk_err _⟩

end MqttVerif.Conn
