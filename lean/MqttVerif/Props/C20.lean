import MqttVerif.Alloc.Lemmas
/-!
# C20 — the value allocator behaves as a set of free integers, smallest first

Statement (properties.jsonl): for any range and any sequence of allocate, reserve, release,
clear and query operations the allocator answers exactly like a plain set of free integers;
its run-length representation stays sorted, disjoint and maximally merged; a query about a
value outside the range answers "not used".

Model: `Alloc.step` (impl-shaped, `Alloc/Model.lean`).  Specification: `Alloc.S.step` (a set
of used integers, `Alloc/Spec.lean`).  `tmax` is the integer type's maximum: the theorems
hold for **every** `lowest ≤ highest ≤ tmax` and every operation sequence; no bound.
-/
namespace MqttVerif.Alloc

/-- simulation relation between the interval representation and the set specification; it
    contains the representation invariant (`Ok`: sorted, disjoint, maximally merged). -/
structure R (a : A) (s : S) : Prop where
  lo : a.lowest = s.lowest
  hi : a.highest = s.highest
  rng : a.lowest ≤ a.highest
  tm : a.highest ≤ a.tmax
  ok : Ok a.lowest a.pool
  free : ∀ v, Free a.pool v ↔ s.free v

theorem R.wf {a : A} {s : S} (r : R a s) : Wf a :=
  ⟨r.ok, hi_le_of_free r.ok fun w hw => r.hi ▸ ((r.free w).1 hw).2.1⟩

theorem R.isUsed_iff {a : A} {s : S} (r : R a s) (x : Nat) :
    isUsed a x = true ↔ (a.lowest ≤ x ∧ x ≤ a.highest ∧ x ∈ s.used) := by
  rw [Alloc.isUsed_iff, r.free x, S.free, ← r.lo, ← r.hi]
  exact ⟨fun h => ⟨h.1.1, h.1.2, Classical.not_not.1 fun c => h.2 ⟨h.1.1, h.1.2, c⟩⟩,
    fun h => ⟨⟨h.1, h.2.1⟩, fun c => c.2.2 h.2.2⟩⟩

theorem R.next {a a' : A} {s : S} (r : R a s)
    (hb : a'.lowest = a.lowest ∧ a'.highest = a.highest ∧ a'.tmax = a.tmax) (w : Wf a') (u : List Nat)
    (hu : ∀ x, a.lowest ≤ x → x ≤ a.highest → (isUsed a' x = true ↔ x ∈ u)) : R a' { s with used := u } where
  lo := hb.1.trans r.lo
  hi := hb.2.1.trans r.hi
  rng := hb.1 ▸ hb.2.1 ▸ r.rng
  tm := hb.2.1 ▸ hb.2.2 ▸ r.tm
  ok := w.ok
  free v := by
    rw [w.free_iff v, S.free, hb.1, hb.2.1, ← r.lo, ← r.hi, ← Bool.not_eq_true]
    exact and_congr_right fun h1 => and_congr_right fun h2 => not_congr (hu v h1 h2)

theorem R.deallocate {a : A} {s : S} (r : R a s) (v : Nat) :
    R (Alloc.deallocate a v).2 { s with used := s.used.filter (· ≠ v) } :=
  r.next (deallocate_bounds a v) (r.wf.deallocate r.tm v).1 _ fun x h1 h2 => by
    rw [(r.wf.deallocate r.tm v).2.2, Bool.and_eq_true, bne_iff_ne, r.isUsed_iff, List.mem_filter, decide_eq_true_iff]
    exact ⟨fun h => ⟨h.1.2.2, h.2⟩, fun h => ⟨⟨h1, h2, h.1⟩, h.2⟩⟩

theorem R.insert {a a' : A} {s : S} (r : R a s)
    (hb : a'.lowest = a.lowest ∧ a'.highest = a.highest ∧ a'.tmax = a.tmax) (w : Wf a') (v : Nat)
    (hu : ∀ x, isUsed a' x = (isUsed a x || x == v)) : R a' { s with used := v :: s.used } :=
  r.next hb w _ fun x h1 h2 => by
    rw [hu, Bool.or_eq_true, beq_iff_eq, List.mem_cons, r.isUsed_iff]
    exact ⟨fun h => h.elim (fun h => .inr h.2.2) .inl, fun h => h.elim .inr fun h => .inl ⟨h1, h2, h⟩⟩

theorem R.new (lowest highest tmax : Nat) (h : lowest ≤ highest) (ht : highest ≤ tmax) :
    R (new lowest highest tmax) (S.new lowest highest) where
  lo := rfl
  hi := rfl
  rng := h
  tm := ht
  ok := ⟨Nat.le_refl _, h, trivial⟩
  free := by intro v; simp [Alloc.new, S.new, S.free, Free]

theorem smallestFree_eq {a : A} {s : S} (r : R a s) : s.smallestFree = (allocate a).1 := by
  unfold S.smallestFree
  cases ha : (allocate a).1 with
  | none =>
    cases hf : s.findFree s.lowest (s.highest + 1 - s.lowest) with
    | none => rfl
    | some w => exact absurd ((r.free w).2 (findFree_some hf).1) ((allocate_none ha).2 w)
  | some v =>
    obtain ⟨f1, f2, _⟩ := r.wf.allocate_some ha
    have sf := (r.free v).1 f1
    cases hf : s.findFree s.lowest (s.highest + 1 - s.lowest) with
    | none => exact absurd sf (findFree_none hf v sf.1 (by have := sf.2.1; omega))
    | some w =>
      obtain ⟨g1, _, _, g4⟩ := findFree_some hf
      have := f2 w ((r.free w).2 g1)
      exact congrArg some (Nat.le_antisymm (Nat.le_of_not_lt fun c => g4 v sf.1 c sf) this)

theorem step_refines {a : A} {s : S} (r : R a s) (op : Op) :
    (step a op).2 = (s.step op).2 ∧ R (step a op).1 (s.step op).1 := by
  have w := r.wf
  have hb := step_bounds a op
  cases op with
  | allocate =>
    simp only [step, S.step, smallestFree_eq r] at hb ⊢
    cases ha : (allocate a).1 with
    | none => exact ⟨rfl, (allocate_none ha).1 ▸ r⟩
    | some v => exact ⟨rfl, r.insert hb w.allocate v (w.allocate_some ha).2.2⟩
  | firstVacant => exact ⟨by simp only [step, S.step, smallestFree_eq r, allocate_fst], r⟩
  | deallocate v =>
    simp only [step, S.step]
    by_cases hr : s.lowest ≤ v ∧ v ≤ s.highest
    · rw [if_neg (fun h => h hr), (w.deallocate r.tm v).2.1 (r.lo ▸ r.hi ▸ hr)]
      exact ⟨rfl, r.deallocate v⟩
    · simp only [deallocate, r.lo, r.hi, if_pos hr]
      exact ⟨trivial, r⟩
  | useValue v =>
    obtain ⟨w', ha, hu⟩ := w.useValue v
    simp only [step, S.step] at hb ⊢
    have hd : decide (Free a.pool v) = decide (s.free v) := decide_eq_decide.2 (r.free v)
    rw [ha, hd] at hu ⊢
    by_cases hf : s.free v
    · simp only [hf, if_true, decide_true, Bool.true_and] at hu ⊢
      exact ⟨trivial, r.insert hb w' v hu⟩
    · simp only [hf, if_false, decide_false, Bool.false_and, Bool.or_false] at hu ⊢
      refine ⟨trivial, r.next hb w' _ fun x h1 h2 => ?_⟩
      rw [hu, r.isUsed_iff]
      exact ⟨fun h => h.2.2, fun h => ⟨h1, h2, h⟩⟩
  | isUsed v =>
    refine ⟨congrArg Ans.bool ?_, r⟩
    rw [Bool.eq_iff_iff, r.isUsed_iff, decide_eq_true_iff, S.free, ← r.lo, ← r.hi]
    grind
  | clear =>
    refine ⟨rfl, r.next hb (wf_clear r.rng) _ fun x _ _ => ?_⟩
    simp only [step, clear_isUsed, Bool.false_eq_true, List.not_mem_nil]
  | intervalCount =>
    simp only [step, S.step, intervalCount]
    refine ⟨?_, r⟩
    congr 1
    unfold S.runCount
    have h := (runs_eq s (s.highest + 1 - s.lowest)).1 s.lowest a.pool (r.lo ▸ r.ok)
      (fun iv hm => by have := w.hi iv hm; have := r.lo; have := r.hi; have := r.rng; omega)
      (fun w _ => (r.free w).symm)
    exact h.symm

/-- **C20, trace form.**  For every range `lowest ≤ highest ≤ T::MAX` and **every** operation
    sequence, the allocator's answers are those of the set specification — in particular it
    never panics unless the set specification does (release of an out-of-range value, the
    documented contract violation). -/
theorem C20_trace_refines (lowest highest tmax : Nat) (h : lowest ≤ highest) (ht : highest ≤ tmax)
    (ops : List Op) :
    run (new lowest highest tmax) ops = S.run (S.new lowest highest) ops := by
  suffices ∀ a s, R a s → run a ops = S.run s ops from this _ _ (R.new _ _ _ h ht)
  induction ops with
  | nil => intro a s _; rfl
  | cons op ops ih =>
    intro a s r
    obtain ⟨h1, h2⟩ := step_refines r op
    simp only [run, S.run, h1, ih _ _ h2]

def exec (a : A) : List Op → A
  | [] => a
  | op :: ops => exec (step a op).1 ops

theorem exec_bounds (a : A) (ops : List Op) :
    (exec a ops).lowest = a.lowest ∧ (exec a ops).highest = a.highest := by
  induction ops generalizing a with
  | nil => exact ⟨rfl, rfl⟩
  | cons op ops ih =>
    have hb := step_bounds a op
    exact ⟨(ih _).1.trans hb.1, (ih _).2.trans hb.2.1⟩

theorem exec_R {a : A} {s : S} (r : R a s) (ops : List Op) : ∃ s', R (exec a ops) s' := by
  induction ops generalizing a s with
  | nil => exact ⟨s, r⟩
  | cons op ops ih => exact ih (step_refines r op).2

/-- **C20, representation invariant.**  After every operation sequence the pool is sorted,
    disjoint, maximally merged, and inside `[lowest, highest]`. -/
theorem C20_representation_invariant (lowest highest tmax : Nat) (h : lowest ≤ highest)
    (ht : highest ≤ tmax) (ops : List Op) :
    Ok lowest (exec (new lowest highest tmax) ops).pool ∧
      ∀ iv ∈ (exec (new lowest highest tmax) ops).pool, iv.hi ≤ highest := by
  obtain ⟨s', r⟩ := exec_R (R.new lowest highest tmax h ht) ops
  have hb := exec_bounds (new lowest highest tmax) ops
  have e1 : (new lowest highest tmax).lowest = lowest := rfl
  have e2 : (new lowest highest tmax).highest = highest := rfl
  refine ⟨?_, ?_⟩
  · have := r.ok; rw [hb.1, e1] at this; exact this
  · intro iv hm; have := r.wf.hi iv hm; omega

/-- **C20, out-of-range query** (finding #6 on the pinned tree): "not used". -/
theorem C20_isUsed_out_of_range (a : A) (v : Nat) (h : v < a.lowest ∨ a.highest < v) :
    isUsed a v = false :=
  Bool.eq_false_iff.2 fun hu => by have := isUsed_range hu; omega

/-- **C20, no panic for in-range releases**, in every state that represents a set (`R`)
    (finding #21 on the pinned tree was a panic for `deallocate(T::MAX)` of a free value). -/
theorem C20_release_total {a : A} {s : S} (r : R a s) (v : Nat) (hv : a.lowest ≤ v ∧ v ≤ a.highest) :
    (deallocate a v).1 = none :=
  (r.wf.deallocate r.tm v).2.1 hv

/-- **C20, the monitor `answer_vs_pool` is the specification**: whenever a pool represents a
    set of free integers (`R`, which a validated interval list over the known range does), the
    answer the driver reads off that pool (`poolAnswer`) is the answer of the set specification.
    So a disagreement between the implementation's answer and `poolAnswer` of its own pool is a
    disagreement with the set of free integers the property speaks of — on ranges of any size. -/
theorem C20_pool_answer_is_spec {a : A} {s : S} (r : R a s) (op : Op) (x : Ans)
    (h : poolAnswer a op = some x) : (s.step op).2 = x := by
  -- the answer read off the pool is the model's own answer
  rw [← (step_refines r op).1]
  cases op with
  | useValue v => exact (congrArg Ans.bool (r.wf.useValue v).2.1).trans (Option.some.inj h)
  | isUsed v => exact (congrArg Ans.bool (by rw [isUsed, Bool.decide_and])).trans (Option.some.inj h)
  | allocate => exact (congrArg Ans.optVal (allocate_fst a)).trans (Option.some.inj h)
  | _ => cases h

/-- non-vacuity of `C20_pool_answer_is_spec`: on a reachable state the pool-denoted answers are
    the non-trivial ones (4 is used, 3 is free, 0 is out of range hence "not used", 1 is next) -/
example : poolAnswer ⟨1, 9, 255, [⟨1, 1⟩, ⟨3, 3⟩, ⟨6, 9⟩]⟩ (.useValue 4) = some (.bool false)
    ∧ poolAnswer ⟨1, 9, 255, [⟨1, 1⟩, ⟨3, 3⟩, ⟨6, 9⟩]⟩ (.useValue 3) = some (.bool true)
    ∧ poolAnswer ⟨1, 9, 255, [⟨1, 1⟩, ⟨3, 3⟩, ⟨6, 9⟩]⟩ (.useValue 0) = some (.bool false)
    ∧ poolAnswer ⟨1, 9, 255, [⟨1, 1⟩, ⟨3, 3⟩, ⟨6, 9⟩]⟩ (.isUsed 0) = some (.bool false)
    ∧ poolAnswer ⟨1, 9, 255, [⟨1, 1⟩, ⟨3, 3⟩, ⟨6, 9⟩]⟩ (.isUsed 4) = some (.bool true)
    ∧ poolAnswer ⟨1, 9, 255, [⟨1, 1⟩, ⟨3, 3⟩, ⟨6, 9⟩]⟩ .allocate = some (.optVal (some 1)) := by
  decide

/-- **C20, the monitor `pool_after` is the specification**: in every state that represents a set
    (`R`), after the call the touched value is where the operation puts it - a released in-range
    value is free, a value whose reservation succeeded or that was handed out is not free, and
    `clear` leaves the one interval `[lowest, highest]`. -/
theorem C20_pool_after {a : A} {s : S} (r : R a s) :
    (∀ v, a.lowest ≤ v ∧ v ≤ a.highest → Free (step a (.deallocate v)).1.pool v) ∧
    (∀ v, (step a (.useValue v)).2 = .bool true → ¬ Free (step a (.useValue v)).1.pool v) ∧
    (∀ v, (step a .allocate).2 = .optVal (some v) → ¬ Free (step a .allocate).1.pool v) ∧
    (step a .clear).1.pool = [⟨a.lowest, a.highest⟩] := by
  have w := r.wf
  refine ⟨fun v hv => ?_, fun v hv => ?_, fun v hv => ?_, rfl⟩
  · obtain ⟨w', _, hu⟩ := w.deallocate r.tm v
    have hb := step_bounds a (.deallocate v)
    exact (w'.free_iff v).2 ⟨hb.1 ▸ hv.1, hb.2.1 ▸ hv.2, by rw [hu, bne_self_eq_false, Bool.and_false]⟩
  · have ha : (useValue a v).1 = true := Ans.bool.inj hv
    refine ((isUsed_iff (useValue a v).2 v).1 ?_).2
    rw [(w.useValue v).2.2, ha, beq_self_eq_true]
    exact Bool.or_true _
  · have ha : (allocate a).1 = some v := Ans.optVal.inj hv
    refine ((isUsed_iff (allocate a).2 v).1 ?_).2
    rw [(w.allocate_some ha).2.2, beq_self_eq_true]
    exact Bool.or_true _

/-! ## the pinned tree's behaviour: a machine-checked witness of finding #21

`deallocRaw` is the neighbour merge of `deallocate`, which the pinned tree runs without the early
return of the `fix:` commit.  Releasing the *free* value `T::MAX` there overflows in the guard
`value + 1 == r.low`. -/
theorem pinned_dealloc_free_tmax_panics :
    deallocRaw 65535 65535 [⟨1, 65535⟩] = .panic "value_allocator.rs:deallocate:value+1(arm3)" := by
  decide

/-! ## non-vacuity: a concrete reachable state satisfying the relation -/
example : R (exec (new 1 9 255) [.allocate, .allocate, .useValue 5, .deallocate 1])
    ⟨1, 9, [5, 2]⟩ := by
  have e : exec (new 1 9 255) [.allocate, .allocate, .useValue 5, .deallocate 1]
      = ⟨1, 9, 255, [⟨1, 1⟩, ⟨3, 4⟩, ⟨6, 9⟩]⟩ := by decide
  rw [e]
  refine ⟨rfl, rfl, by decide, by decide, by decide, ?_⟩
  intro v
  simp only [free_cons, free_nil, S.free, List.mem_cons, List.not_mem_nil, or_false]
  omega

end MqttVerif.Alloc
