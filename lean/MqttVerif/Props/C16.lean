import MqttVerif.Conn.Lemmas.Restore
import MqttVerif.Conn.Lemmas.Resume
import MqttVerif.Props.C10
/-!
# C16 — session state exported at any point and restored resumes the session
-/
namespace MqttVerif.Conn
open MqttVerif

/-! ## export / restore -/

/-- `restore_qos2_publish_handled`: the given ids as a set (as `Op.restoreHandled` does) -/
def handledSet (hs : List Nat) : List Nat := hs.foldl (fun acc x => ins x acc) []

/-- `get_stored_packets()` (store order) and `get_qos2_publish_handled()` -/
def exportSt (s : St) : List Pkt × List Nat := (s.store.map (·.2), s.handled)

/-- a new object of version `ver` given an export -/
def restore (cfg : Cfg) (ver : Nat) (e : List Pkt × List Nat) : St :=
  (restorePackets ⟨cfg, { St.init cfg ver with handled := handledSet e.2 }, []⟩ e.1).s

/-- `restore` is the two public calls on a new object -/
theorem restore_eq_run (cfg : Cfg) (ver : Nat) (ps : List Pkt) (hs : List Nat) :
    restore cfg ver (ps, hs) = run cfg (St.init cfg ver) [.restoreHandled hs, .restorePackets ps] := rfl

theorem mem_foldl_ins (hs acc : List Nat) (x : Nat) :
    x ∈ hs.foldl (fun acc x => ins x acc) acc ↔ (x ∈ acc ∨ x ∈ hs) := by
  induction hs generalizing acc with
  | nil => simp
  | cons y rest ih => simp only [List.foldl_cons, ih, mem_ins, List.mem_cons]; grind

theorem mem_handledSet (hs : List Nat) (x : Nat) : x ∈ handledSet hs ↔ x ∈ hs := by
  simp [handledSet, mem_foldl_ins]

theorem idMax_pos {cfg : Cfg} (h : 0 < cfg.pw) : 1 ≤ cfg.idMax := by
  have : 256 ^ 1 ≤ 256 ^ cfg.pw := Nat.pow_le_pow_right (by decide) h
  simp only [Cfg.idMax]; omega

theorem RI_init (cfg : Cfg) (hpw : 0 < cfg.pw) (ver : Nat) (hs : List Nat) :
    RI cfg { St.init cfg ver with handled := hs } where
  wf := PidWf.init cfg (idMax_pos hpw)
  used := by
    intro x
    simp [isUsed, St.init, Alloc.isUsed, Alloc.new, Alloc.Free, storeHas]
    intro h1 h2
    exact ⟨by have := of_decide_eq_true h1; omega, of_decide_eq_true h2⟩
  nodup := by simp [St.init]

theorem WI_init (cfg : Cfg) (ver : Nat) (hs : List Nat) : WI { St.init cfg ver with handled := hs } where
  pa := by intro x; simp [St.init]
  pr := by intro x; simp [St.init]
  pc := by intro x; simp [St.init]

/-! ## C16 (3): `restore_packets` is total -/

/-- **C16 (3)**: for ANY list of packets (duplicate ids, QoS 0 entries, PUBREL + PUBLISH with
    the same id, id 0 / absent / out of range) and any handled-id list, restoring into a new
    object (identifier width `pw > 0`) never panics, and the resulting state is exactly:
    * store = the accepted entries in order (`specStep` / `acceptedP`: not a QoS 0 PUBLISH, id
      in `[1, MAX]`, id not yet a key — first occurrence wins);
    * ids in use = keys of the store (allocator well-formed, keys distinct) — `RI`;
    * the three wait sets = the ids of the **stored** entries, by expected response — `WI`
      (finding #24, fixed: a rejected entry leaves no wait-set entry);
    * handled = the given ids, as a set; every other field as constructed (`RestoreFrame`). -/
theorem C16_restore_total (cfg : Cfg) (hpw : 0 < cfg.pw) (ver : Nat) (ps : List Pkt) (hs : List Nat) :
    let r := restore cfg ver (ps, hs)
    r.panic = none ∧ RI cfg r ∧ WI r ∧
    r.store = ps.foldl (specStep cfg) [] ∧
    r.handled = handledSet hs ∧
    RestoreFrame { St.init cfg ver with handled := handledSet hs } r := by
  obtain ⟨h3, h4, h5⟩ :=
    restorePackets_spec (cfg := cfg) ps (c := ⟨cfg, { St.init cfg ver with handled := handledSet hs }, []⟩)
      (RI_init cfg hpw ver _) (WI_init cfg ver _)
  dsimp only [restore]
  refine ⟨?_, h3, h4, h5, ?_, Fp.restorePackets_s _ ps⟩
  · rw [Fp.restorePackets_s]
    rfl
  · rw [Fp.restorePackets_s]

/-- **C16 (3), per entry, for EVERY object** (no invariant): a QoS 0 PUBLISH, and an entry whose
    id `register_packet_id` refuses, leave the object **completely unchanged** (state and events) -/
theorem C16_restore_rejected_unchanged (c : C) (p : Pkt)
    (h : (p.kind = .publish ∧ p.qos = 0) ∨ (register c (p.pid.getD 0)).1 = false) :
    restoreOne c p = c := by
  apply restoreOne_rejected
  rcases h with h | h
  · left; simp [restoreSkip, h]
  · right; exact h

/-- … and on an object satisfying the bookkeeping invariants `RI` and `WI` (in particular a new
    one, and every intermediate object of a `restore_packets` call) an entry leaves the object
    unchanged exactly when it is not `acceptedP`: a QoS 0 PUBLISH, or its id is 0 / absent, out
    of range, or already a key of the store (duplicate or already in use); otherwise it is
    appended to the store under its id. -/
theorem C16_restore_rejected_iff (cfg : Cfg) (c : C) (h : RI cfg c.s) (hw : WI c.s) (p : Pkt) :
    (¬ acceptedP cfg c.s.store p → restoreOne c p = c) ∧
    (acceptedP cfg c.s.store p → (restoreOne c p).s.store = c.s.store ++ [(rid p, p)]) := by
  obtain ⟨_, _, o5, o7⟩ := restoreOne_spec h hw p
  refine ⟨o7, fun ha => ?_⟩
  rw [o5]; simp only [specStep, ha, if_true]

/-- no panic, without any hypothesis on the object -/
theorem C16_restore_never_panics (cfg : Cfg) (s : St) (ps : List Pkt) :
    (step cfg s (.restorePackets ps)).s.panic = s.panic := by
  show (restorePackets _ ps).s.panic = _
  rw [Fp.restorePackets_s]

/-! ## C16 (1): the session projection of a restored export -/

/-- ownership invariant of the store: keys pairwise distinct and in `[1, MAX]`; every entry is
    a QoS 1/2 PUBLISH or a PUBREL carrying its key as packet identifier -/
structure StoreOwn (cfg : Cfg) (st : List (Nat × Pkt)) : Prop where
  nodup : (st.map (·.1)).Nodup
  entry : ∀ id p, (id, p) ∈ st → p.pid = some id ∧ 1 ≤ id ∧ id ≤ cfg.idMax ∧
    ((p.kind = .publish ∧ (p.qos = 1 ∨ p.qos = 2)) ∨ p.kind = .pubrel)

theorem StoreOwn.entry_facts {cfg : Cfg} {st : List (Nat × Pkt)} (h : StoreOwn cfg st) {id : Nat} {p : Pkt}
    (hm : (id, p) ∈ st) : restoreSkip p = false ∧ rid p = id ∧ 1 ≤ id ∧ id ≤ cfg.idMax := by
  obtain ⟨h1, h2, h3, h4⟩ := h.entry id p hm
  refine ⟨?_, by simp [rid, h1], h2, h3⟩
  simp only [restoreSkip, decide_eq_false_iff_not]
  rintro ⟨a, b⟩
  rcases h4 with ⟨_, c | c⟩ | c
  · omega
  · omega
  · rw [a] at c; exact absurd c (by decide)

theorem foldl_specStep_own {cfg : Cfg} (l acc : List (Nat × Pkt)) (h : StoreOwn cfg (acc ++ l)) :
    (l.map (·.2)).foldl (specStep cfg) acc = acc ++ l := by
  induction l generalizing acc with
  | nil => simp
  | cons e rest ih =>
    obtain ⟨id, p⟩ := e
    obtain ⟨f1, f2, f3, f4⟩ := h.entry_facts (id := id) (p := p) (by simp)
    have hnot : storeHas id acc = false := by
      cases hh : storeHas id acc
      · rfl
      · have hm := (storeHas_iff_keys id acc).1 hh
        have := h.nodup
        simp only [List.map_append, List.map_cons] at this
        have := (List.nodup_append.1 this).2.2 id hm id (by simp)
        exact absurd rfl this
    have hstep : specStep cfg acc p = acc ++ [(id, p)] := by
      simp only [specStep, acceptedP, f1, f2, f3, f4, hnot, and_self, if_true]
    simp only [List.map_cons, List.foldl_cons, hstep]
    rw [ih (acc ++ [(id, p)]) (by simpa using h)]
    simp

theorem WI.by_kind {r : St} (hw : WI r)
    (hst : ∀ x p, (x, p) ∈ r.store → (p.kind = .publish ∧ (p.qos = 1 ∨ p.qos = 2)) ∨ p.kind = .pubrel) :
    (∀ x, x ∈ r.puback ↔ ∃ p, (x, p) ∈ r.store ∧ p.kind = .publish ∧ p.qos = 1) ∧
    (∀ x, x ∈ r.pubrec ↔ ∃ p, (x, p) ∈ r.store ∧ p.kind = .publish ∧ p.qos = 2) ∧
    (∀ x, x ∈ r.pubcomp ↔ ∃ p, (x, p) ∈ r.store ∧ p.kind = .pubrel) := by
  have resp : ∀ x p, (x, p) ∈ r.store →
      ((respOf p = .puback ↔ (p.kind = .publish ∧ p.qos = 1)) ∧
       (respOf p = .pubrec ↔ (p.kind = .publish ∧ p.qos = 2)) ∧
       (respOf p = .pubcomp ↔ p.kind = .pubrel)) := by
    intro x p hm
    unfold respOf
    rcases hst x p hm with ⟨a, b | b⟩ | a
    · simp [a, b]
    · simp [a, b]
    · simp [a]
  have cong : ∀ {P Q : Pkt → Prop}, (∀ x p, (x, p) ∈ r.store → (P p ↔ Q p)) → ∀ x,
      (∃ p, (x, p) ∈ r.store ∧ P p) ↔ ∃ p, (x, p) ∈ r.store ∧ Q p := fun h x =>
    ⟨fun ⟨p, hm, hp⟩ => ⟨p, hm, (h x p hm).1 hp⟩, fun ⟨p, hm, hp⟩ => ⟨p, hm, (h x p hm).2 hp⟩⟩
  exact ⟨fun x => (hw.pa x).trans (cong (fun x p hm => (resp x p hm).1) x),
    fun x => (hw.pr x).trans (cong (fun x p hm => (resp x p hm).2.1) x),
    fun x => (hw.pc x).trans (cong (fun x p hm => (resp x p hm).2.2) x)⟩

/-- **C16 (1)**: for every state whose store satisfies the ownership invariant, restoring its
    export into a new object (any version, `pw > 0`) reproduces the session projection: the store (same
    order, same content), the three wait sets (as sets) = ids of the stored QoS 1 PUBLISH /
    QoS 2 PUBLISH / PUBREL, exactly the stored ids in use (allocator well-formed), the handled
    set (as a set); no panic. -/
theorem C16_restore_session_proj (cfg : Cfg) (hpw : 0 < cfg.pw) (ver : Nat) (s : St)
    (h : StoreOwn cfg s.store) :
    let r := restore cfg ver (exportSt s)
    r.store = s.store ∧
    (∀ x, x ∈ r.puback ↔ ∃ p, (x, p) ∈ s.store ∧ p.kind = .publish ∧ p.qos = 1) ∧
    (∀ x, x ∈ r.pubrec ↔ ∃ p, (x, p) ∈ s.store ∧ p.kind = .publish ∧ p.qos = 2) ∧
    (∀ x, x ∈ r.pubcomp ↔ ∃ p, (x, p) ∈ s.store ∧ p.kind = .pubrel) ∧
    (∀ x, isUsed r x = true ↔ x ∈ s.store.map (·.1)) ∧
    (∀ x, x ∈ r.handled ↔ x ∈ s.handled) ∧
    r.panic = none ∧ PidWf cfg r.pidMan := by
  obtain ⟨t1, t2, tw, t3, t7, _⟩ := C16_restore_total cfg hpw ver (s.store.map (·.2)) s.handled
  have hstore : (restore cfg ver (exportSt s)).store = s.store := by
    have := foldl_specStep_own (cfg := cfg) s.store [] (by simpa using h)
    simp only [exportSt]; rw [t3, this]; simp
  have hstore' : (restore cfg ver (s.store.map (·.2), s.handled)).store = s.store := hstore
  obtain ⟨k1, k2, k3⟩ := tw.by_kind fun x p hm => (h.entry x p (hstore' ▸ hm)).2.2.2
  rw [hstore'] at k1 k2 k3
  dsimp only
  refine ⟨hstore, k1, k2, k3, ?_, ?_, t1, t2.wf⟩
  · intro x; simp only [exportSt] at hstore ⊢; rw [t2.used x, hstore, storeHas_iff_keys]
  · intro x; simp only [exportSt]; rw [t7, mem_handledSet]

/-! ## non-vacuity and a malformed export (finding #24, fixed) -/

namespace C16ex
def cfg : Cfg := ⟨.client, 2⟩
def pub1 : Pkt := { ver := 4, kind := .publish, size := 10, pid := some 1, qos := 1, dup := true, topic := [116] }
def pub7 : Pkt := { ver := 4, kind := .publish, size := 10, pid := some 7, qos := 2, dup := true, topic := [117] }
def rel2 : Pkt := { ver := 4, kind := .pubrel, size := 4, pid := some 2 }
/-- a v3.1.1 client with three exchanges in flight, one handled inbound QoS 2 id, and one
    identifier (9) acquired by the application but not yet used -/
def s : St :=
  { St.init cfg 4 with
    pidMan := ⟨1, 65535, 65535, [⟨3, 6⟩, ⟨8, 8⟩, ⟨10, 65535⟩]⟩
    store := [(7, pub7), (1, pub1), (2, rel2)], puback := [1], pubrec := [7], pubcomp := [2]
    handled := [4], needStore := true, status := .connected, isClient := true }
end C16ex

example : StoreOwn C16ex.cfg C16ex.s.store where
  nodup := by decide
  entry := by
    intro id p hm
    simp only [C16ex.s, List.mem_cons, Prod.mk.injEq, List.not_mem_nil, or_false] at hm
    rcases hm with ⟨rfl, rfl⟩ | ⟨rfl, rfl⟩ | ⟨rfl, rfl⟩ <;> decide

namespace C16w24
def pub5 : Pkt := { ver := 4, kind := .publish, size := 10, pid := some 5, qos := 1, dup := true, topic := [116] }
def rel5 : Pkt := { ver := 4, kind := .pubrel, size := 4, pid := some 5 }
def pubNoId : Pkt := { ver := 4, kind := .publish, size := 10, pid := none, qos := 2, topic := [116] }
def pubQ0 : Pkt := { ver := 4, kind := .publish, size := 8, topic := [116] }
/-- a malformed export: PUBLISH and PUBREL with the same id, a QoS 2 PUBLISH without id, a
    QoS 0 PUBLISH -/
def ps : List Pkt := [pub5, rel5, pubNoId, pubQ0]
def r : St := restore C16ex.cfg 4 (ps, [])
def connect : Pkt := { ver := 4, kind := .connect, size := 14, clean := false }
def connack : Pkt := { ver := 4, kind := .connack, size := 4, sp := true, rc := some 0 }
def pubcomp5 : Pkt := { ver := 4, kind := .pubcomp, size := 4, pid := some 5 }
def resume : List Op :=
  [.send connect, .recv [32, 2, 1, 0] (fun _ _ _ => .ok connack),
   .recv [112, 2, 0, 5] (fun _ _ _ => .ok pubcomp5)]
end C16w24

/-- finding #24 **fixed**: the rejected entries of a malformed export (a PUBREL whose id is
    already taken by a PUBLISH, a QoS 2 PUBLISH without id, a QoS 0 PUBLISH) leave no trace: the
    result is the same as restoring the one accepted packet alone, and a later PUBCOMP 5 from
    the peer is a protocol error instead of releasing the id of the stored PUBLISH. -/
theorem C16_restore_malformed_example :
    C16w24.r = restore C16ex.cfg 4 ([C16w24.pub5], []) ∧
    C16w24.r.store = [(5, C16w24.pub5)] ∧ C16w24.r.puback = [5] ∧ C16w24.r.pubcomp = [] ∧
    C16w24.r.pubrec = [] ∧ isUsed C16w24.r 5 = true ∧ isUsed C16w24.r 0 = false ∧
    C16w24.r.panic = none ∧
    runEvents C16ex.cfg C16w24.r C16w24.resume =
      [[.send C16w24.connect none], [.send C16w24.pub5 none, .recv C16w24.connack],
       [.close, .error eProtocol]] ∧
    (run C16ex.cfg C16w24.r C16w24.resume).store = [(5, C16w24.pub5)] ∧
    isUsed (run C16ex.cfg C16w24.r C16w24.resume) 5 = true := by
  decide

/-! ## the restore monitor is a theorem of the model (`VIOL sig=C16 restore_inconsistent@restore_p`) -/

/-- a stored entry was there before or is an accepted packet of the list, hence none that is skipped -/
theorem mem_foldl_specStep (cfg : Cfg) (ps : List Pkt) (acc : List (Nat × Pkt)) (x : Nat × Pkt)
    (h : x ∈ ps.foldl (specStep cfg) acc) : x ∈ acc ∨ (x.2 ∈ ps ∧ restoreSkip x.2 = false) := by
  induction ps generalizing acc with
  | nil => exact .inl h
  | cons p rest ih =>
    refine (ih _ h).elim (fun h' => ?_) fun h' => .inr ⟨List.mem_cons_of_mem _ h'.1, h'.2⟩
    unfold specStep at h'
    refine Fp.ite_ind (Q := fun l => x ∈ l → _) (fun ha hx => ?_) (fun _ => .inl) h'
    refine (List.mem_append.1 hx).imp_right fun hx => ?_
    rw [List.mem_singleton.1 hx]
    exact ⟨List.mem_cons_self, ha.1⟩

/-- the packets an exported session contains (`GenericStorePacket`): QoS 1 / QoS 2 PUBLISH and
    PUBREL; a QoS 0 PUBLISH is tolerated (it is skipped) -/
def RestorablePkt (p : Pkt) : Prop :=
  (p.kind = .publish ∧ p.qos ≤ 2) ∨ p.kind = .pubrel

/-- **C16, `restore_packets` leaves a consistent object** — in the exact shape of the driver
    monitor `VIOL sig=C16 restore_inconsistent@restore_p`.  Restoring ANY list of restorable
    packets (duplicate ids, id 0 / absent / out of range included) into an object without session
    state (`RI` with an empty store: no identifier in use; the QoS wait sets empty — e.g. a new
    object, with any restored handled set): afterwards `pid_puback` / `pid_pubrec` / `pid_pubcomp`
    are, as sets, the ids of the stored QoS 1 PUBLISH / QoS 2 PUBLISH / PUBREL entries, every
    stored id is in use, and the stored ids are pairwise distinct; the panic marker is as before. -/
theorem C16_monitor_restore_consistent (cfg : Cfg) (s : St) (ps : List Pkt)
    (hri : RI cfg s) (hst : s.store = []) (hpa : s.puback = []) (hpr : s.pubrec = []) (hpc : s.pubcomp = [])
    (hps : ∀ p ∈ ps, RestorablePkt p) :
    let r := (step cfg s (.restorePackets ps)).s
    (∀ x, x ∈ r.puback ↔ ∃ p, (x, p) ∈ r.store ∧ p.kind = .publish ∧ p.qos = 1) ∧
    (∀ x, x ∈ r.pubrec ↔ ∃ p, (x, p) ∈ r.store ∧ p.kind = .publish ∧ p.qos = 2) ∧
    (∀ x, x ∈ r.pubcomp ↔ ∃ p, (x, p) ∈ r.store ∧ p.kind = .pubrel) ∧
    (∀ e ∈ r.store, isUsed r e.1 = true) ∧
    (r.store.map (·.1)).Nodup ∧
    r.panic = s.panic := by
  have hw : WI s := ⟨by simp [hst, hpa], by simp [hst, hpr], by simp [hst, hpc]⟩
  obtain ⟨h3, h4, h5⟩ := restorePackets_spec (cfg := cfg) ps (c := ⟨cfg, s, []⟩) hri hw
  obtain ⟨k1, k2, k3⟩ := h4.by_kind fun x p hm => by
    rcases mem_foldl_specStep cfg ps _ _ (h5 ▸ hm) with h | ⟨hin, hsk⟩
    · exact nomatch hst ▸ h
    · have hsk := restoreSkip_false hsk
      rcases hps p hin with ⟨a, b⟩ | a
      · exact .inl ⟨a, by have : ¬p.qos = 0 := fun h0 => hsk ⟨a, h0⟩; omega⟩
      · exact .inr a
  exact ⟨k1, k2, k3, fun e he => (h3.used e.1).2 ((storeHas_iff_keys _ _).2 (List.mem_map_of_mem he)), h3.nodup,
    C16_restore_never_panics cfg s ps⟩

/-- hypotheses of `C16_monitor_restore_consistent`: a new object with a restored handled set, and
    the malformed export of finding #24 (all its packets are restorable *packets*; what is wrong
    with it is the combination) -/
example : RI C16ex.cfg { St.init C16ex.cfg 4 with handled := [4] } ∧
    (∀ p ∈ C16w24.ps, RestorablePkt p) ∧
    (step C16ex.cfg { St.init C16ex.cfg 4 with handled := [4] } (.restorePackets C16w24.ps)).s.store.length = 1 := by
  refine ⟨RI_init C16ex.cfg (by decide) 4 [4], ?_, by decide⟩
  intro p hp
  simp only [C16w24.ps, List.mem_cons, List.not_mem_nil, or_false] at hp
  rcases hp with rfl | rfl | rfl | rfl <;> unfold RestorablePkt <;> decide

/-! ## C16 (2): the restored object continues like the original -/

/-- the second call of the resume handshake on an object in state `t` (first call done):
    a client receives CONNACK(accepted, session present) — without a Session Expiry Interval 0
    property —, or a server sends CONNACK(accepted, session present) (with session present =
    false the CONNACK starts a new session instead — fix 10ee029, see C10) -/
inductive ResumeAck (cfg : Cfg) (t : St) : Op → Prop
  | received (inp : List Nat) (parse : Nat → Nat → List Nat → Except Nat Pkt)
      (pb : Framing.PB) (fh : Nat) (data rest : List Nat) (q : Pkt)
      (hf : Framing.feed t.pb inp = (pb, some (.complete fh data), rest))
      (ht : fh / 16 = 2) (hsz : totalSize data.length ≤ t.mpsRecv) (hr : cfg.role ≠ .server)
      (hv : t.ver = 4 ∨ t.ver = 5) (hst : t.status ≠ .connected)
      (hp : parse t.ver fh data = .ok q) (hrc : q.rc = some 0) (hsp : q.sp = true)
      (hsei : ∀ e ∈ q.props, ¬ (e.1 = pSEI ∧ e.2 = 0)) : ResumeAck cfg t (.recv inp parse)
  | sent (q : Pkt) (hk : q.kind = .connack) (hver : q.ver = t.ver) (hv : t.ver = 4 ∨ t.ver = 5)
      (hr : cfg.role ≠ .client) (hst : t.status = .connecting) (hrc : q.rc = some 0)
      (hsp : q.sp = true)
      (hsz : t.ver = 5 → q.size ≤ t.mpsSend) : ResumeAck cfg t (.send q)

theorem prV3Connack_eq (c : C) (q : Pkt) (hst : c.s.status ≠ .connected) (hrc : q.rc = some 0) (hsp : q.sp = true) :
    prV3Connack c (.ok q) =
      (fun c : C => c.push (.recv q))
        (resendStored ((fun c : C => { c with s := { c.s with status := .connected } }) c)) := by
  simp only [prV3Connack, hst, if_false, hrc, if_true, hsp]

theorem prV5Connack_eq (c : C) (q : Pkt) (hst : c.s.status ≠ .connected) (hrc : q.rc = some 0) (hsp : q.sp = true) :
    prV5Connack c (.ok q) =
      (fun c : C => c.push (.recv q)) (resendStored ((fun c : C =>
        propsFold connackRecvProp { c with s := { c.s with status := .connected } } q.props) c)) := by
  simp only [prV5Connack, hst, if_false, hrc, if_true, hsp]

theorem psV3Connack_eq (c : C) (q : Pkt) (hst : c.s.status = .connecting) (hrc : q.rc = some 0)
    (hsp : q.sp = true) :
    psV3Connack c q =
      sendPostProcess (sendStored ((fun c : C =>
        { c.push (.send q none) with s := { (c.push (.send q none)).s with status := .connected } }) c)) := by
  simp only [psV3Connack, hst, ne_eq, not_true_eq_false, if_false, hrc, hsp, if_true]

theorem psV5Connack_eq (c : C) (q : Pkt) (hst : c.s.status = .connecting) (hrc : q.rc = some 0)
    (hsp : q.sp = true) (hsz : sizeOk c q = true) :
    psV5Connack c q =
      sendPostProcess (sendStored ((fun c : C =>
        { (propsFold connackSendProp c q.props).push (.send q none) with
          s := { ((propsFold connackSendProp c q.props).push (.send q none)).s with status := .connected } }) c)) := by
  simp only [psV5Connack, hsz, Bool.not_true, Bool.false_eq_true, if_false, hst, ne_eq,
    not_true_eq_false, hrc, if_true, hsp]

/-- **the resume acknowledgement on two objects that differ only in the session bookkeeping**
    and hold the same store: same events, same non-session state, same store afterwards; the
    same (oversize) ids `D` are dropped from the wait sets and released on both sides, handled is
    untouched. -/
theorem resumeAck_rel {cfg : Cfg} {t : St} {op : Op} (h : ResumeAck cfg t op) (X : Sess)
    (hst : X.store = t.store) (w1 : PidWfT cfg t.pidMan) (w2 : PidWfT cfg X.pidMan)
    (hag : ∀ e ∈ t.store, isUsed t e.1 = Alloc.isUsed X.pidMan e.1) :
    ∃ D, (∀ d ∈ D, d ∈ t.store.map (·.1)) ∧
      step cfg (setSess t X) op = (step cfg t op).ws (dropSess D X (relAll D X.pidMan) (step cfg t op).s.store) ∧
      (step cfg t op).s.sess = dropSess D t.sess (relAll D t.pidMan) (step cfg t op).s.store := by
  cases h with
  | received inp parse pb fh data rest q hf ht hsz hr hv hstat hp hrc hsp hsei =>
    have key := connack_recv_step parse hf ht hsz hr hv
    rw [hp] at key
    rw [key t rfl rfl rfl, key (setSess t X) rfl rfl rfl]
    rcases hv with h4 | h5
    · rw [if_pos h4, if_pos h4]
      exact resume_core (cfg := cfg) (.inr rfl) _ _ blind_setConnected (blind_push _) (fun c => prV3Connack c (.ok q))
        ⟨cfg, { t with pb := pb }, []⟩ X (fun _ => prV3Connack_eq _ q hstat hrc hsp) hst w1 w2 hag
    · rw [if_neg (by omega), if_neg (by omega)]
      exact resume_core (cfg := cfg) (.inr rfl) _ _
        (Blind.comp (g := fun c => propsFold connackRecvProp c q.props)
          (blind_propsFold q.props (fun e he c X => connackRecvProp_ws c X e.1 e.2 (hsei e he))) blind_setConnected)
        (blind_push _) (fun c => prV5Connack c (.ok q))
        ⟨cfg, { t with pb := pb }, []⟩ X (fun _ => prV5Connack_eq _ q hstat hrc hsp) hst w1 w2 hag
  | sent q hk hver hv hr hstat hrc hsp hsz =>
    have key : ∀ t' : St, t'.ver = t.ver → step cfg t' (.send q) =
        (if t.ver = 4 then psV3Connack ⟨cfg, t', []⟩ q else psV5Connack ⟨cfg, t', []⟩ q) := fun t' e1 =>
      hver ▸ step_send_connack hk (hver.trans e1.symm) hr
    rw [key t rfl, key (setSess t X) rfl]
    rcases hv with h4 | h5
    · rw [if_pos h4, if_pos h4]
      exact resume_core (cfg := cfg) (.inl rfl) _ _ (Blind.comp blind_setConnected (blind_push _)) blind_sendPostProcess
        (fun c => psV3Connack c q) ⟨cfg, t, []⟩ X (fun _ => psV3Connack_eq _ q hstat hrc hsp) hst w1 w2 hag
    · rw [if_neg (by omega), if_neg (by omega)]
      have hso : ∀ c : C, c.cfg = cfg → c.s.mpsSend = t.mpsSend → sizeOk c q = true := by
        intro c h1 h2
        have : q.sz cfg.pw = q.size := by simp [Pkt.sz, hk]
        exact sizeOk_of_le (by rw [h1, h2, this]; exact hsz h5)
      exact resume_core (cfg := cfg) (.inl rfl) _ _
        (Blind.comp (Blind.comp blind_setConnected (blind_push _)) (blind_propsFold q.props fun e _ c X => connackSendProp_ws c X e.1 e.2))
        blind_sendPostProcess (fun c => psV5Connack c q) ⟨cfg, t, []⟩ X
        (fun _ => psV5Connack_eq _ q hstat hrc hsp (hso _ rfl rfl)) hst w1 w2 hag

theorem ResumeAck.setSess {cfg : Cfg} {t : St} {op : Op} (h : ResumeAck cfg t op) (X : Sess) :
    ResumeAck cfg (setSess t X) op := by
  cases h with
  | received inp parse pb fh data rest q hf ht hsz hr hv hstat hp hrc hsp hsei =>
    exact .received inp parse pb fh data rest q hf ht hsz hr hv hstat hp hrc hsp hsei
  | sent q hk hver hv hr hstat hrc hsp hsz => exact .sent q hk hver hv hr hstat hrc hsp hsz

theorem restore_tmax (cfg : Cfg) (ver : Nat) (e : List Pkt × List Nat) :
    (restore cfg ver e).pidMan.highest ≤ (restore cfg ver e).pidMan.tmax := by
  obtain ⟨_, h2, h3⟩ := step_bnd cfg { St.init cfg ver with handled := handledSet e.2 } (.restorePackets e.1)
  exact Nat.le_of_eq (h2.trans h3.symm)

/-- **C16 (2)**: the restored object continues like the original.
    `s`: any state of a persistent session (`need_store`); `o = closed s` the original after the
    transport loss; `r` = a new object with the same options given `export s`.  Hypotheses on
    the closed original: no panic, store ownership, well-formed allocator, every stored id in
    use; `pw > 0`.
    For every resume handshake — `op1` an accepted CONNECT without clean start (sent by a
    client or received by a server), `op2` its acknowledgement (`ResumeAck`: CONNACK session
    present received, or CONNACK session present sent) —:
    * both objects emit **the same events** in both calls: the same retransmissions
      (`send_stored`: same packets, same order), the same released ids, the same timer requests;
    * afterwards the restored object's state is the original's with only the session
      bookkeeping replaced: **every non-session field and the store are equal**;
    * the fields that may differ: the three wait sets and the handled set — on both sides they
      are the object's own sets before the handshake minus the same dropped (oversize) stored
      ids `D` (`dropSess`); the original's own lists vs. those computed by `restore` are equal
      as sets by `C16_restore_session_proj` whenever the original's sets match its store —
      and the allocator: the original additionally holds exactly the ids that were in use at
      the crash point without being keys of the store (acquired, not yet published / limbo
      QoS 2);
    * both allocators are well-formed. -/
theorem C16_restored_continues (cfg : Cfg) (hpw : 0 < cfg.pw) (s : St) (ns : Bool) (op1 op2 : Op) (p1 : Pkt)
    (hns : s.needStore = true) (hpanic : (closed cfg s).panic = none)
    (hown : StoreOwn cfg s.store) (hwf : PidWfT cfg (closed cfg s).pidMan)
    (hused : ∀ e ∈ s.store, isUsed (closed cfg s) e.1 = true)
    (h1 : ConnStart cfg s.ver op1 p1) (hc : p1.clean = false)
    (h2 : ResumeAck cfg (step cfg (freshNS cfg s.ver s ns) op1).s op2) :
    let o := closed cfg s
    let R := (restore cfg s.ver (exportSt s)).sess
    let r := setSess (freshNS cfg s.ver s ns) R
    let o2 := run cfg o [op1, op2]
    let r2 := run cfg r [op1, op2]
    runEvents cfg o [op1, op2] = runEvents cfg r [op1, op2] ∧
    (∃ D, (∀ d ∈ D, d ∈ s.store.map (·.1)) ∧
      r2 = setSess o2 (dropSess D R r2.pidMan o2.store) ∧
      o2.sess = dropSess D o.sess o2.pidMan o2.store) ∧
    (∀ x, isUsed o2 x = true ↔
      (isUsed r2 x = true ∨ (isUsed o x = true ∧ x ∉ s.store.map (·.1)))) ∧
    PidWfT cfg o2.pidMan ∧ PidWfT cfg r2.pidMan := by
  intro o R r o2 r2
  obtain ⟨c1, -, -, -, c5, -, -, c8⟩ := C16_restore_session_proj cfg hpw s.ver s hown
  have hostore : o.store = s.store := ((C10_closed_keeps cfg s).2.2.2.2.2.2.2.2.2.2.2.2.2.2.2.2.2.2 hns).2.2.2.1
  have k1 : step cfg o op1 = (step cfg (freshNS cfg s.ver s ns) op1).ws o.sess :=
    closed_connect_eq_ws cfg s s.ver ns op1 p1 rfl hpanic h1 hc
  have k1r : step cfg r op1 = (step cfg (freshNS cfg s.ver s ns) op1).ws R :=
    connStart_ws (a := freshNS cfg s.ver s ns) rfl h1 (freshNS_idle cfg s.ver s ns) hc R
  -- second call, reference = the original
  have wR : PidWfT cfg R.pidMan := ⟨c8, restore_tmax cfg s.ver _⟩
  have hag : ∀ e ∈ o.store, isUsed o e.1 = Alloc.isUsed R.pidMan e.1 := fun e he =>
    have he' : e ∈ s.store := hostore ▸ he
    Bool.eq_iff_iff.2 ⟨fun _ => (c5 e.1).2 (List.mem_map_of_mem he'), fun _ => hused e he'⟩
  obtain ⟨D, qD, q1, q2⟩ := resumeAck_rel (h2.setSess o.sess) R (c1.trans hostore.symm) hwf wR hag
  rw [setSess_setSess] at q1
  have qD : ∀ d ∈ D, d ∈ s.store.map (·.1) := fun d hd => hostore ▸ qD d hd
  have ho2 : o2 = (step cfg (setSess (step cfg (freshNS cfg s.ver s ns) op1).s o.sess) op2).s := by
    show run cfg o [op1, op2] = _
    simp only [run, k1]; rfl
  have hr2 : r2 = (step cfg (setSess (step cfg (freshNS cfg s.ver s ns) op1).s R) op2).s := by
    show run cfg r [op1, op2] = _
    simp only [run, k1r]; rfl
  -- the allocators: the original's and the restored one's, each without the dropped identifiers
  obtain ⟨wo, uo⟩ := hwf.rels D
  obtain ⟨wr, ur⟩ := wR.rels D
  have hopm : o2.pidMan = relAll D o.pidMan := by rw [ho2]; exact congrArg Sess.pidMan q2
  have hrpm : r2.pidMan = relAll D R.pidMan := by rw [hr2, q1]; rfl
  refine ⟨?_, ⟨D, qD, by rw [hrpm, hr2, q1, ho2]; rfl, by rw [hopm, ho2]; exact q2⟩, fun x => ?_, hopm ▸ wo, hrpm ▸ wr⟩
  · show runEvents cfg o [op1, op2] = runEvents cfg r [op1, op2]
    simp only [runEvents, k1, k1r]
    have : (step cfg (setSess (step cfg (freshNS cfg s.ver s ns) op1).s R) op2).ev =
        (step cfg (setSess (step cfg (freshNS cfg s.ver s ns) op1).s o.sess) op2).ev := by rw [q1]; rfl
    simp only [C.ws, this]
  · unfold isUsed
    rw [hopm, hrpm, uo x, ur x]
    constructor
    · rintro ⟨h1, h2⟩
      by_cases hx : x ∈ s.store.map (·.1)
      · exact .inl ⟨(c5 x).2 hx, h2⟩
      · exact .inr ⟨h1, hx⟩
    · rintro (⟨h1, h2⟩ | ⟨h1, h2⟩)
      · obtain ⟨e, he, rfl⟩ := List.mem_map.1 ((c5 x).1 h1)
        exact ⟨hused e he, h2⟩
      · exact ⟨h1, fun hd => h2 (qD x hd)⟩

/-- non-vacuity of `C16_restored_continues`: the state `C16ex.s` (three exchanges in flight, a
    handled QoS 2 id, the held id 9) with a v3.1.1 client resume handshake -/
example :
    C16ex.s.needStore = true ∧ (closed C16ex.cfg C16ex.s).panic = none ∧
    PidWfT C16ex.cfg (closed C16ex.cfg C16ex.s).pidMan ∧
    (∀ e ∈ C16ex.s.store, isUsed (closed C16ex.cfg C16ex.s) e.1 = true) ∧
    isUsed (closed C16ex.cfg C16ex.s) 9 = true ∧ 9 ∉ C16ex.s.store.map (·.1) ∧
    ConnStart C16ex.cfg C16ex.s.ver (.send C16w24.connect) C16w24.connect ∧ C16w24.connect.clean = false ∧
    ResumeAck C16ex.cfg (step C16ex.cfg (freshNS C16ex.cfg C16ex.s.ver C16ex.s false) (.send C16w24.connect)).s
      (.recv [32, 2, 1, 0] (fun _ _ _ => .ok C16w24.connack)) := by
  have hpm : (closed C16ex.cfg C16ex.s).pidMan = ⟨1, 65535, 65535, [⟨3, 6⟩, ⟨8, 8⟩, ⟨10, 65535⟩]⟩ := by decide
  refine ⟨rfl, by decide, ?_, by decide, by decide, by decide,
    .sent C16w24.connect rfl rfl (Or.inl rfl) (by decide) (fun h => absurd h (by decide)), rfl,
    .received [32, 2, 1, 0] _ Framing.PB.reset 32 [1, 0] [] C16w24.connack (by decide) (by decide) (by decide)
      (by decide) (Or.inl (by decide)) (by decide) rfl rfl rfl (by intro e he; simp [C16w24.connack] at he)⟩
  rw [hpm]
  refine ⟨⟨rfl, by decide, by decide, ?_⟩, by decide⟩
  intro v hv
  simp only [Alloc.Free, List.mem_cons, List.not_mem_nil, or_false] at hv
  obtain ⟨iv, (rfl | rfl | rfl), h1, h2⟩ := hv <;> simp only [Cfg.idMax, C16ex.cfg] at * <;> omega

/-- non-vacuity of `ResumeAck.sent`: a server in `connecting` sends CONNACK(accepted, session present) -/
example : ResumeAck ⟨.server, 2⟩ { St.init ⟨.server, 2⟩ 4 with status := .connecting }
    (.send { ver := 4, kind := .connack, size := 4, sp := true, rc := some 0 }) :=
  .sent _ rfl rfl (Or.inl rfl) (by decide) rfl rfl rfl (fun h => absurd h (by decide))

end MqttVerif.Conn
