import MqttVerif.Framing.Lemmas
import MqttVerif.Conn.Lemmas.FootprintApi
/-!
# C09 — stream framing is independent of how the byte stream is chunked

Model: `Framing.feed` (the Rust loop, with the bulk payload copy).  Specification:
`Framing.runSpec`, one byte at a time.  All theorems are for **every** byte stream and
**every** partition into chunks; no bound on lengths.
-/
set_option linter.unusedSimpArgs false
set_option linter.unusedVariables false
namespace MqttVerif.Framing

/-- **C09 (a)** — for a builder satisfying `Inv` (in the payload state at least one byte is
    expected), one call of `feed` = run the byte-step specification up to the first
    output; in particular at most one result per call (the result type is an `Option`),
    and the unread input is a suffix of the input. -/
theorem C09_feed_is_bytewise (pb : PB) (inp : List Nat) (h : Inv pb) :
    feed pb inp = feedSpec pb inp ∧ ∃ consumed, inp = consumed ++ (feed pb inp).2.2 := by
  rw [feed_eq_spec pb inp h]
  exact ⟨rfl, (feedSpec_props pb inp h).2.1⟩

theorem feedAll_eq_runSpec (fuel : Nat) (pb : PB) (inp : List Nat) (h : Inv pb)
    (hf : inp.length < fuel) : feedAll fuel pb inp = runSpec pb inp := by
  induction fuel generalizing pb inp with
  | zero => omega
  | succ fuel ih =>
    unfold feedAll
    by_cases he : inp = []
    · subst he; simp [runSpec]
    · simp only [he, if_false]
      rw [feed_eq_spec pb inp h]
      obtain ⟨a1, _, a3, a4, a5⟩ := feedSpec_props pb inp h
      cases hs : feedSpec pb inp with
      | mk pb' r =>
        obtain ⟨o, rest⟩ := r
        rw [hs] at a1 a3 a4 a5
        cases o with
        | none =>
          simp only at a4 ⊢
          exact (a4 trivial).2.symm
        | some o =>
          simp only at a3 a5 ⊢
          rw [a5 o rfl, ih pb' rest a1 (by have := a3 he; omega)]

theorem feedAll_inv (fuel : Nat) (pb : PB) (inp : List Nat) (h : Inv pb) (hf : inp.length < fuel) :
    Inv (feedAll fuel pb inp).1 := by
  rw [feedAll_eq_runSpec fuel pb inp h hf]
  exact runSpec_inv pb inp h

/-- **C09 (b), chunk independence.**  From a builder satisfying `Inv`, feeding a byte stream
    in any partition into chunks produces the same outputs, in the same order, and leaves the
    builder in the same state, as the byte-step specification run over the concatenation. -/
theorem C09_chunk_independent (pb : PB) (chunks : List (List Nat)) (h : Inv pb) :
    feedChunks pb chunks = runSpec pb chunks.flatten := by
  induction chunks generalizing pb with
  | nil => simp [feedChunks, runSpec]
  | cons c cs ih =>
    simp only [feedChunks, List.flatten_cons]
    have hi := feedAll_inv (c.length + 1) pb c h (by omega)
    rw [ih _ hi, feedAll_eq_runSpec _ pb c h (by omega), runSpec_append]

/-- corollary: two partitions of the same stream are indistinguishable — in particular any
    partition behaves like "one whole packet at a time" -/
theorem C09_any_two_partitions (pb : PB) (c1 c2 : List (List Nat)) (h : Inv pb)
    (he : c1.flatten = c2.flatten) : feedChunks pb c1 = feedChunks pb c2 := by
  rw [C09_chunk_independent pb c1 h, C09_chunk_independent pb c2 h, he]

/-- **C09 (c), over-long Remaining Length.**  From the initial state, a fourth length byte with
    the continuation bit set (i.e. a Remaining Length longer than four bytes): `feed` reports an
    error, has consumed exactly the bytes up to and including that byte, and the builder is back
    in its initial state, so framing resumes at the next byte. -/
theorem C09_long_length_resync (fh l1 l2 l3 l4 : Nat) (rest : List Nat)
    (h1 : l1 ≥ 128) (h2 : l2 ≥ 128) (h3 : l3 ≥ 128) (h4 : l4 ≥ 128) :
    feed PB.reset (fh :: l1 :: l2 :: l3 :: l4 :: rest) = (PB.reset, some .error, rest) ∧
    runSpec PB.reset (fh :: l1 :: l2 :: l3 :: l4 :: rest)
      = ((runSpec PB.reset rest).1, .error :: (runSpec PB.reset rest).2) := by
  -- big literals: facts by `omega`, rewriting by `simp only` (simp's arithmetic simprocs
  -- produce proofs on which the kernel hits its recursion limit)
  have n1 : ¬ l1 < 128 := by omega
  have n2 : ¬ l2 < 128 := by omega
  have n3 : ¬ l3 < 128 := by omega
  have e1 : ¬ ((1:Nat) = 128*128*128) := by omega
  have e2 : ¬ ((128:Nat) = 128*128*128) := by omega
  have e3 : ¬ ((16384:Nat) = 128*128*128) := by omega
  have e4 : (2097152:Nat) = 128*128*128 := by omega
  have m1 : (1:Nat) * 128 = 128 := by omega
  have m2 : (128:Nat) * 128 = 16384 := by omega
  have m3 : (16384:Nat) * 128 = 2097152 := by omega
  have s0 : stepByte PB.reset fh = (⟨.remLen, [fh], 0, 1, []⟩, none) := by
    simp only [stepByte, PB.reset, List.nil_append]
  have s1 : stepByte ⟨.remLen, [fh], 0, 1, []⟩ l1 = (⟨.remLen, [fh, l1], l1 % 128, 128, []⟩, none) := by
    simp only [stepByte, n1, e1, false_and, if_false, m1, List.cons_append, List.nil_append,
      Nat.zero_add, Nat.mul_one]
  have s2 : stepByte ⟨.remLen, [fh, l1], l1 % 128, 128, []⟩ l2
      = (⟨.remLen, [fh, l1, l2], l1 % 128 + l2 % 128 * 128, 16384, []⟩, none) := by
    simp only [stepByte, n2, e2, false_and, if_false, m2, List.cons_append, List.nil_append]
  have s3 : stepByte ⟨.remLen, [fh, l1, l2], l1 % 128 + l2 % 128 * 128, 16384, []⟩ l3
      = (⟨.remLen, [fh, l1, l2, l3], l1 % 128 + l2 % 128 * 128 + l3 % 128 * 16384, 2097152, []⟩, none) := by
    simp only [stepByte, n3, e3, false_and, if_false, m3, List.cons_append, List.nil_append]
  have s4 : stepByte ⟨.remLen, [fh, l1, l2, l3], l1 % 128 + l2 % 128 * 128 + l3 % 128 * 16384, 2097152, []⟩ l4
      = (PB.reset, some .error) := by
    simp only [stepByte, e4, h4, and_self, if_true]
  constructor
  · rw [feed_eq_spec _ _ inv_reset]
    simp only [feedSpec, s0, s1, s2, s3, s4]
  · simp only [runSpec, s0, s1, s2, s3, s4]

/-! ## byte conservation (ghost-instrumented run) -/

def held (pb : PB) : List Nat := pb.header ++ pb.buf

/-- `runSpec` instrumented with the raw bytes of every frame it closes -/
def runRaw : PB → List Nat → PB × List (Out × List Nat)
  | pb, [] => (pb, [])
  | pb, b :: rest =>
    match stepByte pb b with
    | (pb', some o) => let r := runRaw pb' rest; (r.1, (o, held pb ++ [b]) :: r.2)
    | (pb', none) => runRaw pb' rest

theorem runRaw_erase (pb : PB) (inp : List Nat) :
    ((runRaw pb inp).1, (runRaw pb inp).2.map (·.1)) = runSpec pb inp := by
  induction inp generalizing pb with
  | nil => rfl
  | cons b rest ih =>
    simp only [runRaw, runSpec]
    cases hs : stepByte pb b with
    | mk pb' o =>
      cases o with
      | none => exact ih pb'
      | some o => simp only [List.map_cons]; rw [← ih pb']

def Shape (pb : PB) : Prop := pb.st ≠ .payload → pb.buf = []

theorem stepByte_held (pb : PB) (b : Nat) (hs : Shape pb) :
    Shape (stepByte pb b).1 ∧
    ((stepByte pb b).2 = none → held (stepByte pb b).1 = held pb ++ [b]) ∧
    ((stepByte pb b).2 ≠ none → held (stepByte pb b).1 = []) := by
  have hb (hst : pb.st ≠ .payload) : pb.header ++ [b] ++ pb.buf = pb.header ++ pb.buf ++ [b] := by
    rw [hs hst, List.append_nil, List.append_nil]
  refine ⟨?_, ?_, fun h => by rw [stepByte_out_reset pb b h]; rfl⟩
  · exact stepByte_cases (Q := fun r => Shape r.1) (fun hst _ => hs (by rw [hst]; nofun)) (fun _ _ => rfl) (fun _ _ => rfl)
      (fun _ _ h => absurd rfl h) (fun hst _ => hs (by rw [hst]; nofun)) (fun _ _ => rfl) (fun hst _ h => absurd hst h)
  · refine stepByte_cases (Q := fun r => r.2 = none → held r.1 = held pb ++ [b]) (fun hst _ => hb (by rw [hst]; nofun))
      (fun _ => nofun) (fun _ => nofun) (fun hst _ _ => ?_) (fun hst _ => hb (by rw [hst]; nofun)) (fun _ => nofun)
      (fun _ _ _ => (List.append_assoc ..).symm)
    show pb.header ++ [b] ++ [] = pb.header ++ pb.buf ++ [b]
    rw [hs (by rw [hst]; nofun), List.append_nil, List.append_nil]

/-- **C09 (d), no byte lost, duplicated or reordered.**  For a builder whose buffer is empty
    outside the payload state (`Shape`): the bytes already held by the builder followed by the
    stream are exactly the raw bytes of the frames closed (in order) followed by the bytes still
    held afterwards. -/
theorem C09_bytes_conserved (pb : PB) (inp : List Nat) (hs : Shape pb) :
    held pb ++ inp = ((runRaw pb inp).2.map (·.2)).flatten ++ held (runRaw pb inp).1 := by
  induction inp generalizing pb with
  | nil => simp [runRaw]
  | cons b rest ih =>
    obtain ⟨s1, s2, s3⟩ := stepByte_held pb b hs
    simp only [runRaw]
    cases hsb : stepByte pb b with
    | mk pb' o =>
      rw [hsb] at s1 s2 s3
      cases o with
      | none =>
        simp only at s2 ⊢
        rw [← ih pb' s1, s2 trivial]; simp
      | some o =>
        simp only at s3 ⊢
        have := ih pb' s1
        rw [s3 (by simp)] at this
        simp only [List.nil_append] at this
        simp only [List.map_cons, List.flatten_cons, List.append_assoc]
        rw [← this]; simp

theorem stepByte_frame_shape (pb : PB) (b : Nat) (fh : Nat) (data : List Nat)
    (hs : Shape pb) (hh : pb.st ≠ .fixedHeader → pb.header ≠ [])
    (ho : (stepByte pb b).2 = some (.complete fh data)) :
    ∃ lenBytes, held pb ++ [b] = fh :: lenBytes ++ data := by
  have hhd (hst : pb.st ≠ .fixedHeader) : pb.header = pb.header.headD 0 :: pb.header.tail := by
    cases hd : pb.header with
    | nil => exact absurd hd (hh hst)
    | cons x xs => rfl
  revert ho
  refine stepByte_cases (Q := fun r => r.2 = some (.complete fh data) → ∃ lenBytes, held pb ++ [b] = fh :: lenBytes ++ data)
    (fun _ => nofun) (fun _ => nofun) (fun hst ho => ?_) (fun _ _ => nofun) (fun _ => nofun) (fun hst ho => ?_)
    (fun _ _ => nofun)
  · cases ho
    refine ⟨pb.header.tail ++ [b], ?_⟩
    rw [held, hs (by rw [hst]; nofun), List.append_nil, List.append_nil, hhd (by rw [hst]; nofun)]
    rfl
  · cases ho
    refine ⟨pb.header.tail, ?_⟩
    rw [held, hhd (by rw [hst]; nofun)]
    simp

example : Inv PB.reset ∧ Shape PB.reset := ⟨inv_reset, by intro _; rfl⟩
example : feedChunks PB.reset [[0x30, 0x02], [0x41], [0x42, 0xC0, 0x00]]
    = (PB.reset, [.complete 0x30 [0x41, 0x42], .complete 0xC0 []]) := by decide

end MqttVerif.Framing


/-! ## C09 at connection level: `recv` frames exactly like the byte-step specification

The driver (`connLine`) runs a ghost assembler `gpb` next to every traced connection: it is reset
by `closed`, advanced by `Framing.feedSpec gpb inp` on every `recv inp`, and untouched by every
other call; the frame and the number of consumed bytes the implementation reports must be those
of `feedSpec` (`VIOL sig=C09 conn_framing@<site>`).  Below: the same holds for the model's
`Conn.recv`, for **every** state whose assembler satisfies the builder invariant `Framing.Inv`
(in the payload state at least one byte is expected — `C09_conn_inv_step`: kept by every call,
true initially), every input and every parser. -/
namespace MqttVerif.Conn
open MqttVerif

/-! The frame assembler `pb` is touched by `recv` (one `feed`) and `notify_closed` only: no other model function has
`pb` in its footprint (`Fp.f_s`). -/
namespace PbF

@[simp] theorem push_pb (c : C) (e : Ev) : (c.push e).s.pb = c.s.pb := rfl
@[simp] theorem err_pb (c : C) (e : Nat) : (c.err e).s.pb = c.s.pb := rfl
@[simp] theorem setPanic_pb (c : C) (x : String) : (c.setPanic x).s.pb = c.s.pb := rfl
@[simp] theorem pb_initConn (c : C) (b : Bool) : (initConn c b).s.pb = c.s.pb := rfl
@[simp] theorem pb_clearStoreRelated (c : C) : (clearStoreRelated c).s.pb = c.s.pb := rfl
@[simp] theorem pb_releaseAll (l : List Nat) : ∀ c, (releaseAll c l).s.pb = c.s.pb := fun c => by
  rw [Fp.releaseAll_s]

@[simp] theorem pb_cancelTimers (c : C) : (cancelTimers c).s.pb = c.s.pb := by rw [Fp.cancelTimers_s]
@[simp] theorem pb_processRecvPacket (c : C) (fh : Nat) (d : List Nat) (parse : Nat → Except Nat Pkt) :
    (processRecvPacket c fh d parse).s.pb = c.s.pb := by rw [Fp.processRecvPacket_s]

/-- `notify_closed` discards a partially received frame (fix of finding #1) -/
theorem pb_notifyClosed (c : C) : (notifyClosed c).s.pb = Framing.PB.reset := by
  rw [Fp.notifyClosed_s_eq]

end PbF

theorem feedSpec_out_reset (pb : Framing.PB) (inp : List Nat)
    (h : (Framing.feedSpec pb inp).2.1 ≠ none) : (Framing.feedSpec pb inp).1 = Framing.PB.reset := by
  induction inp generalizing pb with
  | nil => simp [Framing.feedSpec] at h
  | cons b rest ih =>
    simp only [Framing.feedSpec] at h ⊢
    have hr := Framing.stepByte_out_reset pb b
    cases hs : Framing.stepByte pb b with
    | mk pb' o =>
      rw [hs] at h hr
      cases o with
      | none => exact ih pb' h
      | some o => exact hr (by simp)

/-- the driver's ghost assembler -/
def C09.ghostPb (gpb : Framing.PB) : Op → Framing.PB
  | .closed => {}
  | .recv inp _ => (Framing.feedSpec gpb inp).1
  | _ => gpb

def C09.afterFeed (cfg : Cfg) (s : St) (parse : Nat → Nat → List Nat → Except Nat Pkt)
    (pb : Framing.PB) : Option Framing.Out → C
  | none => { cfg := cfg, s := { s with pb := pb } }
  | some .error => ((cancelTimers { cfg := cfg, s := { s with pb := pb } }).push .close).err eMalformed
  | some (.complete fh d) =>
    processRecvPacket { cfg := cfg, s := { s with pb := pb } } fh d (fun v => parse v fh d)

/-- **C09 conn_framing** (driver monitor `VIOL sig=C09 conn_framing@<site>`).  For every state
    (assembler invariant), every receive buffer and every parser: the unread rest `recv` returns —
    hence the number of bytes it consumed, `inp.length - rest.length` — and the frame it hands to the
    packet handler are those of the byte-at-a-time specification `Framing.feedSpec` run on the same
    bytes from the same assembler state:
    * the consumed bytes are a prefix of the input;
    * no result (`none`): no event, nothing but `pb` changes;
    * `.error` (Remaining Length longer than four bytes): error event `MalformedPacket` after a close
      request, and the assembler is reset;
    * `.complete fh d`: the call *is* the packet handler run on `(fh, d)` (assembler reset). -/
theorem C09_conn_framing (cfg : Cfg) (s : St) (inp : List Nat)
    (parse : Nat → Nat → List Nat → Except Nat Pkt) (h : Framing.Inv s.pb) :
    (recv { cfg := cfg, s := s } inp parse).2 = (Framing.feedSpec s.pb inp).2.2 ∧
    (∃ consumed, inp = consumed ++ (Framing.feedSpec s.pb inp).2.2 ∧
      consumed.length = inp.length - (recv { cfg := cfg, s := s } inp parse).2.length) ∧
    step cfg s (.recv inp parse) =
      C09.afterFeed cfg s parse (Framing.feedSpec s.pb inp).1 (Framing.feedSpec s.pb inp).2.1 ∧
    ((Framing.feedSpec s.pb inp).2.1 ≠ none → (Framing.feedSpec s.pb inp).1 = Framing.PB.reset) := by
  have hf := Framing.feed_eq_spec s.pb inp h
  obtain ⟨pre, hpre⟩ := (Framing.feedSpec_props s.pb inp h).2.1
  have hrecv : recv { cfg := cfg, s := s } inp parse =
      (C09.afterFeed cfg s parse (Framing.feedSpec s.pb inp).1 (Framing.feedSpec s.pb inp).2.1,
        (Framing.feedSpec s.pb inp).2.2) := by
    unfold recv
    rw [hf]
    obtain ⟨pb, out, rest⟩ := Framing.feedSpec s.pb inp
    simp only []
    cases out with
    | none => rfl
    | some o => cases o <;> rfl
  refine ⟨by rw [hrecv], ⟨pre, hpre, ?_⟩, ?_, feedSpec_out_reset _ _⟩
  · rw [hrecv]
    have := congrArg List.length hpre
    simp only [List.length_append] at this
    dsimp only
    omega
  · show (recv { cfg := cfg, s := s } inp parse).1 = _
    rw [hrecv]

/-- the three cases of `C09_conn_framing`, spelt out on the events -/
theorem C09_conn_framing_events (cfg : Cfg) (s : St) (inp : List Nat)
    (parse : Nat → Nat → List Nat → Except Nat Pkt) (h : Framing.Inv s.pb) :
    ((Framing.feedSpec s.pb inp).2.1 = none →
      (step cfg s (.recv inp parse)).ev = [] ∧
      (step cfg s (.recv inp parse)).s = { s with pb := (Framing.feedSpec s.pb inp).1 }) ∧
    ((Framing.feedSpec s.pb inp).2.1 = some .error →
      (∃ cancels, (step cfg s (.recv inp parse)).ev = cancels ++ [.close, .error eMalformed]) ∧
      (step cfg s (.recv inp parse)).s.pb = Framing.PB.reset) ∧
    (∀ fh d, (Framing.feedSpec s.pb inp).2.1 = some (.complete fh d) →
      step cfg s (.recv inp parse) =
        processRecvPacket { cfg := cfg, s := { s with pb := Framing.PB.reset } } fh d (fun v => parse v fh d)) := by
  obtain ⟨_, _, hs, hr⟩ := C09_conn_framing cfg s inp parse h
  refine ⟨fun e => ?_, fun e => ?_, fun fh d e => ?_⟩
  · rw [hs, e]; exact ⟨rfl, rfl⟩
  · have hr' := hr (by rw [e]; simp)
    rw [hs, e, hr']
    refine ⟨⟨(cancelTimers { cfg := cfg, s := { s with pb := Framing.PB.reset } }).ev, ?_⟩, ?_⟩
    · simp [C09.afterFeed, C.err, C.push]
    · simp [C09.afterFeed]
  · have hr' := hr (by rw [e]; simp)
    rw [hs, e, hr']; rfl

/-- **the ghost assembler is the model's assembler**: after every call the model's `pb` is the
    driver's ghost update of it (`closed` resets — fix of finding #1 —, `recv` advances by
    `feedSpec`, nothing else touches it), and the builder invariant is kept -/
theorem C09_conn_inv_step (cfg : Cfg) (s : St) (op : Op) (h : Framing.Inv s.pb) :
    (step cfg s op).s.pb = C09.ghostPb s.pb op ∧ Framing.Inv (step cfg s op).s.pb := by
  have key : (step cfg s op).s.pb = C09.ghostPb s.pb op := by
    cases op with
    | send p => show (send _ p).s.pb = _; rw [Fp.send_s]; rfl
    | recv inp parse =>
      rw [(C09_conn_framing cfg s inp parse h).2.2.1]
      show _ = (Framing.feedSpec s.pb inp).1
      cases ho : (Framing.feedSpec s.pb inp).2.1 with
      | none => rfl
      | some o => cases o <;> simp [C09.afterFeed]
    | timer k => show (notifyTimerFired _ k).s.pb = _; rw [Fp.notifyTimerFired_s]; rfl
    | closed => exact PbF.pb_notifyClosed _
    | setInterval d => show (setPingreqSendInterval _ d).s.pb = _; rw [Fp.setPingreqSendInterval_s]; rfl
    | setFlag f b => cases f <;> rfl
    | setRespTimeout ms => rfl
    | acquire => rfl
    | register id => rfl
    | release id => show (releasePacketId _ id).s.pb = _; rw [Fp.releasePacketId_s]; rfl
    | erase id => show (eraseStoredPublish _ id).s.pb = _; rw [Fp.eraseStoredPublish_s]; rfl
    | restoreHandled ids => rfl
    | restorePackets ps => show (restorePackets _ ps).s.pb = _; rw [Fp.restorePackets_s]; rfl
  refine ⟨key, ?_⟩
  rw [key]
  cases op <;> first | exact h | exact Framing.inv_reset | exact (Framing.feedSpec_props s.pb _ h).1

def C09.ghostRun (gpb : Framing.PB) : List Op → Framing.PB
  | [] => gpb
  | op :: ops => C09.ghostRun (C09.ghostPb gpb op) ops

/-- run level: from any state with a sound assembler — in particular a fresh connection object
    (`C09_conn_reachable`) — the model's assembler follows the ghost through every sequence of calls -/
theorem C09_conn_inv_run (cfg : Cfg) (ops : List Op) (s : St) (h : Framing.Inv s.pb) :
    (run cfg s ops).pb = C09.ghostRun s.pb ops ∧ Framing.Inv (run cfg s ops).pb := by
  induction ops generalizing s with
  | nil => exact ⟨rfl, h⟩
  | cons op ops ih =>
    obtain ⟨h1, h2⟩ := C09_conn_inv_step cfg s op h
    have := ih (step cfg s op).s h2
    simp only [run, C09.ghostRun]
    rw [← h1]; exact this

theorem C09_conn_reachable (cfg : Cfg) (ver : Nat) (ops : List Op) :
    (run cfg (St.init cfg ver) ops).pb = C09.ghostRun {} ops ∧
    Framing.Inv (run cfg (St.init cfg ver) ops).pb :=
  C09_conn_inv_run cfg ops (St.init cfg ver) Framing.inv_reset

namespace C09Ex
def cfg : Cfg := { role := .client, pw := 2 }
def pingresp : Pkt := { ver := 4, kind := .pingresp, size := 2 }
def parse : Nat → Nat → List Nat → Except Nat Pkt := fun _ _ _ => .ok pingresp
def s0 : St := { St.init cfg 4 with status := .connected }
/-- a PUBLISH frame split over two buffers with a PINGRESP behind it: the first call consumes
    everything without a result, the second completes the frame and leaves the PINGRESP unread -/
example : Framing.feedSpec s0.pb [0x30, 3, 0] = (⟨.payload, [0x30, 3], 2, 128, [0]⟩, none, []) := by decide
def s1 : St := (step cfg s0 (.recv [0x30, 3, 0] parse)).s
example : Framing.Inv s1.pb ∧ (step cfg s0 (.recv [0x30, 3, 0] parse)).ev = [] := by
  refine ⟨(C09_conn_inv_step cfg s0 _ Framing.inv_reset).2, by decide⟩
example : Framing.feedSpec s1.pb [1, 97, 0xD0, 0] = (Framing.PB.reset, some (.complete 0x30 [0, 1, 97]), [0xD0, 0]) ∧
    (recv { cfg := cfg, s := s1 } [1, 97, 0xD0, 0] parse).2 = [0xD0, 0] := by decide
/-- a fifth length byte: error event after a close request, assembler reset, two bytes left unread -/
example : (step cfg s0 (.recv [0x30, 128, 128, 128, 128, 7, 7] parse)).ev = [.close, .error eMalformed] ∧
    (recv { cfg := cfg, s := s0 } [0x30, 128, 128, 128, 128, 7, 7] parse).2 = [7, 7] ∧
    (step cfg s0 (.recv [0x30, 128, 128, 128, 128, 7, 7] parse)).s.pb = Framing.PB.reset := by decide
/-- `Framing.Inv` is needed: in a (unreachable) payload state that expects 0 bytes the Rust loop
    returns `Incomplete` without consuming anything; the specification consumes the byte -/
def pbBad : Framing.PB := ⟨.payload, [0x30, 0], 0, 128, []⟩
example : ¬ Framing.Inv pbBad ∧ (Framing.feed pbBad [7]).2.1 = none ∧ (Framing.feed pbBad [7]).2.2 = [7] ∧
    (Framing.feedSpec pbBad [7]).2.2 = [] :=
  ⟨fun h => absurd (h rfl) (by decide), by decide⟩
/-- the ghost along a trace: `closed` discards the half-received frame -/
example : C09.ghostRun {} [.recv [0x30, 3, 0] parse, .closed, .recv [0xD0] parse] = ⟨.remLen, [0xD0], 0, 1, []⟩ := by
  decide
end C09Ex

end MqttVerif.Conn
