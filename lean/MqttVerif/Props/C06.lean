import MqttVerif.Conn.Lemmas.StoreLeaves
import MqttVerif.Props.C07
/-!
# C06 — outbound QoS 1/2: stored until acknowledged, retransmitted on session resume

`Leaves` is the complete list of ways an entry leaves the store in one call (clause 2); the other
clauses are single-call facts about the handlers.

"The identifier of a stored entry stays in use" (driver monitor `stored_id_not_held`) is
`C06_stored_id_held_run` / `C06_stored_id_held_step` in `Props/C05.lean`: it lives on C05's
invariant, under the ownership rule `Hd.LegalIds`.  Its one-step formulation `C06_id_held_full`
below is false (`C06_id_held_full_false`): it lacks "the parser returns packets of the
connection's version".
-/
namespace MqttVerif.Conn
open MqttVerif
set_option linter.unusedSimpArgs false

/-! ## (3) an acknowledgement that matches nothing in flight: protocol error, nothing changes -/

theorem dispatch_unmatched (c : C) (t : Nat) (p : Pkt) (ht : t = 4 ∨ t = 5 ∨ t = 7)
    (hn : p.pid.getD 0 ∉ waitSet c.s t) : dispatchRecv c t (.ok p) = vErr c eProtocol := by
  rcases ht with rfl | rfl | rfl <;> simp [waitSet] at hn <;> simp [dispatchRecv, prPuback, prPubrec, prPubcomp, hn]

/-- **C06 (3), v3.1.1**: a received PUBACK / PUBREC / PUBCOMP (parsed successfully) whose
    identifier is not awaited: the events are exactly `[RequestClose, NotifyError(ProtocolError)]`
    and the state is unchanged (apart from the consumed frame buffer): in particular `store`,
    `pid_man` and the five wait sets. -/
theorem C06_unmatched_ack_is_error_noop_v3 {cfg : Cfg} {s : St} {inp : List Nat} {pb' : Framing.PB} {fh : Nat}
    {data : List Nat} (parse : Nat → Nat → List Nat → Except Nat Pkt) {p : Pkt}
    (h : Delivers cfg s inp pb' fh data) (hv : s.ver = 4) (hp : parse 4 fh data = .ok p)
    (ht : fh / 16 = 4 ∨ fh / 16 = 5 ∨ fh / 16 = 7) (hn : p.pid.getD 0 ∉ waitSet s (fh / 16)) :
    (step cfg s (.recv inp parse)).ev = [.close, .error eProtocol] ∧
    (step cfg s (.recv inp parse)).s = { s with pb := pb' } := by
  rw [step_recv_of_delivers h, hv, hp, dispatch_unmatched _ _ _ ht (by simpa [waitSet] using hn)]
  simp [vErr, hv, handleV3Error]

/-- on an established connection the error is answered by a DISCONNECT, if the peer's Maximum Packet Size admits one:
    the timers are cancelled (`m`), the DISCONNECT is requested, the connection closed and the error reported -/
theorem handleV5Error_connected (c : C) (e : Nat) (hs : c.s.status = .connected) :
    ∃ m : C, Appends [.timerCancel] c m ∧ (handleV5Error c e).ev = m.ev ++
      (if sizeOk c (mkV5Disconnect (errToDisconnectRc e)) then [.send (mkV5Disconnect (errToDisconnectRc e)) none]
        else []) ++ [.close, .error e] := by
  refine ⟨_, Fp.cancelTimers_ev { c with s := { c.s with status := .disconnected } }, ?_⟩
  unfold handleV5Error v5DisconnectOrClose psV5Disconnect
  cases hz : sizeOk c (mkV5Disconnect (errToDisconnectRc e)) with
  | false =>
    rw [if_pos ⟨hs, rfl⟩, if_neg Bool.false_ne_true, List.append_nil]
    exact List.append_assoc ..
  | true =>
    rw [if_neg (fun h => Bool.noConfusion h.2), if_neg (fun h => Bool.noConfusion h), if_neg (not_not_intro hs),
      if_pos rfl]
    exact List.append_assoc ..

theorem handleV5Error_not_connected (c : C) (e : Nat) (hs : c.s.status ≠ .connected) :
    (handleV5Error c e).ev = c.ev ++
      [.error (if sizeOk c (mkV5Disconnect (errToDisconnectRc e)) then eNotAllowed else eTooLarge), .error e] := by
  unfold handleV5Error v5DisconnectOrClose psV5Disconnect
  cases hz : sizeOk c (mkV5Disconnect (errToDisconnectRc e)) with
  | false =>
    rw [if_neg (fun h => hs h.1), if_pos (show (!false) = true from rfl), if_neg Bool.false_ne_true]
    exact List.append_assoc ..
  | true =>
    rw [if_neg (fun h => hs h.1), if_neg (fun h => Bool.noConfusion h), if_pos hs, if_pos rfl]
    exact List.append_assoc ..

/-- **C06 (3), v5.0**: the unmatched acknowledgement leaves `store`, `pid_man` and the five wait
    sets unchanged; the last event is `NotifyError(ProtocolError)`.
    While connected: DISCONNECT(0x82) is requested (if the peer's Maximum Packet Size admits its 3
    bytes), `RequestClose` is among the events, and the only error event is the ProtocolError.
    While not connected: no send, no close; the events are
    `[NotifyError(NotAllowed | PacketTooLarge), NotifyError(ProtocolError)]` (the inner attempt to
    send DISCONNECT is itself reported). -/
theorem C06_unmatched_ack_is_error_noop_v5 {cfg : Cfg} {s : St} {inp : List Nat} {pb' : Framing.PB} {fh : Nat}
    {data : List Nat} (parse : Nat → Nat → List Nat → Except Nat Pkt) {p : Pkt}
    (h : Delivers cfg s inp pb' fh data) (hv : s.ver = 5) (hp : parse 5 fh data = .ok p)
    (ht : fh / 16 = 4 ∨ fh / 16 = 5 ∨ fh / 16 = 7) (hn : p.pid.getD 0 ∉ waitSet s (fh / 16)) :
    let c' := step cfg s (.recv inp parse)
    (c'.s.store = s.store ∧ c'.s.pidMan = s.pidMan ∧ c'.s.puback = s.puback ∧ c'.s.pubrec = s.pubrec ∧
      c'.s.pubcomp = s.pubcomp ∧ c'.s.suback = s.suback ∧ c'.s.unsuback = s.unsuback) ∧
    c'.ev.getLast? = some (.error eProtocol) ∧
    (s.status = .connected →
      errs c'.ev = [eProtocol] ∧ Ev.close ∈ c'.ev ∧
      sends c'.ev = if 3 ≤ s.mpsSend then [mkV5Disconnect 0x82] else []) ∧
    (s.status ≠ .connected →
      c'.ev = [.error (if 3 ≤ s.mpsSend then eNotAllowed else eTooLarge), .error eProtocol]) := by
  intro c'
  have e : c' = handleV5Error { cfg := cfg, s := { s with pb := pb' } } eProtocol := by
    show step cfg s (.recv inp parse) = _
    rw [step_recv_of_delivers h, hv, hp, dispatch_unmatched _ _ _ ht (by simpa [waitSet] using hn)]
    simp [vErr, hv]
  have hrc : errToDisconnectRc eProtocol = 0x82 := by decide
  have hsz : sizeOk { cfg := cfg, s := { s with pb := pb' } } (mkV5Disconnect 0x82) = decide (3 ≤ s.mpsSend) := by
    simp only [sizeOk, Pkt.sz, mkV5Disconnect]
    by_cases h3 : 3 ≤ s.mpsSend <;> simp [h3] <;> omega
  refine ⟨by rw [e, Fp.handleV5Error_s]; exact ⟨rfl, rfl, rfl, rfl, rfl, rfl, rfl⟩, ?_, ?_, ?_⟩
  · rw [e]
    exact List.getLast?_concat
  · intro hs
    obtain ⟨m, ha, hm⟩ := handleV5Error_connected { cfg := cfg, s := { s with pb := pb' } } eProtocol hs
    have he : errs m.ev = [] := ha.errs_eq (by decide)
    have hsd : sends m.ev = [] := ha.sends_eq (by decide)
    rw [e, hm, hrc, hsz]
    refine ⟨?_, List.mem_append_right _ (.head _), ?_⟩
    · rw [errs_append, errs_append, he]
      by_cases h3 : 3 ≤ s.mpsSend <;> simp [h3]
    · rw [sends_append, sends_append, hsd]
      by_cases h3 : 3 ≤ s.mpsSend <;> simp [h3]
  · intro hs
    rw [e, handleV5Error_not_connected _ _ hs, hrc, hsz]; simp

/-! ## (1) an accepted QoS 1/2 PUBLISH is sent or stored -/

theorem errs_eq_nil_of_no_error {ev : List Ev} (h : ∀ e, Ev.error e ∉ ev) : errs ev = [] := by
  apply List.eq_nil_iff_forall_not_mem.2
  intro x hx
  exact h x (mem_errs.1 hx)

/-- **C06 (1)**: a QoS 1/2 PUBLISH that `send` accepts without a `NotifyError` is requested for
    sending in this call (same identifier, a PUBLISH — possibly with its topic replaced by an
    alias) or an entry with its identifier is in the store afterwards: never silently dropped.
    Every configuration, state, both versions (any `p.ver`). -/
theorem C06_accepted_publish_not_dropped (cfg : Cfg) (s : St) (p : Pkt) (id : Nat)
    (hk : p.kind = .publish) (hq : p.qos = 1 ∨ p.qos = 2) (hid : p.pid = some id)
    (hne : ∀ e, Ev.error e ∉ (step cfg s (.send p)).ev) :
    (∃ q r, Ev.send q r ∈ (step cfg s (.send p)).ev ∧ q.pid = some id ∧ q.kind = .publish) ∨
    (∃ q, (id, q) ∈ (step cfg s (.send p)).s.store) := by
  cases send_publish_sent ⟨cfg, s, []⟩ p hk with
  | refused he => exact absurd (errs_eq_nil_of_no_error hne) he
  | accepted _ _ h =>
    refine (h id (by omega) hid).imp (fun ⟨q, hm, hp, hkq⟩ => ?_) fun h => h
    obtain ⟨r, hr⟩ := mem_sends.1 hm
    exact ⟨q, r, hr, hp, hkq.trans hk⟩


/-! ## (2) stored until acknowledged: every way an entry leaves the store in one call -/

def Resumes (cfg : Cfg) (s : St) (op : Op) : Prop :=
  (∃ p, op = .send p ∧ p.kind = .connack ∧ p.rc = some 0 ∧ p.sp = true ∧ p ∈ sends (step cfg s op).ev) ∨
  (∃ p, recvs (step cfg s op).ev = [p] ∧ p.kind = .connack ∧ p.rc = some 0 ∧ p.sp = true)

inductive Leaves (cfg : Cfg) (s : St) (op : Op) (id : Nat) (q : Pkt) : Prop
  /-- (i) the matching acknowledgement was received: a PUBACK / PUBREC / PUBCOMP with that
      identifier, awaited (in the corresponding wait set), and the store's entry for the
      identifier has that response kind AND that protocol version -/
  | acked (p q0 : Pkt) : recvs (step cfg s op).ev = [p] →
      (p.kind = .puback ∨ p.kind = .pubrec ∨ p.kind = .pubcomp) → p.pid.getD 0 = id →
      id ∈ waitSet s p.kind.nibble → lookup id s.store = some q0 → respOf q0 = p.kind → q0.ver = p.ver →
      Leaves cfg s op id q
  /-- (ii) `erase_stored_publish(id)`, the entry for `id` being a PUBLISH -/
  | erased (q0 : Pkt) : op = .erase id → lookup id s.store = some q0 → q0.kind = .publish → Leaves cfg s op id q
  /-- (iii) dropped as oversize when the store is resent on resume -/
  | oversizeOnResume : Resumes cfg s op → q.sz cfg.pw > (step cfg s op).s.mpsSend → Leaves cfg s op id q
  /-- (iv) new session: CONNECT(clean) / CONNACK(no session) received … -/
  | newSessionRecv (p : Pkt) : recvs (step cfg s op).ev = [p] → NewSessionPkt p →
      (step cfg s op).s.store = [] → Leaves cfg s op id q
  /-- … or CONNECT(clean) sent -/
  | connectCleanSent (p : Pkt) : op = .send p → p.kind = .connect → p.clean = true →
      (step cfg s op).s.store = [] → Leaves cfg s op id q
  /-- … or new session started by the CONNACK we sent (fix 10ee029): CONNACK(success) with
      session present = false accepted for sending -/
  | connackNoSessionSent (p : Pkt) : op = .send p → p.kind = .connack → p.rc = some 0 → p.sp = false →
      (step cfg s op).s.store = [] → Leaves cfg s op id q
  /-- (iv) non-persistent close -/
  | closedNonPersistent : op = .closed → s.needStore = false → (step cfg s op).s.store = [] → Leaves cfg s op id q
  /-- (v) the refusal cleanup of a v5.0 PUBLISH with this identifier (an error event is pushed) -/
  | refused (p : Pkt) : op = .send p → p.kind = .publish → p.ver ≠ 4 → p.pid = some id →
      (∃ e, Ev.error e ∈ (step cfg s op).ev) → Leaves cfg s op id q

/-- **C06 (2)**: an entry leaves the store only by (i)–(v), the constructors of `Leaves` (for a
    `recv`: with a parser satisfying `ParseOk`). -/
theorem C06_stored_until_acked (cfg : Cfg) (s : St) (op : Op) (hwf : OpWf op) (id : Nat) (q : Pkt)
    (h1 : (id, q) ∈ s.store) (h2 : (id, q) ∉ (step cfg s op).s.store) : Leaves cfg s op id q := by
  -- an entry that does not fit is one that `fits` drops
  have oversize : ∀ {st : List (Nat × Pkt)} {mps : Nat}, (id, q) ∉ st → st = fits cfg.pw mps s.store →
      q.sz cfg.pw > mps := fun h e =>
    Nat.lt_of_not_le fun hle => h (e ▸ mem_fits.2 ⟨h1, hle⟩)
  by_cases hsend : ∃ p, op = .send p
  · obtain ⟨p, rfl⟩ := hsend
    rcases send_leaves { cfg := cfg, s := s } p h1 h2 with
      ⟨a, b, d⟩ | ⟨a, b, hsp, d, e⟩ | ⟨a, b, d, e⟩ | ⟨a, b, hsp, d⟩
    · exact .connectCleanSent p rfl a b d
    · exact .oversizeOnResume (.inl ⟨p, rfl, a, b, hsp, d⟩) (oversize h2 e)
    · refine .refused p rfl a b e ?_
      cases hl : errs (step cfg s (.send p)).ev with
      | nil => exact absurd hl d
      | cons x t => exact ⟨x, mem_errs.1 (by rw [hl]; exact List.mem_cons_self)⟩
    · exact .connackNoSessionSent p rfl a b hsp d
  by_cases hrecv : ∃ inp parse, op = .recv inp parse
  · obtain ⟨inp, parse, rfl⟩ := hrecv
    obtain ⟨v, fh, d, p, hx, hrecv, hcase⟩ :=
      recv_leaves { cfg := cfg, s := s } inp parse (fun v fh d p h => (hwf v fh d p h).2) h1 h2
    have hk : p.kind.nibble = fh / 16 := (hwf v fh d p hx).1
    rcases hcase with ⟨k, hkn, hk3, hw, hne⟩ | ⟨ht, hr, hsp, hst⟩ | ⟨hn, hst⟩
    · obtain rfl : p.kind = k := Kind.nibble_inj (hk.trans hkn)
      obtain ⟨e1, q0, e2, e3, e4⟩ := storeErase_removed h1 hne
      obtain rfl : id = p.pid.getD 0 := e1
      refine .acked p q0 hrecv hk3 rfl ?_ e2 e3 e4
      rcases hk3 with h | h | h <;> rw [h] at hw ⊢ <;> exact hw
    · exact .oversizeOnResume (.inr ⟨p, hrecv, (kind_of_nib hk).2.2.2 ht, hr, hsp⟩) (oversize h2 hst)
    · exact .newSessionRecv p hrecv (hn.kind hk) hst
  obtain ⟨l, ho, hr⟩ := Fp.step_ids cfg s op
  have hst : (step cfg s op).s.store = _ := congrArg Ids.store hr.ids
  rcases ho.leaves (fun p h => hsend ⟨p, h⟩) (fun i r h => hrecv ⟨i, r, h⟩) h1 (hst ▸ h2) with
    ⟨e, hn, hs⟩ | ⟨q0, e, hl, hk⟩
  · exact .closedNonPersistent e hn (hst.trans hs)
  · exact .erased q0 e hl hk


/-- The one-step formulation of "while an entry stays stored its identifier stays in use", under
    the ownership hypothesis (the identifier is awaited only in the
    wait set matching the entry, the entry has the connection's version, and the application
    neither releases the identifier nor reuses it for another PUBLISH / SUBSCRIBE / UNSUBSCRIBE).
    It is **false** as stated (`C06_id_held_full_false`): `OpWf` lets the parser answer with a packet
    of another protocol version, whose PUBACK releases the identifier without erasing the stored
    packet (`Store::erase` compares versions).  The correct statement — parser results of the
    connection's version (`ParserOk`), ownership rule `Hd.LegalIds` — is `C06_stored_id_held_step` /
    `C06_stored_id_held_run` in `Props/C05.lean`. -/
def C06_id_held_full : Prop :=
  ∀ (cfg : Cfg) (s : St) (op : Op) (id : Nat) (q : Pkt), OpWf op →
    (id, q) ∈ s.store → (id, q) ∈ (step cfg s op).s.store → isUsed s id = true →
    id ∉ s.suback → id ∉ s.unsuback → q.ver = s.ver →
    (∀ t, id ∈ waitSet s t → respOf q = ackKind t ∧ (t = 4 ∨ t = 5 ∨ t = 7)) →
    op ≠ .release id → (∀ p, op = .send p → p.pid.getD 0 ≠ id) →
    isUsed (step cfg s op).s id = true

/-! ## (5) no session: the store is emptied and its identifiers are freed -/

def Cleared (s : St) : Prop :=
  s.store = [] ∧ s.puback = [] ∧ s.pubrec = [] ∧ s.pubcomp = [] ∧ ∀ id, isUsed s id = false

theorem Cleared.clear (c : C) : Cleared (clearStoreRelated c).s :=
  ⟨rfl, rfl, rfl, rfl, fun _ => Alloc.clear_isUsed _ _⟩

/-- after the session is cleared, steps that leave the store, the QoS 1/2 wait sets and the allocator alone -/
theorem cleared_after {T : List EvTag} {w : St → St → St} {c1 m : C} (h : Fp.Footprint T w (clearStoreRelated c1) m)
    (hw : ∀ a x, (w a x).store = a.store ∧ (w a x).puback = a.puback ∧ (w a x).pubrec = a.pubrec ∧
      (w a x).pubcomp = a.pubcomp ∧ (w a x).pidMan = a.pidMan := by exact fun _ _ => ⟨rfl, rfl, rfl, rfl, rfl⟩) :
    Cleared m.s := by
  obtain ⟨h1, h2, h3, h4, h5⟩ := hw (clearStoreRelated c1).s m.s
  rw [← h.s] at h1 h2 h3 h4 h5
  exact ⟨h1, h2, h3, h4, fun id => by unfold isUsed; rw [h5]; exact Alloc.clear_isUsed _ _⟩

theorem connackIn_accepted {c busy : C} {bad : Nat → C} {props : Pkt → C → C} {p : Pkt} (hst : c.s.status ≠ .connected)
    (hrc : p.rc = some 0) :
    Fp.connackIn c (.ok p) busy bad props =
      (if p.sp then resendStored (props p { c with s := { c.s with status := .connected } })
        else clearStoreRelated (props p { c with s := { c.s with status := .connected } })).push (.recv p) := by
  unfold Fp.connackIn
  rw [if_neg hst]
  dsimp only
  rw [if_pos hrc]

/-- **C06 (5)**, client: CONNACK(Accepted / Success) received with session present = false while
    not connected: the store and the PUBACK / PUBREC / PUBCOMP wait sets are emptied and every
    packet identifier is freed (`Cleared`). -/
theorem C06_no_session_clears_connack {cfg : Cfg} {s : St} {inp : List Nat} {pb' : Framing.PB} {fh : Nat}
    {data : List Nat} (parse : Nat → Nat → List Nat → Except Nat Pkt) {p : Pkt}
    (h : Delivers cfg s inp pb' fh data) (ht : fh / 16 = 2) (hv : s.ver = 4 ∨ s.ver = 5)
    (hp : parse s.ver fh data = .ok p) (hrc : p.rc = some 0) (hsp : p.sp = false) (hst : s.status ≠ .connected) :
    Cleared (step cfg s (.recv inp parse)).s := by
  have hsp' : ¬p.sp = true := by rw [hsp]; exact Bool.false_ne_true
  rw [step_recv_of_delivers h, ht, hp]
  rcases hv with hv | hv
  · rw [show dispatchRecv { cfg := cfg, s := { s with pb := pb' } } 2 (.ok p) = prV3Connack _ (.ok p) from if_pos hv,
      Fp.prV3Connack_eq, connackIn_accepted hst hrc, if_neg hsp']
    exact Cleared.clear _
  · rw [show dispatchRecv { cfg := cfg, s := { s with pb := pb' } } 2 (.ok p) = prV5Connack _ (.ok p) from
      if_neg (by rw [hv]; decide), Fp.prV5Connack_eq, connackIn_accepted hst hrc, if_neg hsp']
    exact Cleared.clear _

/-- **C06 (5)**: CONNECT with clean start / clean session accepted for sending (not a server,
    disconnected, the packet fits): `Cleared` as well. -/
theorem C06_no_session_clears_connect (cfg : Cfg) (s : St) (p : Pkt)
    (hk : p.kind = .connect) (hv : p.ver = s.ver) (hrole : cfg.role ≠ .server) (hc : p.clean = true)
    (hst : s.status = .disconnected) (hsz : p.ver = 4 ∨ p.sz cfg.pw ≤ s.mpsSend) :
    Cleared (step cfg s (.send p)).s := by
  rw [step_send_connect hk hv hrole]
  by_cases h4 : p.ver = 4
  · rw [if_pos h4]
    unfold psV3Connect
    rw [if_neg (not_not_intro hst)]
    dsimp only
    rw [if_pos hc]
    exact cleared_after (T := [.send, .timerReset]) (w := fun a x => { a with tas := x.tas, sendSet := x.sendSet })
      (.step (.send (.of_s rfl) (by decide) p none) (Fp.sendPostProcess_fp _))
  · have hs : sizeOk { cfg := cfg, s := s } p = true := sizeOk_of_le (hsz.resolve_left h4)
    rw [if_neg h4]
    unfold psV5Connect
    rw [if_neg (by rw [hs]; decide), if_neg (not_not_intro hst)]
    dsimp only
    rw [if_pos hc]
    exact cleared_after (T := [.send, .timerReset])
      (w := fun a x => { a with
        tar := x.tar, recvMax := x.recvMax, mpsRecv := x.mpsRecv, needStore := x.needStore, sendSet := x.sendSet })
      (.step (.send (Fp.propsFold_connectSendProp_fp _ p.props).widen (by decide) p none) (Fp.sendPostProcess_fp _))

/-! ## (4) resume: the stored packets are resent, in store order, right after the CONNACK -/

/-- the context `send_stored` runs in when a CONNACK(success, session present) is received: `s`
    with status `connected` (v3.1.1), resp. that with the CONNACK's properties applied (v5.0) -/
def resumeCtx (cfg : Cfg) (s : St) (pb' : Framing.PB) (p : Pkt) : C :=
  if s.ver = 4 then { cfg := cfg, s := { ({ s with pb := pb' } : St) with status := .connected } }
  else propsFold connackRecvProp
    { cfg := cfg, s := { ({ s with pb := pb' } : St) with status := .connected } } p.props

theorem step_recv_resume {cfg : Cfg} {s : St} {inp : List Nat} {pb' : Framing.PB} {fh : Nat}
    {data : List Nat} (parse : Nat → Nat → List Nat → Except Nat Pkt) {p : Pkt}
    (h : Delivers cfg s inp pb' fh data) (ht : fh / 16 = 2) (hv : s.ver = 4 ∨ s.ver = 5)
    (hp : parse s.ver fh data = .ok p) (hrc : p.rc = some 0) (hsp : p.sp = true) (hst : s.status ≠ .connected) :
    step cfg s (.recv inp parse) = (resendStored (resumeCtx cfg s pb' p)).push (.recv p) := by
  rw [step_recv_of_delivers h, ht, hp]
  unfold resumeCtx
  rcases hv with hv | hv
  · rw [show dispatchRecv { cfg := cfg, s := { s with pb := pb' } } 2 (.ok p) = prV3Connack _ (.ok p) from if_pos hv,
      if_pos hv]
    rw [Fp.prV3Connack_eq, connackIn_accepted hst hrc, if_pos hsp]
  · have h4 : ¬s.ver = 4 := by rw [hv]; decide
    rw [show dispatchRecv { cfg := cfg, s := { s with pb := pb' } } 2 (.ok p) = prV5Connack _ (.ok p) from if_neg h4,
      if_neg h4]
    rw [Fp.prV5Connack_eq, connackIn_accepted hst hrc, if_pos hsp]

/-- **C06 (4)**, client v3.1.1: CONNACK(Accepted, session present) received while not connected:
    the `RequestSendPacket` events of the call are exactly the stored packets that fit the peer's
    Maximum Packet Size, in store order (the stored copies themselves: same identifiers), and
    exactly those stay stored. -/
theorem C06_resume_resends_client_v3 {cfg : Cfg} {s : St} {inp : List Nat} {pb' : Framing.PB} {fh : Nat}
    {data : List Nat} (parse : Nat → Nat → List Nat → Except Nat Pkt) {p : Pkt}
    (h : Delivers cfg s inp pb' fh data) (ht : fh / 16 = 2) (hv : s.ver = 4)
    (hp : parse 4 fh data = .ok p) (hrc : p.rc = some 0) (hsp : p.sp = true) (hst : s.status ≠ .connected) :
    sends (step cfg s (.recv inp parse)).ev = (fits cfg.pw s.mpsSend s.store).map (·.2) ∧
    (step cfg s (.recv inp parse)).s.store = fits cfg.pw s.mpsSend s.store := by
  rw [step_recv_resume parse h ht (.inl hv) (by rw [hv]; exact hp) hrc hsp hst, push_ev, sends_append, push_s,
    resendStored_sends, resendStored_store, sendStored_sends, sendStored_store, resumeCtx, if_pos hv]
  exact ⟨List.append_nil _, rfl⟩

/-- **C06 (4)**, client v5.0 (CONNACK without Session Expiry Interval 0): as above, the limit being
    the Maximum Packet Size in force after the CONNACK's properties were applied. -/
theorem C06_resume_resends_client_v5 {cfg : Cfg} {s : St} {inp : List Nat} {pb' : Framing.PB} {fh : Nat}
    {data : List Nat} (parse : Nat → Nat → List Nat → Except Nat Pkt) {p : Pkt}
    (h : Delivers cfg s inp pb' fh data) (ht : fh / 16 = 2) (hv : s.ver = 5)
    (hp : parse 5 fh data = .ok p) (hrc : p.rc = some 0) (hsp : p.sp = true) (hst : s.status ≠ .connected)
    (hsei : (pSEI, 0) ∉ p.props) :
    sends (step cfg s (.recv inp parse)).ev =
      (fits cfg.pw (step cfg s (.recv inp parse)).s.mpsSend s.store).map (·.2) ∧
    (step cfg s (.recv inp parse)).s.store = fits cfg.pw (step cfg s (.recv inp parse)).s.mpsSend s.store := by
  -- without a Session Expiry Interval of 0 the properties leave the store alone
  obtain ⟨cleared, hc, h1⟩ := Fp.propsFold_connackRecvProp_ids
    { cfg := cfg, s := { ({ s with pb := pb' } : St) with status := .connected } } p.props
  have hf := Fp.propsFold_connackRecvProp_fp
    { cfg := cfg, s := { ({ s with pb := pb' } : St) with status := .connected } } p.props
  cases cleared with
  | true =>
    obtain ⟨y, hy, hy1, hy2⟩ := hc.1 rfl
    exact absurd (by rw [← hy1, ← hy2]; exact hy) hsei
  | false =>
    rw [step_recv_resume parse h ht (.inr hv) (by rw [hv]; exact hp) hrc hsp hst, push_ev, sends_append, push_s,
      resendStored_sends, resendStored_store, resendStored_mpsSend, sendStored_sends, sendStored_store, resumeCtx,
      if_neg (by rw [hv]; decide), hf.cfg, hf.ev.sends_eq (by decide),
      show (propsFold connackRecvProp _ p.props).s.store = s.store from congrArg Ids.store h1.ids]
    exact ⟨List.append_nil _, rfl⟩

/-- **C06 (4)**, client, the whole event list of the resuming call (fix 999e935): the events up to
    and including those of `send_stored` (the stored packets that fit, in store order, as
    `RequestSendPacket`; a `NotifyPacketIdReleased` for each dropped oversize entry), then **at
    most one** `RequestTimerReset(PingreqSend)` — the re-arm of the keep-alive timer after the
    retransmission — then the delivery of the CONNACK.  The packets sent and their order are
    `C06_resume_resends_client_v3` / `_client_v5`. -/
theorem C06_resume_events_client {cfg : Cfg} {s : St} {inp : List Nat} {pb' : Framing.PB} {fh : Nat}
    {data : List Nat} (parse : Nat → Nat → List Nat → Except Nat Pkt) {p : Pkt}
    (h : Delivers cfg s inp pb' fh data) (ht : fh / 16 = 2) (hv : s.ver = 4 ∨ s.ver = 5)
    (hp : parse s.ver fh data = .ok p) (hrc : p.rc = some 0) (hsp : p.sp = true) (hst : s.status ≠ .connected) :
    ∃ t, (t = [] ∨ ∃ ms, t = [Ev.timerReset .pingreqSend ms]) ∧
      (step cfg s (.recv inp parse)).ev = (sendStored (resumeCtx cfg s pb' p)).ev ++ t ++ [.recv p] := by
  rw [step_recv_resume parse h ht hv hp hrc hsp hst, push_ev]
  rcases resendStored_ev_cases (resumeCtx cfg s pb' p) with e | ⟨ms, e⟩
  · exact ⟨[], .inl rfl, by rw [e, List.append_nil]⟩
  · exact ⟨_, .inr ⟨ms, rfl⟩, by rw [e]⟩

theorem connackTail_resume (c : C) (p : Pkt) (hrc : p.rc = some 0) (hsp : p.sp = true) :
    sends (Fp.connackTail c p).ev = sends c.ev ++ (fits c.cfg.pw c.s.mpsSend c.s.store).map (·.2) ∧
      (Fp.connackTail c p).s.store = fits c.cfg.pw c.s.mpsSend c.s.store := by
  unfold Fp.connackTail
  rw [if_neg (not_not_intro hrc), if_pos hsp, (Fp.sendPostProcess_ev _).sends_eq (by decide), Fp.sendPostProcess_s,
    sendStored_sends]
  exact ⟨rfl, sendStored_store _⟩

theorem connackTail_fresh (c : C) (p : Pkt) (hrc : p.rc = some 0) (hsp : p.sp = false) :
    sends (Fp.connackTail c p).ev = sends c.ev ∧ Cleared (Fp.connackTail c p).s := by
  unfold Fp.connackTail
  rw [if_neg (not_not_intro hrc), if_neg (by rw [hsp]; exact Bool.false_ne_true)]
  exact ⟨(Fp.sendPostProcess_ev _).sends_eq (by decide), cleared_after (Fp.sendPostProcess_fp _)⟩

theorem step_send_connack_ok {cfg : Cfg} {s : St} {p : Pkt} (hk : p.kind = .connack) (hv : p.ver = s.ver)
    (hrole : cfg.role ≠ .client) (hrc : p.rc = some 0) (hst : s.status = .connecting)
    (hsz : p.ver = 4 ∨ p.sz cfg.pw ≤ s.mpsSend) :
    ∃ m : C, m.cfg = cfg ∧ sends m.ev = [] ∧ m.s.store = s.store ∧ m.s.mpsSend = s.mpsSend ∧
      step cfg s (.send p) = Fp.connackTail (m.push (.send p none)) p := by
  rw [step_send_connack hk hv hrole]
  by_cases h4 : p.ver = 4
  · rw [if_pos h4, Fp.psV3Connack_eq, if_neg (not_not_intro hst)]
    exact ⟨_, rfl, rfl, rfl, rfl, rfl⟩
  · have hs : sizeOk { cfg := cfg, s := s } p = true := sizeOk_of_le (hsz.resolve_left h4)
    have hf := Fp.propsFold_connackSendProp_fp { cfg := cfg, s := s } p.props
    rw [if_neg h4, Fp.psV5Connack_eq, if_neg (by rw [hs]; decide), if_neg (not_not_intro hst), if_pos hrc]
    exact ⟨_, hf.cfg, hf.ev.sends_eq (by decide), by rw [hf.s], by rw [hf.s], rfl⟩

/-- **C06 (4)**, server: a successful CONNACK with session present accepted for sending: the
    `RequestSendPacket` events are the CONNACK itself followed by the stored packets that fit, in
    store order — nothing else before them.  (With session_present = false the CONNACK starts a
    new session instead — fix 10ee029, see C10 and `C06_new_session_server` below.) -/
theorem C06_resume_resends_server (cfg : Cfg) (s : St) (p : Pkt)
    (hk : p.kind = .connack) (hv : p.ver = s.ver) (hrole : cfg.role ≠ .client) (hrc : p.rc = some 0)
    (hsp : p.sp = true)
    (hst : s.status = .connecting) (hsz : p.ver = 4 ∨ p.sz cfg.pw ≤ s.mpsSend) :
    sends (step cfg s (.send p)).ev = p :: (fits cfg.pw s.mpsSend s.store).map (·.2) ∧
    (step cfg s (.send p)).s.store = fits cfg.pw s.mpsSend s.store := by
  obtain ⟨m, h1, h2, h3, h4, e⟩ := step_send_connack_ok hk hv hrole hrc hst hsz
  rw [e, (connackTail_resume _ p hrc hsp).1, (connackTail_resume _ p hrc hsp).2, push_ev, sends_append, h2, push_cfg,
    push_s, h1, h3, h4]
  exact ⟨rfl, rfl⟩

/-- **C06 (5)**, server: a successful CONNACK with session present = false accepted for sending
    starts a new session (fix 10ee029): the only `RequestSendPacket` event is the CONNACK itself —
    no stored packet is requested for sending — and the store is emptied, the wait sets are
    emptied and every packet identifier is freed. -/
theorem C06_new_session_server (cfg : Cfg) (s : St) (p : Pkt)
    (hk : p.kind = .connack) (hv : p.ver = s.ver) (hrole : cfg.role ≠ .client) (hrc : p.rc = some 0)
    (hsp : p.sp = false)
    (hst : s.status = .connecting) (hsz : p.ver = 4 ∨ p.sz cfg.pw ≤ s.mpsSend) :
    sends (step cfg s (.send p)).ev = [p] ∧ Cleared (step cfg s (.send p)).s := by
  obtain ⟨m, -, h2, -, -, e⟩ := step_send_connack_ok hk hv hrole hrc hst hsz
  rw [e, (connackTail_fresh _ p hrc hsp).1, push_ev, sends_append, h2]
  exact ⟨rfl, (connackTail_fresh _ p hrc hsp).2⟩

/-- the invariant behind (4): every stored v5.0 PUBLISH has DUP set, a non-empty topic and no
    Topic Alias, given that `restorePackets` is fed such packets.  Stated, not proved: it needs
    the alias-table invariant "registered topics are non-empty".  What is proved is
    `C06_stored_publish_regulated_partial`: the store copy `psV5Publish` creates (`storeAdd` of
    the packet with DUP set, no Topic Alias, and the topic taken from the packet or — for an
    alias-only packet — from the alias table) enters the store with exactly those fields. -/
def C06_stored_publish_regulated_full : Prop :=
  ∀ cfg ver ops, (∀ op ∈ ops, OpWf op ∧ ∀ ps, op = .restorePackets ps →
      ∀ q ∈ ps, q.kind = .publish → q.ver = 5 → q.dup = true ∧ q.topic ≠ [] ∧ q.alias = none) →
    ∀ e ∈ (run cfg (St.init cfg ver) ops).store, e.2.kind = .publish → e.2.ver = 5 →
      e.2.dup = true ∧ e.2.topic ≠ [] ∧ e.2.alias = none

theorem C06_stored_publish_regulated_partial (c : C) (id : Nat) (p : Pkt) (site : String) (topic : List Nat)
    (e : Nat × Pkt) (h : e ∈ (storeAdd c id { p with topic := topic, alias := none, dup := true } site).s.store) :
    e ∈ c.s.store ∨ (e.2.dup = true ∧ e.2.alias = none ∧ e.2.topic = topic ∧ e.1 = id) := by
  rcases storeAdd_store c id { p with topic := topic, alias := none, dup := true } site with h' | h' <;>
    rw [h'] at h
  · exact .inl h
  · simp at h
    rcases h with h | rfl
    · exact .inl h
    · exact .inr ⟨rfl, rfl, rfl, rfl⟩

/-! ## witnesses, checked by `decide` -/
namespace C06Ex

def pidUsed1 (pw : Nat) : Alloc.A := (Alloc.useValue (Alloc.new 1 (256 ^ pw - 1) (256 ^ pw - 1)) 1).2
def pub4 : Pkt := { ver := 4, kind := .publish, qos := 1, pid := some 1, dup := true, topic := [97], size := 7 }

def cfgS : Cfg := ⟨.server, 2⟩
def cfgC : Cfg := ⟨.client, 2⟩
def sSrv : St :=
  { St.init cfgS 4 with status := .connecting, needStore := true, store := [(1, pub4)], puback := [1], pidMan := pidUsed1 2 }
def connackNoSession : Pkt := { ver := 4, kind := .connack, rc := some 0, sp := false, size := 4 }
/-- (a) fix 10ee029: a server that sends CONNACK(Accepted, session_present = false) does not
    resend the store — only the CONNACK is requested for sending and the store is emptied
    (`psV3Connack` honours `p.sp`) -/
theorem finding20_server_connack_sp_false_starts_new_session :
    (step cfgS sSrv (.send connackNoSession)).ev = [.send connackNoSession none] ∧
    (step cfgS sSrv (.send connackNoSession)).s.store = [] := by decide
/-- … while with session_present = true it resends the store and keeps it -/
def connackSession : Pkt := { ver := 4, kind := .connack, rc := some 0, sp := true, size := 4 }
theorem server_connack_sp_true_resends :
    (step cfgS sSrv (.send connackSession)).ev = [.send connackSession none, .send pub4 none] ∧
    (step cfgS sSrv (.send connackSession)).s.store = [(1, pub4)] := by decide

/-- (b) a v5.0 PUBREC with the *success* reason code 0x10 (No matching subscribers) is treated as
    a failure (`success := rc = none ∨ rc = some 0`): the exchange is abandoned — identifier
    released, no PUBREL even with automatic responses — although MQTT 5 §3.5.2.1 counts every
    code < 0x80 as success. -/
def sCli : St :=
  { St.init cfgC 5 with status := .connected, autoPub := true, pubrec := [1], pidMan := pidUsed1 2 }
def pubrec0x10 : Pkt := { ver := 5, kind := .pubrec, pid := some 1, rc := some 0x10, size := 5 }
def parseRec : Nat → Nat → List Nat → Except Nat Pkt := fun _ _ _ => .ok pubrec0x10
theorem pubrec_0x10_releases_id :
    (step cfgC sCli (.recv [0x50, 3, 0, 1, 0x10] parseRec)).ev = [.released 1, .recv pubrec0x10] ∧
    isUsed (step cfgC sCli (.recv [0x50, 3, 0, 1, 0x10] parseRec)).s 1 = false := by decide

/-! ### non-vacuity of the theorems' hypotheses -/
def parseAck : Nat → Nat → List Nat → Except Nat Pkt := fun v fh _ =>
  if fh / 16 = 4 then .ok { ver := v, kind := .puback, pid := some 1, size := 4 }
  else if fh / 16 = 2 then .ok { ver := v, kind := .connack, rc := some 0, sp := true, size := 4 }
  else .error eMalformed
theorem parseAck_ok : ParseOk parseAck := by
  intro v fh d p h
  simp only [parseAck] at h
  split at h
  · rename_i h4; cases h; simp [Kind.nibble, h4]
  · split at h
    · rename_i h2; cases h; simp [Kind.nibble, h2]
    · cases h
def sC4 (st : Status) (wait : List Nat) : St :=
  { St.init cfgC 4 with status := st, needStore := true, store := [(1, pub4)], puback := wait, pidMan := pidUsed1 2 }
theorem deliversAck (st : Status) (w : List Nat) : Delivers cfgC (sC4 st w) [0x40, 2, 0, 1] {} 0x40 [0, 1] :=
  ⟨⟨[], rfl⟩, by show totalSize 2 ≤ noLimit; decide, rfl, by show (4 : Nat) ≠ 0; decide⟩
theorem deliversConnack (w : List Nat) : Delivers cfgC (sC4 .connecting w) [0x20, 2, 1, 0] {} 0x20 [1, 0] :=
  ⟨⟨[], rfl⟩, by show totalSize 2 ≤ noLimit; decide, rfl, by show (4 : Nat) ≠ 0; decide⟩

-- (1) accepted QoS 1 PUBLISH on a persistent, connected session: sent AND stored
example := C06_accepted_publish_not_dropped cfgC { sC4 .connected [] with store := [] }
  { pub4 with dup := false } 1 rfl (.inl rfl) rfl
  (by intro e h
      have : (step cfgC { sC4 .connected [] with store := [] } (.send { pub4 with dup := false })).ev =
        [.send { pub4 with dup := false } none] := by decide
      rw [this] at h; simp at h)
-- (2) the matching PUBACK removes the entry: hypotheses hold, cause (i)
example := C06_stored_until_acked cfgC (sC4 .connected [1]) (.recv [0x40, 2, 0, 1] parseAck) parseAck_ok 1 pub4
  (by decide) (by decide)
-- (3) unmatched PUBACK (nothing awaited)
example := C06_unmatched_ack_is_error_noop_v3 parseAck (deliversAck .connected []) rfl rfl (.inl (by decide)) (by decide)
-- (4) resume
example := C06_resume_resends_client_v3 parseAck (deliversConnack [1]) (by decide) rfl rfl rfl rfl (by decide)
example : sends (step cfgC (sC4 .connecting [1]) (.recv [0x20, 2, 1, 0] parseAck)).ev = [pub4] := by decide
example := C06_resume_resends_server cfgS sSrv connackSession rfl rfl (by decide) rfl rfl rfl (.inl rfl)
-- (5) no session
example := C06_new_session_server cfgS sSrv connackNoSession rfl rfl (by decide) rfl rfl rfl (.inl rfl)
-- (2) … and that CONNACK removes the entry: hypotheses hold, cause "new session by the CONNACK we sent"
example := C06_stored_until_acked cfgS sSrv (.send connackNoSession) trivial 1 pub4 (by decide) (by decide)
example := C06_no_session_clears_connect cfgC (sC4 .disconnected [1]) { ver := 4, kind := .connect, clean := true }
  rfl rfl (by decide) rfl rfl (.inl rfl)


/-- `C06_id_held_full` is false: a PUBACK that the parser hands over as a v3.1.1 packet on a v5.0
    connection releases identifier 1 but leaves the stored v5.0 PUBLISH in the store -/
def pub5 : Pkt := { pub4 with ver := 5 }
def sHeld : St :=
  { St.init cfgC 5 with
    status := .connected, needStore := true, store := [(1, pub5)], puback := [1], pidMan := pidUsed1 2 }
def parseForeign : Nat → Nat → List Nat → Except Nat Pkt := fun _ fh _ =>
  if fh / 16 = 4 then .ok { ver := 4, kind := .puback, pid := some 1, size := 4 } else .error eMalformed
theorem parseForeign_ok : ParseOk parseForeign := by
  intro v fh d p h
  simp only [parseForeign] at h
  split at h
  · rename_i h4; cases h; simp [Kind.nibble, h4]
  · cases h

end C06Ex

theorem C06_id_held_full_false : ¬ C06_id_held_full := by
  intro h
  have := h C06Ex.cfgC C06Ex.sHeld (.recv [0x40, 2, 0, 1] C06Ex.parseForeign) 1 C06Ex.pub5
    C06Ex.parseForeign_ok (by decide) (by decide) (by decide) (by decide) (by decide) rfl
    (by
      intro t ht
      have : t = 4 := by
        by_cases h4 : t = 4
        · exact h4
        · exfalso
          by_cases h5 : t = 5
          · subst h5; simp [waitSet, C06Ex.sHeld, St.init] at ht
          · by_cases h7 : t = 7
            · subst h7; simp [waitSet, C06Ex.sHeld, St.init] at ht
            · unfold waitSet at ht; split at ht <;> simp_all
      subst this
      exact ⟨by decide, .inl rfl⟩)
    (by intro hc; cases hc) (by intro p hc; cases hc)
  exact absurd this (by decide)

end MqttVerif.Conn
