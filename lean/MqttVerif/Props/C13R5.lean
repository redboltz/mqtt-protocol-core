import MqttVerif.Conn.Lemmas.AliasStep
/-!
# C13 — what `regulate_for_store` returns carries the full topic and no alias

Driver monitor `VIOL sig=C13 regulated_keeps_alias@<site>`: the packet `regulate_for_store`
returns must have no Topic Alias and a non-empty topic name.

The alias half holds in every state.  The topic half is **false** for arbitrary states: a send
table that binds an alias to the empty topic regulates an alias-only PUBLISH to a packet with an
empty topic (`C13_r5_counterexample_regulated_empty_topic`).  Such a table violates `TasOk` (`rng`:
no empty topic) and is not reachable: `tasInsert` refuses (panic site) to bind an empty topic.  So
the topic half is proved under the C13 invariant `AliasInv` (component `TasOkS`), which every call
that is `RestoreLegal` (packets handed to `restore_packets` are alias-free) preserves on a v5.0
connection (`step_alias`).  Not covered: objects created with an undetermined version
(`St.init cfg 0`) — there the table is created only after the version became 5; `AliasInv` is
stated for `ver = 5`.
-/
set_option linter.unusedVariables false
namespace MqttVerif.Conn
open MqttVerif

/-- what `regulate_for_store` returns, in every state: `p` with the alias removed and the topic
    either `p`'s own (when that is non-empty) or the wildcard-free topic the send table binds
    `p`'s alias to -/
theorem C13_regulated_topic (s : St) (p q : Pkt) (h : regulateForStore s p = .ok q) :
    (p.topic ≠ [] ∧ q = { p with alias := none }) ∨
    (p.topic = [] ∧ ∃ a t topic, p.alias = some a ∧ s.tas = some t ∧ t.peek a = some topic ∧
      hasWildcard topic = false ∧ q = { p with topic := topic, alias := none }) := by
  unfold regulateForStore at h
  split at h
  · rename_i he
    have he' : p.topic = [] := by simpa using he
    split at h
    · rename_i a t ha ht
      split at h
      · rename_i topic hpk
        split at h
        · cases h
        · rename_i hw
          cases h
          exact .inr ⟨he', a, t, topic, ha, ht, hpk, by simpa using hw, rfl⟩
      · cases h
    · cases h
  · rename_i he
    cases h
    exact .inl ⟨by simpa using he, rfl⟩

/-- **C13 regulated_keeps_alias (alias half)** — unconditional -/
theorem C13_regulated_no_alias (s : St) (p q : Pkt) (h : regulateForStore s p = .ok q) :
    q.alias = none := by
  rcases C13_regulated_topic s p q h with ⟨_, rfl⟩ | ⟨_, a, t, topic, _, _, _, _, rfl⟩ <;> rfl

/-- **C13 regulated_keeps_alias** — *partial*: needs that the send table binds no alias to the
    empty topic (false without it: `C13_r5_counterexample_regulated_empty_topic`) -/
theorem C13_regulated_has_topic_no_alias_partial (s : St) (p q : Pkt)
    (hne : ∀ t, s.tas = some t → ∀ a tp, lookup a t.a2t = some tp → tp ≠ [])
    (h : regulateForStore s p = .ok q) : q.alias = none ∧ q.topic ≠ [] := by
  refine ⟨C13_regulated_no_alias s p q h, ?_⟩
  rcases C13_regulated_topic s p q h with ⟨hp, rfl⟩ | ⟨_, a, t, topic, _, ht, hpk, _, rfl⟩
  · exact hp
  · show topic ≠ []
    unfold TAS.peek at hpk
    split at hpk
    · exact hne t ht a topic hpk
    · cases hpk

/-- **C13 regulated_keeps_alias** on states satisfying the C13 invariant -/
theorem C13_regulated_has_topic_no_alias_of_inv (s : St) (peer : Mon.PeerTable) (hinv : AliasInv s peer)
    (p q : Pkt) (h : regulateForStore s p = .ok q) : q.alias = none ∧ q.topic ≠ [] := by
  refine C13_regulated_has_topic_no_alias_partial s p q (fun t ht a tp hl => ?_) h
  exact ((hinv.tasOk t ht).rng a tp (lookup_some_mem hl)).2.2

/-- **C13 regulated_keeps_alias** on every state reached from a fresh v5.0 object by
    `RestoreLegal` calls -/
theorem C13_regulated_has_topic_no_alias_of_run (cfg : Cfg) (ops : List Op)
    (hl : ∀ op ∈ ops, RestoreLegal op) (p q : Pkt)
    (h : regulateForStore (run cfg (St.init cfg 5) ops) p = .ok q) : q.alias = none ∧ q.topic ≠ [] := by
  obtain ⟨peer, hinv⟩ := aliasInv_run cfg ops _ [] rfl (AliasInv.init cfg 5) hl
  exact C13_regulated_has_topic_no_alias_of_inv _ peer hinv p q h

/-! ## the counter-example and non-vacuity -/
namespace C13R5Ex
def cfg : Cfg := { role := .client, pw := 2 }
def connect : Pkt := { ver := 5, kind := .connect, size := 15, props := [(pSEI, 60)] }
def connack : Pkt := { ver := 5, kind := .connack, size := 8, rc := some 0, props := [(pTAM, 2)] }
def pubBind : Pkt := { ver := 5, kind := .publish, topic := [97], alias := some 1 }
def pubUse : Pkt := { ver := 5, kind := .publish, topic := [], alias := some 1, qos := 1, pid := some 1 }

/-- a state whose send table binds alias 1 to the empty topic (not reachable: violates `TasOk.rng`) -/
def tBad : TAS := { max := 2, a2t := [(1, [])], t2a := [([], [1])], alloc := ⟨1, 2, 65535, [⟨2, 2⟩]⟩ }
def sBad : St := { St.init cfg 5 with status := .connected, tas := some tBad }

/-- **counter-example to `q.topic ≠ []` for arbitrary states** -/
theorem C13_r5_counterexample_regulated_empty_topic :
    regulateForStore sBad pubUse = .ok { pubUse with topic := [], alias := none } ∧
    ({ pubUse with topic := [], alias := none } : Pkt).topic = [] := ⟨rfl, rfl⟩

/-- non-vacuity: CONNECT, CONNACK (Topic Alias Maximum 2), a PUBLISH that binds alias 1 to "a" -/
def ops : List Op := [.send connect, .recv [0x20, 0] (fun _ _ _ => .ok connack), .send pubBind]
def s1 : St := run cfg (St.init cfg 5) ops
example : Reachable cfg 5 s1 := ⟨ops, rfl⟩
example : ∀ op ∈ ops, RestoreLegal op := by
  intro op hop; simp [ops] at hop; rcases hop with rfl | rfl | rfl <;> trivial
-- the alias-only packet gets the bound topic, the alias is dropped
example : regulateForStore s1 pubUse = .ok { pubUse with topic := [97], alias := none } := rfl
-- a packet with topic and alias keeps the topic, the alias is dropped
example : regulateForStore s1 { pubBind with alias := some 2 } = .ok { pubBind with alias := none } := rfl
-- an unbound alias is refused
example : regulateForStore s1 { pubUse with alias := some 2 } = .error eNotRegulated := rfl
example : ({ pubUse with topic := [97], alias := none } : Pkt).alias = none ∧
    ({ pubUse with topic := [97], alias := none } : Pkt).topic ≠ [] :=
  C13_regulated_has_topic_no_alias_of_run cfg ops
    (by intro op hop; simp [ops] at hop; rcases hop with rfl | rfl | rfl <;> trivial) pubUse _ rfl
end C13R5Ex

end MqttVerif.Conn
