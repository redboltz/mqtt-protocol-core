import MqttVerif.Conn.Lemmas.PidsStep
import MqttVerif.Conn.Lemmas.NewSession
/-!
# C08 — a new session frees every identifier

Driver monitor `VIOL sig=C08 id_leaked_into_new_session@<site>`: on a call that starts a new
session (and reports no error), if afterwards the store and the five wait sets are empty then the
free pool must be the single interval `[1, 256^pw − 1]` (otherwise an identifier is in use that
nothing will ever release).  The model can never trigger it: every handler that starts a new
session goes through `clearStoreRelated`, which resets the allocator to one free interval, and
nothing after it touches the session scope (`NSn.Sess`: each handler is walked once, in `NewSession.lean`).

"All five wait sets are empty after `clearStoreRelated`" is false in the model
(`C08_r5_counterexample_clear_keeps_suback`): it does not touch `pid_suback` / `pid_unsuback`.  The
CONNECT handlers empty them through `initConn`; the CONNACK handlers leave them as they were, so a
CONNACK with session present = false accepted while disconnected (`witness_connack_while_disconnected`
of `Props/C08.lean`) starts the session with an identifier free yet awaited.  The monitor does not
alarm there (the pool *is* completely free), so this does not make it unsound.
-/
namespace MqttVerif.Conn
open MqttVerif

/-- nothing of a session is left (`a`: the allocator before the call) -/
def r5_Cleared (a : Alloc.A) (s : St) : Prop :=
  s.pidMan = Alloc.clear a ∧ s.store = [] ∧ s.puback = [] ∧ s.pubrec = [] ∧ s.pubcomp = [] ∧ s.handled = []

theorem r5_Cleared_iff {a : Alloc.A} {s : St} : r5_Cleared a s ↔ NSn.Clr a s :=
  ⟨fun ⟨h1, h2, h3, h4, h5, h6⟩ => ⟨h2, h3, h4, h5, h6, h1⟩, fun ⟨h1, h2, h3, h4, h5, h6⟩ => ⟨h6, h1, h2, h3, h4, h5⟩⟩

/-- the session `x` cleared: `pid_suback` and `pid_unsuback` are those of `x` -/
theorem r5_of_sess {s : St} {x : Ids × List Nat} (h : NSn.Sess s = NSn.clear x) :
    r5_Cleared x.1.pidMan s ∧ s.suback = x.1.suback ∧ s.unsuback = x.1.unsuback :=
  ⟨r5_Cleared_iff.2 (.of_sess h), congrArg (·.1.suback) h, congrArg (·.1.unsuback) h⟩

/-- **C08, `clearStoreRelated`** — the allocator is reset to one free interval spanning its whole
    range, no identifier is in use, store / QoS wait sets / handled set are empty, the send
    counter is 0; `pid_suback` and `pid_unsuback` are left alone. -/
theorem C08_clear_frees_every_id (c : C) :
    r5_Cleared c.s.pidMan (clearStoreRelated c).s ∧
    (clearStoreRelated c).s.pidMan.pool = [⟨c.s.pidMan.lowest, c.s.pidMan.highest⟩] ∧
    (∀ id, isUsed (clearStoreRelated c).s id = false) ∧
    (clearStoreRelated c).s.sendCount = 0 ∧
    (clearStoreRelated c).s.suback = c.s.suback ∧ (clearStoreRelated c).s.unsuback = c.s.unsuback ∧
    (clearStoreRelated c).ev = c.ev := by
  refine ⟨⟨rfl, rfl, rfl, rfl, rfl, rfl⟩, rfl, fun id => ?_, rfl, rfl, rfl, rfl⟩
  exact Alloc.clear_isUsed c.s.pidMan id

theorem C08_cleared_pool {a : Alloc.A} {s : St} (h : r5_Cleared a s) :
    s.pidMan.pool = [⟨a.lowest, a.highest⟩] ∧ ∀ id, isUsed s id = false := (r5_Cleared_iff.1 h).free

theorem C08_cleared_full_range {cfg : Cfg} {s0 s : St} (w : PidWf cfg s0) (h : r5_Cleared s0.pidMan s) :
    s.pidMan.pool = [⟨1, 256 ^ cfg.pw - 1⟩] := by
  rw [(C08_cleared_pool h).1, w.1, w.2.1]; rfl

theorem C08_r5_wf_reachable {cfg : Cfg} (hpw : 1 ≤ cfg.pw) {ver : Nat} {s : St}
    (r : Reachable cfg ver s) : PidWf cfg s := PidWf.reachable (Cfg.idMax_pos_of_pw hpw) r

/-! ## the calls that start a new session -/

/-- **C08** — an accepted v3.1.1 CONNECT with clean session: nothing of the session is left,
    all five wait sets are empty -/
theorem C08_new_session_frees_every_id_psV3Connect (c : C) (p : Pkt)
    (hs : c.s.status = .disconnected) (hc : p.clean = true) :
    r5_Cleared c.s.pidMan (psV3Connect c p).s ∧
    (psV3Connect c p).s.suback = [] ∧ (psV3Connect c p).s.unsuback = [] :=
  r5_of_sess ((NSn.psV3Connect_starts c p hc).sess hs)

/-- **C08** — an accepted v5.0 CONNECT with clean start -/
theorem C08_new_session_frees_every_id_psV5Connect (c : C) (p : Pkt) (hz : sizeOk c p = true)
    (hs : c.s.status = .disconnected) (hc : p.clean = true) :
    r5_Cleared c.s.pidMan (psV5Connect c p).s ∧
    (psV5Connect c p).s.suback = [] ∧ (psV5Connect c p).s.unsuback = [] :=
  r5_of_sess ((NSn.psV5Connect_starts c p hc).sess ⟨hz, hs⟩)

/-- **C08** — a v3.1.1 CONNECT with clean session received while disconnected -/
theorem C08_new_session_frees_every_id_prV3Connect (c : C) (p : Pkt)
    (hs : c.s.status = .disconnected) (hc : p.clean = true) :
    r5_Cleared c.s.pidMan (prV3Connect c (.ok p)).s ∧
    (prV3Connect c (.ok p)).s.suback = [] ∧ (prV3Connect c (.ok p)).s.unsuback = [] :=
  r5_of_sess ((NSn.prV3Connect_starts c p hc).sess hs)

/-- **C08** — a v5.0 CONNECT with clean start received while disconnected -/
theorem C08_new_session_frees_every_id_prV5Connect (c : C) (p : Pkt)
    (hs : c.s.status = .disconnected) (hc : p.clean = true) :
    r5_Cleared c.s.pidMan (prV5Connect c (.ok p)).s ∧
    (prV5Connect c (.ok p)).s.suback = [] ∧ (prV5Connect c (.ok p)).s.unsuback = [] :=
  r5_of_sess ((NSn.prV5Connect_starts c p hc).sess hs)

/-- **C08** — a v3.1.1 CONNACK (return code 0, session present = false) received while not
    connected -/
theorem C08_new_session_frees_every_id_prV3Connack (c : C) (p : Pkt)
    (hs : c.s.status ≠ .connected) (hrc : p.rc = some 0) (hsp : p.sp = false) :
    r5_Cleared c.s.pidMan (prV3Connack c (.ok p)).s ∧
    (prV3Connack c (.ok p)).s.suback = c.s.suback ∧ (prV3Connack c (.ok p)).s.unsuback = c.s.unsuback :=
  r5_of_sess ((NSn.prV3Connack_starts c p hrc hsp).sess hs)

/-- **C08** — a v5.0 CONNACK (reason code 0, session present = false) received while not
    connected, whatever its properties -/
theorem C08_new_session_frees_every_id_prV5Connack (c : C) (p : Pkt)
    (hs : c.s.status ≠ .connected) (hrc : p.rc = some 0) (hsp : p.sp = false) :
    r5_Cleared c.s.pidMan (prV5Connack c (.ok p)).s ∧
    (prV5Connack c (.ok p)).s.suback = c.s.suback ∧ (prV5Connack c (.ok p)).s.unsuback = c.s.unsuback :=
  r5_of_sess ((NSn.prV5Connack_starts c p hrc (.inl hsp)).sess hs)

/-- **C08** — a v3.1.1 CONNACK (return code 0, session present = false) sent while connecting -/
theorem C08_new_session_frees_every_id_psV3Connack (c : C) (p : Pkt)
    (hs : c.s.status = .connecting) (hrc : p.rc = some 0) (hsp : p.sp = false) :
    r5_Cleared c.s.pidMan (psV3Connack c p).s ∧
    (psV3Connack c p).s.suback = c.s.suback ∧ (psV3Connack c p).s.unsuback = c.s.unsuback :=
  r5_of_sess ((NSn.psV3Connack_starts c p hrc hsp).sess hs)

/-- **C08** — a v5.0 CONNACK (reason code 0, session present = false) sent while connecting -/
theorem C08_new_session_frees_every_id_psV5Connack (c : C) (p : Pkt) (hz : sizeOk c p = true)
    (hs : c.s.status = .connecting) (hrc : p.rc = some 0) (hsp : p.sp = false) :
    r5_Cleared c.s.pidMan (psV5Connack c p).s ∧
    (psV5Connack c p).s.suback = c.s.suback ∧ (psV5Connack c p).s.unsuback = c.s.unsuback :=
  r5_of_sess ((NSn.psV5Connack_starts c p hrc hsp).sess ⟨hz, hs⟩)

/-! ## the monitor -/

/-- the driver's test: the free list is the one interval `[1, idMax]` -/
def r5_allFree (cfg : Cfg) (after : List Alloc.Iv) : Bool :=
  match after with | [iv] => iv.lo = 1 ∧ iv.hi = 256 ^ cfg.pw - 1 | _ => false

/-- **C08 id_leaked_into_new_session** — whenever a call made on a `PidWf` state leaves the state
    `r5_Cleared` (every session-starting handler does, above) the driver's `allFree` holds, so the
    alarm condition `!allFree ∧ …` is false -/
theorem C08_id_leaked_monitor_sound {cfg : Cfg} {s0 s : St} (w : PidWf cfg s0)
    (h : r5_Cleared s0.pidMan s) : r5_allFree cfg s.pidMan.pool = true := by
  rw [C08_cleared_full_range w h]; simp [r5_allFree]

/-! ## the counter-example and non-vacuity: states reached by running the model from `St.init` -/
namespace C08R5Ex
def cfg : Cfg := { role := .client, pw := 2 }
def connect (clean : Bool) : Pkt := { ver := 5, kind := .connect, size := 20, clean := clean, props := [(pSEI, 60)] }
def connack (sp : Bool) : Pkt := { ver := 5, kind := .connack, size := 5, rc := some 0, sp := sp }
def sub : Pkt := { ver := 5, kind := .subscribe, size := 10, pid := some 1 }
def pub : Pkt := { ver := 5, kind := .publish, qos := 1, pid := some 2, topic := [97], payloadLen := 1 }
def parseOk (sp : Bool) : Nat → Nat → List Nat → Except Nat Pkt := fun _ _ _ => .ok (connack sp)
def parseBad : Nat → Nat → List Nat → Except Nat Pkt := fun _ _ _ => .error eMalformed

/-- connected client, SUBSCRIBE 1 and QoS 1 PUBLISH 2 in flight (2 is stored), then a malformed
    frame: DISCONNECT + close are requested, `status = disconnected`; `notify_closed` is not called -/
def sD : St := run cfg (St.init cfg 5)
  [.send (connect false), .recv [0x20, 0x03, 0x00, 0x00, 0x00] (parseOk false),
   .acquire, .send sub, .acquire, .send pub, .recv [0x40, 0x02, 0x00, 0x02] parseBad]

example : Reachable cfg 5 sD := ⟨_, rfl⟩
example : sD.status = .disconnected ∧ sD.suback = [1] ∧ sD.puback = [2] ∧ sD.store.length = 1 ∧
    isUsed sD 1 = true ∧ isUsed sD 2 = true ∧ sD.pidMan.pool = [⟨3, 65535⟩] := by decide

/-- **counter-example to "all five wait sets are empty after `clearStoreRelated`"**: on the
    reachable state `sD`, `clearStoreRelated` (and the session-starting call that runs it: a
    CONNACK with session present = false accepted while disconnected) frees every identifier and
    empties store and QoS wait sets, but `pid_suback` still holds identifier 1. -/
theorem C08_r5_counterexample_clear_keeps_suback :
    (clearStoreRelated { cfg := cfg, s := sD }).s.suback = [1] ∧
    (clearStoreRelated { cfg := cfg, s := sD }).s.pidMan.pool = [⟨1, 65535⟩] ∧
    (step cfg sD (.recv [0x20, 0x03, 0x00, 0x00, 0x00] (parseOk false))).ev = [.recv (connack false)] ∧
    (step cfg sD (.recv [0x20, 0x03, 0x00, 0x00, 0x00] (parseOk false))).s.suback = [1] ∧
    (step cfg sD (.recv [0x20, 0x03, 0x00, 0x00, 0x00] (parseOk false))).s.pidMan.pool = [⟨1, 65535⟩] ∧
    (step cfg sD (.recv [0x20, 0x03, 0x00, 0x00, 0x00] (parseOk false))).s.store = [] ∧
    (step cfg sD (.recv [0x20, 0x03, 0x00, 0x00, 0x00] (parseOk false))).s.puback = [] := by decide

/-- non-vacuity of the CONNECT theorem: after `notify_closed` the session is persistent (identifier
    2 and its stored packet survive); a CONNECT with clean start frees everything -/
def sC : St := run cfg sD [.closed]
example : sC.status = .disconnected ∧ isUsed sC 2 = true ∧ sC.store.length = 1 ∧ sC.puback = [2] := by decide
example : (step cfg sC (.send (connect true))).s.pidMan.pool = [⟨1, 65535⟩] ∧
    (step cfg sC (.send (connect true))).s.store = [] ∧ (step cfg sC (.send (connect true))).s.puback = [] := by
  decide
example : r5_Cleared sC.pidMan (psV5Connect { cfg := cfg, s := sC } (connect true)).s :=
  (C08_new_session_frees_every_id_psV5Connect { cfg := cfg, s := sC } (connect true)
    (by decide) (by decide) rfl).1
theorem r5_sC_reachable : Reachable cfg 5 sC :=
  ⟨[.send (connect false), .recv [0x20, 0x03, 0x00, 0x00, 0x00] (parseOk false),
    .acquire, .send sub, .acquire, .send pub, .recv [0x40, 0x02, 0x00, 0x02] parseBad, .closed], rfl⟩
example : r5_allFree cfg (psV5Connect { cfg := cfg, s := sC } (connect true)).s.pidMan.pool = true :=
  C08_id_leaked_monitor_sound (s0 := sC) (C08_r5_wf_reachable (by decide) r5_sC_reachable)
    (C08_new_session_frees_every_id_psV5Connect { cfg := cfg, s := sC } (connect true)
      (by decide) (by decide) rfl).1
/-- … and of the CONNACK theorem: reconnect without clean start, the server answers session
    present = false -/
def sR : St := run cfg sC [.send (connect false)]
example : sR.status = .connecting ∧ isUsed sR 2 = true ∧ sR.store.length = 1 := by decide
example : (step cfg sR (.recv [0x20, 0x03, 0x00, 0x00, 0x00] (parseOk false))).s.pidMan.pool = [⟨1, 65535⟩] ∧
    (step cfg sR (.recv [0x20, 0x03, 0x00, 0x00, 0x00] (parseOk false))).s.store = [] := by decide
end C08R5Ex

end MqttVerif.Conn
