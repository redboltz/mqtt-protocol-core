import MqttVerif.Conn.Lemmas.FootprintApi
/-!
# C14 — `notify_closed` forgets the peer's Maximum Packet Size

Driver monitors `VIOL sig=C14 refused_within_limit@<site>` / `C11 refused_by_stale_limit@<site>`: a
send refused with `PacketTooLarge` although no limit is in force (none is after a close) or the
limit of THIS connection is well above the packet's size.  The monitor's ghost limit is reset to
"none" by `closed`; the model's field is, too, in any context, reachable or not (the receive-side
analogue is `C14_closed_resets_announced` in Props/C14).
-/
namespace MqttVerif.Conn
open MqttVerif

/-- **C14** — after `notify_closed` no send-side size limit is in force -/
theorem C14_closed_resets_send_limit (c : C) : (notifyClosed c).s.mpsSend = noLimit := by
  rw [Fp.notifyClosed_s_eq]

theorem C14_closed_resets_both_limits (c : C) :
    (notifyClosed c).s.mpsSend = noLimit ∧ (notifyClosed c).s.mpsRecv = noLimit ∧
    (notifyClosed c).s.status = .disconnected ∧ (notifyClosed c).s.tas = none ∧
    (notifyClosed c).s.tar = none ∧ (notifyClosed c).s.pb = Framing.PB.reset := by
  rw [Fp.notifyClosed_s_eq]
  exact ⟨rfl, rfl, rfl, rfl, rfl, rfl⟩

theorem C14_closed_resets_send_limit_step (cfg : Cfg) (s : St) :
    (step cfg s .closed).s.mpsSend = noLimit ∧ (step cfg s .closed).s.mpsRecv = noLimit ∧
    (step cfg s .closed).s.status = .disconnected :=
  let h := C14_closed_resets_both_limits { cfg := cfg, s := s }
  ⟨h.1, h.2.1, h.2.2.1⟩

/-! ## non-vacuity: a state reached by running the model from `St.init` -/
namespace C14R5Ex
def cfg : Cfg := { role := .client, pw := 2 }
def connect : Pkt := { ver := 5, kind := .connect, size := 15 }
def connack : Pkt := { ver := 5, kind := .connack, size := 8, rc := some 0, props := [(pMPS, 10)] }
def pub : Pkt := { ver := 5, kind := .publish, topic := [97], payloadLen := 20 }
/-- a client whose server announced Maximum Packet Size 10 -/
def s : St := run cfg (St.init cfg 5) [.send connect, .recv [0x20, 0] (fun _ _ _ => .ok connack)]
example : Reachable cfg 5 s := ⟨_, rfl⟩
example : s.mpsSend = 10 ∧ s.status = .connected := by decide
example : (step cfg s (.send pub)).ev = [.error eTooLarge] := by decide
example : (step cfg s .closed).s.mpsSend = noLimit := (C14_closed_resets_send_limit_step cfg s).1
-- on the next connection (before its CONNACK) the stale limit does not refuse the CONNECT
example : (step cfg (step cfg s .closed).s (.send { connect with size := 30 })).ev
    = [.send { connect with size := 30 } none] := by decide
end C14R5Ex

end MqttVerif.Conn
