import MqttVerif.Conn.Lemmas.NoWedge
import MqttVerif.Conn.Lemmas.NoPanicHeld
import MqttVerif.Conn.Lemmas.DiscClean
import MqttVerif.Conn.Lemmas.FootprintGate
import MqttVerif.Conn.Lemmas.FootprintEmits
/-!
# C05 — no peer-controlled input can panic or wedge a connection

Model: `Conn.step` (L2, `Conn/Model.lean`, `Conn/Step.lean`).  A Rust panic is the sticky field
`St.panic`, set only by `C.setPanic`.

## Inventory of the `setPanic` sites of `Conn/Model.lean` and why each is unreachable

| site (model function) | Rust site | unreachable because | lemma |
|---|---|---|---|
| `releaseId` | `value_allocator.rs` range assertion / `value+1` overflow | always called after `is_used_id` (`releaseIfUsed`, `releasePacketId`, `pubRefuseCleanup`), allocator refines a set (`PidWf`, C20) | `PidWf.dealloc_none`, `releaseId_s`, `releaseIfUsed_s` |
| `sendStoredLoop` | `publish_send_count += 1` (a `u32` since fix ab9a1ec) in `send_stored` | counter is reset on entry and grows by one per stored entry; stored ids are pairwise distinct (`StoreInv`) and lie in the allocator's range `[1, idMax]`, `idMax = 256^pw − 1 ≤ u32::MAX` for `pw ≤ 4` (`StoreRange`), so by pigeonhole at most `u32::MAX` entries are stored (`StoreRange.headroom`: `Headroom` is a lemma, not a side condition) | `sendStoredLoop_sane`, `sendStored_sane`, `Rng.sr_step`, `Pigeon.keys_length_le` |
| `storeAdd` | `store.add().unwrap()` (v3/v5 PUBLISH, PUBREL) | ownership: stored ids ⊆ wait sets (`StoreInv`), a legal send uses an id in no wait set (`IdFresh`), a legal `release` (fix ba1a812 removes the id from `puback` / `pubrec`) an id no stored packet carries — `C05_release_stored_then_reuse_panics`; the automatic PUBREL follows the removal of the id from `pubrec` and of its stored PUBLISH | `StoreInv.fresh_not_stored`, `Sane.storeAdd`, `psV3Publish_sane`, `psV5Publish_sane`, `psPubrel_sane`, `prPubrec_sane` |
| `psV3Publish`, `psV5Publish` | `packet_id().unwrap()` | local contract `PubIdOk` | `psV3Publish_sane`, `psV5Publish_sane` |
| `tasInsert` | `TopicAliasSend::insert_or_update` assert | topic non-empty, alias validated / chosen by `get_lru_alias` inside `[1, max]` (`TasInv`) | `Sane.tasInsert`, `TasInv.lruAlias`, `autoAlias_sane` |
| `psV5PublishTail` | `publish_send_count += 1` (`u32`) | gate `count < Receive Maximum ≤ 65535 < u32::MAX` (`Credit`) | `psV5PublishTail_sane`, `sendBlocked_false` |
| `psV5Publish` | `remove_topic_alias_add_topic().unwrap()` | send alias table holds wildcard-free topics (`TasInv`; topics enter only from `send`, `WfSent`) | `validateTopicAlias_sane`, `TasInv.get` |
| `connackRecvProp` ×2 | `assert!(val != 0)` | parser-validated (`WfParsedT`) | `connackRecvProp_sane` |
| `prV3Publish`, `prV5Publish` ×3 each | `packet_id().unwrap()`, PUBACK/PUBREC `build().unwrap()` | parser rejects QoS>0 without / with zero id (`WfParsedT`) | `prV3Publish_sane`, `prV5Publish_sane` |
| `notifyTimerFired` ×2 | `unreachable!()` | timers armed only once the version is determined (`VerTimer`) | `Good.ver_of_flag`, `notifyTimerFired_good` |

The proof of the invariant (`step_good`, `Conn/Lemmas/NoPanicStep.lean`) has two halves: `StoreInv` is an
invariant of the identifier group and is read off the listed outcomes of a call (`SendOut.si`, `RecvOut.si` over
`Fp.step_ids`); the rest (`Sane c`: allocator, alias table, credit, frame assembler, `panic = none`) is carried along
the handlers (the `…_sane` lemmas of `Conn/Lemmas/NoPanic.lean`, `NoPanicSend.lean`, `NoPanicRecv.lean`), each site discharged where
the table says.  `StoreRange` (`Rng.sr_step`) and the ownership invariant `HD` (`Hd.step_w`) are side invariants of
the group proved against its primitives.

All statements quantify over every configuration, every state satisfying the invariant, every
peer input (`recv inp parse` for every `inp` and every parser satisfying `ParserOk`) and every
sequence of calls; nothing is bounded.  The only assumption on the configuration is that packet
identifiers are at most 4 bytes wide (`cfg.pw ≤ 4`; the library instantiates `u16` and `u32`).
-/
namespace MqttVerif.Conn
open MqttVerif

/-- **the global invariant** (`Good ∧ StoreRange` = `Inv` + "no panic so far").  `StoreRange`
    (what the `u32` counter of fix ab9a1ec needs): stored identifiers lie in the allocator's
    range, a sub-range of `[1, u32::MAX]`. -/
def Inv (s : St) : Prop :=
  PidWf s.pidMan ∧ StoreInv s.ver s.store s.puback s.pubrec s.pubcomp ∧ TasOptInv s.tas ∧
  Credit s.sendMax ∧ Framing.Inv s.pb ∧ VerTimer s.ver s.status s.sendSet s.recvSet s.respSet ∧
  StoreRange s

theorem good_iff (s : St) : (Good s ∧ StoreRange s) ↔ Inv s ∧ s.panic = none := by
  unfold Good Base Inv
  constructor
  · rintro ⟨⟨⟨a, b, c, d, e, f⟩, g⟩, r⟩; exact ⟨⟨a, b, c, d, e, g, r⟩, f⟩
  · rintro ⟨⟨a, b, c, d, e, g, r⟩, f⟩; exact ⟨⟨⟨a, b, c, d, e, f⟩, g⟩, r⟩

theorem C05_inv_init (cfg : Cfg) (ver : Nat) (hpw : 1 ≤ cfg.pw) (h4 : cfg.pw ≤ 4)
    (hv : ver = 0 ∨ ver = 4 ∨ ver = 5) :
    Inv (St.init cfg ver) ∧ (St.init cfg ver).panic = none :=
  (good_iff _).1 ⟨init_good hpw hv, init_range h4⟩

/-- **the store never overflows the counter**: in a
    state of the invariant class at most `u32::MAX` packets are stored — and, more precisely,
    at most as many as there are identifiers in the allocator's range. -/
theorem C05_headroom (s : St) (hi : Inv s) (hn : s.panic = none) :
    Headroom s ∧ s.store.length ≤ s.pidMan.highest := by
  have h := (good_iff s).2 ⟨hi, hn⟩
  refine ⟨h.2.headroom h.1, ?_⟩
  exact Pigeon.keys_length_le h.1.store.2.2.2.2 (fun x hx => by
    have := h.2.2.2 x hx; have := h.2.1; omega)

/-- **C05, no panic (one call).**  In every state of the invariant class that has not panicked,
    every contract-respecting local call and every `recv` of ARBITRARY bytes with an arbitrary
    parser whose successful results are well formed returns without panic, and the state
    stays in the class.  No bound on the number of stored packets is assumed.  `Legal` restricts
    `release id` to identifiers that no stored packet carries (the use `release_packet_id` is
    documented for: a packet the library did not store; fix ba1a812); without it a panic is
    reachable, `C05_release_stored_then_reuse_panics`. -/
theorem C05_no_panic (cfg : Cfg) (s : St) (op : Op) (hi : Inv s) (hn : s.panic = none)
    (hl : Legal cfg s op) :
    (step cfg s op).s.panic = none ∧ Inv (step cfg s op).s := by
  have h := (good_iff s).2 ⟨hi, hn⟩
  have := (good_iff _).1 ⟨step_good (cfg := cfg) h.1 h.2 hl, step_range (cfg := cfg) h.1 h.2 op⟩
  exact ⟨this.2, this.1⟩

/-- **C05, no panic (all call sequences from a fresh object)**, for every identifier type of at
    most 4 bytes. -/
theorem C05_no_panic_run (cfg : Cfg) (ver : Nat) (hpw : 1 ≤ cfg.pw) (h4 : cfg.pw ≤ 4)
    (hv : ver = 0 ∨ ver = 4 ∨ ver = 5)
    (ops : List Op) (hl : LegalSeq cfg (St.init cfg ver) ops) :
    (run cfg (St.init cfg ver) ops).panic = none ∧ Inv (run cfg (St.init cfg ver) ops) := by
  have := (good_iff _).1 (run_good (init_good hpw hv) (init_range h4) ops hl)
  exact ⟨this.2, this.1⟩

/-- the contract `Legal` written out (`legalNoHeadroom_iff`): it holds no bound on the number of
    stored packets -/
def LegalNoHeadroom (cfg : Cfg) (s : St) : Op → Prop
  | .send p => WfSent p ∧ (p.kind = .publish → PubIdOk s p) ∧ (p.kind = .pubrel → IdFresh s (p.pid.getD 0))
  | .recv _ parse => ParserOk parse
  | .timer k => timerFlag s k = true
  | .restorePackets ps => RestoreOk { cfg := cfg, s := s } ps
  | .release id => storeHas id s.store = false
  | _ => True

def LegalSeqNoHeadroom (cfg : Cfg) : St → List Op → Prop
  | _, [] => True
  | s, op :: ops => LegalNoHeadroom cfg s op ∧ LegalSeqNoHeadroom cfg (step cfg s op).s ops

theorem legalNoHeadroom_iff (cfg : Cfg) (s : St) (op : Op) : LegalNoHeadroom cfg s op ↔ Legal cfg s op := by
  cases op <;> exact Iff.rfl

theorem legalSeqNoHeadroom_iff (cfg : Cfg) (s : St) (ops : List Op) :
    LegalSeqNoHeadroom cfg s ops ↔ LegalSeq cfg s ops := by
  induction ops generalizing s with
  | nil => exact Iff.rfl
  | cons op ops ih =>
    simp only [LegalSeqNoHeadroom, LegalSeq]
    rw [legalNoHeadroom_iff, ih]

/-- the unconditional statement: no side condition on the number of stored packets.  False
    with `publish_send_count` a `u16` (with 4-byte identifiers the store can hold more than 65535
    packets and `send_stored` then overflowed the counter, finding fixed by ab9a1ec).  The
    hypothesis `cfg.pw ≤ 4` is needed: with identifiers wider than the `u32`
    counter the same overflow would come back. -/
def C05_no_panic_full : Prop :=
  ∀ (cfg : Cfg) (ver : Nat), 1 ≤ cfg.pw → cfg.pw ≤ 4 → (ver = 0 ∨ ver = 4 ∨ ver = 5) →
    ∀ ops, LegalSeqNoHeadroom cfg (St.init cfg ver) ops → (run cfg (St.init cfg ver) ops).panic = none

/-- **C05, no panic, without `Headroom`** (justifies `VIOL sig=C05 panic@…` on every legal walk,
    however many packets are stored) -/
theorem C05_no_panic_full_holds : C05_no_panic_full := by
  intro cfg ver hpw h4 hv ops hl
  exact (C05_no_panic_run cfg ver hpw h4 hv ops ((legalSeqNoHeadroom_iff _ _ _).1 hl)).1

/-- stored packets are PUBLISH / PUBREL packets (part of `StoreInv`; used by the C07 / C10 monitor
    theorems as `StoreNoPubrec` / `StoreNS`) -/
theorem C05_store_kinds (s : St) (hi : Inv s) : ∀ x ∈ s.store, x.2.kind = .publish ∨ x.2.kind = .pubrel :=
  fun x hx => (hi.2.1.1 x.1 x.2 hx).2.2.1

/-! ## C06 `stored_id_not_held`: a stored packet keeps its identifier in use

Stated here because it lives on the invariant of this file (the lemma chains of `Props/C06.lean`
and of this file cannot be imported together).  The contract `Legal` of `C05_no_panic` does NOT
suffice: it restricts `release id` (fix ba1a812: only identifiers no stored packet carries) but
not the identifier of a SUBSCRIBE / UNSUBSCRIBE, and an application that reuses the identifier of a
stored packet for a SUBSCRIBE makes the statement false (`C06_stored_id_held_needs_ownership`).
With the ownership rule `Hd.LegalIds` it holds in every reachable state. -/

def LegalSeqIds (cfg : Cfg) : St → List Op → Prop
  | _, [] => True
  | s, op :: ops => Legal cfg s op ∧ Hd.LegalIds s op ∧ LegalSeqIds cfg (step cfg s op).s ops

theorem LegalSeqIds.legal {cfg : Cfg} : ∀ {s : St} {ops : List Op}, LegalSeqIds cfg s ops → LegalSeq cfg s ops
  | _, [], _ => trivial
  | _, _ :: _, h => ⟨h.1, LegalSeqIds.legal h.2.2⟩

/-- one call: `Held ∧ Disj` (every stored identifier in use; SUBACK / UNSUBACK identifiers disjoint
    from the QoS wait sets) is kept in the invariant class -/
theorem C06_stored_id_held_step (cfg : Cfg) (s : St) (op : Op) (hi : Inv s) (hn : s.panic = none)
    (hh : Hd.HD s) (hl : Legal cfg s op) (hid : Hd.LegalIds s op) : Hd.HD (step cfg s op).s :=
  Hd.step_w ((good_iff s).2 ⟨hi, hn⟩).1 hh hl hid

theorem held_run {cfg : Cfg} : ∀ (ops : List Op) {s : St}, Good s → StoreRange s → Hd.HD s →
    LegalSeqIds cfg s ops → Hd.HD (run cfg s ops)
  | [], _, _, _, h, _ => h
  | op :: ops, _, hg, hr, h, hl =>
    held_run ops (step_good hg hr hl.1) (step_range hg hr op) (Hd.step_w hg h hl.1 hl.2.1) hl.2.2

/-- **C06, `stored_id_not_held`** (driver monitor `VIOL sig=C06 stored_id_not_held@<site>`): in every
    state reachable from a new object by calls that respect `Legal` (the contract of
    `C05_no_panic_run`: arbitrary peer bytes, any parser with well-formed results) and the
    ownership rule `Hd.LegalIds`, every stored packet's identifier is in use. -/
theorem C06_stored_id_held_run (cfg : Cfg) (ver : Nat) (hpw : 1 ≤ cfg.pw) (h4 : cfg.pw ≤ 4)
    (hv : ver = 0 ∨ ver = 4 ∨ ver = 5) (ops : List Op) (hl : LegalSeqIds cfg (St.init cfg ver) ops) :
    ∀ x ∈ (run cfg (St.init cfg ver) ops).store, isUsed (run cfg (St.init cfg ver) ops) x.1 = true :=
  (held_run ops (init_good hpw hv) (init_range h4)
    ⟨by intro x hx; simp [St.init] at hx, by intro i hi; simp [St.init] at hi⟩ hl).1

/-- **C05, the identifier calls are total**: `acquire`, `register id`, `release id`, `erase id`
    for EVERY `id` (0, out of range, free, in flight) never panic — only the allocator's
    representation invariant is needed. -/
theorem C05_idcalls_total (cfg : Cfg) (s : St) (hp : PidWf s.pidMan) (hn : s.panic = none) (id : Nat) :
    (step cfg s .acquire).s.panic = none ∧ (step cfg s (.register id)).s.panic = none ∧
    (step cfg s (.release id)).s.panic = none ∧ (step cfg s (.erase id)).s.panic = none := by
  refine ⟨hn, hn, ?_, ?_⟩
  · obtain ⟨a, _, e⟩ := releaseIfUsed_s (c := { cfg := cfg, s := s }) hp id
    show (releasePacketId { cfg := cfg, s := s } id).s.panic = none
    refine releasePacketId_ind (Q := fun c' => c'.s.panic = none) _ id (by rw [e]; exact hn)
      (fun h => h) (fun h => ?_)
    rcases decSendCount_s_cases (dropWaits (releaseIfUsed { cfg := cfg, s := s } id) id) with e' | e' <;>
      rw [e'] <;> exact h
  · show (eraseStoredPublish { cfg := cfg, s := s } id).s.panic = none
    unfold eraseStoredPublish
    dsimp only
    split
    · have hd : ∀ c : C, (decSendCount c).s.pidMan = c.s.pidMan ∧ (decSendCount c).s.panic = c.s.panic := by
        intro c; unfold decSendCount; split <;> exact ⟨rfl, rfl⟩
      obtain ⟨a, _, e⟩ := releaseIfUsed_s (c := decSendCount { cfg := cfg, s := { s with
          store := (storeErasePublish id s.store).2, puback := del id s.puback, pubrec := del id s.pubrec } })
          (by rw [(hd _).1]; exact hp) id
      rw [e]
      show (decSendCount _).s.panic = none
      rw [(hd _).2]; exact hn
    · exact hn

/-- **C05, no wedge.**  Every complete frame handed to `process_recv_packet` yields a
    delivery, an error event or a PUBREC (`Mon.frameAccounted`), in EVERY state and for every
    parser result (`hp`: a parsed PUBLISH has QoS ≤ 2 and, for QoS>0, a non-zero identifier) —
    except in the situation of known finding #27: a QoS 2 PUBLISH whose identifier is already
    handled arriving while the connection is not established. -/
theorem C05_no_wedge (c : C) (fh : Nat) (data : List Nat) (parse : Nat → Except Nat Pkt)
    (hp : fh / 16 = 3 → ∀ p, parse c.s.ver = .ok p → PubParsedOk p ∧ p.qos ≤ 2)
    (hx : ¬ dupNotConnected c.s fh (parse c.s.ver)) :
    Mon.frameAccounted (processRecvPacket c fh data parse).ev = true :=
  acc_processRecvPacket hp hx

/-- **C05, `recv` consumes input**: the unread rest is a suffix of the input and strictly
    shorter when the input is non-empty, so the application's receive loop terminates. -/
theorem C05_recv_consumes (c : C) (inp : List Nat) (parse : Nat → Nat → List Nat → Except Nat Pkt)
    (hinv : Framing.Inv c.s.pb) :
    (∃ pre, inp = pre ++ (recv c inp parse).2) ∧
    (inp ≠ [] → (recv c inp parse).2.length < inp.length) := by
  rw [recv_rest, Framing.feed_eq_spec _ _ hinv]
  have := Framing.feedSpec_props c.s.pb inp hinv
  exact ⟨this.2.1, this.2.2.1⟩

/-! ## the exception of `C05_no_wedge` is real (known finding #27), machine-checked -/

def wedgeCfg : Cfg := { role := .server, pw := 2 }
def wedgeS : St := { St.init wedgeCfg 4 with handled := [1] }
def wedgeP : Pkt := { ver := 4, kind := .publish, qos := 2, pid := some 1, topic := [97] }

/-- a QoS 2 duplicate on a connection that is not established: NO event at all -/
example : (processRecvPacket { cfg := wedgeCfg, s := wedgeS } 0x34 [0, 1, 97, 0, 1] (fun _ => .ok wedgeP)).ev = [] := by
  decide
example : Mon.frameAccounted
    (processRecvPacket { cfg := wedgeCfg, s := wedgeS } 0x34 [0, 1, 97, 0, 1] (fun _ => .ok wedgeP)).ev = false := by
  decide
example : dupNotConnected wedgeS 0x34 (.ok wedgeP) :=
  ⟨by decide, by decide, wedgeP, rfl, rfl, by decide⟩

/-! ## non-vacuity -/

def nvCfg : Cfg := { role := .client, pw := 2 }
def nvConnect : Pkt := { ver := 5, kind := .connect, size := 20, keepAlive := 10, props := [(17, 100)] }
def nvConnack : Pkt := { ver := 5, kind := .connack, size := 8, rc := some 0, props := [(33, 10), (34, 5)] }
def nvPub : Pkt := { ver := 5, kind := .publish, pid := some 1, qos := 2, topic := [97] }
/-- a parser that answers CONNACK for nibble 2 and a QoS 1 PUBLISH with id 7 otherwise -/
def nvParse : Nat → Nat → List Nat → Except Nat Pkt := fun v fh _ =>
  if fh / 16 = 2 then .ok { nvConnack with ver := v }
  else .ok { ver := v, kind := .publish, qos := 1, pid := some 7, topic := [98] }

theorem nvParse_ok : ParserOk nvParse := by
  intro v fh data p h
  unfold nvParse at h
  split at h
  · rename_i ht
    cases h
    refine ⟨rfl, ?_, ?_, ?_⟩
    · intro h3; omega
    · intro _ k x hm hk
      simp [nvConnack] at hm
      rcases hm with ⟨rfl, rfl⟩ | ⟨rfl, rfl⟩ <;> simp
    · intro k x hm hk
      simp [nvConnack] at hm
      rcases hm with ⟨rfl, rfl⟩ | ⟨rfl, rfl⟩ <;> simp_all [pRM]
  · cases h
    exact ⟨rfl, fun _ _ => ⟨7, rfl, by decide⟩, fun _ k x hm => by simp at hm, fun k x hm => by simp at hm⟩

def nvOps : List Op :=
  [.send nvConnect, .recv [0x20, 2, 0, 0] nvParse, .acquire, .send nvPub, .recv [0x30, 3, 0, 1, 98] nvParse,
   .timer .pingreqSend, .recv [0xFF, 0xFF, 0xFF, 0xFF, 0xFF] nvParse, .closed]

example : (run nvCfg (St.init nvCfg 5) (nvOps.take 4)).store.length = 1 := by decide
example : (run nvCfg (St.init nvCfg 5) (nvOps.take 4)).pubrec = [1] := by decide

theorem nvOps_legal : LegalSeq nvCfg (St.init nvCfg 5) nvOps := by
  have nk : ∀ {k : Kind} {P : Prop}, Kind.connect ≠ k → (nvConnect.kind = k → P) :=
    fun hne h => absurd h hne
  have nk' : ∀ {k : Kind} {P : Prop}, Kind.publish ≠ k → (nvPub.kind = k → P) :=
    fun hne h => absurd h hne
  refine ⟨?_, ?_, trivial, ?_, ?_, ?_, ?_, trivial, trivial⟩
  · exact ⟨⟨Or.inr rfl, nk (by decide)⟩, nk (by decide), nk (by decide)⟩
  · exact nvParse_ok
  · refine ⟨⟨Or.inr rfl, fun _ => by decide⟩, fun _ _ => ⟨1, rfl, ?_⟩, nk' (by decide)⟩
    unfold IdFresh; decide
  · exact nvParse_ok
  · show timerFlag _ _ = true; decide
  · exact nvParse_ok

/-- `C05_no_panic_run` applies to a sequence with a CONNECT, a CONNACK carrying Receive
    Maximum and Topic Alias Maximum, a stored QoS 2 PUBLISH, a received PUBLISH, raw garbage,
    a timer expiry and a close -/
example : (run nvCfg (St.init nvCfg 5) nvOps).panic = none :=
  (C05_no_panic_run nvCfg 5 (by decide) (by decide) (by decide) _ nvOps_legal).1

/-- a non-trivial state in the invariant class: connected, Receive Maximum 10, alias table of
    size 5, one stored QoS 2 exchange -/
def nvS : St := run nvCfg (St.init nvCfg 5) (nvOps.take 5)

theorem nvS_good' : Good nvS ∧ StoreRange nvS :=
  run_good (init_good (by decide) (by decide)) (init_range (by decide)) _
    ⟨nvOps_legal.1, nvOps_legal.2.1, trivial, nvOps_legal.2.2.2.1, nvOps_legal.2.2.2.2.1, trivial⟩

theorem nvS_good : Good nvS := nvS_good'.1

example : nvS.status = .connected ∧ nvS.sendMax = some 10 ∧ nvS.pubrec = [1] ∧ nvS.store.length = 1 := by
  decide

/-- hypotheses of `C05_no_panic` hold for `nvS` and a `recv` of garbage -/
example : Inv nvS ∧ nvS.panic = none ∧ Legal nvCfg nvS (.recv [0xFF, 0xFF, 0xFF, 0xFF, 0xFF] nvParse) :=
  ⟨((good_iff _).1 nvS_good').1, ((good_iff _).1 nvS_good').2, nvParse_ok⟩

/-- hypotheses of `C05_idcalls_total` -/
example : PidWf nvS.pidMan ∧ nvS.panic = none := ⟨nvS_good.pid, nvS_good.np⟩

/-- hypotheses of `C05_no_wedge`: a QoS 2 duplicate on the established connection `nvS` -/
example : (3 * 16 + 4) / 16 = 3 ∧
    (∀ p, (fun _ : Nat => Except.ok (ε := Nat) wedgeP) nvS.ver = .ok p → PubParsedOk p ∧ p.qos ≤ 2) ∧
    ¬ dupNotConnected nvS 0x34 (.ok wedgeP) := by
  refine ⟨by decide, ?_, ?_⟩
  · intro p h; cases h; exact ⟨fun _ => ⟨1, rfl, by decide⟩, by decide⟩
  · rintro ⟨_, h, _⟩; exact h (by decide)

/-- hypothesis of `C05_recv_consumes` in a state holding half a frame -/
example : Framing.Inv (step nvCfg nvS (.recv [0x30, 9, 0] nvParse)).s.pb ∧
    (step nvCfg nvS (.recv [0x30, 9, 0] nvParse)).s.pb.buf = [0] :=
  ⟨(step_good (cfg := nvCfg) (op := .recv [0x30, 9, 0] nvParse) nvS_good nvS_good'.2
      nvParse_ok).1.2.2.2.2.1, by decide⟩

/-- hypotheses of `C05_closed_then_connectable_send` (the state holds half a frame) -/
example : (nvCfg.role = .client ∨ nvCfg.role = .any) ∧ nvConnect.kind = .connect ∧
    (step nvCfg nvS (.recv [0x30, 9, 0] nvParse)).s.ver = nvConnect.ver ∧ nvConnect.sz nvCfg.pw ≤ noLimit := by
  decide

/-- hypotheses of `C05_closed_then_connectable_recv`: a 12-byte CONNECT frame -/
example : Framing.feed Framing.PB.reset [0x10, 10, 0, 4, 77, 81, 84, 84, 4, 2, 0, 0] =
    ({}, some (.complete 0x10 [0, 4, 77, 81, 84, 84, 4, 2, 0, 0]), []) ∧ 0x10 / 16 = 1 ∧
    totalSize [0, 4, 77, 81, 84, 84, 4, 2, 0, 0].length ≤ noLimit := by
  decide

/-! ### `Legal` alone does not keep stored identifiers in use

`release` of a stored packet's identifier is outside `Legal` (see
`C05_release_stored_then_reuse_panics` below); `send` is left: `Legal` does not restrict whose
identifier a SUBSCRIBE / UNSUBSCRIBE carries. -/

def nvSub : Pkt := { ver := 5, kind := .subscribe, pid := some 1, size := 10 }

/-- the walk of `nvOps` up to the stored QoS 2 PUBLISH (id 1), then a SUBSCRIBE that takes the same
    identifier and `notify_closed` (which releases the identifiers awaited by SUBACK): every call is
    `Legal`, the invariant holds, nothing panics — and the stored packet's identifier is free.
    (`send` of a SUBSCRIBE with an identifier that a stored packet carries violates `Hd.LegalIds`.) -/
theorem C06_stored_id_held_needs_ownership :
    LegalSeq nvCfg (St.init nvCfg 5) (nvOps.take 4 ++ [.send nvSub, .closed]) ∧
    (run nvCfg (St.init nvCfg 5) (nvOps.take 4 ++ [.send nvSub, .closed])).store.map (·.1) = [1] ∧
    isUsed (run nvCfg (St.init nvCfg 5) (nvOps.take 4 ++ [.send nvSub, .closed])) 1 = false ∧
    ¬ Hd.LegalIds (run nvCfg (St.init nvCfg 5) (nvOps.take 4)) (.send nvSub) := by
  refine ⟨⟨nvOps_legal.1, nvOps_legal.2.1, trivial, nvOps_legal.2.2.2.1, ?_, trivial, trivial⟩, by decide, by decide, ?_⟩
  · exact ⟨⟨Or.inr rfl, fun hk => absurd hk (by decide)⟩, fun hk => absurd hk (by decide),
      fun hk => absurd hk (by decide)⟩
  · intro h
    have := h.2.2 (.inl rfl)
    revert this
    unfold Hd.Unowned
    decide

/-- **`release` of a stored packet's identifier is outside the contract since fix ba1a812 — and has
    to be**: the walk of `nvOps` up to the stored QoS 2 PUBLISH (id 1, awaited by PUBREC), then
    `release 1`.  The release violates only the clause `storeHas id store = false` of `Legal`.  It
    frees the identifier and (since the fix) removes it from `pubrec` and gives the credit back,
    but the packet stays stored: the stored packet has a free identifier in no wait set.  `acquire`
    then hands out 1 again, the same PUBLISH is `Legal` to send (`IdFresh`: no wait set holds 1) and
    panics at `store.add().unwrap()`.  (Before the fix the stale `pubrec` entry made that second
    send illegal; the implementation panics on this call sequence before and after the fix.) -/
theorem C05_release_stored_then_reuse_panics :
    LegalSeq nvCfg (St.init nvCfg 5) (nvOps.take 4) ∧
    ¬ Legal nvCfg (run nvCfg (St.init nvCfg 5) (nvOps.take 4)) (.release 1) ∧
    (run nvCfg (St.init nvCfg 5) (nvOps.take 4 ++ [.release 1])).store.map (·.1) = [1] ∧
    isUsed (run nvCfg (St.init nvCfg 5) (nvOps.take 4 ++ [.release 1])) 1 = false ∧
    (run nvCfg (St.init nvCfg 5) (nvOps.take 4)).pubrec = [1] ∧
    (run nvCfg (St.init nvCfg 5) (nvOps.take 4 ++ [.release 1])).pubrec = [] ∧
    (run nvCfg (St.init nvCfg 5) (nvOps.take 4 ++ [.release 1])).panic = none ∧
    Legal nvCfg (run nvCfg (St.init nvCfg 5) (nvOps.take 4 ++ [.release 1])) .acquire ∧
    Legal nvCfg (run nvCfg (St.init nvCfg 5) (nvOps.take 4 ++ [.release 1, .acquire])) (.send nvPub) ∧
    (run nvCfg (St.init nvCfg 5) (nvOps.take 4 ++ [.release 1, .acquire, .send nvPub])).panic =
      some "core.rs:process_send_v5_0_publish:store.add().unwrap()" := by
  refine ⟨⟨nvOps_legal.1, nvOps_legal.2.1, trivial, nvOps_legal.2.2.2.1, trivial⟩, ?_, by decide, by decide,
    by decide, by decide, by decide, trivial, ?_, by decide⟩
  · show ¬ (storeHas 1 _ = false)
    decide
  · refine ⟨⟨Or.inr rfl, fun _ => by decide⟩, fun _ _ => ⟨1, rfl, ?_⟩, fun hk => absurd hk (by decide)⟩
    unfold IdFresh; decide

/-- the hypotheses of `C06_stored_id_held_run` are satisfiable by the same walk without the reuse of the identifier:
    the PUBLISH id 1 was acquired for it and is owned by nothing when it is sent -/
theorem nvOps_legalIds : LegalSeqIds nvCfg (St.init nvCfg 5) (nvOps.take 5) := by
  have h := nvOps_legal
  refine ⟨h.1, ?_, h.2.1, trivial, trivial, trivial, h.2.2.2.1, ?_, h.2.2.2.2.1, trivial, trivial⟩
  · exact ⟨fun hk => absurd hk (by decide), fun hk => absurd hk (by decide), fun hk => absurd hk (by decide)⟩
  · refine ⟨fun _ id hid => ?_, fun hk => absurd hk (by decide), fun hk => absurd hk (by decide)⟩
    have : id = 1 := by simpa [nvPub] using hid.symm
    subst this
    unfold Hd.Unowned
    decide

example : ∀ x ∈ (run nvCfg (St.init nvCfg 5) (nvOps.take 5)).store,
    isUsed (run nvCfg (St.init nvCfg 5) (nvOps.take 5)) x.1 = true :=
  C06_stored_id_held_run nvCfg 5 (by decide) (by decide) (by decide) _ nvOps_legalIds


/-! ## a disconnected object accepts a new connection — in EVERY disconnected state

Driver monitors `VIOL sig=C05 connect_refused_while_disconnected@<site>` and
`VIOL sig=C05 connect_not_accepted_while_disconnected@<site>`.  `C05_closed_then_connectable_send/_recv`
are about the state right after `closed`.  For an arbitrary disconnected state the only thing that
can stand between a CONNECT and its acceptance is a Maximum Packet Size of the *previous*
connection: `mpsSend` (peer's limit, tested by `process_send_v5_0_connect`) and `mpsRecv` (our
limit, tested by `process_recv_packet`) are reset by `notify_closed` only, whereas the status
becomes `disconnected` already when a DISCONNECT / refusing CONNACK is sent or a protocol error /
keep-alive timeout is handled.  So the general theorems ask that the CONNECT respects the limit currently
stored (v3.1.1 `send` has no size test at all); the hypothesis is needed (`C05_stale_limit_refuses_connect_*`:
the application reconnects after a close request without calling `notify_closed`); and a state reached by
calls in which each close request (`RequestClose`) is followed by `notify_closed` before anything else
carries no limit while disconnected (`DiscClean`), so there every CONNECT within the protocol maximum is
accepted. -/

/-- **C05 connect_refused_while_disconnected.**  In ANY state with status `disconnected` (no
    invariant; whatever `panic` holds) a CONNECT of the connection's version handed to `send` by
    a role that may send it is requested for sending — provided, for v5.0, that it fits the peer
    limit currently stored (`mpsSend`; "no limit" after `closed`: `C05_disc_clean_run`). -/
theorem C05_connect_sent_when_disconnected (cfg : Cfg) (s : St) (p : Pkt)
    (hr : cfg.role ≠ .server) (hk : p.kind = .connect) (hv : s.ver = p.ver)
    (hs : s.status = .disconnected) (hsz : p.ver = 4 ∨ p.sz cfg.pw ≤ s.mpsSend) :
    Ev.send p none ∈ (step cfg s (.send p)).ev := by
  have hrole : roleMaySend cfg.role p = true := by
    simp only [roleMaySend, hk]; cases hc : cfg.role <;> simp_all
  have hsent (X : C) : Ev.send p none ∈ (sendPostProcess (X.push (.send p none))).ev :=
    mem_spp_of_mem (List.mem_append_right _ (List.mem_singleton_self _))
  rw [step_send_eq hv.symm hrole, Fp.processSend_connect _ hk]
  refine Fp.ite_ind (Q := fun r : C => Ev.send p none ∈ r.ev) (fun _ => ?_) fun h4 => ?_
  · rw [Fp.psV3Connect_eq, Fp.guarded_pass (fun h => h) (not_not_intro hs)]
    exact hsent _
  · have hso : ¬(!sizeOk { cfg := cfg, s := s } p) = true := by
      rcases hsz with e | e
      · exact absurd e h4
      · simp [sizeOk]; omega
    rw [Fp.psV5Connect_eq, Fp.guarded_pass hso (not_not_intro hs)]
    exact hsent _

/-- a CONNECT that parses is delivered to a `disconnected` connection, whatever the stages are -/
theorem connectIn_delivered {c : C} {p : Pkt} {busy : C} {nack : C → Nat → C} {settle : Pkt → C → C}
    (hc : c.s.status = .disconnected) : Ev.recv p ∈ (Fp.connectIn c (.ok p) busy nack settle).ev := by
  refine Fp.connectIn_ind (Q := fun r => Ev.recv p ∈ r.ev) (fun h => absurd hc h) nofun (fun _ q h => ?_)
  cases h
  exact List.mem_append_right _ (List.mem_singleton_self _)

/-- **C05 connect_not_accepted_while_disconnected.**  In ANY state with status `disconnected`, for a
    role that may receive a CONNECT: a complete CONNECT frame (`ht`) that fits the limit currently
    stored (`mpsRecv`) and that the parser accepts is delivered — the connection's version being
    determined (`hv`: parsed for that version) or undetermined (then the frame carries protocol
    level 4 or 5 at its seventh byte and is parsed for that version). -/
theorem C05_connect_delivered_when_disconnected (cfg : Cfg) (s : St) (inp : List Nat)
    (parse : Nat → Nat → List Nat → Except Nat Pkt)
    (pb' : Framing.PB) (fh : Nat) (data rest : List Nat) (p : Pkt)
    (hr : cfg.role ≠ .client) (hs : s.status = .disconnected)
    (hf : Framing.feed s.pb inp = (pb', some (.complete fh data), rest))
    (ht : fh / 16 = 1) (hsz : totalSize data.length ≤ s.mpsRecv)
    (hv : (s.ver ≠ 0 ∧ parse s.ver fh data = .ok p) ∨
          (s.ver = 0 ∧ 7 ≤ data.length ∧ (data.getD 6 0 = 4 ∨ data.getD 6 0 = 5) ∧
            parse (data.getD 6 0) fh data = .ok p)) :
    Ev.recv p ∈ (step cfg s (.recv inp parse)).ev := by
  have hdel (c : C) (hc : c.s.status = .disconnected) :
      Ev.recv p ∈ (prV3Connect c (.ok p)).ev ∧ Ev.recv p ∈ (prV5Connect c (.ok p)).ev :=
    ⟨Fp.prV3Connect_eq c _ ▸ connectIn_delivered hc, Fp.prV5Connect_eq c _ ▸ connectIn_delivered hc⟩
  rw [step_recv_feed hf, Fp.processRecvPacket_fits _ fh data _ hsz, ht,
    if_neg (by rw [Fp.mayReceive_connect hr]; decide), Fp.dispatchRecv_connect]
  rcases hv with ⟨h0, hp⟩ | ⟨h0, hl, hlv, hp⟩
  · rw [if_neg h0]
    dsimp only
    rw [hp]
    exact Fp.ite_ind (Q := fun r : C => Ev.recv p ∈ r.ev) (fun _ => (hdel _ hs).1) fun _ => (hdel _ hs).2
  · rw [if_pos h0, if_pos rfl, if_neg (Nat.not_lt.2 hl)]
    dsimp only
    rcases hlv with e | e
    · rw [if_pos e, ← e, hp]
      exact (hdel _ hs).1
    · rw [if_neg (by omega), if_pos e, ← e, hp]
      exact (hdel _ hs).2

/-- **C05, after `notify_closed` the object accepts a new connection (client side).**  From ANY
    state (no invariant needed), after `closed` a CONNECT of the connection's version whose
    size is within the protocol limit is accepted by `send`: the events contain the request to
    send it. -/
theorem C05_closed_then_connectable_send (cfg : Cfg) (s : St) (p : Pkt)
    (hr : cfg.role = .client ∨ cfg.role = .any) (hk : p.kind = .connect) (hv : s.ver = p.ver)
    (hsz : p.sz cfg.pw ≤ noLimit) :
    Ev.send p none ∈ (step cfg (step cfg s .closed).s (.send p)).ev := by
  have h := notifyClosed_cv { cfg := cfg, s := s }
  simp only [cv, Prod.mk.injEq] at h
  exact C05_connect_sent_when_disconnected cfg _ p (by rcases hr with e | e <;> simp [e]) hk (h.2.2.2.2.trans hv) h.1
    (.inr (h.2.1 ▸ hsz))

/-- **C05, after `notify_closed` the object accepts a new connection (server side)**, including
    after a transport loss in the middle of a frame: whatever the packet builder held before
    `closed`, a complete CONNECT frame received afterwards (`hf`: it is framed from the *reset*
    builder) that parses is delivered. -/
theorem C05_closed_then_connectable_recv (cfg : Cfg) (s : St) (inp : List Nat)
    (parse : Nat → Nat → List Nat → Except Nat Pkt)
    (pb' : Framing.PB) (fh : Nat) (data rest : List Nat) (p : Pkt)
    (hr : cfg.role = .server ∨ cfg.role = .any) (hv : s.ver = 4 ∨ s.ver = 5)
    (hf : Framing.feed Framing.PB.reset inp = (pb', some (.complete fh data), rest))
    (ht : fh / 16 = 1) (hsz : totalSize data.length ≤ noLimit)
    (hp : parse s.ver fh data = .ok p) :
    Ev.recv p ∈ (step cfg (step cfg s .closed).s (.recv inp parse)).ev := by
  have h := notifyClosed_cv { cfg := cfg, s := s }
  simp only [cv, Prod.mk.injEq] at h
  have hver : (step cfg s .closed).s.ver = s.ver := h.2.2.2.2
  exact C05_connect_delivered_when_disconnected cfg _ inp parse pb' fh data rest p
    (by rcases hr with e | e <;> simp [e]) h.1 (h.2.2.2.1 ▸ hf) ht (h.2.2.1 ▸ hsz)
    (.inl ⟨by rw [hver]; omega, hver ▸ hp⟩)

/-- a disconnected connection carries no Maximum Packet Size of a dead connection -/
def DiscClean (s : St) : Prop := s.status = .disconnected → s.mpsSend = noLimit ∧ s.mpsRecv = noLimit

theorem DiscClean.goodK {cfg : Cfg} {s : St} (h : DiscClean s) : DC.GoodK (DC.K { cfg := cfg, s := s }) := by
  by_cases hs : s.status = .disconnected
  · exact .inr (.inr (h hs))
  · exact .inr (.inl hs)

theorem DiscClean.of_goodK {c : C} (h : DC.GoodK (DC.K c)) (hc : Mon.hasClose c.ev = false) : DiscClean c.s := by
  intro hs
  rcases h with h | h | h
  · simp only [DC.K] at h; rw [hc] at h; cases h
  · exact absurd hs h
  · exact h

theorem C05_disc_clean_init (cfg : Cfg) (ver : Nat) : DiscClean (St.init cfg ver) := fun _ => ⟨rfl, rfl⟩

theorem C05_disc_clean_closed (cfg : Cfg) (s : St) : DiscClean (step cfg s .closed).s :=
  fun _ => DC.good_notifyClosed { cfg := cfg, s := s }

/-- **every call keeps `DiscClean` unless it requests the transport to be closed**: the limits
    change only in calls that leave the status `connecting` / `connected`, and every site that
    sets the status to `disconnected` pushes `RequestClose` (`notify_closed` resets the limits).
    Every operation, every packet, every peer input and parser; no invariant. -/
theorem C05_disc_clean_step (cfg : Cfg) (s : St) (op : Op) (h : DiscClean s)
    (hc : Mon.hasClose (step cfg s op).ev = false) : DiscClean (step cfg s op).s := by
  by_cases hop : op = .closed
  · subst hop
    exact C05_disc_clean_closed cfg s
  · exact .of_goodK (DC.good_step cfg s op h.goodK hop) hc

/-- the application obeys close requests: after a call whose events contain `RequestClose`, the
    next call (if any) is `notify_closed` -/
def ObeysClose (cfg : Cfg) : St → List Op → Prop
  | _, [] => True
  | s, op :: ops =>
    (Mon.hasClose (step cfg s op).ev = true → ops = [] ∨ ops.head? = some .closed) ∧
    ObeysClose cfg (step cfg s op).s ops

/-- the last call of the sequence requested a close (which is still to be obeyed) -/
def closePending (cfg : Cfg) : St → List Op → Bool
  | _, [] => false
  | s, [op] => Mon.hasClose (step cfg s op).ev
  | s, op :: op' :: ops => closePending cfg (step cfg s op).s (op' :: ops)

/-- **run level: the reachable states covered.**  Along every sequence of calls that obeys close
    requests, from a `DiscClean` state (a fresh object: `C05_disc_clean_init`), the state is
    `DiscClean` unless the very last call requested a close. -/
theorem C05_disc_clean_run (cfg : Cfg) (ops : List Op) (s : St)
    (h : DiscClean s ∨ ops.head? = some .closed) (ho : ObeysClose cfg s ops) :
    DiscClean (run cfg s ops) ∨ closePending cfg s ops = true := by
  induction ops generalizing s with
  | nil =>
    rcases h with h | h
    · exact .inl h
    · cases h
  | cons op ops ih =>
    have hstep : Mon.hasClose (step cfg s op).ev = false → DiscClean (step cfg s op).s := by
      intro hc
      rcases h with h | h
      · exact C05_disc_clean_step cfg s op h hc
      · simp only [List.head?_cons, Option.some.injEq] at h
        subst h; exact C05_disc_clean_closed cfg s
    cases ops with
    | nil =>
      simp only [run, closePending]
      cases hc : Mon.hasClose (step cfg s op).ev
      · exact .inl (hstep hc)
      · exact .inr rfl
    | cons op' ops' =>
      simp only [run, closePending]
      refine ih (step cfg s op).s ?_ ho.2
      cases hc : Mon.hasClose (step cfg s op).ev
      · exact .inl (hstep hc)
      · rcases ho.1 hc with e | e
        · cases e
        · exact .inr e

/-- **C05 connect_refused_while_disconnected, covered states**: in a `DiscClean` state every
    CONNECT within the protocol's own maximum is requested for sending -/
theorem C05_connectable_send (cfg : Cfg) (s : St) (p : Pkt) (hd : DiscClean s)
    (hr : cfg.role ≠ .server) (hk : p.kind = .connect) (hv : s.ver = p.ver)
    (hs : s.status = .disconnected) (hsz : p.sz cfg.pw ≤ noLimit) :
    Ev.send p none ∈ (step cfg s (.send p)).ev :=
  C05_connect_sent_when_disconnected cfg s p hr hk hv hs (.inr (by rw [(hd hs).1]; exact hsz))

/-- **C05 connect_not_accepted_while_disconnected, covered states** -/
theorem C05_connectable_recv (cfg : Cfg) (s : St) (inp : List Nat)
    (parse : Nat → Nat → List Nat → Except Nat Pkt)
    (pb' : Framing.PB) (fh : Nat) (data rest : List Nat) (p : Pkt) (hd : DiscClean s)
    (hr : cfg.role ≠ .client) (hs : s.status = .disconnected)
    (hf : Framing.feed s.pb inp = (pb', some (.complete fh data), rest))
    (ht : fh / 16 = 1) (hsz : totalSize data.length ≤ noLimit)
    (hv : (s.ver ≠ 0 ∧ parse s.ver fh data = .ok p) ∨
          (s.ver = 0 ∧ 7 ≤ data.length ∧ (data.getD 6 0 = 4 ∨ data.getD 6 0 = 5) ∧
            parse (data.getD 6 0) fh data = .ok p)) :
    Ev.recv p ∈ (step cfg s (.recv inp parse)).ev :=
  C05_connect_delivered_when_disconnected cfg s inp parse pb' fh data rest p hr hs hf ht
    (by rw [(hd hs).2]; exact hsz) hv

/-! ### the limit hypothesis is needed: reachable counter-examples, and non-vacuity -/
namespace C05Ex
def cfgC : Cfg := { role := .client, pw := 2 }
def cfgS : Cfg := { role := .server, pw := 2 }
def connect : Pkt := { ver := 5, kind := .connect, size := 20, keepAlive := 10 }
def connackMps (n : Nat) : Pkt := { ver := 5, kind := .connack, size := 8, rc := some 0, props := [(pMPS, n)] }
def disc : Pkt := { ver := 5, kind := .disconnect, size := 2 }
def okp (p : Pkt) : Nat → Nat → List Nat → Except Nat Pkt := fun _ _ _ => .ok p
def connectBytes : List Nat := [0x10, 10, 0, 4, 77, 81, 84, 84, 5, 2, 0, 0]

/-- client: CONNECT, CONNACK announcing Maximum Packet Size 10, DISCONNECT sent (close requested)
    — and, WITHOUT `notify_closed`, a new CONNECT of 20 bytes -/
def opsC : List Op := [.send connect, .recv [0x20, 3, 0, 0, 0] (okp (connackMps 10)), .send disc]
def sC : St := run cfgC (St.init cfgC 5) opsC

/-- the monitor's guard holds (disconnected, role client, version 5) yet the CONNECT is refused
    with `PacketTooLarge`: the limit of the dead connection is still in force -/
theorem C05_stale_limit_refuses_connect_send :
    sC.status = .disconnected ∧ sC.mpsSend = 10 ∧ sC.panic = none ∧
    (step cfgC sC (.send connect)).ev = [.error eTooLarge] ∧
    ¬ DiscClean sC ∧ closePending cfgC (St.init cfgC 5) opsC = true ∧
    ¬ ObeysClose cfgC (St.init cfgC 5) (opsC ++ [.send connect]) := by
  refine ⟨by decide, by decide, by decide, by decide, ?_, by decide, ?_⟩
  · intro h; exact absurd (h (by decide)).1 (by decide)
  · intro h
    have := h.2.2.1 (by decide)
    simp at this

/-- with `notify_closed` in between the same CONNECT is requested for sending
    (`C05_disc_clean_run` + `C05_connectable_send`) -/
theorem opsC_obeys : ObeysClose cfgC (St.init cfgC 5) (opsC ++ [.closed]) :=
  ⟨fun h => absurd h (by decide), fun h => absurd h (by decide), fun _ => .inr rfl, fun _ => .inl rfl, trivial⟩
example : Ev.send connect none ∈ (step cfgC (run cfgC (St.init cfgC 5) (opsC ++ [.closed])) (.send connect)).ev := by
  have hd := C05_disc_clean_run cfgC (opsC ++ [.closed]) (St.init cfgC 5) (.inl (C05_disc_clean_init _ _))
    opsC_obeys
  have hd' : DiscClean (run cfgC (St.init cfgC 5) (opsC ++ [.closed])) := by
    rcases hd with h | h
    · exact h
    · exact absurd h (by decide)
  exact C05_connectable_send cfgC _ connect hd' (by decide) rfl (by decide) (by decide) (by decide)

/-- server: CONNECT delivered, CONNACK sent announcing Maximum Packet Size 10, DISCONNECT sent
    (close requested) — and, WITHOUT `notify_closed`, a new 12-byte CONNECT frame arrives -/
def opsS : List Op := [.recv connectBytes (okp connect), .send (connackMps 10), .send disc]
def sS : St := run cfgS (St.init cfgS 5) opsS

theorem C05_stale_limit_refuses_connect_recv :
    sS.status = .disconnected ∧ sS.mpsRecv = 10 ∧ sS.panic = none ∧ sS.pb = {} ∧
    Framing.feed sS.pb connectBytes = ({}, some (.complete 0x10 (connectBytes.drop 2)), []) ∧
    (step cfgS sS (.recv connectBytes (okp connect))).ev = [.error eNotAllowed, .error eTooLarge] ∧
    ¬ DiscClean sS := by
  refine ⟨by decide, by decide, by decide, by decide, by decide, by decide, ?_⟩
  intro h; exact absurd (h (by decide)).2 (by decide)

/-- non-vacuity of `C05_connect_delivered_when_disconnected`, undetermined version: a fresh
    server object of undetermined version adopts the frame's protocol level -/
example : Ev.recv connect ∈ (step cfgS (St.init cfgS 0) (.recv connectBytes (okp connect))).ev :=
  C05_connect_delivered_when_disconnected cfgS (St.init cfgS 0) connectBytes (okp connect) {} 0x10
    (connectBytes.drop 2) [] connect (by decide) rfl (by decide) (by decide) (by decide)
    (.inr ⟨rfl, by decide, .inr (by decide), rfl⟩)

/-- v3.1.1 has no size test: a stale limit does not matter -/
example : Ev.send { connect with ver := 4 } none ∈
    (step cfgC { sC with ver := 4 } (.send { connect with ver := 4 })).ev :=
  C05_connect_sent_when_disconnected cfgC { sC with ver := 4 } _ (by decide) rfl rfl (by decide) (.inl rfl)
end C05Ex

end MqttVerif.Conn
