import MqttVerif.Props.C01L2b
/-!
# C01 at the level of the two `Conn` models (L2): two exchanges in flight at once - opposite
# directions, transport losses, any schedule

Same system as `Props/C01L2.lean` and `Props/C01L2b.lean`: the client model and the server model of
`Conn/Model.lean`, joined by two FIFO channels of packets (`Pair.Sys`), `established v` as starting point,
`v ∈ {4, 5}`, arbitrary application PUBLISH packets (`IsPub v q P` / `IsPubN v q 2 P`: version, QoS, the
identifier the allocator handed out, no Topic Alias, non-empty topic without wildcard, encodable size;
retain, payload, properties arbitrary), `q1, q2 ∈ {1, 2}` independently.  `Obs2 tgt NS NC RC RS y`
(`Conn/Lemmas/PairExchange2.lean`): `y` has the endpoint states and channels of `tgt`, no `.error` event in
either log, the server application was notified of exactly the PUBLISH packets `NS`, the client application
of `NC`, the client released exactly the identifiers `RC`, the server `RS`.  With `tgt = established v` this
is quiescence (`Quiet`: both endpoints `idle` - stores, wait sets, `handled`, `publish_recv` empty, every
identifier free, connected -, both channels empty).

A schedule is any `acts : List Act4` (`Conn/Lemmas/PairSched.lean`): `toS` / `toC` = deliver the head of the
client→server / server→client channel (nothing happens if it is empty), `deliver` = the deterministic choice
of `drain`, `lose` = `lose` followed at once by `resume v` (CONNECT clean = false / CONNACK session present,
run atomically; `sendStored` / `resendStored` retransmit the stored packets in store order); in any order,
any number of each.  The any-schedule theorems subsume the delivery clauses of the no-loss and one-loss
theorems; those add the exact notification lists (`t5notes`, `t6notesS`, `t6notesC`: explicit tables in
`PairExchange3.lean`).  The duplicates are real: `q1 = q2 = 1`, client publishes, loss after 2 deliveries
(both PUBACKs lost): `[P1, P2, P1.asDup, P2.asDup]`.

**How it is proved.**  `Conn/Lemmas/PairExchange.lean` computes every delivery on
`mkSt v b .connected pool store pa pr pc h prv` for ARBITRARY lists in the fields the handler does not read (the sender
half of an endpoint uses pool / store / wait sets, the receiver half `handled` / `publish_recv`) and the resumption for
any number of stored packets.  `Conn/Lemmas/PairAbs.lean` turns these lemmas into an executable machine `astep` over
packet tokens (the two PUBLISH packets, their DUP copies, the acknowledgements) and proves it sound for arbitrary packets
and both versions (`astep_sound`).  For each of the 12 cases (same direction: `d` × `q1` × `q2`; opposite:
`q1` × `q2`) a file `Conn/Lemmas/PairTabG*.lean` holds the finite transducer of the pair under `Act4` - the shapes
reachable under any schedule, successor and output tables, found by a breadth-first search on concrete packets; the
kernel runs `astep` on every phase and action and finds the table's successor and outputs, hence (`closure`) every action
maps the shape to the successor's shape and emits the table's output, hence `run_obs2`: every schedule follows the
transducer; the delivery clauses are finite checks on the tables (`Ok.main5`, `Ok.main6`).  The one-loss runs
`k = 0 … 8` are schedules whose outcome the kernel reads off the tables (`Loss5`, `Loss6`); `tables5` / `tables6`
(`PairRuns.lean`) pick the table of a case.

**NOT covered.**  A loss in the middle of the CONNECT/CONNACK handshake (`lose` + `resume` is atomic, and the
applications publish nothing while disconnected); more than two exchanges in flight; two same-direction AND an
opposite exchange together; a new PUBLISH while the two are still in flight (after the final `drain` the pair is
`Quiet`, so the composition of `C01L2b.lean` (`runAll_obs`) applies again, but that composition is not restated
here); flow control (Receive Maximum), Maximum Packet Size, Topic Alias; automatic responses off; the byte-level
codec (replaced by the parser parameter, as in `C01L2.lean`); liveness of the schedule itself (the theorems speak
about the state after a final `drain`, not about schedules that lose forever).
-/
namespace MqttVerif.Conn.Pair
open MqttVerif MqttVerif.Conn

section
variable {v q1 q2 : Nat} {P1 P2 : Pkt} (hv : v = 4 ∨ v = 5) (h1 : q1 = 1 ∨ q1 = 2) (h2 : q2 = 1 ∨ q2 = 2)
include hv h1 h2

/-! ## two exchanges in opposite directions -/

omit h1 h2 in
/-- both allocators hand out identifier 1: `IsPub` (`pid = some 1`) is the right hypothesis for
    both messages, whichever application calls first -/
theorem C01_l2c_opposite_ids :
    (acquire { cfg := cfgC, s := (established v).c }).1 = some 1 ∧
    (acquire { cfg := cfgS, s := (startFromC (established v) P1).s }).1 = some 1 ∧
    (acquire { cfg := cfgS, s := (established v).s }).1 = some 1 ∧
    (acquire { cfg := cfgC, s := (startFromS (established v) P2).c }).1 = some 1 := by
  -- projected first: unifying through `startFromC` unfolds `step` on the whole state
  rw [startFromC_s, startFromS_c]
  exact ⟨(acquire_gives_1 v hv).1, (acquire_gives_1 v hv).2, (acquire_gives_1 v hv).2, (acquire_gives_1 v hv).1⟩

/-- both exchanges really are in flight at once: each PUBLISH is in its channel, nothing has
    been notified -/
theorem C01_l2c_opposite_in_flight (hA : IsPub v q1 P1) (hB : IsPub v q2 P2) :
    (startBoth v P1 P2).c2s = [P1] ∧ (startBoth v P1 P2).s2c = [P2] ∧
    pubNotes (startBoth v P1 P2).logS = [] ∧ pubNotes (startBoth v P1 P2).logC = [] := by
  have o := startBoth_obs hv h1 h2 hA hB
  exact ⟨o.c2s, o.s2c, o.notesS, o.notesC⟩

/-- **opposite directions**: the client application publishes `P1`, the server application publishes `P2` (QoS 1 or 2
    each, identifier 1 of the respective allocator) before anything is delivered; after the
    deterministic schedule: quiescent (both endpoints `idle`, channels empty), no `.error` at either
    side, the server application notified of exactly `[P1]`, the client application of exactly `[P2]`,
    each side released its identifier exactly once -/
theorem C01_l2c_opposite (hA : IsPub v q1 P1) (hB : IsPub v q2 P2) (n : Nat) (hn : 8 ≤ n) :
    Obs2 (established v) [P1] [P2] [1] [1] (drain n (startBoth v P1 P2)) := by
  obtain ⟨T, ok, _, loss⟩ := tables6 h1 h2
  have k := ok.no_loss6 hv hA hB loss
  have e := established_quiet v hv
  rw [k.stable e.1 e.2 n hn]; exact k

/-- **opposite directions, any interleaving**: the same after ANY interleaving `σ` of deliveries to the server and to
    the client, followed by delivery of whatever is still in flight: the final state - logs
    included - is the one the deterministic order reaches -/
theorem C01_l2c_opposite_any_order (hA : IsPub v q1 P1) (hB : IsPub v q2 P2) (σ : List Side) (n : Nat) (hn : 8 ≤ n) :
    drain n (runSides (startBoth v P1 P2) σ) = drain n (startBoth v P1 P2) ∧
    Obs2 (established v) [P1] [P2] [1] [1] (drain n (runSides (startBoth v P1 P2) σ)) := by
  have k := C01_l2c_opposite hv h1 h2 hA hB n hn
  have e := established_quiet v hv
  have q := drain_runSides n σ (startBoth v P1 P2) (k.c2s.trans e.1) (k.s2c.trans e.2)
  exact ⟨q, by rw [q]; exact k⟩

/-- `C01_l2c_opposite_any_order` spelled out without `Obs2` -/
theorem C01_l2c_opposite_delivery (hA : IsPub v q1 P1) (hB : IsPub v q2 P2) (σ : List Side) (n : Nat) (hn : 8 ≤ n) :
    let y := drain n (runSides (startBoth v P1 P2) σ)
    Quiet v y ∧ errFree y.logC ∧ errFree y.logS ∧ pubNotes y.logS = [P1] ∧ pubNotes y.logC = [P2] ∧
    releasedIds y.logC = [1] ∧ releasedIds y.logS = [1] := by
  intro y
  have k := (C01_l2c_opposite_any_order hv h1 h2 hA hB σ n hn).2
  exact ⟨k.quiet hv, k.errC, k.errS, k.notesS, k.notesC, k.relC, k.relS⟩

/-! ## one loss while two same-direction exchanges are in flight -/

omit hv h1 h2 in
theorem t5notes_late (d : Bool) (k : Nat) (hk : 5 ≤ k) : t5notes d q1 q2 k P1 P2 = [P1, P2] := by
  have a0 : k ≠ 0 := by omega
  have a1 : k ≠ 1 := by omega
  have a2 : k ≠ 2 := by omega
  have a3 : k ≠ 3 := by omega
  have a4 : ¬ k ≤ 4 := by omega
  have a5 : ¬ k ≤ 2 := by omega
  simp [t5notes, a0, a1, a2, a3, a4, a5]

/-- **same direction, one loss**: `P1` (identifier 1) and `P2` (identifier 2) published back to back; `k` deliveries of the
    loss-free schedule; transport loss and resumption; everything delivered.  For EVERY `k`: quiescent,
    no `.error` at either side, the receiving application notified of exactly `t5notes d q1 q2 k P1 P2`
    (in words: `C01_l2c_two_in_flight_one_loss_delivery`), the publisher of nothing, both identifiers released exactly once by the
    publisher, nothing released by the receiver -/
theorem C01_l2c_two_in_flight_one_loss (hA : IsPub v q1 P1) (hB : IsPubN v q2 2 P2) (d : Bool) (k n : Nat) (hn : 8 ≤ n) :
    Obs d (established v) (t5notes d q1 q2 k P1 P2) (t5rel q1 q2)
      (drain n (resume v (lose (drain k (startTwo v d P1 P2))))) := by
  have e := established_quiet v hv
  have key : Obs d (established v) (t5notes d q1 q2 k P1 P2) (t5rel q1 q2)
      (drain 8 (resume v (lose (drain k (startTwo v d P1 P2))))) := by
    obtain ⟨T, ok, _, loss⟩ := tables5 h1 h2 d
    by_cases hk : k ≤ 8
    · exact ok.one_loss5 hv hA hB loss k hk
    · rw [(C01_l2b_two_in_flight hv h1 h2 hA hB d 8 (Nat.le_refl 8)).stable e.1 e.2 k (by omega),
        t5notes_late d k (by omega), ← t5notes_late (q1 := q1) (q2 := q2) d 8 (by omega)]
      exact ok.one_loss5 hv hA hB loss 8 (Nat.le_refl 8)
  rw [key.stable e.1 e.2 n hn]; exact key

/-! ## one loss while two opposite exchanges are in flight -/

omit hv h1 h2 in
theorem t6notesS_late (k : Nat) (hk : 4 ≤ k) : t6notesS q1 k P1 = [P1] := by
  have a0 : k ≠ 0 := by omega
  have a3 : ¬ k ≤ 3 := by omega
  simp [t6notesS, a0, a3]

omit hv h1 h2 in
theorem t6notesC_late (k : Nat) (hk : 4 ≤ k) : t6notesC q2 k P2 = [P2] := by
  have a1 : ¬ k ≤ 1 := by omega
  have a2 : k ≠ 2 := by omega
  simp [t6notesC, a1, a2]

/-- **opposite directions, one loss**: the start of `C01_l2c_opposite` (`P1` client→server, `P2` server→client, both in flight), `k` deliveries of the
    loss-free schedule, transport loss and resumption, everything delivered.  For EVERY `k`:
    quiescent, no `.error` at either side, the server application notified of exactly `t6notesS q1 k P1`,
    the client application of exactly `t6notesC q2 k P2`, each side released its identifier exactly once -/
theorem C01_l2c_opposite_one_loss (hA : IsPub v q1 P1) (hB : IsPub v q2 P2) (k n : Nat) (hn : 8 ≤ n) :
    Obs2 (established v) (t6notesS q1 k P1) (t6notesC q2 k P2) [1] [1]
      (drain n (resume v (lose (drain k (startBoth v P1 P2))))) := by
  have e := established_quiet v hv
  have key : Obs2 (established v) (t6notesS q1 k P1) (t6notesC q2 k P2) [1] [1]
      (drain 8 (resume v (lose (drain k (startBoth v P1 P2))))) := by
    obtain ⟨T, ok, _, loss⟩ := tables6 h1 h2
    by_cases hk : k ≤ 8
    · exact ok.one_loss6 hv hA hB loss k hk
    · rw [(ok.no_loss6 hv hA hB loss).stable e.1 e.2 k (by omega), t6notesS_late k (by omega), t6notesC_late k (by omega),
        ← t6notesS_late (q1 := q1) 8 (by omega), ← t6notesC_late (q2 := q2) 8 (by omega)]
      exact ok.one_loss6 hv hA hB loss 8 (Nat.le_refl 8)
  rw [key.stable e.1 e.2 n hn]; exact key


/-! ## ANY schedule - any interleaving of deliveries, any number of losses at any points -/

/-- **any schedule, same direction**: `P1` (identifier 1), `P2` (identifier 2) published back to back; then ANY
    list of `Act4` actions - `toS` / `toC` (deliver the head of the client→server / server→client
    channel; nothing happens if it is empty), `deliver` (the deterministic choice of `drain`), `lose`
    (transport loss followed at once by resumption) - in any order and number; then everything
    delivered.  Quiescent, no `.error` at either side, the publisher notified of no PUBLISH, the receiver
    releases nothing, the receiving application's notifications satisfy `DeliverySpec` (only copies of
    `P1`, `P2`; each at least once; a QoS 2 message exactly once), the publisher released both
    identifiers exactly once each (`RelSpec`) -/
theorem C01_l2c_two_in_flight_any_schedule (hA : IsPub v q1 P1) (hB : IsPubN v q2 2 P2) (d : Bool)
    (acts : List Act4) (n : Nat) (hn : 8 ≤ n) :
    let y := drain n (runActs4 v (startTwo v d P1 P2) acts)
    Quiet v y ∧ errFree y.logC ∧ errFree y.logS ∧ pubNotes (sendLog d y) = [] ∧ releasedIds (recvLog d y) = [] ∧
    DeliverySpec q1 q2 P1 P2 (pubNotes (recvLog d y)) ∧ RelSpec (releasedIds (sendLog d y)) := by
  obtain ⟨T, ok, cnt, _⟩ := tables5 h1 h2 d
  exact ok.main5 cnt hv hA hB acts n hn

/-- **any schedule, same direction, safety**: at any moment of any schedule (nothing drained): no `.error`
    event at either side -/
theorem C01_l2c_two_in_flight_safety (hA : IsPub v q1 P1) (hB : IsPubN v q2 2 P2) (d : Bool) (acts : List Act4) :
    errFree (runActs4 v (startTwo v d P1 P2) acts).logC ∧ errFree (runActs4 v (startTwo v d P1 P2) acts).logS := by
  obtain ⟨T, ok, _, _⟩ := tables5 h1 h2 d
  exact ok.safe hv hA hB (ok.start5 hv hA hB) acts

/-- **any schedule, opposite directions**: `P1` client→server and `P2` server→client both in flight (`startBoth`),
    then ANY list of `Act4` actions, then everything delivered: quiescent, no `.error` at either side,
    each application notified only of copies of the message sent to it, at least once, exactly once
    for QoS 2; each side released its identifier exactly once -/
theorem C01_l2c_opposite_any_schedule (hA : IsPub v q1 P1) (hB : IsPub v q2 P2) (acts : List Act4) (n : Nat) (hn : 8 ≤ n) :
    let y := drain n (runActs4 v (startBoth v P1 P2) acts)
    Quiet v y ∧ errFree y.logC ∧ errFree y.logS ∧
    (∀ Q ∈ pubNotes y.logS, sameMsg P1 Q) ∧ (∀ Q ∈ pubNotes y.logC, sameMsg P2 Q) ∧
    1 ≤ (pubNotes y.logS).length ∧ 1 ≤ (pubNotes y.logC).length ∧
    (q1 = 2 → (pubNotes y.logS).length = 1) ∧ (q2 = 2 → (pubNotes y.logC).length = 1) ∧
    releasedIds y.logC = [1] ∧ releasedIds y.logS = [1] := by
  obtain ⟨T, ok, cnt, _⟩ := tables6 h1 h2
  exact ok.main6 hv hA hB cnt acts n hn

/-- **any schedule, opposite directions, safety**: no `.error` event at either side at any moment -/
theorem C01_l2c_opposite_safety (hA : IsPub v q1 P1) (hB : IsPub v q2 P2) (acts : List Act4) :
    errFree (runActs4 v (startBoth v P1 P2) acts).logC ∧ errFree (runActs4 v (startBoth v P1 P2) acts).logS := by
  obtain ⟨T, ok, _, _⟩ := tables6 h1 h2
  exact ok.safe hv hA hB.isPubN (ok.start6 hv hA hB) acts

/-- **same direction, one loss, in words** (`C01_l2c_two_in_flight_any_schedule` read for `replicate k deliver ++ [lose]`): whatever the point `k` of the loss: quiescent at the end, no error at either
    side, every notification is a copy of `P1` or of `P2`, a QoS 2 message is notified exactly once,
    a QoS 1 message at least once, the publisher released both identifiers (each once), the receiver none -/
theorem C01_l2c_two_in_flight_one_loss_delivery (hA : IsPub v q1 P1) (hB : IsPubN v q2 2 P2) (d : Bool)
    (k n : Nat) (hn : 8 ≤ n) :
    let y := drain n (resume v (lose (drain k (startTwo v d P1 P2))))
    Quiet v y ∧ errFree y.logC ∧ errFree y.logS ∧ pubNotes (sendLog d y) = [] ∧
    DeliverySpec q1 q2 P1 P2 (pubNotes (recvLog d y)) ∧
    (releasedIds (sendLog d y) = [1, 2] ∨ releasedIds (sendLog d y) = [2, 1]) ∧ releasedIds (recvLog d y) = [] := by
  have e : resume v (lose (drain k (startTwo v d P1 P2))) =
      runActs4 v (startTwo v d P1 P2) (List.replicate k .deliver ++ [.lose]) := by
    rw [runActs4_append, ← drain_eq_runActs4]; rfl
  rw [e]
  have m := C01_l2c_two_in_flight_any_schedule hv h1 h2 hA hB d (List.replicate k .deliver ++ [.lose]) n hn
  exact ⟨m.1, m.2.1, m.2.2.1, m.2.2.2.1, m.2.2.2.2.2.1, m.2.2.2.2.2.2, m.2.2.2.2.1⟩

/-- **opposite directions, one loss, in words** (`C01_l2c_opposite_any_schedule` read for
    `replicate k deliver ++ [lose]`) -/
theorem C01_l2c_opposite_one_loss_delivery (hA : IsPub v q1 P1) (hB : IsPub v q2 P2) (k n : Nat) (hn : 8 ≤ n) :
    let y := drain n (resume v (lose (drain k (startBoth v P1 P2))))
    Quiet v y ∧ errFree y.logC ∧ errFree y.logS ∧
    (∀ Q ∈ pubNotes y.logS, sameMsg P1 Q) ∧ (∀ Q ∈ pubNotes y.logC, sameMsg P2 Q) ∧
    1 ≤ (pubNotes y.logS).length ∧ 1 ≤ (pubNotes y.logC).length ∧
    (q1 = 2 → (pubNotes y.logS).length = 1) ∧ (q2 = 2 → (pubNotes y.logC).length = 1) ∧
    releasedIds y.logC = [1] ∧ releasedIds y.logS = [1] := by
  have e : resume v (lose (drain k (startBoth v P1 P2))) =
      runActs4 v (startBoth v P1 P2) (List.replicate k .deliver ++ [.lose]) := by
    rw [runActs4_append, ← drain_eq_runActs4]; rfl
  rw [e]
  exact C01_l2c_opposite_any_schedule hv h1 h2 hA hB (List.replicate k .deliver ++ [.lose]) n hn

/-- same direction, one loss, with the deliveries BEFORE the loss in ANY interleaving `σ` (and a
    second interleaving `τ` after it) -/
theorem C01_l2c_two_in_flight_loss_after_any_interleaving (hA : IsPub v q1 P1) (hB : IsPubN v q2 2 P2) (d : Bool)
    (σ τ : List Side) (n : Nat) (hn : 8 ≤ n) :
    let y := drain n (runSides (resume v (lose (runSides (startTwo v d P1 P2) σ))) τ)
    Quiet v y ∧ errFree y.logC ∧ errFree y.logS ∧ pubNotes (sendLog d y) = [] ∧ releasedIds (recvLog d y) = [] ∧
    DeliverySpec q1 q2 P1 P2 (pubNotes (recvLog d y)) ∧ RelSpec (releasedIds (sendLog d y)) := by
  have e : runSides (resume v (lose (runSides (startTwo v d P1 P2) σ))) τ =
      runActs4 v (startTwo v d P1 P2) (σ.map ofSide ++ (Act4.lose :: τ.map ofSide)) := by
    rw [runActs4_append, ← runSides_eq_runActs4, runSides_eq_runActs4 v _ τ]; rfl
  rw [e]
  exact C01_l2c_two_in_flight_any_schedule hv h1 h2 hA hB d _ n hn

/-- opposite directions, one loss, with arbitrary interleavings before and after the loss -/
theorem C01_l2c_opposite_loss_after_any_interleaving (hA : IsPub v q1 P1) (hB : IsPub v q2 P2)
    (σ τ : List Side) (n : Nat) (hn : 8 ≤ n) :
    let y := drain n (runSides (resume v (lose (runSides (startBoth v P1 P2) σ))) τ)
    Quiet v y ∧ errFree y.logC ∧ errFree y.logS ∧
    (∀ Q ∈ pubNotes y.logS, sameMsg P1 Q) ∧ (∀ Q ∈ pubNotes y.logC, sameMsg P2 Q) ∧
    1 ≤ (pubNotes y.logS).length ∧ 1 ≤ (pubNotes y.logC).length ∧
    (q1 = 2 → (pubNotes y.logS).length = 1) ∧ (q2 = 2 → (pubNotes y.logC).length = 1) ∧
    releasedIds y.logC = [1] ∧ releasedIds y.logS = [1] := by
  have e : runSides (resume v (lose (runSides (startBoth v P1 P2) σ))) τ =
      runActs4 v (startBoth v P1 P2) (σ.map ofSide ++ (Act4.lose :: τ.map ofSide)) := by
    rw [runActs4_append, ← runSides_eq_runActs4, runSides_eq_runActs4 v _ τ]; rfl
  rw [e]
  exact C01_l2c_opposite_any_schedule hv h1 h2 hA hB _ n hn

/-- the schedules of `C01L2b.lean` (`Act = deliver | lose`, `runActs` of `PairExchange2.lean`): any
    number of losses while two same-direction exchanges are in flight -/
theorem C01_l2c_two_in_flight_any_losses (hA : IsPub v q1 P1) (hB : IsPubN v q2 2 P2) (d : Bool)
    (acts : List Act) (n : Nat) (hn : 8 ≤ n) :
    let y := drain n (runActs v (startTwo v d P1 P2) acts)
    Quiet v y ∧ errFree y.logC ∧ errFree y.logS ∧ pubNotes (sendLog d y) = [] ∧ releasedIds (recvLog d y) = [] ∧
    DeliverySpec q1 q2 P1 P2 (pubNotes (recvLog d y)) ∧ RelSpec (releasedIds (sendLog d y)) := by
  rw [runActs_eq_runActs4]
  exact C01_l2c_two_in_flight_any_schedule hv h1 h2 hA hB d _ n hn

end

end MqttVerif.Conn.Pair

/-! ## non-vacuity: the theorems instantiated on concrete packets, and the same runs recomputed by
    `decide` (independently of the step lemmas) -/
namespace MqttVerif.Conn.Pair

/-- a PUBLISH of the server application (identifier 1 of the server's allocator) -/
def exPubS (v q : Nat) : Pkt :=
  { ver := v, kind := .publish, qos := q, pid := some 1, topic := [100, 47, 101], retain := true, payloadLen := 2, tag := 79, size := 11 }

theorem exPub_isPub (v q : Nat) (hv : v = 4 ∨ v = 5) (hq : q = 1 ∨ q = 2) : IsPub v q (exPub v q) := by
  rcases hv with rfl | rfl <;> rcases hq with rfl | rfl <;> exact ⟨rfl, rfl, rfl, rfl, rfl, by decide, by decide, by decide⟩
theorem exPubS_isPub (v q : Nat) (hv : v = 4 ∨ v = 5) (hq : q = 1 ∨ q = 2) : IsPub v q (exPubS v q) := by
  rcases hv with rfl | rfl <;> rcases hq with rfl | rfl <;> exact ⟨rfl, rfl, rfl, rfl, rfl, by decide, by decide, by decide⟩
theorem exPubB_isPubN (v q : Nat) (hv : v = 4 ∨ v = 5) (hq : q = 1 ∨ q = 2) : IsPubN v q 2 (exPubB v q) := by
  rcases hv with rfl | rfl <;> rcases hq with rfl | rfl <;> exact ⟨rfl, rfl, rfl, rfl, rfl, by decide, by decide, by decide⟩

/-- the decidable content of `Obs2 (established v)` -/
def obs2B (v : Nat) (NS NC : List Pkt) (RC RS : List Nat) (y : Sys) : Bool :=
  y.c = idle v true ∧ y.s = idle v false ∧ y.c2s = [] ∧ y.s2c = [] ∧
  y.logC.all (fun e => !isErr e) ∧ y.logS.all (fun e => !isErr e) ∧
  pubNotes y.logS = NS ∧ pubNotes y.logC = NC ∧ releasedIds y.logC = RC ∧ releasedIds y.logS = RS

-- C01_l2c_opposite, C01_l2c_opposite_any_order
example : Obs2 (established 5) [exPub 5 2] [exPubS 5 1] [1] [1] (drain 8 (startBoth 5 (exPub 5 2) (exPubS 5 1))) :=
  C01_l2c_opposite (Or.inr rfl) (Or.inr rfl) (Or.inl rfl) (exPub_isPub 5 2 (Or.inr rfl) (Or.inr rfl)) (exPubS_isPub 5 1 (Or.inr rfl) (Or.inl rfl)) 8 (Nat.le_refl 8)
example : Obs2 (established 4) [exPub 4 1] [exPubS 4 2] [1] [1]
    (drain 9 (runSides (startBoth 4 (exPub 4 1) (exPubS 4 2)) [.toC, .toC, .toS, .toC, .toS])) :=
  (C01_l2c_opposite_any_order (Or.inl rfl) (Or.inl rfl) (Or.inr rfl) (exPub_isPub 4 1 (Or.inl rfl) (Or.inl rfl)) (exPubS_isPub 4 2 (Or.inl rfl) (Or.inr rfl))
    [.toC, .toC, .toS, .toC, .toS] 9 (by decide)).2
example : obs2B 5 [exPub 5 2] [exPubS 5 1] [1] [1] (drain 8 (startBoth 5 (exPub 5 2) (exPubS 5 1))) = true := by decide +kernel
example : obs2B 4 [exPub 4 2] [exPubS 4 2] [1] [1] (drain 8 (startBoth 4 (exPub 4 2) (exPubS 4 2))) = true := by decide +kernel
example : obs2B 5 [exPub 5 1] [exPubS 5 1] [1] [1] (drain 4 (startBoth 5 (exPub 5 1) (exPubS 5 1))) = true := by decide +kernel
example : obs2B 4 [exPub 4 1] [exPubS 4 2] [1] [1]
    (drain 8 (runSides (startBoth 4 (exPub 4 1) (exPubS 4 2)) [.toC, .toC, .toS, .toC, .toS])) = true := by decide +kernel
-- both exchanges really are in flight at once, and 7 deliveries are not enough for QoS 2 + QoS 2
example : (startBoth 5 (exPub 5 2) (exPubS 5 2)).c2s = [exPub 5 2] ∧ (startBoth 5 (exPub 5 2) (exPubS 5 2)).s2c = [exPubS 5 2] := by
  decide +kernel
example : (drain 7 (startBoth 5 (exPub 5 2) (exPubS 5 2))).s2c ≠ [] := by decide +kernel
-- a different interleaving passes through different intermediate states
example : runSides (startBoth 5 (exPub 5 2) (exPubS 5 2)) [.toC, .toC] ≠ drain 2 (startBoth 5 (exPub 5 2) (exPubS 5 2)) := by
  decide +kernel

-- C01_l2c_two_in_flight_one_loss
example : Obs true (established 5) [exPub 5 1, exPubB 5 1, (exPub 5 1).asDup, (exPubB 5 1).asDup] [1, 2]
    (drain 8 (resume 5 (lose (drain 2 (startTwo 5 true (exPub 5 1) (exPubB 5 1)))))) :=
  C01_l2c_two_in_flight_one_loss (Or.inr rfl) (Or.inl rfl) (Or.inl rfl) (exPub_isPub 5 1 (Or.inr rfl) (Or.inl rfl)) (exPubB_isPubN 5 1 (Or.inr rfl) (Or.inl rfl))
    true 2 8 (Nat.le_refl 8)
example : Obs false (established 4) [exPub 4 2, (exPubB 4 2).asDup] [1, 2]
    (drain 8 (resume 4 (lose (drain 2 (startTwo 4 false (exPub 4 2) (exPubB 4 2)))))) :=
  C01_l2c_two_in_flight_one_loss (Or.inl rfl) (Or.inr rfl) (Or.inr rfl) (exPub_isPub 4 2 (Or.inl rfl) (Or.inr rfl)) (exPubB_isPubN 4 2 (Or.inl rfl) (Or.inr rfl))
    false 2 8 (Nat.le_refl 8)
example : DeliverySpec 2 1 (exPub 5 2) (exPubB 5 1)
    (pubNotes (drain 8 (resume 5 (lose (drain 3 (startTwo 5 true (exPub 5 2) (exPubB 5 1)))))).logS) :=
  (C01_l2c_two_in_flight_one_loss_delivery (Or.inr rfl) (Or.inr rfl) (Or.inl rfl) (exPub_isPub 5 2 (Or.inr rfl) (Or.inr rfl))
    (exPubB_isPubN 5 1 (Or.inr rfl) (Or.inl rfl)) true 3 8 (Nat.le_refl 8)).2.2.2.2.1
-- the same runs by `decide`: both PUBACKs lost = both QoS 1 messages notified twice
example : obs2B 5 [exPub 5 1, exPubB 5 1, (exPub 5 1).asDup, (exPubB 5 1).asDup] [] [1, 2] []
    (drain 8 (resume 5 (lose (drain 2 (startTwo 5 true (exPub 5 1) (exPubB 5 1)))))) = true := by decide +kernel
example : obs2B 4 [] [exPub 4 2, (exPubB 4 2).asDup] [] [1, 2]
    (drain 8 (resume 4 (lose (drain 2 (startTwo 4 false (exPub 4 2) (exPubB 4 2)))))) = true := by decide +kernel
-- QoS 2 + QoS 2, loss at every point: both messages exactly once
example : ∀ k ∈ [2, 3, 4, 5, 6, 7, 8], obs2B 5 [exPub 5 2, exPubB 5 2] [] [1, 2] []
    (drain 8 (resume 5 (lose (drain k (startTwo 5 true (exPub 5 2) (exPubB 5 2)))))) = true := by decide +kernel
-- QoS 2 + QoS 1: the QoS 1 message completes first (identifier 2 released before identifier 1)
example : obs2B 5 [exPub 5 2, exPubB 5 1, (exPubB 5 1).asDup] [] [2, 1] []
    (drain 8 (resume 5 (lose (drain 3 (startTwo 5 true (exPub 5 2) (exPubB 5 1)))))) = true := by decide +kernel
-- what is retransmitted after a loss at k = 3 (QoS 2 + QoS 2, PUBREC 1 reached the sender): PUBLISH 2 (DUP), PUBREL 1
example : ((resume 5 (lose (drain 3 (startTwo 5 true (exPub 5 2) (exPubB 5 2))))).c2s.map (fun p => (p.kind, p.pid, p.dup))) =
    [(.publish, some 2, true), (.pubrel, some 1, false)] := by decide +kernel

-- C01_l2c_opposite_one_loss
example : Obs2 (established 5) [exPub 5 1, (exPub 5 1).asDup] [exPubS 5 1, (exPubS 5 1).asDup] [1] [1]
    (drain 8 (resume 5 (lose (drain 2 (startBoth 5 (exPub 5 1) (exPubS 5 1)))))) :=
  C01_l2c_opposite_one_loss (Or.inr rfl) (Or.inl rfl) (Or.inl rfl) (exPub_isPub 5 1 (Or.inr rfl) (Or.inl rfl)) (exPubS_isPub 5 1 (Or.inr rfl) (Or.inl rfl))
    2 8 (Nat.le_refl 8)
example : Obs2 (established 4) [exPub 4 2] [(exPubS 4 2).asDup] [1] [1]
    (drain 8 (resume 4 (lose (drain 1 (startBoth 4 (exPub 4 2) (exPubS 4 2)))))) :=
  C01_l2c_opposite_one_loss (Or.inl rfl) (Or.inr rfl) (Or.inr rfl) (exPub_isPub 4 2 (Or.inl rfl) (Or.inr rfl)) (exPubS_isPub 4 2 (Or.inl rfl) (Or.inr rfl))
    1 8 (Nat.le_refl 8)
example : obs2B 5 [exPub 5 1, (exPub 5 1).asDup] [exPubS 5 1, (exPubS 5 1).asDup] [1] [1]
    (drain 8 (resume 5 (lose (drain 2 (startBoth 5 (exPub 5 1) (exPubS 5 1)))))) = true := by decide +kernel
example : ∀ k ∈ [2, 3, 4, 5, 6, 7, 8, 9], obs2B 4 [exPub 4 2] [exPubS 4 2] [1] [1]
    (drain 8 (resume 4 (lose (drain k (startBoth 4 (exPub 4 2) (exPubS 4 2)))))) = true := by decide +kernel
-- v5.0, loss while both PUBCOMPs are in flight: both sides answer the retransmitted PUBREL with reason code 0x92
example : Ev.send ackRc none ∈ (drain 8 (resume 5 (lose (drain 6 (startBoth 5 (exPub 5 2) (exPubS 5 2)))))).logS ∧
    Ev.send ackRc none ∈ (drain 8 (resume 5 (lose (drain 6 (startBoth 5 (exPub 5 2) (exPubS 5 2)))))).logC := by decide +kernel

-- C01_l2c_two_in_flight_any_schedule, C01_l2c_opposite_any_schedule on concrete packets and schedules
example :
    let y := drain 8 (runActs4 5 (startTwo 5 true (exPub 5 2) (exPubB 5 1))
      [.toS, .lose, .toC, .toS, .lose, .lose, .toS, .toC, .deliver, .lose])
    Quiet 5 y ∧ errFree y.logC ∧ errFree y.logS ∧ pubNotes (sendLog true y) = [] ∧ releasedIds (recvLog true y) = [] ∧
    DeliverySpec 2 1 (exPub 5 2) (exPubB 5 1) (pubNotes (recvLog true y)) ∧ RelSpec (releasedIds (sendLog true y)) :=
  C01_l2c_two_in_flight_any_schedule (Or.inr rfl) (Or.inr rfl) (Or.inl rfl) (exPub_isPub 5 2 (Or.inr rfl) (Or.inr rfl))
    (exPubB_isPubN 5 1 (Or.inr rfl) (Or.inl rfl)) true _ 8 (Nat.le_refl 8)
example :
    let y := drain 8 (runActs4 4 (startBoth 4 (exPub 4 1) (exPubS 4 2)) [.toC, .toS, .lose, .toS, .lose, .toS, .toC, .lose])
    Quiet 4 y ∧ errFree y.logC ∧ errFree y.logS ∧
    (∀ Q ∈ pubNotes y.logS, sameMsg (exPub 4 1) Q) ∧ (∀ Q ∈ pubNotes y.logC, sameMsg (exPubS 4 2) Q) ∧
    1 ≤ (pubNotes y.logS).length ∧ 1 ≤ (pubNotes y.logC).length ∧
    ((1 : Nat) = 2 → (pubNotes y.logS).length = 1) ∧ ((2 : Nat) = 2 → (pubNotes y.logC).length = 1) ∧
    releasedIds y.logC = [1] ∧ releasedIds y.logS = [1] :=
  C01_l2c_opposite_any_schedule (Or.inl rfl) (Or.inl rfl) (Or.inr rfl) (exPub_isPub 4 1 (Or.inl rfl) (Or.inl rfl))
    (exPubS_isPub 4 2 (Or.inl rfl) (Or.inr rfl)) _ 8 (Nat.le_refl 8)
-- the same schedules by `decide`: three losses; the QoS 1 message 2 is notified twice, the QoS 2 message 1 once
example : obs2B 5 [exPub 5 2, (exPubB 5 1).asDup, (exPubB 5 1).asDup] [] [2, 1] []
    (drain 8 (runActs4 5 (startTwo 5 true (exPub 5 2) (exPubB 5 1))
      [.toS, .lose, .toC, .toS, .lose, .lose, .toS, .toC, .deliver, .lose])) = true := by decide +kernel
example : obs2B 4 [] [exPub 4 1, exPubB 4 2, (exPub 4 1).asDup] [] [1, 2]
    (drain 8 (runActs4 4 (startTwo 4 false (exPub 4 1) (exPubB 4 2))
      [.toC, .toC, .lose, .toC, .toS, .lose, .toC, .deliver, .lose, .toC])) = true := by decide +kernel
-- opposite directions, four losses, QoS 2 both ways: each exactly once
example : obs2B 5 [exPub 5 2] [exPubS 5 2] [1] [1]
    (drain 8 (runActs4 5 (startBoth 5 (exPub 5 2) (exPubS 5 2))
      [.toS, .toC, .lose, .toC, .toS, .toS, .lose, .toC, .toC, .toS, .toS, .lose, .lose, .toS])) = true := by decide +kernel
-- ... and that schedule alone does not finish the exchanges (the final drain matters)
example : (runActs4 5 (startBoth 5 (exPub 5 2) (exPubS 5 2))
      [.toS, .toC, .lose, .toC, .toS, .toS, .lose, .toC, .toC, .toS, .toS, .lose, .lose, .toS]).s2c ≠ [] := by decide +kernel
-- opposite directions, QoS 1 client→server lost three times: three duplicates, all marked DUP
example : obs2B 4 [exPub 4 1, (exPub 4 1).asDup, (exPub 4 1).asDup, (exPub 4 1).asDup] [exPubS 4 2] [1] [1]
    (drain 8 (runActs4 4 (startBoth 4 (exPub 4 1) (exPubS 4 2)) [.toC, .toS, .lose, .toS, .lose, .toS, .toC, .lose])) = true := by
  decide +kernel
-- a loss after an interleaving that is not a prefix of `drain`
example : obs2B 5 [exPub 5 2, exPubB 5 2] [] [1, 2] []
    (drain 8 (runSides (resume 5 (lose (runSides (startTwo 5 true (exPub 5 2) (exPubB 5 2)) [.toS, .toC, .toC, .toS])))
      [.toC, .toS, .toS])) = true := by decide +kernel
-- the tables are the model's: the system after a schedule is the shape of the transducer's phase, logs aside
example : { runActs4 5 (startBoth 5 (exPub 5 2) (exPubS 5 2)) [.toS, .toC, .lose, .toC] with logC := [], logS := [] } =
    G6_22.sysOf 5 (exPub 5 2) (exPubS 5 2) (phRunG G6_22.next .p0 [.toS, .toC, .lose, .toC]) := by decide +kernel

end MqttVerif.Conn.Pair
