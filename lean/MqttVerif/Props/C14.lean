import MqttVerif.Conn.Lemmas.Limit
/-!
# C14 — Maximum Packet Size is honoured in both directions

For every configuration, state and API call, every **v5.0** packet in a `RequestSendPacket` event
fits the peer's limit that is in force **after** the call: a received CONNECT / CONNACK sets the
limit before anything is sent, `notify_closed` resets it and sends nothing.  This covers direct
sends, automatic responses, stored retransmissions and alias-rewritten publishes.  The driver's
monitor `Mon.sentSizesWithin` looks at every packet sent, of any version; on a v5.0 connection it
holds for parsers that return packets of the version they were asked to parse, and without that
hypothesis the model sends an unchecked v3.1.1 PUBCOMP (`C14_emitted_within_limit_full_false`).
-/
namespace MqttVerif.Conn
open MqttVerif

/-- C14 (1), unconditional form: every v5.0 packet requested for sending is within the limit in
    force after the call. -/
theorem C14_emitted_v5_within_limit (cfg : Cfg) (s : St) (op : Op) :
    ∀ p r, Ev.send p r ∈ (step cfg s op).ev → p.ver = 5 → p.sz cfg.pw ≤ (step cfg s op).s.mpsSend := by
  intro p r hm hv
  have h := (step_W (B := True) cfg s op (fun _ => trivial) (fun _ _ _ _ _ _ _ _ => trivial)).all (EvAll_nil _)
  rcases h.h _ hm with h | h
  · exact h
  · exact absurd hv h.1

def ParserKeepsVersion (op : Op) (v : Nat) : Prop :=
  ∀ inp parse, op = .recv inp parse → ∀ fh data p, parse v fh data = .ok p → p.ver = v

theorem sentSizesWithin_of_W {pw L : Nat} {l : List Ev} (h : EvAll (W False L pw) l) :
    Mon.sentSizesWithin pw L l = true := by
  simp only [Mon.sentSizesWithin, List.all_eq_true]
  intro e he
  have := h.h e he
  cases e <;> simp_all [W]

/-- C14 (1), the driver's monitor: on a v5.0 connection, with a parser that returns packets of the
    version it was asked to parse (`ParserKeepsVersion`), every packet handed to the application
    for sending fits the peer's Maximum Packet Size (limit after the call). -/
theorem C14_emitted_within_limit (cfg : Cfg) (s : St) (op : Op) (hv : s.ver = 5)
    (hp : ParserKeepsVersion op 5) :
    Mon.sentSizesWithin cfg.pw (step cfg s op).s.mpsSend (step cfg s op).ev = true := by
  refine sentSizesWithin_of_W ((step_W (B := False) cfg s op (fun h => h hv) ?_).all (EvAll_nil _))
  intro inp parse ho fh data p hpar hne
  exact hne (hp inp parse ho fh data p (hv ▸ hpar))

/-- the statement without the parser hypothesis -/
def C14_emitted_within_limit_full : Prop :=
  ∀ (cfg : Cfg) (s : St) (op : Op), s.ver = 5 →
    Mon.sentSizesWithin cfg.pw (step cfg s op).s.mpsSend (step cfg s op).ev = true

namespace C14ex
def cfg : Cfg := { role := .server, pw := 2 }
/-- established v5.0 connection, peer limit 3, automatic responses on -/
def s3 : St := { St.init cfg 5 with status := .connected, mpsSend := 3, autoPub := true }
/-- a parser that answers a v3.1.1 PUBREL although version 5 was requested -/
def badParse : Nat → Nat → List Nat → Except Nat Pkt := fun _ _ _ => .ok { ver := 4, kind := .pubrel, pid := some 1 }
def goodParse : Nat → Nat → List Nat → Except Nat Pkt := fun v _ _ => .ok { ver := v, kind := .pubrel, pid := some 1 }
def pubrelFrame : List Nat := [0x62, 2, 0, 1]

example : (step cfg s3 (.recv pubrelFrame badParse)).ev =
    [.send (mkAck cfg 4 .pubcomp 1) none, .recv { ver := 4, kind := .pubrel, pid := some 1 }] := by decide
/-- with a version-preserving parser the 5-byte PUBCOMP is refused (limit 3) -/
example : (step cfg s3 (.recv pubrelFrame goodParse)).ev =
    [.error eTooLarge, .recv { ver := 5, kind := .pubrel, pid := some 1 }] := by decide
example : s3.ver = 5 ∧ ParserKeepsVersion (.recv pubrelFrame goodParse) 5 := by
  refine ⟨rfl, ?_⟩
  intro inp parse ho fh data p hp
  cases ho
  simp only [goodParse, Except.ok.injEq] at hp
  rw [← hp]
end C14ex

theorem C14_emitted_within_limit_full_false : ¬ C14_emitted_within_limit_full := by
  intro h
  exact absurd (h C14ex.cfg C14ex.s3 (.recv C14ex.pubrelFrame C14ex.badParse) rfl) (by decide)


/-! ## (4) the limit is the peer's -/

/-- C14 (4): `mpsSend` is written only by `notify_closed` (reset to "no limit") and by a received
    CONNECT / a received CONNACK with reason code 0 (value of the last property 39, if any). -/
theorem C14_limit_is_peers (cfg : Cfg) (s : St) (op : Op) :
    (step cfg s op).s.mpsSend = s.mpsSend ∨
    (op = .closed ∧ (step cfg s op).s.mpsSend = noLimit) ∨
    (∃ inp parse fh data v p, op = .recv inp parse ∧
      (Framing.feed s.pb inp).2.1 = some (.complete fh data) ∧ parse v fh data = .ok p ∧
      (fh / 16 = 1 ∨ (fh / 16 = 2 ∧ p.rc = some 0)) ∧
      (step cfg s op).s.mpsSend = mpsOf p.props s.mpsSend) := by
  cases op with
  | send p => exact .inl (by show (send _ p).s.mpsSend = _; rw [Fp.send_s])
  | recv inp parse =>
    rcases recv_limit { cfg := cfg, s := s } inp parse with h | ⟨fh, data, v, hf, h | ⟨p, hp, ht, hm⟩⟩
    · exact .inl h
    · exact .inl h
    · exact .inr (.inr ⟨inp, parse, fh, data, v, p, rfl, hf, hp, ht, hm⟩)
  | timer k => exact .inl (by show (notifyTimerFired _ k).s.mpsSend = _; rw [Fp.notifyTimerFired_s])
  | closed => exact .inr (.inl ⟨rfl, by show (notifyClosed _).s.mpsSend = _; rw [Fp.notifyClosed_s_eq]⟩)
  | setInterval d => exact .inl (by show (setPingreqSendInterval _ d).s.mpsSend = _; rw [Fp.setPingreqSendInterval_s])
  | setFlag f b => cases f <;> exact .inl rfl
  | setRespTimeout ms => exact .inl rfl
  | acquire => exact .inl rfl
  | register id => exact .inl rfl
  | release id => exact .inl (by show (releasePacketId _ id).s.mpsSend = _; rw [Fp.releasePacketId_s])
  | erase id => exact .inl (by show (eraseStoredPublish _ id).s.mpsSend = _; rw [Fp.eraseStoredPublish_s])
  | restoreHandled ids => exact .inl rfl
  | restorePackets ps => exact .inl (by show (restorePackets _ ps).s.mpsSend = _; rw [Fp.restorePackets_s])

/-! ## (3) a received packet larger than the announced maximum -/

theorem cancelTimers_tail (c : C) :
    ∃ t, (cancelTimers c).ev = c.ev ++ t ∧ ∀ e ∈ t, ∃ k, e = Ev.timerCancel k := (cancelTimers_spec c).1

/-- C14 (3): a complete frame larger than the locally announced maximum is not delivered (no
    `NotifyPacketReceived` is added); when connected and the DISCONNECT fits the peer's limit the
    call appends: timer cancels, DISCONNECT 0x95 (Packet too large), close, error. -/
theorem C14_recv_oversize (c : C) (fh : Nat) (data : List Nat) (parse : Nat → Except Nat Pkt)
    (hbig : totalSize data.length > c.s.mpsRecv) :
    (∀ p, Ev.recv p ∈ (processRecvPacket c fh data parse).ev → Ev.recv p ∈ c.ev) ∧
    (c.s.status = .connected → sizeOk c (mkV5Disconnect 0x95) = true →
      ∃ t, (∀ e ∈ t, ∃ k, e = Ev.timerCancel k) ∧
        (processRecvPacket c fh data parse).ev =
          c.ev ++ t ++ [.send (mkV5Disconnect 0x95) none, .close, .error 0x95]) := by
  have hE : eTooLarge = 0x95 := rfl
  by_cases hc : c.s.status = .connected <;> by_cases hz : sizeOk c (mkV5Disconnect 0x95) = true
  · obtain ⟨t, ht, htc⟩ := cancelTimers_tail { c with s := { c.s with status := .disconnected } }
    have hev : (processRecvPacket c fh data parse).ev =
        c.ev ++ t ++ [.send (mkV5Disconnect 0x95) none, .close, .error 0x95] := by
      simp [processRecvPacket, hbig, v5DisconnectOrClose, psV5Disconnect, hc, hz, hE, ht]
    refine ⟨fun p hp => ?_, fun _ _ => ⟨t, htc, hev⟩⟩
    rw [hev, List.mem_append, List.mem_append] at hp
    rcases hp with (hp | hp) | hp
    · exact hp
    · obtain ⟨k, hk⟩ := htc _ hp
      exact absurd hk (by simp)
    · exact absurd hp (by simp)
  · obtain ⟨t, ht, htc⟩ := cancelTimers_tail { c with s := { c.s with status := .disconnected } }
    refine ⟨fun p hp => ?_, fun _ h => absurd h hz⟩
    simp [processRecvPacket, hbig, v5DisconnectOrClose, hc, hz, hE, ht] at hp
    rcases hp with hp | hp
    · exact hp
    · obtain ⟨k, hk⟩ := htc _ hp
      exact absurd hk (by simp)
  · refine ⟨fun p hp => ?_, fun h => absurd h hc⟩
    simpa [processRecvPacket, hbig, v5DisconnectOrClose, psV5Disconnect, hc, hz, hE] using hp
  · refine ⟨fun p hp => ?_, fun h => absurd h hc⟩
    simpa [processRecvPacket, hbig, v5DisconnectOrClose, psV5Disconnect, hc, hz, hE] using hp


/-- **the receiver-side size monitor is a theorem of the model** (driver monitor
    `VIOL sig=C14 oversize_delivered@<site>`): a `recv` call that completes a frame whose total
    size exceeds the Maximum Packet Size we announced on this connection (`mpsRecv`: written by the
    Maximum Packet Size property of the CONNECT / successful CONNACK we sent —
    `C14_announced_by_connect`, `connackSendProp_mpsRecv` — and reset to "no limit" by `notify_closed`,
    `C14_closed_resets_announced`) produces no `NotifyPacketReceived` at all.  Every
    configuration, state, input and parser. -/
theorem C14_oversize_not_delivered (cfg : Cfg) (s : St) (inp : List Nat)
    (parse : Nat → Nat → List Nat → Except Nat Pkt) (pb' : Framing.PB) (fh : Nat) (data rest : List Nat)
    (hf : Framing.feed s.pb inp = (pb', some (.complete fh data), rest))
    (hbig : totalSize data.length > s.mpsRecv) :
    ∀ p, Ev.recv p ∉ (step cfg s (.recv inp parse)).ev := by
  intro p hm
  have e : step cfg s (.recv inp parse) =
      processRecvPacket { cfg := cfg, s := { s with pb := pb' } } fh data (fun v => parse v fh data) := by
    simp only [step, recv, hf]
  rw [e] at hm
  have := (C14_recv_oversize { cfg := cfg, s := { s with pb := pb' } } fh data (fun v => parse v fh data) hbig).1 p hm
  simp at this

/-- in the monitor's own words: `deliveredAny` is false -/
theorem C14_monitor_oversize_delivered_sound (cfg : Cfg) (s : St) (inp : List Nat)
    (parse : Nat → Nat → List Nat → Except Nat Pkt) (pb' : Framing.PB) (fh : Nat) (data rest : List Nat)
    (hf : Framing.feed s.pb inp = (pb', some (.complete fh data), rest))
    (hbig : totalSize data.length > s.mpsRecv) :
    ((step cfg s (.recv inp parse)).ev.any fun e => match e with | .recv _ => true | _ => false) = false := by
  rw [Bool.eq_false_iff]
  intro h
  simp only [List.any_eq_true] at h
  obtain ⟨e, he, hb⟩ := h
  cases e with
  | recv p => exact C14_oversize_not_delivered cfg s inp parse pb' fh data rest hf hbig p he
  | _ => simp at hb

theorem connectSendProp_mpsRecv (c : C) (id v) :
    (connectSendProp c id v).s.mpsRecv = if id = pMPS then v else c.s.mpsRecv := by
  let Good : C → Prop := fun r => r.s.mpsRecv = if id = pMPS then v else c.s.mpsRecv
  show Good (connectSendProp c id v)
  unfold connectSendProp
  refine Fp.ite_ind (fun h => ?_) (fun _ => ?_)
  · have hm : Good c := by show _ = ite _ _ _; rw [if_neg (by rw [h]; decide)]
    exact Fp.ite_ind (Q := Good) (fun _ => hm) (fun _ => hm)
  refine Fp.ite_ind (fun h => ?_) (fun _ => ?_)
  · show _ = ite _ _ _; rw [if_neg (by rw [h]; decide)]
  refine Fp.ite_ind (fun h => (if_pos h).symm) (fun h => ?_)
  have hm : Good c := (if_neg h).symm
  refine Fp.ite_ind (fun _ => ?_) (fun _ => hm)
  exact Fp.ite_ind (Q := Good) (fun _ => hm) (fun _ => hm)

theorem connackSendProp_mpsRecv (c : C) (id v) :
    (connackSendProp c id v).s.mpsRecv = if id = pMPS then v else c.s.mpsRecv := by
  let Good : C → Prop := fun r => r.s.mpsRecv = if id = pMPS then v else c.s.mpsRecv
  show Good (connackSendProp c id v)
  unfold connackSendProp
  refine Fp.ite_ind (fun h => ?_) (fun _ => ?_)
  · have hm : Good c := by show _ = ite _ _ _; rw [if_neg (by rw [h]; decide)]
    exact Fp.ite_ind (Q := Good) (fun _ => hm) (fun _ => hm)
  refine Fp.ite_ind (fun h => ?_) (fun _ => ?_)
  · show _ = ite _ _ _; rw [if_neg (by rw [h]; decide)]
  refine Fp.ite_ind (fun h => (if_pos h).symm) (fun h => ?_)
  have hm : Good c := (if_neg h).symm
  refine Fp.ite_ind (fun _ => ?_) (fun _ => hm)
  refine Fp.ite_ind (fun _ => ?_) (fun _ => hm)
  dsimp only
  by_cases hr : c.s.recvSet = true
  · rw [if_pos hr]; exact hm
  · rw [if_neg hr]; exact hm

theorem propsFold_mpsRecv {f : C → Nat → Nat → C}
    (hf : ∀ c id v, (f c id v).s.mpsRecv = if id = pMPS then v else c.s.mpsRecv) (c : C) (l) :
    (propsFold f c l).s.mpsRecv = mpsOf l c.s.mpsRecv := by
  induction l generalizing c with
  | nil => rfl
  | cons x rest ih =>
    obtain ⟨id, v⟩ := x
    simp only [propsFold, mpsOf]
    rw [ih, hf]

/-- the value the monitor's ghost takes (`Mon.findProp p pMPS`) is the one the model stores when
    the packet carries the property at most once (as every real packet does) -/
theorem mpsOf_findProp {p : Pkt} {l d : Nat} (h : Mon.findProp p pMPS = some l)
    (huniq : ∀ x ∈ p.props, x.1 = pMPS → x.2 = l) : mpsOf p.props d = l := by
  have hmem : ∃ x ∈ p.props, x.1 = pMPS := by
    unfold Mon.findProp at h
    cases hf : p.props.find? (·.1 = pMPS) with
    | none => simp [hf] at h
    | some x => exact ⟨x, List.mem_of_find?_eq_some hf, by simpa using List.find?_some hf⟩
  clear h
  generalize p.props = ps at hmem huniq
  induction ps generalizing d with
  | nil => simp at hmem
  | cons y rest ih =>
    obtain ⟨i, v⟩ := y
    simp only [mpsOf]
    by_cases hr : ∃ x ∈ rest, x.1 = pMPS
    · exact ih hr (fun x hx => huniq x (List.mem_cons_of_mem _ hx))
    · have hi : i = pMPS := by
        obtain ⟨x, hx, hx1⟩ := hmem
        rcases List.mem_cons.1 hx with rfl | hx'
        · exact hx1
        · exact absurd ⟨x, hx', hx1⟩ hr
      have hv : v = l := huniq (i, v) (by simp) hi
      have hrest : ∀ d', mpsOf rest d' = d' := by
        intro d'
        clear ih huniq hmem
        induction rest generalizing d' with
        | nil => rfl
        | cons z r ih2 =>
          obtain ⟨j, w⟩ := z
          have hj : j ≠ pMPS := fun e => hr ⟨(j, w), by simp, e⟩
          simp only [mpsOf, hj, if_false]
          exact ih2 (fun ⟨x, hx, hx1⟩ => hr ⟨x, List.mem_cons_of_mem _ hx, hx1⟩) _
      rw [hrest, if_pos hi, hv]

/-- the limit announced by a v5.0 CONNECT accepted for sending is what `mpsRecv` holds afterwards -/
theorem C14_announced_by_connect (cfg : Cfg) (s : St) (p : Pkt) (hk : p.kind = .connect) (hv5 : p.ver = 5)
    (hv : s.ver = 5) (hr : cfg.role ≠ .server) (hst : s.status = .disconnected)
    (hsz : p.sz cfg.pw ≤ s.mpsSend) :
    (step cfg s (.send p)).s.mpsRecv = mpsOf p.props s.mpsRecv := by
  have hrole : roleMaySend cfg.role p = true := by cases h : cfg.role <;> simp_all [roleMaySend]
  have hs : sizeOk { cfg := cfg, s := s } p = true := by simp [sizeOk]; omega
  have h54 : ¬ (5 : Nat) = 4 := by decide
  simp only [step, send, hv, hv5, processSend, hk, hrole, h54, psV5Connect, hs, hst]
  simp only [ne_eq, not_true_eq_false, if_false, Bool.not_true, Bool.false_eq_true]
  have hpp : ∀ c : C, (sendPostProcess c).s.mpsRecv = c.s.mpsRecv := by
    intro c; rcases sendPostProcess_s_cases c with h | h <;> rw [h]
  rw [hpp]
  simp only [push_s]
  rw [propsFold_mpsRecv connectSendProp_mpsRecv]
  split <;> rfl

/-- `notify_closed` forgets the announced limit: the monitor's ghost is reset as well -/
theorem C14_closed_resets_announced (cfg : Cfg) (s : St) : (step cfg s .closed).s.mpsRecv = noLimit := by
  show (notifyClosed _).s.mpsRecv = noLimit
  rw [Fp.notifyClosed_s_eq]

/-- the hypotheses of `C14_oversize_not_delivered`: we announced Maximum Packet Size 10, a 14-byte
    PUBLISH frame arrives in one piece (and the announced value is the one `mpsRecv` holds) -/
example :
    let cfg : Cfg := ⟨.client, 2⟩
    let connect : Pkt := { ver := 5, kind := .connect, size := 20, props := [(pMPS, 10)] }
    let s := (step cfg (St.init cfg 5) (.send connect)).s
    s.mpsRecv = 10 ∧ Mon.findProp connect pMPS = some 10 ∧
    Framing.feed s.pb [0x30, 12, 0, 1, 116, 0, 1, 2, 3, 4, 5, 6, 7, 8] =
      ({}, some (.complete 0x30 [0, 1, 116, 0, 1, 2, 3, 4, 5, 6, 7, 8]), []) ∧
    totalSize [0, 1, 116, 0, 1, 2, 3, 4, 5, 6, 7, 8].length > s.mpsRecv := by decide

/-! ## (2) oversize stored packets -/

def fits (c : C) (x : Nat × Pkt) : Bool := decide (x.2.sz c.cfg.pw ≤ c.s.mpsSend)

theorem sendStoredLoop_store (l) (c : C) :
    (sendStoredLoop c l).2 = l.filter (fits c) := by
  induction l generalizing c with
  | nil => rfl
  | cons x rest ih =>
    obtain ⟨id, p⟩ := x
    unfold sendStoredLoop
    split
    · rename_i hz
      have hf : fits c (id, p) = false := by simp [fits]; omega
      rw [ih, List.filter_cons_of_neg (by simp [hf])]
      apply List.filter_congr
      intro x _
      simp [fits]
    · rename_i hz
      have hf : fits c (id, p) = true := by simp [fits]; omega
      simp only [ih, List.filter_cons_of_pos hf]
      congr 1
      apply List.filter_congr
      intro x _
      by_cases h1 : c.s.sendMax.isSome = true <;> by_cases h2 : c.s.sendCount ≥ 4294967295 <;>
        simp [fits, h1, h2]

/-- C14 (2a): after `send_stored` the store is exactly the entries that fit the peer's limit, in
    order — every oversize entry is removed. -/
theorem C14_oversize_stored_dropped (c : C) :
    (sendStored c).s.store = c.s.store.filter (fits c) := by
  rw [sendStored_eq]
  simp only [sendStoredLoop_store]
  apply List.filter_congr
  intro x _
  simp [fits]

/-- C14 (2b): `send_stored` requests sending only packets that fit: an oversize entry is not sent. -/
theorem C14_oversize_stored_not_sent (c : C) :
    ∀ q r, Ev.send q r ∈ (sendStored c).ev → Ev.send q r ∈ c.ev ∨ q.sz c.cfg.pw ≤ c.s.mpsSend := by
  let P : Ev → Prop := fun e => e ∈ c.ev ∨ (match e with | .send q _ => q.sz c.cfg.pw ≤ c.s.mpsSend | _ => True)
  have hP : Lax P := fun e he => by cases e <;> simp_all [Ev.passive, P]
  have h0 : EvAll P c.ev := ⟨fun e he => .inl he⟩
  have := (Fp.sendStored_adds hP.quiet c fun _ _ hx => .inr (sizeOk_iff.1 hx)).all h0
  intro q r hm
  exact this.h _ hm

/-- C14 (2c), partial: the oversize entry at the head of the store is dropped with its
    identifier released when in use (`NotifyPacketIdReleased` is emitted).  For an entry further
    down the store the same holds with "in use when the entry is reached"; relating that to the
    state before the call needs the allocator invariant and is left unproved
    (`C14_oversize_stored_released_full`). -/
theorem C14_oversize_stored_released_partial (c : C) (id : Nat) (p : Pkt) (rest)
    (hst : c.s.store = (id, p) :: rest) (hz : p.sz c.cfg.pw > c.s.mpsSend) (hu : isUsed c.s id = true) :
    Ev.released id ∈ (sendStored c).ev := by
  rw [sendStored_eq, hst, sendStoredLoop_over _ id p rest (by simpa using hz)]
  refine (Fp.sendStoredLoop_ev _ _).mem ?_
  have hu' : isUsed (dropPrep (resetCount c) id).s id = true := by
    have : (dropPrep (resetCount c) id).s.pidMan = c.s.pidMan := by
      unfold dropPrep resetCount; split <;> rfl
    simpa [isUsed, this] using hu
  simp [releaseIfUsed, hu']

def C14_oversize_stored_released_full : Prop :=
  ∀ (c : C) (id : Nat) (p : Pkt), (id, p) ∈ c.s.store → p.sz c.cfg.pw > c.s.mpsSend →
    isUsed c.s id = true → Ev.released id ∈ (sendStored c).ev

end MqttVerif.Conn
