import MqttVerif.Conn.Lemmas.GatePass
import MqttVerif.Conn.Lemmas.PersistFlag2
import MqttVerif.Conn.Lemmas.Store
/-!
# C11 — Send gating: role × version × connection-state matrix matches the MQTT rules

Statement (properties.jsonl): a packet handed to `send` is passed to the transport only if MQTT
allows that role to send that packet kind in that protocol version in the current connection
state; otherwise the result is only an error event (plus release of the packet's identifier)
and the connection behaves afterwards as if the call had not been made.  The
compile-time-checked send accepts exactly the packet types the run-time check accepts.

Specification: `Spec.mayTransmit` (`Spec/Gates.lean`, written from the MQTT rules).
Model: `step cfg s (.send p)` (`Conn/Step.lean`).  All theorems are for **every**
configuration, **every** state `s : St` (reachable or not) and **every** packet `p`.

Packets are constrained only by `Spec.PktWf`: one of the 29 packet types that exist (version
4 or 5, no v3.1.1 AUTH) and a QoS>0 PUBLISH has an identifier (the Rust builders enforce it;
`send` would `unwrap()` a `None`).
-/
set_option linter.unusedSimpArgs false
set_option linter.unusedVariables false
namespace MqttVerif.Conn
open MqttVerif

/-! ## what a gate refusal reports and releases -/

/-- v5.0 only: the peer's Maximum Packet Size test, which precedes the state test in every
    `process_send_v5_0_*` -/
def C11.tooLarge (cfg : Cfg) (s : St) (p : Pkt) : Bool :=
  decide (p.ver = 5) && decide (p.sz cfg.pw > s.mpsSend)

/-- the error of a refused call; a call refused because of the connection state reports
    `PacketTooLarge` (0x95), not `PacketNotAllowedToSend` (0x184), when the packet is also a
    v5.0 packet exceeding the peer's Maximum Packet Size: that test comes first -/
def C11.refusalError (cfg : Cfg) (s : St) (p : Pkt) : Nat :=
  if s.ver ≠ p.ver then eVersionMismatch
  else if Spec.roleMaySend cfg.role p.kind p.ver = false then eNotAllowed
  else if C11.tooLarge cfg s p then eTooLarge
  else eNotAllowed

/-- the identifier a refused call gives back.  For a version or role refusal (fix 1d0ef05; before
    it: none): the identifier the packet was given to start an exchange — `initiatingId p`, that
    of a PUBLISH / SUBSCRIBE / UNSUBSCRIBE carrying one.  For a state refusal: the identifier
    of a QoS>0 PUBLISH (of any v5.0 PUBLISH carrying one when it is too large), of a SUBSCRIBE,
    of an UNSUBSCRIBE. -/
def C11.refusalRelease (cfg : Cfg) (s : St) (p : Pkt) : Option Nat :=
  if s.ver ≠ p.ver ∨ Spec.roleMaySend cfg.role p.kind p.ver = false then initiatingId p
  else match p.kind with
    | .publish => if C11.tooLarge cfg s p ∨ p.qos > 0 then p.pid else none
    | .subscribe | .unsubscribe => some (p.pid.getD 0)
    | _ => none

theorem C11.tooLarge_iff (cfg : Cfg) (s : St) (ev : List Ev) (p : Pkt) :
    Fp.oversize ⟨cfg, s, ev⟩ p ↔ C11.tooLarge cfg s p = true := by
  simp [Fp.oversize, C11.tooLarge, sizeOk]

/-- a call the specification forbids is refused by the first of the three tests that fails -/
theorem C11.send_refused (cfg : Cfg) (s : St) (p : Pkt) (wf : Spec.PktWf p)
    (h : Spec.mayTransmit cfg.role s.ver s.status p s.needStore s.offline = false) :
    send ⟨cfg, s, []⟩ p = Fp.refusal ⟨cfg, s, []⟩ (C11.refusalError cfg s p) (C11.refusalRelease cfg s p) := by
  have hm := mt (mayTransmit_iff ⟨cfg, s, []⟩ p wf).2 (Bool.eq_false_iff.1 h)
  unfold C11.refusalError C11.refusalRelease
  refine Fp.send_cases (Q := fun r => r = _) ⟨cfg, s, []⟩ p (fun hv => ?_) (fun hv hr => ?_) (fun hv hr => ?_)
  · rw [if_pos hv, if_pos (.inl hv), Fp.refuseSend_eq]
  · have hr' := (roleMaySend_eq_spec cfg.role p).symm.trans hr
    rw [if_neg (not_not_intro hv), if_pos hr', if_pos (.inr hr'), Fp.refuseSend_eq]
  · have hr' : ¬Spec.roleMaySend cfg.role p.kind p.ver = false := by rw [← roleMaySend_eq_spec, hr]; decide
    rw [if_neg (not_not_intro hv), if_neg hr', if_neg (not_or.2 ⟨not_not_intro hv, hr'⟩),
      Fp.processSend_refused _ p wf (Classical.not_not.1 fun x => hm ⟨hv, hr, x⟩)]
    simp only [C11.tooLarge_iff]
    rfl

/-! ## C11 (3): a refused call is a no-op -/

/-- **C11, refusal is a no-op.**  If the specification forbids the transmission, the events of
    `send` are exactly one error event (`C11.refusalError`: 0x189, 0x184 or 0x95), followed by
    `NotifyPacketIdReleased id` iff the packet carries a releasable identifier
    (`C11.refusalRelease`) that is in use; and the state afterwards is `s` itself, resp.
    `releasedState s id` = `s` with only that identifier returned to the allocator
    (`releasedState_eta`: the other 33 fields are those of `s`; `C11_released_is_free`). -/
theorem C11_gate_refusal_is_noop (cfg : Cfg) (s : St) (p : Pkt) (wf : Spec.PktWf p)
    (h : Spec.mayTransmit cfg.role s.ver s.status p s.needStore s.offline = false) :
    (step cfg s (.send p)).ev =
      .error (C11.refusalError cfg s p) ::
        (match C11.refusalRelease cfg s p with | none => [] | some id => releasedEv s id) ∧
    (step cfg s (.send p)).s =
      (match C11.refusalRelease cfg s p with | none => s | some id => releasedState s id) ∧
    (C11.refusalError cfg s p = eVersionMismatch ∨ C11.refusalError cfg s p = eNotAllowed ∨
      C11.refusalError cfg s p = eTooLarge) := by
  have hs := C11.send_refused cfg s p wf h
  refine ⟨?_, ?_, ?_⟩
  · show (send ⟨cfg, s, []⟩ p).ev = _
    rw [hs]
    cases C11.refusalRelease cfg s p <;> simp [Fp.refusal, releaseIfUsed_eq]
  · show (send ⟨cfg, s, []⟩ p).s = _
    rw [hs]
    cases C11.refusalRelease cfg s p <;> simp [Fp.refusal, releaseIfUsed_eq]
  · have ite := @Fp.ite_both Nat fun e => e = eVersionMismatch ∨ e = eNotAllowed ∨ e = eTooLarge
    exact ite (.inl rfl) (ite (.inr (.inl rfl)) (ite (.inr (.inr rfl)) (.inr (.inl rfl))))

/-- the refused call, field by field: every field of the state except the allocator (and the
    sticky panic marker) is untouched, whatever the kind and version -/
theorem C11_gate_refusal_fields (cfg : Cfg) (s : St) (p : Pkt) (wf : Spec.PktWf p)
    (h : Spec.mayTransmit cfg.role s.ver s.status p s.needStore s.offline = false) :
    ∃ a pn, (step cfg s (.send p)).s = { s with pidMan := a, panic := pn } := by
  rw [(C11_gate_refusal_is_noop cfg s p wf h).2.1]
  cases C11.refusalRelease cfg s p with
  | none => exact ⟨s.pidMan, s.panic, rfl⟩
  | some id => exact releasedState_eta s id

/-- … and with the allocator in a state refining a set `S` of used identifiers (as every state
    produced by allocator operations is, C20), the state after the refused call is `s` with the
    allocator refining `S` minus the released identifier: nothing else, no panic, and the
    identifier is free. -/
theorem C11_released_is_free (cfg : Cfg) (s : St) (p : Pkt) (wf : Spec.PktWf p) (S : Alloc.S)
    (r : Alloc.R s.pidMan S)
    (h : Spec.mayTransmit cfg.role s.ver s.status p s.needStore s.offline = false) :
    (step cfg s (.send p)).s = s ∨
    ∃ id, C11.refusalRelease cfg s p = some id ∧ isUsed s id = true ∧
      (step cfg s (.send p)).s = { s with pidMan := (Alloc.deallocate s.pidMan id).2 } ∧
      Alloc.R (Alloc.deallocate s.pidMan id).2 { S with used := S.used.filter (· ≠ id) } ∧
      isUsed (step cfg s (.send p)).s id = false ∧
      (step cfg s (.send p)).ev = [.error (C11.refusalError cfg s p), .released id] := by
  obtain ⟨hev, hst, _⟩ := C11_gate_refusal_is_noop cfg s p wf h
  cases hrel : C11.refusalRelease cfg s p with
  | none => left; simpa [hrel] using hst
  | some id =>
    simp only [hrel] at hev hst
    by_cases hu : isUsed s id = true
    · right
      obtain ⟨h1, h2, h3⟩ := releasedState_of_R r id hu
      refine ⟨id, rfl, hu, hst.trans h1, h2, ?_, ?_⟩
      · rw [hst]; exact h3
      · rw [hev]; simp [releasedEv, hu]
    · left; rw [hst]; simp [releasedState, hu]

/-- an identifier awaited by no SUBACK / UNSUBACK / PUBACK / PUBREC: `release_packet_id` has no
    exchange to abandon (fix ba1a812) -/
def C11.NotAwaited (s : St) (id : Nat) : Prop :=
  id ∉ s.suback ∧ id ∉ s.unsuback ∧ id ∉ s.puback ∧ id ∉ s.pubrec

instance (s : St) (id : Nat) : Decidable (C11.NotAwaited s id) := by unfold C11.NotAwaited; infer_instance

theorem releasedStateP_of_notAwaited {s : St} {id : Nat} (h : C11.NotAwaited s id) :
    releasedStateP s id = releasedState s id := by
  obtain ⟨h1, h2, h3, h4⟩ := h
  unfold releasedStateP
  refine Fp.ite_ind (Q := fun x => x = releasedState s id) (fun _ => ?_) fun hu => ?_
  · obtain ⟨a, pn, e⟩ := releasedState_eta s id
    rw [e]
    unfold abandonExchange
    dsimp only
    rw [if_neg (fun x => x.1.elim h3 h4), del_not_mem h1, del_not_mem h2, del_not_mem h3, del_not_mem h4]
  · unfold releasedState
    rw [if_neg hu]

/-- **C11, "as if the call had not been made".**  A refused `send` leaves the connection in the
    state — and, apart from the error event, with the events — of *not calling `send`* (nothing
    to release) resp. of calling `release_packet_id(id)` instead; hence every continuation
    (any sequence of further API calls) behaves identically.
    Since fix ba1a812 `release_packet_id` also abandons the exchange that awaits `id`, which the
    refusal does not (it releases the identifier the packet was given, `releaseIfUsed`): the
    comparison with `release_packet_id` holds for an identifier no exchange awaits (`hown`: the
    application acquired it for this very packet) — `C11_refused_call_equiv_needs_notAwaited`.  Without
    `hown` the state is still that of the internal release: `C11_gate_refusal_is_noop`. -/
theorem C11_refused_call_equiv (cfg : Cfg) (s : St) (p : Pkt) (wf : Spec.PktWf p)
    (h : Spec.mayTransmit cfg.role s.ver s.status p s.needStore s.offline = false) (ops : List Op)
    (hown : ∀ id, C11.refusalRelease cfg s p = some id → C11.NotAwaited s id) :
    match C11.refusalRelease cfg s p with
    | none =>
        (step cfg s (.send p)).ev = [.error (C11.refusalError cfg s p)] ∧
        run cfg s (.send p :: ops) = run cfg s ops ∧
        runEvents cfg s (.send p :: ops) = [.error (C11.refusalError cfg s p)] :: runEvents cfg s ops
    | some id =>
        (step cfg s (.send p)).ev = .error (C11.refusalError cfg s p) :: (step cfg s (.release id)).ev ∧
        run cfg s (.send p :: ops) = run cfg s (.release id :: ops) ∧
        (runEvents cfg s (.send p :: ops)).tail = (runEvents cfg s (.release id :: ops)).tail := by
  obtain ⟨hev, hst, _⟩ := C11_gate_refusal_is_noop cfg s p wf h
  cases hrel : C11.refusalRelease cfg s p with
  | none =>
    simp only [hrel] at hev hst ⊢
    simp only [run, runEvents, hst, hev, and_self]
  | some id =>
    simp only [hrel] at hev hst ⊢
    have hr : step cfg s (.release id) =
        { cfg := cfg, s := releasedState s id, ev := releasedEv s id } := by
      simp only [step, releasePacketId_eqP, releasedStateP_of_notAwaited (hown id hrel), List.nil_append]
    simp only [run, runEvents, hst, hev, hr, List.tail_cons, and_self]

/-! ## C11 (2): soundness of the gate -/

/-- **C11, the gate is sound.**  For a packet of version 4 or 5 (`Spec.PktWf` is not needed): if
    `send` passes anything to the transport (some
    `RequestSendPacket` among the events) or touches the store of packets kept for
    retransmission, the specification allowed the transmission.  (Refusals for other reasons —
    too large, Receive Maximum, alias, unknown identifier — only remove transmissions.) -/
theorem C11_send_gate_sound (cfg : Cfg) (s : St) (p : Pkt) (hver : p.ver = 4 ∨ p.ver = 5)
    (h : (∃ q r, Ev.send q r ∈ (step cfg s (.send p)).ev) ∨
         (step cfg s (.send p)).s.store ≠ s.store) :
    Spec.mayTransmit cfg.role s.ver s.status p s.needStore s.offline = true := by
  cases hm : Spec.mayTransmit cfg.role s.ver s.status p s.needStore s.offline
  case true => rfl
  exfalso
  by_cases wf : Spec.PktWf p
  · obtain ⟨hev, hst, _⟩ := C11_gate_refusal_is_noop cfg s p wf hm
    rcases h with ⟨q, r, hq⟩ | hstore
    · rw [hev] at hq
      cases hrel : C11.refusalRelease cfg s p with
      | none => simp [hrel] at hq
      | some id => simp [hrel, releasedEv] at hq
    · apply hstore; rw [hst]
      cases hrel : C11.refusalRelease cfg s p with
      | none => rfl
      | some id =>
        obtain ⟨a, pn, e⟩ := releasedState_eta s id
        show (releasedState s id).store = s.store
        rw [e]
  · obtain ⟨h1, h2⟩ := send_nonwf ⟨cfg, s, []⟩ p hver wf
    rcases h with ⟨q, r, hq⟩ | hstore
    · change Ev.send q r ∈ (send ⟨cfg, s, []⟩ p).ev at hq
      rcases h2 with h2 | ⟨e, h2⟩ <;> simp [h2] at hq
    · exact hstore h1

/-- the same with "the store grew" -/
theorem C11_send_gate_sound_grew (cfg : Cfg) (s : St) (p : Pkt) (hver : p.ver = 4 ∨ p.ver = 5)
    (h : (step cfg s (.send p)).s.store.length > s.store.length) :
    Spec.mayTransmit cfg.role s.ver s.status p s.needStore s.offline = true :=
  C11_send_gate_sound cfg s p hver (Or.inr (fun e => by rw [e] at h; omega))

/-! ## C11 (2, converse): the gate decision is a function of eight flags, and it is the specification -/

/-- the model's gate decision, *extracted by running the model*: `send` on a canonical,
    otherwise permissive state (identifier 1 acquired, no size / Receive-Maximum limits, no
    alias table) with a canonical packet of the given kind/version/QoS (identifier 1, topic
    "a"); `true` = the call is answered with `VersionMismatch` or `PacketNotAllowedToSend`. -/
def C11.canonState (ver : Nat) (status : Status) (needStore offline : Bool) : St :=
  { ver := ver, pidMan := (Alloc.useValue (Alloc.new 1 65535 65535) 1).2, status := status,
    needStore := needStore, offline := offline }
def C11.canonPkt (kind : Kind) (pver qos : Nat) : Pkt :=
  { ver := pver, kind := kind, qos := qos, pid := some 1, topic := [97] }
def C11.sendGate (role : Role) (ver : Nat) (status : Status) (kind : Kind) (pver qos : Nat)
    (needStore offline : Bool) : Bool :=
  gateRefusedEv (step ⟨role, 2⟩ (C11.canonState ver status needStore offline)
    (.send (C11.canonPkt kind pver qos))).ev

/-- **C11, completeness of the gate.**  If the specification allows the transmission, `send`
    reports neither `VersionMismatch` nor `PacketNotAllowedToSend` — for every state and every
    packet that is not too large for the peer and whose Topic Alias use is valid (`AliasFine`:
    a topic name with an alias in range, or no topic name and an alias that resolves; alias
    refusals are the subject of C13 and reuse the code 0x184). -/
theorem C11_gate_pass (cfg : Cfg) (s : St) (p : Pkt) (wf : Spec.PktWf p)
    (hs : C11.tooLarge cfg s p = false) (ha : AliasFine s p)
    (h : Spec.mayTransmit cfg.role s.ver s.status p s.needStore s.offline = true) :
    gateFree (step cfg s (.send p)).ev = true := by
  obtain ⟨t, ht, hf⟩ := send_pass ⟨cfg, s, []⟩ p wf (mt (C11.tooLarge_iff ..).1 (Bool.eq_false_iff.1 hs)) h ha
  show gateFree (send ⟨cfg, s, []⟩ p).ev = true
  rw [ht]; simpa using hf

/-- **C11, the gate decision** ("is the first event a gate error?") **is `¬ Spec.mayTransmit`**,
    in every state, for every packet that is not too large for the peer and whose Topic Alias
    use is valid (as in `C11_gate_pass`). -/
theorem C11_gate_decision (cfg : Cfg) (s : St) (p : Pkt) (wf : Spec.PktWf p)
    (hs : C11.tooLarge cfg s p = false) (ha : AliasFine s p) :
    gateRefusedEv (step cfg s (.send p)).ev =
      !Spec.mayTransmit cfg.role s.ver s.status p s.needStore s.offline := by
  cases hm : Spec.mayTransmit cfg.role s.ver s.status p s.needStore s.offline
  · obtain ⟨hev, _, _⟩ := C11_gate_refusal_is_noop cfg s p wf hm
    rw [hev]
    simp only [gateRefusedEv, gateErr, Bool.not_false, Bool.or_eq_true, beq_iff_eq]
    unfold C11.refusalError
    rw [hs]
    exact Fp.ite_both (Q := fun e => e = eVersionMismatch ∨ e = eNotAllowed) (.inl rfl)
      (.inr (Fp.ite_both (Q := (· = eNotAllowed)) rfl rfl))
  · simpa using gateRefusedEv_of_free (C11_gate_pass cfg s p wf hs ha hm)

theorem C11.canon_wf (kind : Kind) (pver qos : Nat) (hex : Spec.pktExists pver kind = true) :
    Spec.PktWf (C11.canonPkt kind pver qos) := by
  simp only [Spec.pktExists, Bool.and_eq_true, Bool.or_eq_true, beq_iff_eq, Bool.not_eq_true',
    Bool.and_eq_false_imp] at hex
  refine ⟨hex.1, fun hk => ?_, fun _ _ => rfl⟩
  have hk' : kind = .auth := hk
  rcases hex.1 with h | h
  · have := hex.2 h; simp [hk'] at this
  · exact h

theorem C11.canon_small (role : Role) (kind : Kind) (ver pver qos : Nat) (status : Status)
    (ns off : Bool) :
    C11.tooLarge ⟨role, 2⟩ (C11.canonState ver status ns off) (C11.canonPkt kind pver qos) = false := by
  have hsz : (C11.canonPkt kind pver qos).sz 2 ≤ 20 := by
    by_cases hp : pver = 5 ∧ kind = .publish <;> by_cases hq : qos > 0 <;>
      simp [Pkt.sz, C11.canonPkt, Pkt.pubSize, totalSize, Pkt.pubRemLen, Pkt.pubPropLen, vbiLen, hp, hq]
  have hl : (20 : Nat) ≤ noLimit := by unfold noLimit; omega
  dsimp only [C11.tooLarge, C11.canonState]
  simp only [Bool.and_eq_false_imp, decide_eq_true_eq, decide_eq_false_iff_not]
  intro _; omega

/-- **C11, `C11.sendGate = ¬ Spec.mayTransmit`**: the extracted gate decision equals the
    specification on all 3 × ℕ × 3 × 29 × ℕ × 2 × 2 cells whose packet type exists (not only
    those enumerated in `C11.sendGateCells`). -/
theorem C11_sendGate_eq_spec (role : Role) (ver : Nat) (status : Status) (kind : Kind) (pver qos : Nat)
    (needStore offline : Bool) (hex : Spec.pktExists pver kind = true) :
    C11.sendGate role ver status kind pver qos needStore offline =
      !Spec.mayTransmit role ver status (C11.canonPkt kind pver qos) needStore offline :=
  C11_gate_decision ⟨role, 2⟩ (C11.canonState ver status needStore offline) (C11.canonPkt kind pver qos)
    (C11.canon_wf kind pver qos hex) (C11.canon_small role kind ver pver qos status needStore offline)
    (fun _ _ => by simp [C11.canonPkt])

/-- **C11, the gate refusal depends on nothing but the eight flags**: in *every* state `s` and
    for *every* packet `p` (not too large, valid alias use, as in `C11_gate_pass`) the gate
    decision of `send` is the entry of the extracted table at (role, version, status, kind,
    packet version, QoS, need_store, offline). -/
theorem C11_gate_depends_only_on_flags (cfg : Cfg) (s : St) (p : Pkt) (wf : Spec.PktWf p)
    (hs : C11.tooLarge cfg s p = false) (ha : AliasFine s p) :
    gateRefusedEv (step cfg s (.send p)).ev =
      C11.sendGate cfg.role s.ver s.status p.kind p.ver p.qos s.needStore s.offline := by
  have hex : Spec.pktExists p.ver p.kind = true := by
    simp only [Spec.pktExists, Bool.and_eq_true, Bool.or_eq_true, beq_iff_eq, Bool.not_eq_true',
      Bool.and_eq_false_imp]
    refine ⟨wf.ver, fun h4 => ?_⟩
    cases hk : p.kind <;> simp
    have := wf.auth hk; omega
  rw [C11_gate_decision cfg s p wf hs ha, C11_sendGate_eq_spec _ _ _ _ _ _ _ _ hex]
  rfl

/-- the finite matrix of the property text (3 roles × {undetermined, v3.1.1, v5.0} × 3 statuses
    × 29 packet types × QoS 0/1/2 × persistent × offline = 9 396 cells) with the extracted gate
    decision; to be compared with the matrix the harness measures on the implementation -/
def C11.sendGateCells : List (Role × Nat × Status × Kind × Nat × Nat × Bool × Bool) :=
  Spec.allRoles.flatMap fun r => [0, 4, 5].flatMap fun v => Spec.allStatuses.flatMap fun st =>
  Spec.allPktTypes.flatMap fun kv => [0, 1, 2].flatMap fun q => [false, true].flatMap fun ns =>
  [false, true].map fun off => (r, v, st, kv.1, kv.2, q, ns, off)

def C11.sendGateTable : List ((Role × Nat × Status × Kind × Nat × Nat × Bool × Bool) × Bool) :=
  C11.sendGateCells.map fun c =>
    (c, C11.sendGate c.1 c.2.1 c.2.2.1 c.2.2.2.1 c.2.2.2.2.1 c.2.2.2.2.2.1 c.2.2.2.2.2.2.1 c.2.2.2.2.2.2.2)

theorem C11.allPktTypes_exist : ∀ kv ∈ Spec.allPktTypes, Spec.pktExists kv.2 kv.1 = true := by decide

theorem C11.allPktTypes_length : Spec.allPktTypes.length = 29 := by decide

theorem length_flatMap_const {α β : Type} {f : α → List β} {n : Nat} (h : ∀ x, (f x).length = n) :
    ∀ l : List α, (l.flatMap f).length = l.length * n
  | [] => (Nat.zero_mul n).symm
  | x :: l => by
    rw [List.flatMap_cons, List.length_append, h, length_flatMap_const h l, List.length_cons,
      Nat.succ_mul, Nat.add_comm]

theorem C11_sendGateTable_eq_spec :
    ∀ row ∈ C11.sendGateTable,
      row.2 = !Spec.mayTransmit row.1.1 row.1.2.1 row.1.2.2.1
        (C11.canonPkt row.1.2.2.2.1 row.1.2.2.2.2.1 row.1.2.2.2.2.2.1)
        row.1.2.2.2.2.2.2.1 row.1.2.2.2.2.2.2.2 := by
  intro row hrow
  simp only [C11.sendGateTable, List.mem_map] at hrow
  obtain ⟨c, hc, rfl⟩ := hrow
  apply C11_sendGate_eq_spec
  simp only [C11.sendGateCells, List.mem_flatMap, List.mem_map] at hc
  obtain ⟨r, _, v, _, st, _, kv, hkv, q, _, ns, _, off, _, rfl⟩ := hc
  exact C11.allPktTypes_exist kv hkv

/-! ## C11 (4): the compile-time table -/

/-- **C11, `checked_send` ≡ run-time role check.**  The table the design gives for the trait
    bound `T: Sendable<Role, _>` is the run-time role test of `send`, for every packet. -/
theorem C11_checked_eq_runtime (r : Role) (p : Pkt) :
    Spec.compileTimeOk r p.kind p.ver = roleMaySend r p := by
  rw [roleMaySend_eq_spec]
  cases r <;> cases p.kind <;>
    simp [Spec.compileTimeOk, Spec.roleMaySend, Spec.actsAsClient, Spec.actsAsServer] <;>
    (by_cases hv : p.ver = 4 <;> simp [hv])

theorem C11_checked_eq_spec (r : Role) (k : Kind) (v : Nat) :
    Spec.compileTimeOk r k v = Spec.roleMaySend r k v := by
  have := C11_checked_eq_runtime r { ver := v, kind := k }
  rwa [roleMaySend_eq_spec] at this

/-- 3 roles × 29 packet types: the enumeration to be compared with the table regenerated from
    rustc -/
theorem C11_compileTimeTable_length : Spec.compileTimeTable.length = 87 := by
  unfold Spec.compileTimeTable
  rw [length_flatMap_const (n := 29) fun r => by rw [List.length_map, C11.allPktTypes_length]]
  rfl

theorem C11_compileTimeTable_runtime :
    ∀ row ∈ Spec.compileTimeTable,
      row.2.2.2 = roleMaySend row.1 { ver := row.2.2.1, kind := row.2.1 } := by
  intro row hrow
  simp only [Spec.compileTimeTable, List.mem_flatMap, List.mem_map] at hrow
  obtain ⟨r, _, kv, _, rfl⟩ := hrow
  exact C11_checked_eq_runtime r { ver := kv.2, kind := kv.1 }

/-! ## non-vacuity: concrete instances of the hypotheses -/

def C11.exCfg : Cfg := ⟨.client, 2⟩
/-- a v5.0 client in state `connecting`, identifier 7 acquired, peer limit 100 bytes -/
def C11.exState : St :=
  { St.init C11.exCfg 5 with
    pidMan := (Alloc.useValue (Alloc.new 1 65535 65535) 7).2, status := .connecting, mpsSend := 100 }
def C11.exSub : Pkt := { ver := 5, kind := .subscribe, size := 20, pid := some 7 }
def C11.exBigPub : Pkt := { ver := 5, kind := .publish, qos := 1, pid := some 7, topic := [97], payloadLen := 200 }
def C11.exConnack : Pkt := { ver := 5, kind := .connack, size := 5, rc := some 0 }
def C11.exV3Sub : Pkt := { ver := 4, kind := .subscribe, size := 20, pid := some 7 }
def C11.exSet : Alloc.S := ⟨1, 65535, [7]⟩

/-- SUBSCRIBE while connecting: state refusal, 0x184, identifier 7 released -/
example : Spec.PktWf C11.exSub ∧
    Spec.mayTransmit C11.exCfg.role C11.exState.ver C11.exState.status C11.exSub
      C11.exState.needStore C11.exState.offline = false ∧
    (step C11.exCfg C11.exState (.send C11.exSub)).ev = [.error 0x184, .released 7] ∧
    isUsed C11.exState 7 = true ∧ isUsed (step C11.exCfg C11.exState (.send C11.exSub)).s 7 = false := by
  decide
/-- oversize QoS 1 PUBLISH while connecting (not persistent): 0x95 reported, identifier released -/
example : Spec.PktWf C11.exBigPub ∧
    Spec.mayTransmit C11.exCfg.role C11.exState.ver C11.exState.status C11.exBigPub
      C11.exState.needStore C11.exState.offline = false ∧
    (step C11.exCfg C11.exState (.send C11.exBigPub)).ev = [.error 0x95, .released 7] := by
  decide
/-- CONNACK from a client: role refusal of a packet without identifier — the state is literally
    unchanged; v3.1.1 SUBSCRIBE on a v5.0 connection: version refusal — identifier 7 is released
    like in every other refusal (fix 1d0ef05; before it the identifier stayed in use) -/
example : (step C11.exCfg C11.exState (.send C11.exConnack)).ev = [.error 0x184] ∧
    (step C11.exCfg C11.exState (.send C11.exConnack)).s = C11.exState ∧
    C11.refusalRelease C11.exCfg C11.exState C11.exV3Sub = some 7 ∧
    (step C11.exCfg C11.exState (.send C11.exV3Sub)).ev = [.error 0x189, .released 7] ∧
    isUsed (step C11.exCfg C11.exState (.send C11.exV3Sub)).s 7 = false := by
  decide
/-- `hown` of `C11_refused_call_equiv` holds in the example: identifier 7 is awaited by nothing -/
example : ∀ id, C11.refusalRelease C11.exCfg C11.exState C11.exV3Sub = some id → C11.NotAwaited C11.exState id := by
  decide
/-- **`hown` is needed** (since fix ba1a812): identifier 7 is awaited by a SUBACK and the application
    gives it to another, refused, packet.  The refusal frees the identifier and leaves `pid_suback`
    alone; `release_packet_id(7)` would also have abandoned the SUBSCRIBE: the two states differ
    (only) in `pid_suback`. -/
theorem C11_refused_call_equiv_needs_notAwaited :
    let s : St := { C11.exState with suback := [7] }
    Spec.PktWf C11.exV3Sub ∧
    Spec.mayTransmit C11.exCfg.role s.ver s.status C11.exV3Sub s.needStore s.offline = false ∧
    C11.refusalRelease C11.exCfg s C11.exV3Sub = some 7 ∧ ¬ C11.NotAwaited s 7 ∧
    (step C11.exCfg s (.send C11.exV3Sub)).ev = [.error 0x189, .released 7] ∧
    (step C11.exCfg s (.release 7)).ev = [.released 7] ∧
    (step C11.exCfg s (.send C11.exV3Sub)).s.suback = [7] ∧ (step C11.exCfg s (.release 7)).s.suback = [] ∧
    (step C11.exCfg s (.send C11.exV3Sub)).s = { (step C11.exCfg s (.release 7)).s with suback := [7] } := by
  decide
/-- SUBSCRIBE sent by a server-role object: role refusal, identifier released -/
example : (step ⟨.server, 2⟩ C11.exState (.send C11.exSub)).ev = [.error 0x184, .released 7] ∧
    isUsed (step ⟨.server, 2⟩ C11.exState (.send C11.exSub)).s 7 = false := by
  decide
/-- the allocator of the example refines the set {7} -/
example : Alloc.R C11.exState.pidMan C11.exSet where
  lo := rfl
  hi := rfl
  rng := by decide
  tm := by decide
  ok := by decide
  free := by
    intro v
    simp only [C11.exState, C11.exSet, Alloc.useValue, Alloc.new, Alloc.useValueP, Alloc.S.free]
    simp [Alloc.Free]; omega
/-- soundness hypothesis: a persistent QoS 1 PUBLISH while connecting is stored -/
example :
    let s := { C11.exState with needStore := true }
    let p : Pkt := { ver := 5, kind := .publish, qos := 1, pid := some 7, topic := [97] }
    (step C11.exCfg s (.send p)).s.store ≠ s.store ∧
    Spec.mayTransmit C11.exCfg.role s.ver s.status p s.needStore s.offline = true := by
  decide
/-- … and a CONNECT while disconnected is passed to the transport -/
example :
    let s := St.init C11.exCfg 5
    let p : Pkt := { ver := 5, kind := .connect, size := 15, keepAlive := 10 }
    (step C11.exCfg s (.send p)).ev = [.send p none, .timerReset .pingreqSend 10000] := by
  decide

/-- hypotheses of `C11_gate_pass` / `C11_gate_decision`: a connected v5.0 client, QoS 1 PUBLISH
    with topic "a" and alias 3 within the peer's Topic Alias Maximum 10 -/
def C11.exConnected : St := { C11.exState with status := .connected, tas := some (TAS.new 10) }
def C11.exAliasPub : Pkt :=
  { ver := 5, kind := .publish, qos := 1, pid := some 7, topic := [97], alias := some 3 }
example : Spec.PktWf C11.exAliasPub ∧ C11.tooLarge C11.exCfg C11.exConnected C11.exAliasPub = false ∧
    Spec.mayTransmit C11.exCfg.role C11.exConnected.ver C11.exConnected.status C11.exAliasPub
      C11.exConnected.needStore C11.exConnected.offline = true ∧
    (step C11.exCfg C11.exConnected (.send C11.exAliasPub)).ev = [.send C11.exAliasPub (some 7)] := by
  decide
example : AliasFine C11.exConnected C11.exAliasPub :=
  fun _ _ => by
    show ∀ a, C11.exAliasPub.alias = some a → _
    intro a h; cases h; decide
/-- … and a PUBLISH without topic name whose alias 3 is registered -/
def C11.exAliased : St :=
  { C11.exState with status := .connected, tas := some ((TAS.new 10).insertOrUpdate [97] 3) }
def C11.exAliasOnlyPub : Pkt := { ver := 5, kind := .publish, qos := 0, alias := some 3 }
example : AliasFine C11.exAliased C11.exAliasOnlyPub :=
  fun _ _ => by
    show (aliasLookup C11.exAliased.tas C11.exAliasOnlyPub.alias).isSome = true
    decide
example : (step C11.exCfg C11.exAliased (.send C11.exAliasOnlyPub)).ev = [.send C11.exAliasOnlyPub none] := by
  decide
/-- a few cells of the extracted matrix -/
example : C11.sendGate .server 5 .connected .subscribe 5 0 false false = true ∧
    C11.sendGate .client 5 .connected .subscribe 5 0 false false = false ∧
    C11.sendGate .any 0 .connected .publish 5 0 false false = true ∧
    C11.sendGate .client 4 .disconnected .publish 4 1 true true = false ∧
    C11.sendGate .client 4 .disconnected .publish 4 1 true false = true := by decide
example : C11.sendGateCells.length = 9396 := by
  unfold C11.sendGateCells
  rw [length_flatMap_const (n := 3 * (3 * (29 * (3 * (2 * 2)))))]
  · rfl
  intro r
  rw [length_flatMap_const (n := 3 * (29 * (3 * (2 * 2))))]
  · rfl
  intro v
  rw [length_flatMap_const (n := 29 * (3 * (2 * 2)))]
  · rfl
  intro st
  rw [length_flatMap_const (n := 3 * (2 * 2)), C11.allPktTypes_length]
  intro kv
  rw [length_flatMap_const (n := 2 * 2)]
  · rfl
  intro q
  rw [length_flatMap_const (n := 2)]
  · rfl
  intro ns
  rfl


/-! ## `C11 persistence_flag`: the flag the send gate reads is the persistence of the session

Driver monitor `VIOL sig=C11 persistence_flag@<site>`.  The driver keeps a ghost Boolean `ns`
(initially `false`): the call `set off 1` (offline publishing switched on) sets it; then the events
of the call update it in order (`PF.nsEv`): a CONNECT sent or delivered sets it to `!clean`
(v3.1.1) resp. `Session Expiry Interval > 0` (v5.0, the FIRST such property); a delivered v5.0
CONNACK with reason code 0 that carries a Session Expiry Interval property sets it to `value > 0`;
every other event leaves it.  After every call the digest field `need_store` must equal the ghost.

`C11_persistence_flag_step`: `needStore = ghost` is an invariant of `step` — together with
"the version is 0, 4 or 5" and "no stored packet is a CONNECT" — for every call that respects
`C11.PFLegal` (each clause is shown to be needed by a `decide`-checked example below):
* a sent CONNECT carries at most one Session Expiry Interval property (`PF.SeiOnce`);
* a received packet comes from a parser whose result has the kind of the frame's type nibble, and,
  for CONNECT / CONNACK, the version it was parsed for and at most one Session Expiry Interval
  (`PF.ParsePF`);
* `restore_packets` is not given a CONNECT (its Rust argument type admits PUBLISH / PUBREL only).
The model sets `needStore` in exactly the places the ghost does: `set_offline_publish(true)`,
`initConn` + CONNECT handling (send and receive side), `connackRecvProp`.  No other operation
touches it (frame lemmas `PF.K_*`). -/

/-- the driver's `ns0` -/
def C11.nsReset : Op → Bool → Bool
  | .setFlag .offline true, _ => true
  | _, ns => ns

/-- the driver's fold over the events of the call (`PF.nsEv` is its step function) -/
def C11.nsStep (ns : Bool) (evs : List Ev) : Bool := PF.nsStep ns evs

def C11.nsRun (cfg : Cfg) : St → Bool → List Op → Bool
  | _, ns, [] => ns
  | s, ns, op :: ops => C11.nsRun cfg (step cfg s op).s (C11.nsStep (C11.nsReset op ns) (step cfg s op).ev) ops

structure C11.PFInv (s : St) (ns : Bool) : Prop where
  flag : s.needStore = ns
  ver : PF.VerOk s.ver
  store : ∀ x ∈ s.store, x.2.kind ≠ .connect

def C11.PFLegal : Op → Prop
  | .send p => p.kind = .connect → PF.SeiOnce p.props
  | .recv _ parse => PF.ParsePF parse
  | .restorePackets ps => ∀ p ∈ ps, p.kind ≠ .connect
  | _ => True

theorem C11.PFInv.init (cfg : Cfg) (ver : Nat) (hv : ver = 0 ∨ ver = 4 ∨ ver = 5) :
    C11.PFInv (St.init cfg ver) false :=
  ⟨rfl, hv, by simp [St.init]⟩

/-- **C11 persistence_flag** (`VIOL sig=C11 persistence_flag@<site>`): after every call the model's
    `needStore` equals the driver's ghost, computed from the operation and the events of the call;
    the side invariants are kept as well.  Every configuration, every state of the invariant,
    every operation within `C11.PFLegal` (arbitrary peer bytes). -/
theorem C11_persistence_flag_step (cfg : Cfg) (s : St) (op : Op) (ns : Bool)
    (h : C11.PFInv s ns) (hl : C11.PFLegal op) :
    C11.PFInv (step cfg s op).s (C11.nsStep (C11.nsReset op ns) (step cfg s op).ev) := by
  obtain ⟨hf, hv, hs⟩ := h
  have hstore : ∀ x ∈ (step cfg s op).s.store, x.2.kind ≠ .connect :=
    (step_sl (K := fun q => q.kind ≠ .connect) (fun q h e => by rw [e] at h; exact h.elim nofun nofun)
      cfg s op ⟨hs⟩ (fun ps e => by subst e; exact hl)).h
  have g : PF.GK ns (PF.K ({ cfg := cfg, s := s } : C)) := hf
  have same : ∀ c' : C, PF.K c' = PF.K ({ cfg := cfg, s := s } : C) →
      c'.s.needStore = PF.nsStep ns c'.ev ∧ PF.VerOk c'.s.ver := fun c' e =>
    ⟨(PF.GK_iff ns c').1 (PF.gk_congr e g), by rw [PF.ver_of_K e]; exact hv⟩
  have fin : ∀ {c' : C} {b : Bool}, c'.s.needStore = PF.nsStep b c'.ev ∧ PF.VerOk c'.s.ver →
      (∀ x ∈ c'.s.store, x.2.kind ≠ .connect) → C11.PFInv c'.s (C11.nsStep b c'.ev) :=
    fun h1 h2 => ⟨h1.1, h1.2, h2⟩
  cases op with
  | send p =>
    have o := PF.g_send (b0 := ns) (c := { cfg := cfg, s := s }) g p hl hs
    exact fin ⟨(PF.GK_iff ns _).1 o, by show PF.VerOk (send _ p).s.ver; rw [Fp.send_s]; exact hv⟩ hstore
  | recv inp parse =>
    have o := PF.g_recv (b0 := ns) (c := { cfg := cfg, s := s }) g inp parse hl hv hs
    exact fin ⟨(PF.GK_iff ns _).1 o.1, o.2⟩ hstore
  | timer k => exact fin (same _ (PF.K_notifyTimerFired _ k)) hstore
  | closed => exact fin (same (notifyClosed _) (PF.K_frame (Fp.notifyClosed_ev _) (by rw [Fp.notifyClosed_s]))) hstore
  | setInterval d => exact fin (same _ (PF.K_fp (Fp.setPingreqSendInterval_fp _ d))) hstore
  | setFlag f b =>
    cases f
    · cases b
      · exact ⟨hf, hv, hs⟩
      · exact ⟨rfl, hv, hs⟩
    all_goals exact ⟨hf, hv, hs⟩
  | setRespTimeout ms => exact ⟨hf, hv, hs⟩
  | acquire => exact ⟨hf, hv, hs⟩
  | register id => exact ⟨hf, hv, hs⟩
  | release id => exact fin (same _ (PF.K_fp (Fp.releasePacketId_fp _ id))) hstore
  | erase id => exact fin (same _ (PF.K_fp (Fp.eraseStoredPublish_fp _ id))) hstore
  | restoreHandled ids => exact ⟨hf, hv, hs⟩
  | restorePackets ps => exact fin (same _ (PF.K_fp (Fp.restorePackets_fp _ ps))) hstore

theorem C11_persistence_flag_run (cfg : Cfg) (ops : List Op) (s : St) (ns : Bool)
    (h : C11.PFInv s ns) (hl : ∀ op ∈ ops, C11.PFLegal op) :
    C11.PFInv (run cfg s ops) (C11.nsRun cfg s ns ops) := by
  induction ops generalizing s ns with
  | nil => exact h
  | cons op ops ih =>
    simp only [run, C11.nsRun]
    exact ih _ _ (C11_persistence_flag_step cfg s op ns h (hl op (by simp))) (fun o ho => hl o (by simp [ho]))

/-- **from a fresh connection object** of version 0, 4 or 5 (ghost initially `false`): the flag
    the send gate reads is the ghost after every sequence of legal calls -/
theorem C11_persistence_flag_reachable (cfg : Cfg) (ver : Nat) (hv : ver = 0 ∨ ver = 4 ∨ ver = 5)
    (ops : List Op) (hl : ∀ op ∈ ops, C11.PFLegal op) :
    (run cfg (St.init cfg ver) ops).needStore = C11.nsRun cfg (St.init cfg ver) false ops :=
  (C11_persistence_flag_run cfg ops _ _ (C11.PFInv.init cfg ver hv) hl).flag

/-! ### non-vacuity, and every clause of the contract is needed -/
namespace C11pf
def cfgC : Cfg := { role := .client, pw := 2 }
def cfgS : Cfg := { role := .server, pw := 2 }
def connect5 (props : List (Nat × Nat)) : Pkt := { ver := 5, kind := .connect, size := 20, keepAlive := 10, props := props }
def connack5 (sp : Bool) (props : List (Nat × Nat)) : Pkt := { ver := 5, kind := .connack, size := 8, rc := some 0, sp := sp, props := props }
def connect4 (clean : Bool) : Pkt := { ver := 4, kind := .connect, size := 14, keepAlive := 10, clean := clean }
/-- a parser that answers CONNACK frames with `q` (of the version asked for) and nothing else -/
def parseConnack (q : Pkt) : Nat → Nat → List Nat → Except Nat Pkt :=
  fun v fh _ => if fh / 16 = 2 then .ok { q with ver := v } else .error eMalformed
def connackBytes : List Nat := [0x20, 3, 0, 0, 0]

theorem parseConnack_ok (props : List (Nat × Nat)) (sp : Bool) (h : PF.SeiOnce props) :
    PF.ParsePF (parseConnack (connack5 sp props)) := by
  intro v fh d p hp
  unfold parseConnack at hp
  split at hp
  · rename_i h2
    cases hp
    exact ⟨by simp [connack5, Kind.nibble, h2], fun _ => ⟨rfl, h⟩⟩
  · cases hp

/-- a v5.0 client: CONNECT with Session Expiry Interval 60 (persistent), CONNACK overriding it with
    0 (not persistent), offline publishing switched on (persistent), a new CONNECT without the
    property (not persistent — although the offline option is still on: model and ghost agree) -/
def ops1 : List Op :=
  [.send (connect5 [(pSEI, 60)]), .recv connackBytes (parseConnack (connack5 false [(pSEI, 0)])),
   .setFlag .offline true, .closed, .send (connect5 [])]
theorem ops1_legal : ∀ op ∈ ops1, C11.PFLegal op := by
  intro op h
  simp only [ops1, List.mem_cons, List.mem_nil_iff, or_false] at h
  rcases h with rfl | rfl | rfl | rfl | rfl
  · intro _; decide
  · exact parseConnack_ok _ _ (by decide)
  · trivial
  · trivial
  · intro _; decide
example : (runEvents cfgC (St.init cfgC 5) ops1).length = 5 ∧
    [1, 2, 3, 4, 5].map (fun n => (run cfgC (St.init cfgC 5) (ops1.take n)).needStore) = [true, false, true, true, false] ∧
    [1, 2, 3, 4, 5].map (fun n => C11.nsRun cfgC (St.init cfgC 5) false (ops1.take n)) = [true, false, true, true, false] := by
  decide
example : (run cfgC (St.init cfgC 5) ops1).needStore = C11.nsRun cfgC (St.init cfgC 5) false ops1 :=
  C11_persistence_flag_reachable cfgC 5 (.inr (.inr rfl)) ops1 ops1_legal

/-- (a) `SeiOnce` of a sent CONNECT is needed: with two Session Expiry Interval properties the model
    (any non-zero one) and the ghost (`findProp`: the first) disagree -/
example : ¬ C11.PFLegal (.send (connect5 [(pSEI, 0), (pSEI, 5)])) ∧
    (step cfgC (St.init cfgC 5) (.send (connect5 [(pSEI, 0), (pSEI, 5)]))).s.needStore = true ∧
    C11.nsStep false (step cfgC (St.init cfgC 5) (.send (connect5 [(pSEI, 0), (pSEI, 5)]))).ev = false := by
  refine ⟨fun h => absurd (h rfl) (by decide), by decide, by decide⟩

/-- (b) the parser's kind must be that of the frame: a PUBLISH frame "parsed" as a CONNECT is
    delivered by the PUBLISH handler — the ghost sees a delivered CONNECT, the model does not -/
def parseBad : Nat → Nat → List Nat → Except Nat Pkt := fun _ _ _ => .ok (connect4 false)
example : ¬ PF.ParsePF parseBad ∧
    (step cfgS { St.init cfgS 4 with status := .connected } (.recv [0x30, 3, 0, 1, 97] parseBad)).s.needStore = false ∧
    C11.nsStep false (step cfgS { St.init cfgS 4 with status := .connected } (.recv [0x30, 3, 0, 1, 97] parseBad)).ev = true := by
  refine ⟨fun h => absurd (h 4 0x30 [] _ rfl).1 (by decide), by decide, by decide⟩

/-- (c) the parser's CONNECT must have the version it was parsed for: a v3.1.1 connection handles a
    CONNECT by the v3.1.1 rule (`!clean`), the ghost reads the packet's own version -/
def parseV5 : Nat → Nat → List Nat → Except Nat Pkt :=
  fun _ fh _ => if fh / 16 = 1 then .ok { connect5 [] with clean := false } else .error eMalformed
def connectBytes : List Nat := [0x10, 10, 0, 4, 77, 81, 84, 84, 4, 0, 0, 0]
example : ¬ PF.ParsePF parseV5 ∧
    (step cfgS (St.init cfgS 4) (.recv connectBytes parseV5)).s.needStore = true ∧
    C11.nsStep false (step cfgS (St.init cfgS 4) (.recv connectBytes parseV5)).ev = false := by
  refine ⟨fun h => absurd ((h 4 0x10 [] _ rfl).2 (.inl rfl)).1 (by decide), by decide, by decide⟩

/-- (d) the version must be 0, 4 or 5: a connection object created with version 7 runs the v5.0
    handlers on version-7 packets; the ghost's CONNACK rule asks for version 5 -/
def s7 : St := { St.init cfgC 7 with status := .connecting }
example : ¬ PF.VerOk s7.ver ∧
    (step cfgC s7 (.recv connackBytes (parseConnack (connack5 false [(pSEI, 9)])))).s.needStore = true ∧
    C11.nsStep false (step cfgC s7 (.recv connackBytes (parseConnack (connack5 false [(pSEI, 9)])))).ev = false := by
  refine ⟨by unfold PF.VerOk; decide, by decide, by decide⟩

/-- (e) no CONNECT in the store: `restore_packets` given a CONNECT (impossible in Rust) makes the
    session resumption re-send it, which the ghost takes for a new CONNECT -/
def storedConnect : Pkt := { ver := 5, kind := .connect, pid := some 1, size := 12 }
def ops2 : List Op :=
  [.restorePackets [storedConnect], .send (connect5 [(pSEI, 60)]),
   .recv connackBytes (parseConnack (connack5 true []))]
example : ¬ C11.PFLegal (.restorePackets [storedConnect]) ∧
    (run cfgC (St.init cfgC 5) ops2).needStore = true ∧ C11.nsRun cfgC (St.init cfgC 5) false ops2 = false := by
  refine ⟨fun h => absurd rfl (h storedConnect (by simp)), by decide, by decide⟩

/-- (f) at most one Session Expiry Interval in a received CONNACK: the model takes the last, the
    ghost the first -/
example : ¬ PF.SeiOnce [(pSEI, 0), (pSEI, 7)] ∧
    (run cfgC (St.init cfgC 5) [.send (connect5 []), .recv connackBytes (parseConnack (connack5 false [(pSEI, 0), (pSEI, 7)]))]).needStore = true ∧
    C11.nsRun cfgC (St.init cfgC 5) false [.send (connect5 []), .recv connackBytes (parseConnack (connack5 false [(pSEI, 0), (pSEI, 7)]))] = false := by
  refine ⟨by decide, by decide, by decide⟩
end C11pf

end MqttVerif.Conn
