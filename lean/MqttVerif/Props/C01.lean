import MqttVerif.Flow.Model
import MqttVerif.Conn.Step
/-!
# C01 — two endpoints interoperate, even across transport loss (core, abstract level)

The `C01_core_*` theorems are about the abstract per-identifier flow system of `Flow/Model.lean`
(sender automaton, receiver handled flag, two FIFO channels, loss followed by resumption at any
point) and hold for every schedule of sends, deliveries and losses; all are read off one
invariant `Inv` of the joint configuration.

Not a theorem (`def C01_full`): that two `Conn` models joined by byte channels refine this
system (DESIGN.md §5 C01).  That link is exercised on the real implementation by the
two-endpoint harness (`harness pair`): a real client object and a real server object, arbitrary
chunking, loss at arbitrary points incl. mid-frame, resumption — with the property's own
observations as monitors and each endpoint in lock-step with its model.
-/
set_option linter.unusedSimpArgs false
set_option linter.unusedVariables false
namespace MqttVerif.Flow

def Inv (s : Sys) : Prop :=
  s.err = false ∧ s.told2 = s.done2 + (if s.snd = .wComp ∨ (s.snd = .wRec ∧ s.handled) then 1 else 0) ∧
  s.done1 ≤ s.told1 ∧
  (s.dup1 = 0 → s.told1 = s.done1) ∧
  match s.snd with
  | .idle => s.fwd = [] ∧ s.bwd = [] ∧ s.handled = false
  | .w1 => ((s.fwd = [.pub1] ∧ s.bwd = [] ∧ (s.lost = false → s.notified = 0)) ∨
            (s.fwd = [] ∧ s.bwd = [.ack] ∧ 1 ≤ s.notified ∧ (s.lost = false → s.notified = 1))) ∧
           s.handled = false
  | .wRec => ((s.fwd = [.pub2] ∧ s.bwd = []) ∨ (s.fwd = [] ∧ s.bwd = [.prec] ∧ s.handled = true)) ∧
             (s.handled = true → s.notified = 1) ∧ (s.handled = false → s.notified = 0)
  | .wComp => ((s.fwd = [.rel] ∧ s.bwd = []) ∨ (s.fwd = [] ∧ s.bwd = [.comp] ∧ s.handled = false)) ∧
              s.notified = 1

theorem inv_init : Inv {} := by simp [Inv]

theorem inv_step (s : Sys) (a : Act) (h : Inv s) : Inv (step s a) := by
  obtain ⟨he, h2, h1a, h1c, hc⟩ := h
  cases a <;> cases hs : s.snd <;> simp only [hs] at hc h2 <;> simp only [step, hs, resend]
  -- a delivery while an exchange is open: which of the two channels holds the packet decides the step
  case deliverF.w1 | deliverF.wRec | deliverF.wComp | deliverB.w1 | deliverB.wRec | deliverB.wComp =>
    rcases hc with ⟨h1 | h1, h3⟩ <;> simp_all [Inv] <;> omega
  -- otherwise the channels are known (sender idle, or refilled by the resumption) or the action is not enabled
  all_goals simp_all [Inv]

theorem reachable_inv (acts : List Act) : Inv (acts.foldl step {}) := by
  have : ∀ s, Inv s → Inv (acts.foldl step s) := by
    induction acts with
    | nil => intro s h; exact h
    | cons a t ih => intro s h; exact ih _ (inv_step s a h)
  exact this _ inv_init

/-- **C01 core, safety**: for every schedule of sends, deliveries and transport losses (at any
    point, followed by resumption) neither side ever reports a protocol error about the other -/
theorem C01_core_never_protocol_error (acts : List Act) : (acts.foldl step {}).err = false :=
  (reachable_inv acts).1

/-- **C01 core, QoS 2 exactly once**: at quiescence (sender idle) the number of QoS 2
    notifications equals the number of completed QoS 2 exchanges -/
theorem C01_core_qos2_exactly_once (acts : List Act) (hq : (acts.foldl step {}).snd = .idle) :
    (acts.foldl step {}).told2 = (acts.foldl step {}).done2 := by
  have h := (reachable_inv acts).2.1
  simp [hq] at h
  exact h

/-- **C01 core, QoS 1**: in total at least as many QoS 1 notifications as completed QoS 1
    exchanges (an exchange adds its notifications, at least one by `Inv`, when it completes), and
    exactly as many when no completed exchange saw a transport loss -/
theorem C01_core_qos1 (acts : List Act) :
    (acts.foldl step {}).done1 ≤ (acts.foldl step {}).told1 ∧
    ((acts.foldl step {}).dup1 = 0 → (acts.foldl step {}).told1 = (acts.foldl step {}).done1) := by
  have h := reachable_inv acts
  exact ⟨h.2.2.1, h.2.2.2.1⟩

/-- **C01 core, termination**: every delivery of a byte-stream element strictly decreases the
    remaining work, whatever the state — so with no further application input and no further
    loss at most `weight s` deliveries happen -/
theorem C01_core_delivery_decreases (s : Sys) :
    (s.fwd ≠ [] → weight (step s .deliverF) < weight s) ∧
    (s.bwd ≠ [] → weight (step s .deliverB) < weight s) := by
  constructor
  · intro h
    cases hf : s.fwd with
    | nil => exact absurd hf h
    | cons x t =>
      cases x <;> simp only [step, hf, weight] <;> (try split) <;>
        simp [wF, wB, List.sum_append] <;> omega
  · intro h
    cases hb : s.bwd with
    | nil => exact absurd hb h
    | cons x t =>
      cases x <;> simp only [step, hb, weight] <;> (try split) <;>
        simp [wF, wB, List.sum_append] <;> omega

/-- **C01 core, quiescence**: a reachable state with both channels empty has an idle sender and
    a clear handled flag: nothing is stored, nothing awaited -/
theorem C01_core_quiescent (acts : List Act)
    (hf : (acts.foldl step {}).fwd = []) (hb : (acts.foldl step {}).bwd = []) :
    (acts.foldl step {}).snd = .idle ∧ (acts.foldl step {}).handled = false := by
  have h := (reachable_inv acts).2.2.2.2
  cases hs : (acts.foldl step {}).snd <;> simp only [hs] at h
  · exact ⟨rfl, h.2.2⟩
  · rcases h.1 with h1 | h1 <;> simp_all
  · rcases h.1 with h1 | h1 <;> simp_all
  · rcases h.1 with h1 | h1 <;> simp_all

end MqttVerif.Flow

namespace MqttVerif.Conn

/-- two connection models joined by two byte channels; `enc` serialises an emitted packet and
    `parse` is the L1 parser (C02 relates them) -/
structure Sys2 where
  c : St
  s : St
  c2s : List Nat := []
  s2c : List Nat := []
  errs : Nat := 0          -- NotifyError events raised while processing the peer's bytes

inductive Act2
  | appC (op : Op) | appS (op : Op)        -- application calls (no `recv`)
  | deliverC2S (n : Nat) | deliverS2C (n : Nat)
  | lose                                    -- in-flight bytes discarded, both sides told

def sentBytes (enc : Pkt → List Nat) (evs : List Ev) : List Nat :=
  (evs.filterMap fun e => match e with | .send p _ => some (enc p) | _ => none).flatten

def errCount (evs : List Ev) : Nat := (evs.filter fun e => match e with | .error _ => true | _ => false).length

def step2 (cc cs : Cfg) (enc : Pkt → List Nat) (parse : Nat → Nat → List Nat → Except Nat Pkt)
    (y : Sys2) : Act2 → Sys2
  | .appC op => let r := step cc y.c op; { y with c := r.s, c2s := y.c2s ++ sentBytes enc r.ev }
  | .appS op => let r := step cs y.s op; { y with s := r.s, s2c := y.s2c ++ sentBytes enc r.ev }
  | .deliverC2S n =>
    let r := step cs y.s (.recv (y.c2s.take n) parse)
    { y with s := r.s, c2s := y.c2s.drop n, s2c := y.s2c ++ sentBytes enc r.ev, errs := y.errs + errCount r.ev }
  | .deliverS2C n =>
    let r := step cc y.c (.recv (y.s2c.take n) parse)
    { y with c := r.s, s2c := y.s2c.drop n, c2s := y.c2s ++ sentBytes enc r.ev, errs := y.errs + errCount r.ev }
  | .lose =>
    { y with c := (step cc y.c .closed).s, s := (step cs y.s .closed).s, c2s := [], s2c := [] }

/-- **the full safety clause of C01 at the level of the two connection models** (delivery,
    termination and quiescence clauses are analogous): neither endpoint reports an error about
    its peer.  The intended hypotheses — a codec satisfying the C02 round trip, applications that
    follow the protocol — are NOT spelled out: `_wellBehaved : True` stands in their place, so
    as written the proposition quantifies over every `enc`, `parse` and schedule.  NOT proved —
    it needs the refinement of `Sys2` to the abstract flow system above (DESIGN.md §5 C01); what
    is proved is `Flow.C01_core_*`; what is checked on the implementation is the two-endpoint
    harness. -/
def C01_full : Prop :=
  ∀ (enc : Pkt → List Nat) (parse : Nat → Nat → List Nat → Except Nat Pkt) (ver : Nat)
    (acts : List Act2) (_wellBehaved : True),
    (acts.foldl (step2 ⟨.client, 2⟩ ⟨.server, 2⟩ enc parse)
        { c := St.init ⟨.client, 2⟩ ver, s := St.init ⟨.server, 2⟩ ver }).errs = 0

end MqttVerif.Conn

namespace MqttVerif.Flow

/-! ## non-vacuity: a schedule with a QoS 2 message, a loss in the middle, and completion -/
example : (([.send2, .deliverF, .loseResume, .deliverF, .deliverB, .deliverF, .deliverB] : List Act).foldl step {}).snd = .idle ∧
          (([.send2, .deliverF, .loseResume, .deliverF, .deliverB, .deliverF, .deliverB] : List Act).foldl step {}).told2 = 1 ∧
          (([.send2, .deliverF, .loseResume, .deliverF, .deliverB, .deliverF, .deliverB] : List Act).foldl step {}).done2 = 1 := by
  decide
example : (([.send1, .deliverF, .loseResume, .deliverF, .deliverB] : List Act).foldl step {}).told1 = 2 := by decide

end MqttVerif.Flow
