import MqttVerif.Conn.Lemmas.PairRuns
/-!
# C01 at the level of the two `Conn` models (L2): any number of losses at any points,
# any sequence of exchanges

The pair system, its starting point `established v` and what is left out are described in
`Props/C01L2.lean`.  A schedule is any `acts : List Act`, `Act = deliver | lose`
(`Conn/Lemmas/PairExchange2.lean`); `lose` is the loss followed at once by `resume v`.  One
exchange under any schedule follows an explicit transducer (`next2`/`next1`): the system after
`acts` is, logs aside, the shape `sysOf2`/`sysOf1` of the transducer's phase, and what the logs
show is the transducer's output (`run_obs` over the closure proofs `closure2`/`closure1` of the
finitely many shapes).  Every clause is then a fact about the transducer's outputs.  A sequence
of exchanges: the operations of the pair never read the logs, so each exchange is the one from
`established v` with the history prepended (`Obs2.step`, `runAll_obs`).  Two exchanges in flight
without loss are read off the phase tables `Conn/Lemmas/PairTabG5_*.lean` (`tables5`), any
delivery interleaving by confluence (`drain_runSides`); with losses: `Props/C01L2c.lean`.

**Not idealised**: the DUP flag of retransmissions (`P.asDup` in the channel and in the
notification), the v5.0 PUBCOMP reason code 0x92 (`pubcompAgain`) for a PUBREL retransmitted
after the receiver completed (phase `comp true`), `publish_recv` emptied by the reconnect
(phase `rel false`, `pubAgain`) are all part of the shapes `sysOf2`.

**Not covered**: a loss in the middle of the CONNECT/CONNACK handshake itself (the `lose`
action runs the handshake atomically), several exchanges in flight under loss, flow-control /
size / alias limits, the byte-level codec (as in `C01L2.lean`).
-/
set_option linter.unusedSimpArgs false
set_option linter.unusedVariables false
namespace MqttVerif.Conn.Pair
open MqttVerif MqttVerif.Conn

/-! ## the transducers: pure facts -/

def phase2 (acts : List Act) : Ph2 := phRun next2 (.pub false) acts
def notes2 (P : Pkt) (acts : List Act) : List Pkt := outRun next2 (note2 P) (.pub false) acts
def phase1 (acts : List Act) : Ph1 := phRun next1 (.pub false) acts
def notes1 (P : Pkt) (acts : List Act) : List Pkt := outRun next1 (note1 P) (.pub false) acts

/-- the losses that hit while the PUBACK is in flight (QoS 1): each costs one duplicate -/
def ackLossesFrom : Ph1 → List Act → Nat
  | _, [] => 0
  | ph, a :: as => (if ph = .ack ∧ a = .lose then 1 else 0) + ackLossesFrom (next1 ph a) as
def ackLosses (acts : List Act) : Nat := ackLossesFrom (.pub false) acts

def deliv (n : Nat) : List Act := List.replicate n .deliver

theorem deliv_succ (n : Nat) : deliv (n + 1) = .deliver :: deliv n := rfl

theorem sameMsg_dup (P : Pkt) (b : Bool) : sameMsg P (if b then P.asDup else P) := by
  cases b
  · exact Or.inl rfl
  · exact Or.inr rfl

theorem notes2_same (P : Pkt) (acts : List Act) : ∀ Q ∈ notes2 P acts, sameMsg P Q := by
  rw [notes2, outRun_eq]
  exact outRunG_all next2 (note2 P) _ (fun ph a => by cases ph <;> cases a <;> simp [note2, sameMsg_dup]) acts _

theorem notes1_same (P : Pkt) (acts : List Act) : ∀ Q ∈ notes1 P acts, sameMsg P Q := by
  rw [notes1, outRun_eq]
  exact outRunG_all next1 (note1 P) _ (fun ph a => by cases ph <;> cases a <;> simp [note1, sameMsg_dup]) acts _

/-- 1 once the receiving application has been notified (QoS 2) -/
def told2 : Ph2 → Nat
  | .pub _ => 0
  | _ => 1

theorem told2_run (P : Pkt) (acts : List Act) (ph : Ph2) :
    told2 (phRunG next2 ph acts) = told2 ph + (outRun next2 (note2 P) ph acts).length := by
  rw [outRun_eq]
  exact outRunG_count next2 (note2 P) List.length rfl (fun _ _ => List.length_append) told2
    (fun ph a => by cases ph <;> cases a <;> rfl) acts ph

theorem told2_le (ph : Ph2) : told2 ph ≤ 1 := by
  cases ph <;> simp [told2]

theorem notes2_le (P : Pkt) (acts : List Act) : (notes2 P acts).length ≤ 1 := by
  have := told2_run P acts (.pub false)
  have := told2_le (phRunG next2 (.pub false) acts)
  rw [notes2]; omega

theorem note2_none (P : Pkt) (acts : List Act) (ph : Ph2) (h : told2 ph = 1) : outRun next2 (note2 P) ph acts = [] := by
  have := told2_run P acts ph
  have := told2_le (phRunG next2 ph acts)
  exact List.length_eq_zero_iff.1 (by omega)

/-- 1 once the publisher has released the identifier -/
def freed2 : Ph2 → Nat
  | .done => 1
  | _ => 0
def freed1 : Ph1 → Nat
  | .done => 1
  | _ => 0

theorem rel2_run (acts : List Act) : outRun next2 rel2 (.pub false) acts = List.replicate (freed2 (phase2 acts)) 1 := by
  rw [outRun_eq, phase2, phRun_eq]
  exact outRunG_replicate next2 rel2 1 freed2 (fun ph a => by cases ph <;> cases a <;> rfl)
    (fun ph a => by cases ph <;> cases a <;> simp [rel2]) acts _ rfl

theorem rel1_run (acts : List Act) : outRun next1 rel1 (.pub false) acts = List.replicate (freed1 (phase1 acts)) 1 := by
  rw [outRun_eq, phase1, phRun_eq]
  exact outRunG_replicate next1 rel1 1 freed1 (fun ph a => by cases ph <;> cases a <;> rfl)
    (fun ph a => by cases ph <;> cases a <;> simp [rel1]) acts _ rfl

theorem rel2_le (acts : List Act) : (outRun next2 rel2 (.pub false) acts).length ≤ 1 := by
  rw [rel2_run, List.length_replicate]; cases phase2 acts <;> simp [freed2]

theorem rel1_le (acts : List Act) : (outRun next1 rel1 (.pub false) acts).length ≤ 1 := by
  rw [rel1_run, List.length_replicate]; cases phase1 acts <;> simp [freed1]

theorem phase2_done (acts : List Act) (n : Nat) (hn : 4 ≤ n) : phase2 (acts ++ deliv n) = .done := by
  rw [phase2, phRun_eq, phRunG_append]
  exact phRunG_done next2 .done .deliver 4 (fun ph => by cases ph <;> rfl) rfl n hn _

theorem phase1_done (acts : List Act) (n : Nat) (hn : 2 ≤ n) : phase1 (acts ++ deliv n) = .done := by
  rw [phase1, phRun_eq, phRunG_append]
  exact phRunG_done next1 .done .deliver 2 (fun ph => by cases ph <;> rfl) rfl n hn _

theorem notes2_dup (P : Pkt) (n : Nat) (acts : List Act) :
    outRun next2 (note2 P) (.pub true) (acts ++ deliv (n + 1)) = [P.asDup] := by
  induction acts with
  | nil =>
    simp only [List.nil_append, deliv_succ, outRun, note2, next2, if_true]
    rw [note2_none _ _ _ rfl]; rfl
  | cons a as ih =>
    cases a
    · simp only [List.cons_append, outRun, note2, next2, if_true]
      rw [note2_none _ _ _ rfl]; rfl
    · simpa only [List.cons_append, outRun, note2, next2, List.nil_append] using ih

/-- the schedule begins with a loss: the first PUBLISH never arrives, the receiver sees the
    retransmission -/
def lossFirst : List Act → Bool
  | .lose :: _ => true
  | _ => false

theorem notes2_final (P : Pkt) (acts : List Act) (n : Nat) (hn : 1 ≤ n) :
    notes2 P (acts ++ deliv n) = [if lossFirst acts then P.asDup else P] := by
  obtain ⟨m, rfl⟩ := Nat.exists_eq_add_of_le hn
  rw [Nat.add_comm]
  unfold notes2
  cases acts with
  | nil =>
    simp only [List.nil_append, deliv_succ, outRun, note2, next2, lossFirst]
    rw [note2_none _ _ _ rfl]; rfl
  | cons a as =>
    cases a
    · simp only [List.cons_append, outRun, note2, next2, lossFirst]
      rw [note2_none _ _ _ rfl]; rfl
    · simp only [List.cons_append, outRun, note2, next2, lossFirst, List.nil_append, if_true]
      exact notes2_dup P m as

theorem note1_done (P : Pkt) (acts : List Act) : outRun next1 (note1 P) .done acts = [] := by
  induction acts with
  | nil => rfl
  | cons a as ih => cases a <;> simpa [outRun, next1, note1] using ih

theorem notes1_length_from (P : Pkt) (n : Nat) (acts : List Act) : ∀ ph,
    (outRun next1 (note1 P) ph (acts ++ deliv (n + 2))).length =
      (match ph with | .pub _ => 1 | _ => 0) + ackLossesFrom ph acts := by
  induction acts with
  | nil =>
    intro ph
    cases ph <;> simp [deliv_succ, outRun, note1, next1, note1_done, ackLossesFrom]
  | cons a as ih =>
    intro ph
    cases ph <;> cases a <;> simp [outRun, note1, next1, ackLossesFrom, ih] <;> omega

theorem notes1_length (P : Pkt) (acts : List Act) (n : Nat) (hn : 2 ≤ n) :
    (notes1 P (acts ++ deliv n)).length = 1 + ackLosses acts := by
  obtain ⟨m, rfl⟩ := Nat.exists_eq_add_of_le hn
  rw [Nat.add_comm]
  exact notes1_length_from P m acts _

theorem notes1_no_loss (P : Pkt) (acts : List Act) (n : Nat) (hn : 2 ≤ n) (hl : ∀ a ∈ acts, a = Act.deliver) :
    notes1 P (acts ++ deliv n) = [P] := by
  obtain ⟨m, rfl⟩ := Nat.exists_eq_add_of_le hn
  rw [List.eq_replicate_iff.2 ⟨rfl, hl⟩, deliv, List.replicate_append_replicate, ← Nat.add_assoc, Nat.add_right_comm]
  simp [notes1, List.replicate_succ, outRun, note1, next1, note1_done]

/-! ## every schedule: the pair follows the transducer -/

theorem Good.of_obs {v : Nat} {d : Bool} {N : List Pkt} {y : Sys} (o : Obs d (mkSys d (idle v) (idle v) [] []) N [1] y) :
    Good v d N y := by
  cases d <;> exact ⟨o.c2s, o.s2c, o.c, o.s, o.errC, o.errS, o.notes, o.noEcho, o.released, o.releasedR⟩

section
variable {v : Nat} {P : Pkt} (hv : v = 4 ∨ v = 5)
include hv

/-- **QoS 2, any schedule**: shape and observations are the transducer's -/
theorem C01_l2b_qos2_run (hP : IsPub v 2 P) (d : Bool) (acts : List Act) :
    Obs d (sysOf2 v d P (phase2 acts)) (notes2 P acts) (outRun next2 rel2 (.pub false) acts)
      (runActs v (start v d P) acts) :=
  run_obs (sysOf2 v d P) next2 (note2 P) rel2 (sysOf2_logs v d P) (closure2 hv hP d) acts _ _ _ _ (start2 hv hP d)

theorem C01_l2b_qos1_run (hP : IsPub v 1 P) (d : Bool) (acts : List Act) :
    Obs d (sysOf1 v d P (phase1 acts)) (notes1 P acts) (outRun next1 rel1 (.pub false) acts)
      (runActs v (start v d P) acts) :=
  run_obs (sysOf1 v d P) next1 (note1 P) rel1 (sysOf1_logs v d P) (closure1 hv hP d) acts _ _ _ _ (start1 hv hP d)

/-- **(a) safety, QoS 2**: whatever the schedule, neither side ever reports a protocol error -/
theorem C01_l2b_safety_qos2 (hP : IsPub v 2 P) (d : Bool) (acts : List Act) :
    errFree (runActs v (start v d P) acts).logC ∧ errFree (runActs v (start v d P) acts).logS :=
  ⟨(C01_l2b_qos2_run hv hP d acts).errC, (C01_l2b_qos2_run hv hP d acts).errS⟩

theorem C01_l2b_safety_qos1 (hP : IsPub v 1 P) (d : Bool) (acts : List Act) :
    errFree (runActs v (start v d P) acts).logC ∧ errFree (runActs v (start v d P) acts).logS :=
  ⟨(C01_l2b_qos1_run hv hP d acts).errC, (C01_l2b_qos1_run hv hP d acts).errS⟩

/-- during one exchange at most one channel is non-empty: the `deliver` action never has a
    choice -/
theorem C01_l2b_one_channel (hq : q = 1 ∨ q = 2) (hP : IsPub v q P) (d : Bool) (acts : List Act) :
    (runActs v (start v d P) acts).c2s = [] ∨ (runActs v (start v d P) acts).s2c = [] := by
  rcases hq with rfl | rfl
  · have h := C01_l2b_qos1_run hv hP d acts
    rw [h.c2s, h.s2c]
    cases d <;> cases phase1 acts <;> simp [sysOf1, mkSys]
  · have h := C01_l2b_qos2_run hv hP d acts
    rw [h.c2s, h.s2c]
    cases d <;> cases phase2 acts <;> simp [sysOf2, mkSys]

/-- **(b) QoS 2, at any moment of any schedule**: at most one notification, only of the
    message; the publisher hears no PUBLISH; the identifier is released at most once and only
    by the publisher -/
theorem C01_l2b_qos2_at_most_once (hP : IsPub v 2 P) (d : Bool) (acts : List Act) :
    let y := runActs v (start v d P) acts
    (pubNotes (recvLog d y)).length ≤ 1 ∧ (∀ Q ∈ pubNotes (recvLog d y), sameMsg P Q) ∧
    pubNotes (sendLog d y) = [] ∧ (releasedIds (sendLog d y)).length ≤ 1 ∧ releasedIds (recvLog d y) = [] := by
  intro y
  have h := C01_l2b_qos2_run hv hP d acts
  rw [show pubNotes (recvLog d y) = _ from h.notes, show releasedIds (sendLog d y) = _ from h.released]
  exact ⟨notes2_le P acts, notes2_same P acts, h.noEcho, rel2_le acts, h.releasedR⟩

/-- **(b) QoS 2, everything delivered**: after any schedule and a final drain the system is
    quiescent, no error, the receiving application was notified EXACTLY ONCE - of `P`, with the
    DUP flag iff the first PUBLISH was lost -, the identifier released exactly once -/
theorem C01_l2b_qos2_exactly_once (hP : IsPub v 2 P) (d : Bool) (acts : List Act) (n : Nat) (hn : 4 ≤ n) :
    Good v d [if lossFirst acts then P.asDup else P] (drain n (runActs v (start v d P) acts)) := by
  rw [drain_eq_runActs v, ← runActs_append]
  have h := C01_l2b_qos2_run hv hP d (acts ++ deliv n)
  rw [rel2_run, phase2_done acts n hn, notes2_final P acts n (by omega)] at h
  exact .of_obs h

/-- **(c) QoS 1, at any moment**: only the message is ever notified -/
theorem C01_l2b_qos1_only_the_message (hP : IsPub v 1 P) (d : Bool) (acts : List Act) :
    let y := runActs v (start v d P) acts
    (∀ Q ∈ pubNotes (recvLog d y), sameMsg P Q) ∧ pubNotes (sendLog d y) = [] ∧
    (releasedIds (sendLog d y)).length ≤ 1 ∧ releasedIds (recvLog d y) = [] := by
  intro y
  have h := C01_l2b_qos1_run hv hP d acts
  rw [show pubNotes (recvLog d y) = _ from h.notes, show releasedIds (sendLog d y) = _ from h.released]
  exact ⟨notes1_same P acts, h.noEcho, rel1_le acts, h.releasedR⟩

/-- **(c) QoS 1, everything delivered**: quiescent, no error, the notifications are the
    transducer's `N`: at least one, only the message, exactly one more than the number of losses
    that hit while the PUBACK was in flight; exactly `[P]` under a loss-free schedule -/
theorem C01_l2b_qos1_at_least_once (hP : IsPub v 1 P) (d : Bool) (acts : List Act) (n : Nat) (hn : 2 ≤ n) :
    let N := notes1 P (acts ++ deliv n)
    Good v d N (drain n (runActs v (start v d P) acts)) ∧
    1 ≤ N.length ∧ (∀ Q ∈ N, sameMsg P Q) ∧ N.length = 1 + ackLosses acts ∧
    ((∀ a ∈ acts, a = Act.deliver) → N = [P]) := by
  intro N
  have h := C01_l2b_qos1_run hv hP d (acts ++ deliv n)
  rw [rel1_run, phase1_done acts n hn] at h
  have hlen := notes1_length P acts n hn
  refine ⟨?_, by show 1 ≤ (notes1 P (acts ++ deliv n)).length; omega, notes1_same P _, hlen, notes1_no_loss P acts n hn⟩
  rw [drain_eq_runActs v, ← runActs_append]
  exact .of_obs h

/-! ### the two directions spelled out (`startC` / `startS`) -/

theorem C01_l2b_qos2_exactly_once_c2s (hP : IsPub v 2 P) (acts : List Act) (n : Nat) (hn : 4 ≤ n) :
    ∃ Q, sameMsg P Q ∧ Good v true [Q] (drain n (runActs v (startC v P) acts)) :=
  ⟨_, sameMsg_dup P _, C01_l2b_qos2_exactly_once hv hP true acts n hn⟩

theorem C01_l2b_qos2_exactly_once_s2c (hP : IsPub v 2 P) (acts : List Act) (n : Nat) (hn : 4 ≤ n) :
    ∃ Q, sameMsg P Q ∧ Good v false [Q] (drain n (runActs v (startS v P) acts)) :=
  ⟨_, sameMsg_dup P _, C01_l2b_qos2_exactly_once hv hP false acts n hn⟩

theorem C01_l2b_qos1_at_least_once_c2s (hP : IsPub v 1 P) (acts : List Act) (n : Nat) (hn : 2 ≤ n) :
    ∃ N, Good v true N (drain n (runActs v (startC v P) acts)) ∧ 1 ≤ N.length ∧ (∀ Q ∈ N, sameMsg P Q) ∧
      ((∀ a ∈ acts, a = Act.deliver) → N = [P]) := by
  have h := C01_l2b_qos1_at_least_once hv hP true acts n hn
  exact ⟨_, h.1, h.2.1, h.2.2.1, h.2.2.2.2⟩

theorem C01_l2b_qos1_at_least_once_s2c (hP : IsPub v 1 P) (acts : List Act) (n : Nat) (hn : 2 ≤ n) :
    ∃ N, Good v false N (drain n (runActs v (startS v P) acts)) ∧ 1 ≤ N.length ∧ (∀ Q ∈ N, sameMsg P Q) ∧
      ((∀ a ∈ acts, a = Act.deliver) → N = [P]) := by
  have h := C01_l2b_qos1_at_least_once hv hP false acts n hn
  exact ⟨_, h.1, h.2.1, h.2.2.1, h.2.2.2.2⟩

end

/-! ## any sequence of exchanges -/

structure Exch where
  toServer : Bool
  q : Nat
  P : Pkt
  acts : List Act
  n : Nat

def Exch.ok (v : Nat) (e : Exch) : Prop := (e.q = 1 ∨ e.q = 2) ∧ IsPub v e.q e.P ∧ 4 ≤ e.n

def runExch (v : Nat) (y : Sys) (e : Exch) : Sys :=
  drain e.n (runActs v (startFrom e.toServer y e.P) e.acts)

def runAll (v : Nat) : Sys → List Exch → Sys
  | y, [] => y
  | y, e :: es => runAll v (runExch v y e) es

/-- the notifications the exchange must produce at the receiving application: a function of
    the schedule alone -/
def expNotes (e : Exch) : List Pkt :=
  if e.q = 2 then notes2 e.P (e.acts ++ deliv e.n) else notes1 e.P (e.acts ++ deliv e.n)

theorem runExch_prep (v : Nat) (lc ls : List Ev) (y : Sys) (e : Exch) :
    runExch v (prep lc ls y) e = prep lc ls (runExch v y e) := by
  simp only [runExch, startFrom_prep, runActs_prep, drain_prep]

/-- the allocator hands out identifier 1 again in every quiescent state, at either endpoint: so
    `IsPub` (`pid = some 1`) is the right hypothesis for every exchange of a sequence -/
theorem acquire_from_quiet {v : Nat} {y : Sys} (h : Quiet v y) :
    (acquire { cfg := cfgC, s := y.c }).1 = some 1 ∧ (acquire { cfg := cfgS, s := y.s }).1 = some 1 := by
  rw [h.1, h.2.1]
  constructor <;> simp [acquire, Alloc.allocate, Alloc.allocateP, idle, mkSt]

def notesAt (toServer : Bool) (es : List Exch) : List Pkt :=
  ((es.filter (fun e => e.toServer == toServer)).map expNotes).flatten
def relAt (toServer : Bool) (es : List Exch) : List Nat :=
  (es.filter (fun e => e.toServer == toServer)).map (fun _ => 1)

theorem notesAt_cons (b : Bool) (e : Exch) (es : List Exch) :
    notesAt b (e :: es) = (if e.toServer = b then expNotes e else []) ++ notesAt b es := by
  unfold notesAt
  by_cases h : e.toServer = b <;> simp [List.filter_cons, h]

theorem relAt_cons (b : Bool) (e : Exch) (es : List Exch) :
    relAt b (e :: es) = (if e.toServer = b then [1] else []) ++ relAt b es := by
  unfold relAt
  by_cases h : e.toServer = b <;> simp [List.filter_cons, h]

section
variable {v : Nat} (hv : v = 4 ∨ v = 5)
include hv

theorem exch_good (e : Exch) (hok : e.ok v) : Good v e.toServer (expNotes e) (runExch v (established v) e) := by
  obtain ⟨hq, hP, hn⟩ := hok
  unfold runExch expNotes
  rcases hq with h1 | h2
  · rw [h1] at hP
    rw [if_neg (by omega)]
    exact (C01_l2b_qos1_at_least_once hv hP e.toServer e.acts e.n (by omega)).1
  · rw [h2] at hP
    rw [if_pos h2, notes2_final _ _ _ (by omega)]
    exact C01_l2b_qos2_exactly_once hv hP e.toServer e.acts e.n hn

/-- what is expected of one exchange: QoS 2 exactly one notification, QoS 1 at least one;
    only the message -/
theorem expNotes_spec (e : Exch) (hok : e.ok v) :
    (e.q = 2 → ∃ Q, expNotes e = [Q] ∧ sameMsg e.P Q) ∧
    (e.q = 1 → 1 ≤ (expNotes e).length ∧ (∀ Q ∈ expNotes e, sameMsg e.P Q) ∧
      (expNotes e).length = 1 + ackLosses e.acts ∧ ((∀ a ∈ e.acts, a = Act.deliver) → expNotes e = [e.P])) := by
  obtain ⟨hq, hP, hn⟩ := hok
  constructor
  · intro h2
    unfold expNotes
    rw [if_pos h2, notes2_final _ _ _ (by omega)]
    exact ⟨_, rfl, sameMsg_dup _ _⟩
  · intro h1
    rw [h1] at hP
    unfold expNotes
    rw [if_neg (by omega)]
    exact (C01_l2b_qos1_at_least_once hv hP e.toServer e.acts e.n (by omega)).2

/-- a sequence started in a quiescent state with any history: each exchange is the one from `established v` with the history
    prepended (`Obs2.step`), so the observations add up -/
theorem runAll_obs (es : List Exch) (hok : ∀ e ∈ es, e.ok v) : ∀ {NS NC : List Pkt} {RC RS : List Nat} {y : Sys},
    Obs2 (established v) NS NC RC RS y →
    Obs2 (established v) (NS ++ notesAt true es) (NC ++ notesAt false es) (RC ++ relAt true es) (RS ++ relAt false es)
      (runAll v y es) := by
  induction es with
  | nil => intro NS NC RC RS y o; simpa [notesAt, relAt, runAll] using o
  | cons e es ih =>
    intro NS NC RC RS y o
    have g := ((exch_good hv e (hok e (List.mem_cons_self ..))).obs hv).obs2
    have := ih (fun x hx => hok x (List.mem_cons_of_mem _ hx))
      (Obs2.step (runExch v · e) (fun lc ls z => runExch_prep v lc ls z e) ⟨rfl, rfl⟩ o g)
    cases hd : e.toServer <;> simpa [runAll, notesAt_cons, relAt_cons, hd] using this

/-- **sequence**: after ANY finite sequence of exchanges - each with its own message, QoS,
    direction, arbitrary schedule of deliveries and losses, and a final drain -: quiescent, no
    error at either side, the server application was notified of exactly the expected
    notifications of the client→server exchanges in order (`expNotes_spec`: exactly one per QoS 2
    message, at least one per QoS 1 message, only the messages), the client application likewise
    of the server→client ones, each side released identifier 1 once per message it published -/
theorem C01_l2b_sequence (es : List Exch) (hok : ∀ e ∈ es, e.ok v) :
    let y := runAll v (established v) es
    Quiet v y ∧ errFree y.logC ∧ errFree y.logS ∧
    pubNotes y.logS = notesAt true es ∧ pubNotes y.logC = notesAt false es ∧
    releasedIds y.logC = relAt true es ∧ releasedIds y.logS = relAt false es := by
  intro y
  have o := runAll_obs hv es hok (obs2_established v)
  exact ⟨o.quiet hv, o.errC, o.errS, o.notesS, o.notesC, o.relC, o.relS⟩

/-- a further exchange in progress after a sequence: its observations come after the sequence's -/
theorem in_progress_obs (es : List Exch) (hok : ∀ e ∈ es, e.ok v) {d : Bool} {P : Pkt} {acts : List Act} {t : Sys}
    {N : List Pkt} {R : List Nat} (o : Obs d t N R (runActs v (start v d P) acts)) :
    let y := runActs v (startFrom d (runAll v (established v) es) P) acts
    errFree y.logC ∧ errFree y.logS ∧ pubNotes (recvLog d y) = notesAt d es ++ N ∧ pubNotes (sendLog d y) = notesAt (!d) es := by
  intro y
  have k := Obs2.step (fun z => runActs v (startFrom d z P) acts)
    (fun lc ls z => by rw [startFrom_prep, runActs_prep]) ⟨rfl, rfl⟩ (runAll_obs hv es hok (obs2_established v)) o.obs2
  refine ⟨k.errC, k.errS, ?_⟩
  cases d
  · exact ⟨k.notesC, by simpa [sendLog] using k.notesS⟩
  · exact ⟨k.notesS, by simpa [sendLog] using k.notesC⟩

/-- **sequence, an exchange in progress**: after any sequence of completed exchanges, while a further
    exchange runs under an arbitrary schedule (not yet drained): still no error at either side,
    the notifications at the receiving side are those of the history plus (QoS 2) at most one /
    (QoS 1) only copies of the message; the allocator did hand out identifier 1 -/
theorem C01_l2b_sequence_in_progress (es : List Exch) (hok : ∀ e ∈ es, e.ok v) (d : Bool) (q : Nat) (P : Pkt)
    (hq : q = 1 ∨ q = 2) (hP : IsPub v q P) (acts : List Act) :
    let y0 := runAll v (established v) es
    let y := runActs v (startFrom d y0 P) acts
    (acquire { cfg := cfgC, s := y0.c }).1 = some 1 ∧ (acquire { cfg := cfgS, s := y0.s }).1 = some 1 ∧
    errFree y.logC ∧ errFree y.logS ∧
    ∃ N, pubNotes (recvLog d y) = notesAt d es ++ N ∧ pubNotes (sendLog d y) = notesAt (!d) es ∧
      (∀ Q ∈ N, sameMsg P Q) ∧ (q = 2 → N.length ≤ 1) := by
  intro y0 y
  have a := acquire_from_quiet (C01_l2b_sequence hv es hok).1
  rcases hq with rfl | rfl
  · have k := in_progress_obs hv es hok (C01_l2b_qos1_run hv hP d acts)
    exact ⟨a.1, a.2, k.1, k.2.1, _, k.2.2.1, k.2.2.2, notes1_same P acts, by omega⟩
  · have k := in_progress_obs hv es hok (C01_l2b_qos2_run hv hP d acts)
    exact ⟨a.1, a.2, k.1, k.2.1, _, k.2.2.1, k.2.2.2, notes2_same P acts, fun _ => notes2_le P acts⟩

end

/-! ## two exchanges in flight at once (identifiers 1 and 2, same direction, no loss) -/

section
variable {v : Nat} {P1 P2 : Pkt} (hv : v = 4 ∨ v = 5)
include hv

theorem acquire_second_gives_2 {q : Nat} (hq : q = 1 ∨ q = 2) (hA : IsPub v q P1) :
    (acquire { cfg := cfgC, s := (start v true P1).c }).1 = some 2 ∧
    (acquire { cfg := cfgS, s := (start v false P1).s }).1 = some 2 := by
  rcases hq with rfl | rfl
  · rw [(start1 hv hA true).c, (start1 hv hA false).s]
    exact ⟨acquire2_gives_2 _ _ _ _ _ _ _ _, acquire2_gives_2 _ _ _ _ _ _ _ _⟩
  · rw [(start2 hv hA true).c, (start2 hv hA false).s]
    exact ⟨acquire2_gives_2 _ _ _ _ _ _ _ _, acquire2_gives_2 _ _ _ _ _ _ _ _⟩

/-- **two in flight**: two messages published back to back (identifiers 1 and 2, any QoS 1/2 each), both
    exchanges in flight at once, no loss, everything delivered: quiescent (both endpoints
    `idle`, channels empty), no error, the receiving application notified of exactly `[P1, P2]`
    - each exactly once, in order, no DUP -, the publisher of nothing, both identifiers released
    exactly once by the publisher (in the order the exchanges complete) -/
theorem C01_l2b_two_in_flight {q1 q2 : Nat} (h1 : q1 = 1 ∨ q1 = 2) (h2 : q2 = 1 ∨ q2 = 2)
    (hA : IsPub v q1 P1) (hB : IsPubN v q2 2 P2) (d : Bool) (n : Nat) (hn : 8 ≤ n) :
    Obs d (established v) [P1, P2] (if q1 = 2 ∧ q2 = 1 then [2, 1] else [1, 2]) (drain n (startTwo v d P1 P2)) := by
  have e := established_quiet v hv
  obtain ⟨T, ok, _, loss⟩ := tables5 h1 h2 d
  have k := ok.no_loss5 hv hA hB loss
  rw [k.stable e.1 e.2 n hn]; exact k

/-- **two in flight, any interleaving**: the same after ANY interleaving `σ` of deliveries to the server
    and to the client (an action on an empty channel does nothing), followed by delivery of
    whatever is still in flight: the final state - logs included - is the one the
    deterministic order reaches (`drain_runSides`: deliveries to the two endpoints commute) -/
theorem C01_l2b_two_in_flight_any_order {q1 q2 : Nat} (h1 : q1 = 1 ∨ q1 = 2) (h2 : q2 = 1 ∨ q2 = 2)
    (hA : IsPub v q1 P1) (hB : IsPubN v q2 2 P2) (d : Bool) (σ : List Side) (n : Nat) (hn : 8 ≤ n) :
    drain n (runSides (startTwo v d P1 P2) σ) = drain n (startTwo v d P1 P2) ∧
    Obs d (established v) [P1, P2] (if q1 = 2 ∧ q2 = 1 then [2, 1] else [1, 2])
      (drain n (runSides (startTwo v d P1 P2) σ)) := by
  have k := C01_l2b_two_in_flight hv h1 h2 hA hB d n hn
  have e := established_quiet v hv
  have q := drain_runSides n σ (startTwo v d P1 P2) (k.c2s.trans e.1) (k.s2c.trans e.2)
  exact ⟨q, by rw [q]; exact k⟩

end

end MqttVerif.Conn.Pair

/-! ## non-vacuity: concrete packets and schedules, recomputed by `decide` (independently of
    the step lemmas and of the transducer) -/
namespace MqttVerif.Conn.Pair
local notation "D" => Act.deliver
local notation "L" => Act.lose

-- the empty schedule: the PUBLISH is in flight, nothing notified yet; then everything delivered
example : (runActs 5 (startC 5 (exPub 5 2)) []).c2s = [exPub 5 2] ∧
    pubNotes (runActs 5 (startC 5 (exPub 5 2)) []).logS = [] := by decide +kernel
example : goodB 5 true [exPub 5 2] (drain 4 (runActs 5 (startC 5 (exPub 5 2)) [])) = true := by decide +kernel
-- two losses at different phases (PUBREC in flight; PUBREL in flight)
example : goodB 4 true [exPub 4 2]
    (drain 4 (runActs 4 (startC 4 (exPub 4 2)) [D, L, D, D, L])) = true := by decide +kernel
example : goodB 5 true [exPub 5 2]
    (drain 4 (runActs 5 (startC 5 (exPub 5 2)) [D, L, D, D, L])) = true := by decide +kernel
-- a loss immediately after another loss (at the very start: the notification carries DUP)
example : goodB 5 true [(exPub 5 2).asDup] (drain 4 (runActs 5 (startC 5 (exPub 5 2)) [L, L])) = true := by
  decide +kernel
example : goodB 4 true [(exPub 4 2).asDup] (drain 4 (runActs 4 (startC 4 (exPub 4 2)) [L, L, L])) = true := by
  decide +kernel
-- the retransmission in the channel carries DUP; the receiver that already handled it answers PUBREC only
example : (runActs 5 (startC 5 (exPub 5 2)) [L]).c2s = [(exPub 5 2).asDup] := by decide +kernel
example : (runActs 5 (startC 5 (exPub 5 2)) [D, L, L]).c2s = [(exPub 5 2).asDup] ∧
    pubNotes (runActs 5 (startC 5 (exPub 5 2)) [D, L, L, D]).logS = [exPub 5 2] := by decide +kernel
-- losses while PUBCOMP is in flight, twice, with a loss right after a loss: the v5.0 receiver answers
-- the retransmitted PUBREL with PUBCOMP "Packet Identifier not found" (0x92); still exactly once
example : goodB 5 true [exPub 5 2]
    (drain 4 (runActs 5 (startC 5 (exPub 5 2)) [D, D, D, L, L, D, L])) = true := by
  decide +kernel
example : Ev.send ackRc none ∈
    (drain 4 (runActs 5 (startC 5 (exPub 5 2)) [D, D, D, L, L, D, L])).logS := by
  decide +kernel
example : (runActs 5 (startC 5 (exPub 5 2)) [D, D, D, L, D]).s2c = [ackRc] := by
  decide +kernel
-- a loss at every step
example : goodB 4 true [(exPub 4 2).asDup]
    (drain 4 (runActs 4 (startC 4 (exPub 4 2)) [L, D, L, D, L, D, L, D, L, D,
      L, D, L])) = true := by decide +kernel
-- QoS 1: two losses while the PUBACK is in flight = two duplicates (`ackLosses = 2`), all marked DUP
example : goodB 4 true [exPub 4 1, (exPub 4 1).asDup, (exPub 4 1).asDup]
    (drain 2 (runActs 4 (startC 4 (exPub 4 1)) [D, L, D, L])) = true := by decide +kernel
example : ackLosses [D, L, D, L] = 2 := by decide
example : goodB 5 true [(exPub 5 1).asDup] (drain 2 (runActs 5 (startC 5 (exPub 5 1)) [L, L])) = true := by
  decide +kernel
example : goodB 5 true [exPub 5 1] (drain 2 (runActs 5 (startC 5 (exPub 5 1)) [D, D, L, L])) = true := by
  decide +kernel
-- server publishes
example : goodB 5 false [exPub 5 2]
    (drain 4 (runActs 5 (startS 5 (exPub 5 2)) [D, L, L, D, D, L])) = true := by decide +kernel
example : goodB 4 false [(exPub 4 2).asDup]
    (drain 4 (runActs 4 (startS 4 (exPub 4 2)) [L, D, D, D, L, L])) = true := by decide +kernel
example : goodB 5 false [exPub 5 1, (exPub 5 1).asDup]
    (drain 2 (runActs 5 (startS 5 (exPub 5 1)) [D, L, L])) = true := by decide +kernel
-- the shapes are the model's: the system after a schedule equals `sysOf2` of the transducer's phase, logs aside
example : { runActs 5 (startC 5 (exPub 5 2)) [D, L, D, D, L] with logC := [], logS := [] } =
    sysOf2 5 true (exPub 5 2) (.rel false) := by decide +kernel
example : phase2 [D, L, D, D, L] = .rel false := by decide
example : { runActs 5 (startS 5 (exPub 5 2)) [D, D, D, L, D] with logC := [], logS := [] } =
    sysOf2 5 false (exPub 5 2) (.comp true) := by decide +kernel

/-- a sequence: QoS 2 client→server under losses, QoS 1 server→client with a duplicate, QoS 1
    client→server loss-free, QoS 2 server→client whose first PUBLISH is lost -/
def exSeq (v : Nat) : List Exch :=
  [⟨true, 2, exPub v 2, [L, D, L, L, D, D, L], 4⟩,
   ⟨false, 1, exPub v 1, [D, L], 4⟩,
   ⟨true, 1, exPub v 1, [D], 4⟩,
   ⟨false, 2, exPub v 2, [L, D, D, D, L], 5⟩]

example : ∀ e ∈ exSeq 5, e.ok 5 := by
  intro e he
  simp only [exSeq, List.mem_cons, List.not_mem_nil, or_false] at he
  rcases he with rfl | rfl | rfl | rfl <;>
    exact ⟨by decide, ⟨rfl, rfl, rfl, rfl, rfl, by decide, by decide, by decide⟩, by decide⟩

example : notesAt true (exSeq 5) = [(exPub 5 2).asDup, exPub 5 1] ∧
    notesAt false (exSeq 5) = [exPub 5 1, (exPub 5 1).asDup, (exPub 5 2).asDup] := by decide +kernel
example : let y := runAll 5 (established 5) (exSeq 5)
    y.c = idle 5 true ∧ y.s = idle 5 false ∧ y.c2s = [] ∧ y.s2c = [] ∧
    pubNotes y.logS = [(exPub 5 2).asDup, exPub 5 1] ∧
    pubNotes y.logC = [exPub 5 1, (exPub 5 1).asDup, (exPub 5 2).asDup] ∧
    releasedIds y.logC = [1, 1] ∧ releasedIds y.logS = [1, 1] ∧
    y.logC.all (fun e => !isErr e) = true ∧ y.logS.all (fun e => !isErr e) = true := by decide +kernel
example : let y := runAll 4 (established 4) (exSeq 4)
    y.c = idle 4 true ∧ y.s = idle 4 false ∧ y.c2s = [] ∧ y.s2c = [] ∧
    pubNotes y.logS = notesAt true (exSeq 4) ∧ pubNotes y.logC = notesAt false (exSeq 4) := by decide +kernel


-- two exchanges in flight, concrete (recomputed by `decide`)
def exPubB (v q : Nat) : Pkt :=
  { ver := v, kind := .publish, qos := q, pid := some 2, topic := [99], payloadLen := 3, tag := 78, size := 10 }
example : IsPubN 5 2 2 (exPubB 5 2) := ⟨rfl, rfl, rfl, rfl, rfl, by decide, by decide, by decide⟩
example : IsPubN 4 1 2 (exPubB 4 1) := ⟨rfl, rfl, rfl, rfl, rfl, by decide, by decide, by decide⟩
example : let y := drain 8 (startTwo 5 true (exPub 5 2) (exPubB 5 2))
    y.c = idle 5 true ∧ y.s = idle 5 false ∧ y.c2s = [] ∧ y.s2c = [] ∧
    pubNotes y.logS = [exPub 5 2, exPubB 5 2] ∧ pubNotes y.logC = [] ∧ releasedIds y.logC = [1, 2] ∧
    y.logC.all (fun e => !isErr e) = true ∧ y.logS.all (fun e => !isErr e) = true := by decide +kernel
example : let y := drain 6 (startTwo 4 false (exPub 4 2) (exPubB 4 1))
    y.c = idle 4 true ∧ y.s = idle 4 false ∧ y.c2s = [] ∧ y.s2c = [] ∧
    pubNotes y.logC = [exPub 4 2, exPubB 4 1] ∧ pubNotes y.logS = [] ∧ releasedIds y.logS = [2, 1] := by decide +kernel
-- both exchanges really are in flight at once: two PUBLISH in the channel, then two PUBREC
example : (startTwo 5 true (exPub 5 2) (exPubB 5 2)).c2s = [exPub 5 2, exPubB 5 2] := by decide +kernel
example : ((drain 2 (startTwo 5 true (exPub 5 2) (exPubB 5 2))).s2c.map (·.kind)) = [.pubrec, .pubrec] := by decide +kernel
-- another interleaving: the client is served as early as possible; same final state, logs included
example : drain 8 (runSides (startTwo 5 true (exPub 5 2) (exPubB 5 2)) [.toS, .toC, .toC, .toS, .toC, .toS, .toS]) =
    drain 8 (startTwo 5 true (exPub 5 2) (exPubB 5 2)) := by decide +kernel
example : runSides (startTwo 5 true (exPub 5 2) (exPubB 5 2)) [.toS, .toC] ≠
    drain 2 (startTwo 5 true (exPub 5 2) (exPubB 5 2)) := by decide +kernel
-- 7 deliveries are not enough for QoS 2 + QoS 2
example : (drain 7 (startTwo 5 true (exPub 5 2) (exPubB 5 2))).s2c ≠ [] := by decide +kernel

end MqttVerif.Conn.Pair

#print axioms MqttVerif.Conn.Pair.closure2
#print axioms MqttVerif.Conn.Pair.closure1
#print axioms MqttVerif.Conn.Pair.run_obs
#print axioms MqttVerif.Conn.Pair.C01_l2b_qos2_run
#print axioms MqttVerif.Conn.Pair.C01_l2b_qos1_run
#print axioms MqttVerif.Conn.Pair.C01_l2b_safety_qos2
#print axioms MqttVerif.Conn.Pair.C01_l2b_safety_qos1
#print axioms MqttVerif.Conn.Pair.C01_l2b_one_channel
#print axioms MqttVerif.Conn.Pair.C01_l2b_qos2_at_most_once
#print axioms MqttVerif.Conn.Pair.C01_l2b_qos2_exactly_once
#print axioms MqttVerif.Conn.Pair.C01_l2b_qos1_only_the_message
#print axioms MqttVerif.Conn.Pair.C01_l2b_qos1_at_least_once
#print axioms MqttVerif.Conn.Pair.C01_l2b_qos2_exactly_once_c2s
#print axioms MqttVerif.Conn.Pair.C01_l2b_qos2_exactly_once_s2c
#print axioms MqttVerif.Conn.Pair.C01_l2b_qos1_at_least_once_c2s
#print axioms MqttVerif.Conn.Pair.C01_l2b_qos1_at_least_once_s2c
#print axioms MqttVerif.Conn.Pair.acquire_from_quiet
#print axioms MqttVerif.Conn.Pair.expNotes_spec
#print axioms MqttVerif.Conn.Pair.C01_l2b_sequence
#print axioms MqttVerif.Conn.Pair.C01_l2b_sequence_in_progress
#print axioms MqttVerif.Conn.Pair.acquire_second_gives_2
#print axioms MqttVerif.Conn.Pair.C01_l2b_two_in_flight
#print axioms MqttVerif.Conn.Pair.drain_runSides
#print axioms MqttVerif.Conn.Pair.C01_l2b_two_in_flight_any_order
