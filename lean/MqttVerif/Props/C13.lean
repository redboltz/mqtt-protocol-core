import MqttVerif.Conn.Lemmas.AliasStep
import MqttVerif.Conn.Lemmas.TarGhost2
/-!
# C13 — Topic aliases always resolve to the intended topic at the receiver

Statement (properties.jsonl): every PUBLISH requested for sending is resolvable by a
spec-conformant receiver to the topic the application asked for; an empty topic is only sent
with an alias (1..=peer's Topic Alias Maximum) that an earlier PUBLISH actually sent on this
connection bound to that topic (manual alias, automatic mapping/replacement, LRU eviction); on
receipt an aliased PUBLISH is delivered with the bound topic or rejected as Topic Alias invalid;
bindings do not survive the connection; stored/retransmitted packets carry the full topic and no
alias.

Ghost: `Mon.PeerTable`, the table of a spec-conformant receiver, updated ONLY from the PUBLISH
packets actually emitted (`Mon.peerStep` / `Mon.peerStepEvs` — the same monitor the driver runs on
the implementation's traces).  Invariant `AliasInv s peer` (`Conn/Lemmas/Alias.lean`):
`TasOk` (internal consistency of `TopicAliasSend`), `StoreInv` (the store is alias-free) and
`Agree` (every sender binding is a receiver binding).  All theorems are for **every** state,
packet, parser behaviour and operation sequence; `s.ver = 5` is the "v5.0 connection" of the
property text (the version, once determined, never changes: `step_ver`).

Receiver side (sections 5 and 6): the driver's ghost table of the bindings the peer announced
(`TarAgree`, `RecvGhostInv`); section 6 follows the driver's current update (`inTblStep2`, `ownTamStep`).
-/
set_option linter.unusedSimpArgs false
set_option linter.unusedVariables false
namespace MqttVerif.Conn
open MqttVerif

/-! ## 1. the invariant is preserved by every call, together with the ghost update -/

/-- **AliasInv is inductive**: for every operation (any packet, any peer bytes, any parser) on a
    v5.0 connection the receiver can process everything the call emitted
    (`peerStepEvs … = some peer'`), and the invariant holds again for the updated ghost table.
    `peerMaxOf s` is the Topic Alias Maximum of the table in force (calls that replace the table
    emit only alias-free PUBLISH packets, for which the bound is irrelevant). -/
theorem C13_alias_inv_step (cfg : Cfg) (s : St) (op : Op) (peer : Mon.PeerTable) (hv : s.ver = 5)
    (hinv : AliasInv s peer) (hl : RestoreLegal op) :
    ∃ peer', Mon.peerStepEvs (peerMaxOf s) peer (step cfg s op).ev = some peer' ∧
      AliasInv (step cfg s op).s peer' := by
  rw [peerStepEvs_eq]; exact step_alias cfg s op peer hv hinv hl

/-- ghost receiver along a history: fed with the events of each call; forgets everything when
    the transport is closed -/
def ghostReset : Op → Mon.PeerTable → Mon.PeerTable
  | .closed, _ => []
  | _, peer' => peer'

def ghostRun (cfg : Cfg) : St → Mon.PeerTable → List Op → Option Mon.PeerTable
  | _, peer, [] => some peer
  | s, peer, op :: ops =>
    match Mon.peerStepEvs (peerMaxOf s) peer (step cfg s op).ev with
    | none => none
    | some peer' => ghostRun cfg (step cfg s op).s (ghostReset op peer') ops

/-- `notify_closed` drops both tables; the restarted (empty) ghost satisfies the invariant.
    A CONNECT that is sent or received re-initialises both tables (`initConn`); they are created
    afresh from the Topic Alias Maximum of CONNECT / CONNACK (`TAS.new`, empty). -/
theorem C13_tables_die_with_connection (cfg : Cfg) (s : St) (peer : Mon.PeerTable) (hinv : AliasInv s peer) :
    (step cfg s .closed).s.tas = none ∧ (step cfg s .closed).s.tar = none ∧
      AliasInv (step cfg s .closed).s [] := by
  have h1 : (step cfg s .closed).s.tas = none := notifyClosed_tas_none _
  refine ⟨h1, notifyClosed_tar_none _, ?_⟩
  have hq := quiet_notifyClosed { cfg := cfg, s := s }
  refine ⟨hq.tasOk hinv.tasOk, hq.store hinv.store, ?_⟩
  intro a tp h; simp [slookup, h1] at h

theorem initConn_tables (c : C) (b : Bool) : (initConn c b).s.tas = none ∧ (initConn c b).s.tar = none := by
  simp [initConn]

/-- over whole histories: along every legal operation sequence the ghost receiver never gets stuck
    and the invariant holds at the end (`C13_reachable`: from a fresh v5.0 connection object) -/
theorem C13_alias_inv_run (cfg : Cfg) (ops : List Op) (s : St) (peer : Mon.PeerTable) (hv : s.ver = 5)
    (hinv : AliasInv s peer) (hl : ∀ op ∈ ops, RestoreLegal op) :
    ∃ peer', ghostRun cfg s peer ops = some peer' ∧ AliasInv (run cfg s ops) peer' := by
  induction ops generalizing s peer with
  | nil => exact ⟨peer, rfl, hinv⟩
  | cons op ops ih =>
    obtain ⟨peer', h1, h2⟩ := C13_alias_inv_step cfg s op peer hv hinv (hl op (by simp))
    have hv' : (step cfg s op).s.ver = 5 := by rw [step_ver cfg s op (by omega)]; exact hv
    have hinv' : AliasInv (step cfg s op).s (ghostReset op peer') := by
      cases op <;> first | exact h2 | exact (C13_tables_die_with_connection cfg s peer hinv).2.2
    obtain ⟨peer'', h3, h4⟩ := ih (step cfg s op).s _ hv' hinv' (fun o ho => hl o (by simp [ho]))
    exact ⟨peer'', by simp only [ghostRun, h1]; exact h3, by simpa [run] using h4⟩

theorem C13_reachable (cfg : Cfg) (ops : List Op) (hl : ∀ op ∈ ops, RestoreLegal op) :
    ∃ peer', ghostRun cfg (St.init cfg 5) [] ops = some peer' ∧
      AliasInv (run cfg (St.init cfg 5) ops) peer' :=
  C13_alias_inv_run cfg ops _ _ rfl (AliasInv.init cfg 5) hl

/-! ## 2. everything emitted is resolvable -/

/-- every emitted v5.0 PUBLISH either has a non-empty topic (and an alias within `1..max`, if
    any) or an empty topic with an alias that an earlier emitted PUBLISH of this connection bound:
    the receiver monitor never fails -/
theorem C13_emitted_resolvable (cfg : Cfg) (s : St) (op : Op) (peer : Mon.PeerTable) (hv : s.ver = 5)
    (hinv : AliasInv s peer) (hl : RestoreLegal op) :
    Mon.peerStepEvs (peerMaxOf s) peer (step cfg s op).ev ≠ none := by
  obtain ⟨peer', h, _⟩ := C13_alias_inv_step cfg s op peer hv hinv hl
  rw [h]; simp

/-- *intended topic*: when the application asked for the non-empty topic `T` without an alias and
    automatic mapping / replacement rewrote the packet to an empty topic with alias `a`, the
    receiver has `a ↦ T`; otherwise the packet keeps the topic `T` -/
theorem C13_intended_topic {pm : Nat} {c : C} {p : Pkt} {peer : Mon.PeerTable} (hinv : AliasInv c.s peer)
    (hpm : pm = peerMaxOf c.s) (ht : p.topic ≠ []) (ha : p.alias = none) :
    ((autoAlias c p).2.topic = p.topic) ∨
    ((autoAlias c p).2.topic = [] ∧
      ∃ a, (autoAlias c p).2.alias = some a ∧ Mon.peerLookup a peer = some p.topic) := by
  have hp : PubInv pm c.s peer := ⟨hinv.tasOk, hinv.agree, hpm ▸ peerMaxOf_spec c.s⟩
  have h4 := (autoAlias_spec hp ht ha).2.2.2
  by_cases he : (autoAlias c p).2.topic = []
  · exact Or.inr ⟨he, h4 he⟩
  · exact .inl (Fp.autoAlias_outcomes (Q := fun r => r.2.topic ≠ [] → r.2.topic = p.topic) c p (fun _ => rfl)
      (fun _ _ _ _ _ _ _ h => absurd rfl h) (fun _ _ _ _ _ _ _ => rfl) he)

/-- LRU eviction / automatic mapping changes the sender's table only in a call that emits the
    new topic with that alias: `autoAlias` touches the table only while connected, only through
    `insert_or_update topic a`, and hands exactly `{p with alias := a}` (full topic) to the tail,
    which emits it in the same call -/
theorem C13_lru_rebinds_by_sending (c : C) (p : Pkt) (rel : Option Nat)
    (h : (autoAlias c p).1.s.tas ≠ c.s.tas) :
    c.s.status = .connected ∧
    ∃ a, (autoAlias c p).2 = { p with alias := some a } ∧
      (autoAlias c p).1 = tasInsert c p.topic a "topic_alias_send.rs:insert_or_update:assert" ∧
      (p.ver = 5 → p.kind = .publish →
        pubs (psV5PublishTail (autoAlias c p).1 (autoAlias c p).2 rel).ev =
          pubs c.ev ++ [{ p with alias := some a }]) := by
  refine Fp.autoAlias_outcomes (Q := fun r => r.1.s.tas ≠ c.s.tas → c.s.status = .connected ∧
    ∃ a, r.2 = { p with alias := some a } ∧
      r.1 = tasInsert c p.topic a "topic_alias_send.rs:insert_or_update:assert" ∧
      (p.ver = 5 → p.kind = .publish →
        pubs (psV5PublishTail r.1 r.2 rel).ev = pubs c.ev ++ [{ p with alias := some a }])) c p
    (fun h => absurd rfl h) (fun _ _ _ _ _ _ _ h => absurd rfl h)
    (fun hc _ t _ _ _ _ => ⟨hc, t.lruAlias, rfl, rfl, fun h5 hk => ?_⟩) h
  rw [tail_pubs, Fp.tasInsert_s, if_pos hc, Fp.tasInsert_ev, pubsOf_send, if_pos ⟨h5, hk⟩]

/-- the same for an alias chosen by the application: it is registered only while connected, i.e.
    only by a packet that is emitted in the same call (fix of finding #11b) -/
theorem C13_manual_alias_registered_by_sending (c : C) (p : Pkt) (rel : Option Nat) (a : Nat)
    (hb : sendBlocked c.s p = false) (ht : p.topic ≠ []) (ha : p.alias = some a)
    (h : (psV5PublishAlias c p rel false).s.tas ≠ c.s.tas) (h5 : p.ver = 5) (hk : p.kind = .publish) :
    c.s.status = .connected ∧ pubs (psV5PublishAlias c p rel false).ev = pubs c.ev ++ [p] := by
  refine Fp.psV5PublishAlias_paths (Q := fun r => r.s.tas ≠ c.s.tas →
      c.s.status = .connected ∧ pubs r.ev = pubs c.ev ++ [p]) c p rel false
    (fun _ h => absurd (by rw [Fp.pubRefuseCleanup_s]; rfl) h)
    (fun _ _ _ _ _ h => absurd (by rw [Fp.pubRefuseCleanup_s]; rfl) h) (fun _ _ h0 => absurd h0 ht) (fun _ hv => nomatch hv)
    (fun _ _ h0 => absurd h0 ht) (fun _ _ a' _ _ => ?_) (fun _ _ h0 => nomatch ha.symm.trans h0) h
  refine Fp.ite_ind (Q := fun c1 : C => (psV5PublishTail c1 p rel).s.tas ≠ c.s.tas →
      c.s.status = .connected ∧ pubs (psV5PublishTail c1 p rel).ev = pubs c.ev ++ [p])
    (fun hc _ => ⟨hc, ?_⟩) (fun _ h => absurd (by rw [Fp.psV5PublishTail_s]) h)
  rw [tail_pubs, Fp.tasInsert_s, if_pos hc, Fp.tasInsert_ev, pubsOf_send, if_pos ⟨h5, hk⟩]

/-! ## 3. the store is alias-free; retransmissions carry the full topic -/

/-- every packet `process_send_v5_0_publish` places in the store has no Topic Alias and a
    non-empty topic: `StoreInv` is preserved by every call -/
theorem C13_stored_has_no_alias (cfg : Cfg) (s : St) (op : Op) (peer : Mon.PeerTable) (hv : s.ver = 5)
    (hinv : AliasInv s peer) (hl : RestoreLegal op) :
    ∀ e ∈ (step cfg s op).s.store, e.2.ver = 5 → e.2.kind = .publish → e.2.alias = none ∧ e.2.topic ≠ [] := by
  obtain ⟨peer', _, h⟩ := C13_alias_inv_step cfg s op peer hv hinv hl
  exact fun e he => h.store e he

/-- hence every v5.0 PUBLISH resent by `send_stored` carries the full topic and no alias -/
theorem C13_retransmit_no_alias (c : C) (hs : StoreInv c.s) :
    ∃ l, pubs (sendStored c).ev = pubs c.ev ++ l ∧ ∀ q ∈ l, q.alias = none ∧ q.topic ≠ [] := by
  obtain ⟨l, h1, h2⟩ := (quiet_sendStored c).evs
  exact ⟨l, h1, h2 hs⟩

/-! ## 4. receive side -/

/-- **receive-side specification.**  For a received v5.0 PUBLISH `p`:
    * empty topic + alias `a`: delivered with `topic = lookup a tar.m`, `extracted = true` iff
      `1 ≤ a ≤ max`, `a` is bound and the bound topic has no wildcard; otherwise (no alias, `a = 0`,
      `a > max`, no table, unbound, wildcard) Topic Alias invalid (0x94) and nothing delivered;
    * non-empty topic + alias: the table gets exactly that binding (`TAR.insertOrUpdate`), range
      errors as above;
    * otherwise the table is untouched. -/
theorem C13_recv_alias_spec (c : C) (p : Pkt) :
    (p.topic = [] → p.alias = none → prV5PublishAlias c p = (handleV5Error c eAliasInvalid, none)) ∧
    (∀ a, p.alias = some a → RecvAliasBad c.s a →
      prV5PublishAlias c p = (handleV5Error c eAliasInvalid, none)) ∧
    (∀ a t, p.topic = [] → p.alias = some a → c.s.tar = some t → lookup a t.m = none →
      prV5PublishAlias c p = (handleV5Error c eAliasInvalid, none)) ∧
    (∀ a t topic, p.topic = [] → p.alias = some a → c.s.tar = some t → lookup a t.m = some topic →
      hasWildcard topic = true → prV5PublishAlias c p = (handleV5Error c eAliasInvalid, none)) ∧
    (∀ a t topic, p.topic = [] → p.alias = some a → c.s.tar = some t → a ≠ 0 → a ≤ t.max →
      lookup a t.m = some topic → hasWildcard topic = false →
      prV5PublishAlias c p = (c, some { p with topic := topic, extracted := true })) ∧
    (∀ a t, p.topic ≠ [] → p.alias = some a → c.s.tar = some t → a ≠ 0 → a ≤ t.max →
      prV5PublishAlias c p = ({ c with s := { c.s with tar := some (t.insertOrUpdate p.topic a) } }, some p)) ∧
    (p.topic ≠ [] → p.alias = none → prV5PublishAlias c p = (c, some p)) :=
  ⟨prvAlias_empty_noalias c p, prvAlias_bad c p, prvAlias_empty_unbound c p, prvAlias_empty_wildcard c p,
   prvAlias_empty_bound c p, prvAlias_register c p, prvAlias_plain c p⟩

/-- the error path leaves the receive table alone and, while connected, answers with
    DISCONNECT 0x94 + close -/
theorem C13_recv_alias_invalid_effect (c : C) (h : c.s.status = .connected) :
    (handleV5Error c eAliasInvalid).s.tar = c.s.tar ∧
    ∃ tc, (∀ x ∈ tc, IsTimerCancel x) ∧
      (handleV5Error c eAliasInvalid).ev = c.ev ++ tc ++
        (if sizeOk c (mkV5Disconnect 0x94) then [.send (mkV5Disconnect 0x94) none, .close] else [.close]) ++
        [.error eAliasInvalid] := by
  refine ⟨by rw [Fp.handleV5Error_s], ?_⟩
  have := (handleV5Error_connected c eAliasInvalid h).2
  simpa [errToDisconnectRc, eAliasInvalid] using this

/-- what the handler delivers and what it leaves in the table is decided by the alias stage;
    `TAR.insertOrUpdate` adds exactly the one binding -/
theorem C13_recv_delivery (c : C) (p : Pkt) :
    (prV5Publish c (.ok p)).s.tar = (prV5PublishAlias c p).1.s.tar ∧
    (recvs (prV5Publish c (.ok p)).ev = recvs c.ev ∨
      ∃ q, (prV5PublishAlias c p).2 = some q ∧ recvs (prV5Publish c (.ok p)).ev = recvs c.ev ++ [q]) ∧
    (∀ (t : TAR) topic a k, lookup k (t.insertOrUpdate topic a).m = if k = a then some topic else lookup k t.m) :=
  ⟨Fp.prV5Publish_tar c p, prV5Publish_recvs c p, TAR.insertOrUpdate_lookup⟩

/-! ## 5. the two alias monitors of the driver are theorems of the model

`unbound_alias_accepted` (sender side) and `delivered_under_wrong_topic` (receiver side). -/

/-- the monitor's "accepted": no error event, and a PUBLISH was requested for sending or the store grew -/
def PubAccepted (s : St) (c' : C) : Prop :=
  Mon.hasError c'.ev = false ∧
  ((c'.ev.any fun e => match e with | .send q _ => decide (q.kind = Kind.publish) | _ => false) = true ∨
    c'.s.store.length > s.store.length)

theorem hasError_err' (c : C) (e : Nat) : Mon.hasError (c.err e).ev = true := by
  simp [Mon.hasError, C.err, C.push]

theorem Appends.hasError {T : List EvTag} {c c' : C} (h : Appends T c c') (he : Mon.hasError c.ev = true) :
    Mon.hasError c'.ev = true := by
  obtain ⟨l, e, -⟩ := h
  unfold Mon.hasError at he ⊢
  rw [e, List.any_append, he, Bool.true_or]

theorem vta_fst_of_tas (c c' : C) (ao : Option Nat) (h : c'.s.tas = c.s.tas) :
    (validateTopicAlias c' ao).1 = (validateTopicAlias c ao).1 := by
  unfold validateTopicAlias validateTopicAliasRange
  cases ao with
  | none => rfl
  | some a => simp only [h]; cases c.s.tas <;> simp <;> split <;> rfl

theorem psV5PublishAlias_unbound (c : C) (p : Pkt) (rel : Option Nat) (ht : p.topic = [])
    (hn : (validateTopicAlias c p.alias).1 = none) :
    Mon.hasError (psV5PublishAlias c p rel false).ev = true :=
  have refused : ∀ (c1 : C) (e : Nat), Mon.hasError (pubRefuseCleanup (c1.err e) p.pid).ev = true :=
    fun c1 e => (Fp.pubRefuseCleanup_ev _ _).hasError (hasError_err' c1 e)
  Fp.psV5PublishAlias_paths (Q := fun r => Mon.hasError r.ev = true) c p rel false (fun _ => refused c _)
    (fun _ _ _ _ _ => refused c _) (fun _ _ _ _ => refused _ _)
    (fun _ hv _ => nomatch hv) (fun _ _ _ t hr => nomatch hn.symm.trans hr) (fun _ h _ _ _ => absurd ht h)
    (fun _ h _ => absurd ht h)

theorem psV5Publish_unbound (c : C) (p : Pkt) (ht : p.topic = [])
    (hn : (validateTopicAlias c p.alias).1 = none) (hev : c.ev = []) :
    ¬ PubAccepted c.s (psV5Publish c p) := by
  have key : ∀ c' : C, Mon.hasError c'.ev = true → ¬ PubAccepted c.s c' := fun c' h hp => by
    have := hp.1; rw [h] at this; cases this
  have refused : ∀ (c' : C) (e id : Nat), ¬ PubAccepted c.s (releaseIfUsed (c'.err e) id) :=
    fun c' e id => key _ ((Fp.releaseIfUsed_ev _ id).hasError (hasError_err' c' e))
  refine Fp.psV5Publish_paths (Q := fun r => ¬ PubAccepted c.s r) c p (fun _ _ => key _ (hasError_err' c _))
    (fun id _ _ => refused c _ id) ?_ (fun id _ _ _ _ => refused c _ id) (fun _ _ _ _ _ _ => key _ (hasError_err' c _))
    (fun _ _ _ _ _ => refused _ _ _) (fun _ t _ _ _ hr => nomatch hn.symm.trans hr) (fun _ _ _ h => absurd ht h)
    (fun id _ _ =>
      key _ (psV5PublishAlias_unbound _ _ _ ht ((vta_fst_of_tas c _ _ (by rw [Fp.addWait_s])).trans hn)))
    (fun _ _ _ => key _ (hasError_err' c _)) (fun _ _ _ => key _ (psV5PublishAlias_unbound _ _ _ ht hn))
  -- the panic site: no event, no change
  intro _ _ _ hp
  rcases hp.2 with h | h
  · simp [C.setPanic, hev] at h
  · simp [C.setPanic] at h

def TarAgree (s : St) (tbl : Mon.PeerTable) : Prop :=
  ∀ a t topic, s.tar = some t → lookup a t.m = some topic → Mon.peerLookup a tbl = some topic

/-- the monitor's update of its receiver-side ghost table, as it was before round 4 (since then:
    `inTblStep2`), after a `recv` of the parsed v5.0 PUBLISH `p` whose events were `evs` -/
def inTblStep (tbl : Mon.PeerTable) (p : Pkt) (evs : List Ev) : Mon.PeerTable :=
  match p.alias with
  | some a =>
    if !p.topic.isEmpty ∧ (!Mon.hasError evs ∨
        evs.any (fun e => match e with | .recv q => decide (q.kind = Kind.publish) | _ => false)) then
      (a, p.topic) :: tbl.filter (fun kv => kv.1 ≠ a)
    else tbl
  | none => tbl

/-- **receiver-side ghost table** (driver monitor `VIOL sig=C13 delivered_under_wrong_topic@<site>`):
    a delivered alias-only PUBLISH (`topic_name_extracted`) carries exactly the topic the ghost table —
    the bindings the peer announced on this connection — has for its alias.  `hagree`: the model's
    receive table is contained in the ghost (`TarAgree`; kept by `C13_recv_ghost_step`, established by
    `TarAgree.of_empty`). -/
theorem C13_delivered_under_ghost_topic (c : C) (p : Pkt) (tbl : Mon.PeerTable) (hev : c.ev = [])
    (hx : p.extracted = false) (hagree : TarAgree c.s tbl) :
    ∀ q ∈ recvs (prV5Publish c (.ok p)).ev, q.extracted = true →
      ∃ a, q.alias = some a ∧ Mon.peerLookup a tbl = some q.topic := by
  intro q hq hqx
  rcases prV5Publish_recvs c p with h | ⟨q', h1, h2⟩
  · rw [h, hev] at hq
    cases hq
  · rw [h2, hev] at hq
    cases List.mem_singleton.1 hq
    -- of the outcomes of the alias stage only the lookup in the table sets `extracted`
    revert h1
    refine Fp.prV5PublishAlias_ind (Q := fun r => r.2 = some q → _) c p (fun _ h => nomatch h) (fun _ _ h => ?_)
      (fun a t topic _ ha htar _ _ hg _ h => ?_) (fun _ _ _ _ _ _ _ h => ?_)
    · cases h
      exact absurd (hx.symm.trans hqx) Bool.false_ne_true
    · cases h
      exact ⟨a, ha, hagree a t topic htar ((TAR.get_eq (by omega)).symm.trans hg)⟩
    · cases h
      exact absurd (hx.symm.trans hqx) Bool.false_ne_true

theorem mem_recvs {q : Pkt} {l : List Ev} (h : Ev.recv q ∈ l) : q ∈ recvs l := by
  obtain ⟨a, b, rfl⟩ := List.append_of_mem h
  rw [recvs_append]
  exact List.mem_append_right _ List.mem_cons_self

theorem any_recv_of_recvs_nil {l : List Ev} (h : recvs l = []) :
    (l.any fun e => match e with | .recv q => decide (q.kind = Kind.publish) | _ => false) = false := by
  refine List.any_eq_false.2 fun e he => ?_
  cases e with
  | recv q => exact absurd (h ▸ mem_recvs he) List.not_mem_nil
  | _ => exact Bool.false_ne_true

theorem hasError_handleV5Error (c : C) (e : Nat) : Mon.hasError (handleV5Error c e).ev = true := by
  unfold handleV5Error; exact hasError_err' _ _

/-- a binding registered by the model and by the ghost alike keeps the model's table inside the ghost's -/
theorem peerLookup_bind {t : TAR} {tbl : Mon.PeerTable} (a : Nat) (topic : List Nat)
    (h : ∀ k topic', lookup k t.m = some topic' → Mon.peerLookup k tbl = some topic') (k : Nat) (topic' : List Nat)
    (hl : lookup k (t.insertOrUpdate topic a).m = some topic') :
    Mon.peerLookup k ((a, topic) :: tbl.filter (fun kv => kv.1 ≠ a)) = some topic' := by
  rw [TAR.insertOrUpdate_lookup] at hl
  rw [peerLookup_cons_filter]
  by_cases hk : k = a
  · rw [if_pos hk] at hl ⊢; exact hl
  · rw [if_neg hk] at hl ⊢; exact h k topic' hl

/-- a ghost that registers the binding of a received PUBLISH whenever the alias stage does (`TarGhost.aliasTar`) keeps
    containing the model's table; `g` is the ghost's test, which need agree with the model's only where a table exists -/
theorem TarAgree.register {s s' : St} {tbl : Mon.PeerTable} {p : Pkt} (g : Nat → Prop) [DecidablePred g]
    (hs' : s'.tar = TarGhost.aliasTar s.tar p) (hagree : TarAgree s tbl)
    (hg : ∀ t a, s.tar = some t → p.alias = some a → (g a ↔ (!p.topic.isEmpty) = true ∧ 1 ≤ a ∧ a ≤ t.max)) :
    TarAgree s' (match p.alias with
      | some a => if g a then (a, p.topic) :: tbl.filter (fun kv => kv.1 ≠ a) else tbl
      | none => tbl) := by
  intro k t' topic' ht' hl
  rw [hs'] at ht'
  unfold TarGhost.aliasTar at ht'
  cases ht : s.tar with
  | none => rw [ht] at ht'; cases ht'
  | some t =>
    rw [ht] at ht'
    cases ha : p.alias with
    | none =>
      rw [ha] at ht'
      exact hagree k t topic' ht (Option.some.inj ht' ▸ hl)
    | some a =>
      rw [ha] at ht'
      dsimp only at ht' ⊢
      by_cases hc : g a
      · rw [if_pos ((hg t a ht ha).1 hc)] at ht'
        rw [if_pos hc]
        exact peerLookup_bind a p.topic (fun k topic' => hagree k t topic' ht) k topic' (Option.some.inj ht' ▸ hl)
      · rw [if_neg (fun h => hc ((hg t a ht ha).2 h))] at ht'
        rw [if_neg hc]
        exact hagree k t topic' ht (Option.some.inj ht' ▸ hl)

/-- the ghost update of the monitor as it was before round 4 (`inTblStep`: a PUBLISH with non-empty
    topic and alias `a` that is delivered or produces no error binds `a ↦ topic`) keeps `TarAgree`.  The excluded
    case is a PUBLISH that registers a binding and is then rejected (Receive Maximum exceeded).  For the driver's
    current update see section 6 (`C13_recv_ghost_step2`, `C13_recv_ghost_inv_step`) -/
theorem C13_recv_ghost_step (c : C) (p : Pkt) (tbl : Mon.PeerTable) (hev : c.ev = []) (hagree : TarAgree c.s tbl)
    (hacc : Mon.hasError (prV5Publish c (.ok p)).ev = false ∨
      ((prV5Publish c (.ok p)).ev.any fun e => match e with | .recv q => decide (q.kind = Kind.publish) | _ => false) = true) :
    TarAgree (prV5Publish c (.ok p)).s (inTblStep tbl p (prV5Publish c (.ok p)).ev) := by
  refine TarAgree.register (fun _ => _) ((Fp.prV5Publish_tar c p).trans (TarGhost.prV5PublishAlias_tar c p)) hagree
    fun t a ht ha => ⟨fun h => ⟨h.1, ?_⟩, fun h => ⟨h.1, hacc.imp_left fun e => by rw [e]; rfl⟩⟩
  -- an alias outside the range of the table is an error, and nothing is delivered
  refine Decidable.byContradiction fun hr => ?_
  have e : prV5Publish c (.ok p) = handleV5Error c eAliasInvalid := by
    rw [prV5Publish_eq, prvAlias_bad c p a ha fun t' ht' => by cases ht.symm.trans ht'; omega]
  rw [e, hasError_handleV5Error, any_recv_of_recvs_nil (by rw [handleV5Error_recvs, hev]; rfl)] at h
  exact h.2.elim (fun h => nomatch h) (fun h => nomatch h)

theorem refuseSend_hasError (c : C) (e : Nat) (p : Pkt) : Mon.hasError (refuseSend c e p).ev = true := by
  unfold refuseSend
  cases initiatingId p with
  | some id => exact (Fp.releaseIfUsed_ev _ id).hasError (hasError_err' c e)
  | none => exact hasError_err' c e

/-- **the sender-side "unbound alias" monitor is a theorem of the model** (driver monitor
    `VIOL sig=C13 unbound_alias_accepted@<site>`).  A v5.0 PUBLISH with an empty topic handed to
    `send`, whose alias the ghost receiver cannot resolve (`Mon.peerResolve peer p = none`: no
    alias, or an alias no PUBLISH emitted on this connection bound), is never accepted: the call
    reports an error — or, for a QoS>0 PUBLISH without identifier (the documented panic site), does
    nothing at all — so no PUBLISH is requested for sending and the store does not grow.  For every
    configuration and every state of the invariant class (`AliasInv`: the sender's table is contained
    in the ghost receiver's). -/
theorem C13_unbound_alias_not_accepted (cfg : Cfg) (s : St) (p : Pkt) (peer : Mon.PeerTable)
    (hinv : AliasInv s peer) (hk : p.kind = .publish) (h5 : p.ver = 5) (ht : p.topic = [])
    (hu : Mon.peerResolve peer p = none) :
    ¬ PubAccepted s (step cfg s (.send p)) := by
  have key : ∀ c' : C, Mon.hasError c'.ev = true → ¬ PubAccepted s c' := fun c' h hp => by
    have := hp.1; rw [h] at this; cases this
  have hn : (validateTopicAlias { cfg := cfg, s := s } p.alias).1 = none := by
    rcases Option.eq_none_or_eq_some (validateTopicAlias { cfg := cfg, s := s } p.alias).1 with h | ⟨tp, h⟩
    · exact h
    · exfalso
      obtain ⟨a, ha, hl⟩ := (validateTopicAlias_spec { cfg := cfg, s := s } p.alias).2.2.2.2 tp h
      have := hinv.agree a tp hl
      simp [Mon.peerResolve, ht, ha, this] at hu
  simp only [step, send]
  split
  · exact key _ (refuseSend_hasError _ _ _)
  split
  · exact key _ (refuseSend_hasError _ _ _)
  · have h54 : ¬ p.ver = 4 := by omega
    rw [Fp.processSend_publish _ hk, if_neg h54]
    exact psV5Publish_unbound { cfg := cfg, s := s } p ht hn rfl

/-- a table without bindings agrees with every ghost: the situation after `notify_closed`, after a
    CONNECT sent / received (`initConn`) and after the Topic Alias Maximum of the CONNECT / CONNACK
    we send created a fresh table -/
theorem TarAgree.of_empty {s : St} (h : s.tar = none ∨ ∃ t, s.tar = some t ∧ t.m = []) (tbl : Mon.PeerTable) :
    TarAgree s tbl := by
  intro a t topic ht hl
  rcases h with h | ⟨t', h, hm⟩
  · rw [h] at ht; cases ht
  · rw [h] at ht; cases ht; rw [hm] at hl; simp [lookup] at hl

/-! ## 6. receiver side, round 4: the ghost table registers every announced binding

The driver's receiver-side ghost since round 4 (`Driver/ConnDrv.lean`, `monitorCall`, "C13 (receiver side)"):
the table is emptied by `closed` and by a call that *delivers* a CONNECT or a successful CONNACK
(`inTbl0`); a received, parsed v5.0 PUBLISH with a non-empty topic and an alias within the Topic
Alias Maximum *we announced on this connection* (`ownTam`, read off the v5.0 CONNECT / successful
CONNACK we sent; 0 after `closed`) registers its binding — whether or not the packet is then refused
(Receive Maximum exceeded …).  The definitions below are the driver's, on the model's types.

The model-side lemmas are in `Conn/Lemmas/TarGhost.lean`, `TarGhost2.lean`.  Every clause
of the contract is needed (`C13Ex2`, `decide`-checked histories).  Two of them are findings about the
implementation rather than about the monitor: a PUBLISH received while `connecting` is processed
(bindings registered before the CONNACK survive it), and a CONNACK is accepted while `disconnected`. -/

/-- `delivered` of the driver: the first delivered CONNECT / successful CONNACK among the events -/
def deliveredStart (evs : List Ev) : Option Pkt :=
  evs.findSome? fun e => match e with
    | .recv p => if p.kind = Kind.connect ∨ (p.kind = Kind.connack ∧ p.rc = some 0) then some p else none
    | _ => none

/-- `inTbl0`: `closed` and a delivered connection start empty the ghost table -/
def inTblReset (op : Op) (evs : List Ev) (tbl : Mon.PeerTable) : Mon.PeerTable :=
  match op, deliveredStart evs with
  | .closed, _ => []
  | _, some _ => []
  | _, none => tbl

/-- `ownTam0` -/
def ownTamReset (op : Op) (ownTam : Nat) : Nat :=
  match op with
  | .closed => 0
  | _ => ownTam

/-- the new ghost table after a `recv` whose parsed packet is the v5.0 PUBLISH `p` -/
def inTblStep2 (ownTam : Nat) (tbl : Mon.PeerTable) (p : Pkt) : Mon.PeerTable :=
  match p.alias with
  | some a =>
    if !p.topic.isEmpty ∧ 1 ≤ a ∧ a ≤ ownTam then (a, p.topic) :: tbl.filter (fun kv => kv.1 ≠ a) else tbl
  | none => tbl

/-- `ownTam`: the Topic Alias Maximum of the last v5.0 CONNECT / successful CONNACK among the events
    (`Mon.findProp`: the FIRST such property of the packet; 0 when there is none) -/
def ownTamStep (ownTam0 : Nat) (evs : List Ev) : Nat :=
  evs.foldl (fun acc e => match e with
    | .send p _ =>
      if p.ver = 5 ∧ (p.kind = Kind.connect ∨ (p.kind = Kind.connack ∧ p.rc = some 0)) then
        (Mon.findProp p pTAM).getD 0 else acc
    | _ => acc) ownTam0

/-- the driver's whole update of the ghost table for one call; `orc`: the parsed packet the harness
    reports for a `recv` call that produced a frame (`parsed = .ok p ∧ frame ≠ "none"`) -/
def inTblNext (op : Op) (orc : Option Pkt) (evs : List Ev) (ownTam : Nat) (tbl : Mon.PeerTable) :
    Mon.PeerTable :=
  match op, orc with
  | .recv _ _, some p =>
    if p.ver = 5 ∧ p.kind = Kind.publish then inTblStep2 (ownTamReset op ownTam) (inTblReset op evs tbl) p
    else inTblReset op evs tbl
  | _, _ => inTblReset op evs tbl

def ownTamNext (op : Op) (evs : List Ev) (ownTam : Nat) : Nat := ownTamStep (ownTamReset op ownTam) evs

/-- the parsed packet of a `recv` call that completes a frame (what the harness prints as `parsed=`;
    the driver feeds the model the constant parser `fun _ _ _ => parsed`, for which the version
    argument is irrelevant) -/
def recvParsed (s : St) : Op → Option Pkt
  | .recv inp parse =>
    match (Framing.feed s.pb inp).2.1 with
    | some (.complete fh data) => TarGhost.okOf (parse s.ver fh data)
    | _ => none
  | _ => none

/-- the model's Topic Alias Maximum for incoming aliases is the one the ghost read off our CONNECT / CONNACK -/
def TamAgree (s : St) (ownTam : Nat) : Prop := ∀ t, s.tar = some t → t.max = ownTam

/-- the receive table exists on v5.0 connections only -/
def VerTar (s : St) : Prop := s.ver = 5 ∨ ((s.ver = 0 ∨ s.ver = 4) ∧ s.tar = none)

structure RecvGhostInv (s : St) (tbl : Mon.PeerTable) (ownTam : Nat) : Prop where
  agree : TarAgree s tbl
  tam : TamAgree s ownTam
  ver : VerTar s

/-- at most one Topic Alias Maximum property (a second one is a protocol error, [MQTT-3.1.2.11]) -/
def TamUnique (p : Pkt) : Prop := (p.props.filter (fun kv => kv.1 = pTAM)).length ≤ 1

/-- the L1 parser answers with a packet of the frame's type and of the version it parsed for -/
def ParseTG (parse : Nat → Nat → List Nat → Except Nat Pkt) : Prop :=
  ∀ v fh d p, parse v fh d = .ok p → p.kind.nibble = fh / 16 ∧ p.ver = v

theorem ParseTG.kind {parse : Nat → Nat → List Nat → Except Nat Pkt} (h : ParseTG parse) : TarGhost.ParseK parse :=
  fun v fh d p hp => (h v fh d p hp).1

def TarFresh (o : Option TAR) : Prop := ∀ t, o = some t → t.m = []

/-- **contract of one call** for the receiver-side ghost, part 1 (each clause is needed: `C13Ex2`) -/
structure RecvGhostBase (s : St) (op : Op) : Prop where
  /-- (d) parser: type nibble and version -/
  parse : ∀ inp parse, op = .recv inp parse → ParseTG parse
  /-- (b) packets handed to `send` are v3.1.1 or v5.0 packets -/
  sendVer : ∀ p, op = .send p → p.ver = 4 ∨ p.ver = 5
  /-- (a) a CONNECT / CONNACK we send carries at most one Topic Alias Maximum -/
  tamUnique : ∀ p, op = .send p → p.kind = .connect ∨ p.kind = .connack → TamUnique p
  /-- the peer respects the Maximum Packet Size we announced (for PUBLISH frames) -/
  size : ∀ inp parse fh data, op = .recv inp parse → (Framing.feed s.pb inp).2.1 = some (.complete fh data) →
    fh / 16 = 3 → totalSize data.length ≤ s.mpsRecv

/-- part 2, the state-dependent clauses in their weakest form (natural forms: `PeerOk`; `StoreTG` is
    itself inductive: `TarGhost.storeTG_step`) -/
structure RecvGhostOk (cfg : Cfg) (s : St) (op : Op) : Prop extends RecvGhostBase s op where
  /-- (d) the store holds no v5.0 CONNECT / CONNACK (`C05_store_kinds`) -/
  store : TarGhost.StoreTG s
  /-- a successful CONNACK without (non-zero) Topic Alias Maximum is sent (accepted only while
      `connecting`) only when no receive table exists: it answers a delivered CONNECT and is not sent
      on top of a CONNECT we sent ourselves (possible with role `any`) -/
  connackFresh : ∀ p, op = .send p → p.kind = .connack → p.rc = some 0 → s.status = .connecting →
    s.tar = none ∨ (Mon.findProp p pTAM).getD 0 ≠ 0
  /-- (c) a successful CONNACK is delivered only to a receive table without bindings (the ghost table
      is emptied by that delivery, the model's is not) -/
  connackEmpty : (∃ p, Ev.recv p ∈ (step cfg s op).ev ∧ p.kind = .connack ∧ p.rc = some 0) → TarFresh s.tar

/-! ### the ghost reads only the `tg` events -/

theorem deliveredStart_tg (evs : List Ev) : deliveredStart evs = deliveredStart (TarGhost.tg evs) :=
  findSome?_filter_of _ TarGhost.TGev (fun e he => by
    cases e with
    | recv p => exact if_neg (by simpa [TarGhost.tgRecv] using he)
    | _ => rfl) evs

theorem ownTamStep_tg (evs : List Ev) (t : Nat) : ownTamStep t evs = ownTamStep t (TarGhost.tg evs) :=
  foldl_filter_of _ TarGhost.TGev (fun b e he => by
    cases e with
    | send p r => exact if_neg (by simpa [TarGhost.tgSend] using he)
    | _ => rfl) evs t

/-! ### the property fold of the model against `Mon.findProp` of the ghost -/

/-- with at most one Topic Alias Maximum property the model's fold (last non-zero value) and the
    ghost's `findProp` (first value) agree -/
theorem tamFold_unique (p : Pkt) (h : TamUnique p) (o : Option TAR) :
    TarGhost.tamFold o p.props =
      (if (Mon.findProp p pTAM).getD 0 ≠ 0 then some { max := (Mon.findProp p pTAM).getD 0 } else o) := by
  -- both read the Topic Alias Maximum properties only
  unfold TamUnique at h
  unfold TarGhost.tamFold Mon.findProp
  rw [foldl_filter_of _ (fun kv => kv.1 = pTAM) fun _ kv hkv => if_neg fun hc => of_decide_eq_false hkv hc.1,
    ← List.head?_filter]
  have hm : ∀ kv ∈ p.props.filter (fun kv => kv.1 = pTAM), kv.1 = pTAM :=
    fun kv hkv => of_decide_eq_true (List.mem_filter.1 hkv).2
  generalize p.props.filter (fun kv => kv.1 = pTAM) = l at h hm
  match l, h, hm with
  | [], _, _ => rfl
  | [kv], _, hm => exact ite_congr (propext (and_iff_right (hm kv (List.mem_singleton_self kv)))) (fun _ => rfl) fun _ => rfl
  | _ :: _ :: _, h, _ => exact absurd h (by simp)

theorem TarFresh.agree {s : St} (h : TarFresh s.tar) (tbl : Mon.PeerTable) : TarAgree s tbl := by
  intro a t topic ht hl
  rw [h t ht] at hl; simp [lookup] at hl

theorem tarFresh_none : TarFresh none := by intro t h; cases h
theorem tarFresh_mk (v : Nat) : TarFresh (some { max := v }) := by intro t h; cases h; rfl

theorem tarFresh_tamFold {o : Option TAR} (h : TarFresh o) (l : List (Nat × Nat)) : TarFresh (TarGhost.tamFold o l) := by
  induction l generalizing o with
  | nil => exact h
  | cons x rest ih => exact ih (Fp.ite_both (Q := TarFresh) (tarFresh_mk x.2) h)

/-- the model's receive table after the alias stage is contained in the ghost table after
    `inTblStep2`: with `TamAgree` the model registers a binding iff the ghost does (when the model has
    no table only the ghost registers: harmless) -/
theorem tarAgree_aliasTar {s s' : St} {tbl : Mon.PeerTable} {ownTam : Nat} (p : Pkt)
    (hs' : s'.tar = TarGhost.aliasTar s.tar p) (hagree : TarAgree s tbl) (htam : TamAgree s ownTam) :
    TarAgree s' (inTblStep2 ownTam tbl p) ∧ TamAgree s' ownTam := by
  refine ⟨TarAgree.register (fun a => (!p.topic.isEmpty) = true ∧ 1 ≤ a ∧ a ≤ ownTam) hs' hagree
    fun t a ht _ => by rw [htam t ht], fun t' ht' => ?_⟩
  obtain ⟨t, ht, hm⟩ := TarGhost.aliasTar_max (hs' ▸ ht')
  exact hm.trans (htam t ht)

/-- **handler level**: `TarAgree` and `TamAgree` are kept by `process_recv_v5_0_publish`
    for EVERY parsed PUBLISH with the round-4 ghost update — no "accepted or delivered" hypothesis
    (driver monitor `VIOL sig=C13 delivered_under_wrong_topic@recv.v5.publish`) -/
theorem C13_recv_ghost_step2 (c : C) (p : Pkt) (tbl : Mon.PeerTable) (ownTam : Nat)
    (hagree : TarAgree c.s tbl) (htam : TamAgree c.s ownTam) :
    TarAgree (prV5Publish c (.ok p)).s (inTblStep2 ownTam tbl p) ∧ TamAgree (prV5Publish c (.ok p)).s ownTam := by
  exact tarAgree_aliasTar p ((Fp.prV5Publish_tar c p).trans (TarGhost.prV5PublishAlias_tar c p)) hagree htam

/-! ### the oracle of the harness against the packet the handler gets -/

section
variable {s : St} {op : Op} (hv : s.ver = 0 ∨ s.ver = 4 ∨ s.ver = 5)
    (hparse : ∀ inp parse, op = .recv inp parse → ParseTG parse)
    (hsize : ∀ inp parse fh data, op = .recv inp parse → (Framing.feed s.pb inp).2.1 = some (.complete fh data) →
      fh / 16 = 3 → totalSize data.length ≤ s.mpsRecv)
include hv hparse hsize

/-- the handler gets the packet the harness reports exactly when that is a v5.0 PUBLISH -/
theorem pubIn_eq : TarGhost.pubIn s op = (recvParsed s op).filter fun p => p.ver = 5 ∧ p.kind = .publish := by
  cases op with
  | recv inp parse =>
    have hp := hparse inp parse rfl
    have hsz := hsize inp parse
    simp only [TarGhost.pubIn, recvParsed]
    generalize (Framing.feed s.pb inp).2.1 = out at hsz ⊢
    cases out with
    | none => rfl
    | some o =>
      cases o with
      | error => rfl
      | complete fh data =>
        unfold TarGhost.pubInFrame
        dsimp only
        cases hx : parse s.ver fh data with
        | error e => exact ite_self _
        | ok q =>
          obtain ⟨hk, hqv⟩ := hp _ _ _ _ hx
          refine (ite_congr (propext ⟨fun h => ?_, fun h => ?_⟩) (fun _ => rfl) fun _ => rfl).trans Option.filter_some.symm
          · exact decide_eq_true ⟨by omega, (kind_of_nibble hk).2.2.1 h.2.2.1⟩
          · have h := of_decide_eq_true h
            have h3 : fh / 16 = 3 := by rw [← hk, h.2]; rfl
            exact ⟨hsz fh data rfl rfl h3, by omega, h3, by omega⟩
  | _ => rfl

theorem pubIn_iff (p : Pkt) :
    TarGhost.pubIn s op = some p ↔ (recvParsed s op = some p ∧ p.ver = 5 ∧ p.kind = .publish) := by
  rw [pubIn_eq hv hparse hsize, Option.filter_eq_some_iff, decide_eq_true_iff]

theorem inTblNext_eq (evs : List Ev) (ownTam : Nat) (tbl : Mon.PeerTable) :
    inTblNext op (recvParsed s op) evs ownTam tbl =
      match TarGhost.pubIn s op with
      | some p => inTblStep2 ownTam (inTblReset op evs tbl) p
      | none => inTblReset op evs tbl := by
  rw [pubIn_eq hv hparse hsize]
  cases op with
  | recv inp parse =>
    cases recvParsed s (.recv inp parse) with
    | none => rfl
    | some p =>
      rw [Option.filter_some]
      by_cases hc : p.ver = 5 ∧ p.kind = .publish
      · rw [if_pos (decide_eq_true hc)]
        exact if_pos hc
      · rw [if_neg (fun h => hc (of_decide_eq_true h))]
        exact if_neg hc
  | _ => rfl

end

/-- off `notify_closed` both ghosts are functions of the `tg` events of the call -/
theorem ghost_tg {op : Op} (hcl : op ≠ .closed) (evs : List Ev) (tbl : Mon.PeerTable) (ownTam : Nat) :
    inTblReset op evs tbl = (match deliveredStart (TarGhost.tg evs) with | some _ => [] | none => tbl) ∧
      ownTamNext op evs ownTam = ownTamStep ownTam (TarGhost.tg evs) := by
  rw [← deliveredStart_tg, ← ownTamStep_tg]
  unfold inTblReset
  cases op with
  | closed => exact absurd rfl hcl
  | _ => exact ⟨by cases deliveredStart evs <;> rfl, rfl⟩

theorem ghost_of_tg_nil {op : Op} (hcl : op ≠ .closed) {evs : List Ev} (h : TarGhost.tg evs = [])
    (tbl : Mon.PeerTable) (ownTam : Nat) :
    inTblReset op evs tbl = tbl ∧ ownTamNext op evs ownTam = ownTam := by
  have g := ghost_tg hcl evs tbl ownTam
  rw [h] at g
  exact g

theorem ghost_of_tg_send {op : Op} (hcl : op ≠ .closed) {evs : List Ev} {p : Pkt} {r : Option Nat}
    (h : TarGhost.tg evs = [.send p r]) (hp : TarGhost.tgSend p = true) (tbl : Mon.PeerTable) (ownTam : Nat) :
    inTblReset op evs tbl = tbl ∧ ownTamNext op evs ownTam = (Mon.findProp p pTAM).getD 0 := by
  have g := ghost_tg hcl evs tbl ownTam
  rw [h] at g
  exact ⟨g.1, g.2.trans (if_pos (by simpa [TarGhost.tgSend] using hp))⟩

theorem ghost_of_tg_recv {op : Op} (hcl : op ≠ .closed) {evs : List Ev} {p : Pkt}
    (h : TarGhost.tg evs = [.recv p]) (hp : p.kind = Kind.connect ∨ (p.kind = Kind.connack ∧ p.rc = some 0))
    (tbl : Mon.PeerTable) (ownTam : Nat) :
    inTblReset op evs tbl = [] ∧ ownTamNext op evs ownTam = ownTam := by
  have g := ghost_tg hcl evs tbl ownTam
  rw [h, show deliveredStart [.recv p] = some p by simp only [deliveredStart, List.findSome?]; rw [if_pos hp]] at g
  exact g

theorem RecvGhostInv.of_tar_none {s : St} (h : s.tar = none) (hv : s.ver = 0 ∨ s.ver = 4 ∨ s.ver = 5)
    (tbl : Mon.PeerTable) (ownTam : Nat) : RecvGhostInv s tbl ownTam :=
  ⟨fun a t topic ht _ => (by rw [h] at ht; cases ht), fun t ht => (by rw [h] at ht; cases ht), by
    rcases hv with hv | hv | hv
    · exact .inr ⟨.inl hv, h⟩
    · exact .inr ⟨.inr hv, h⟩
    · exact .inl hv⟩

theorem VerTar.cases {s : St} (h : VerTar s) : s.ver = 0 ∨ s.ver = 4 ∨ s.ver = 5 := by
  rcases h with h | ⟨h | h, _⟩
  · exact .inr (.inr h)
  · exact .inl h
  · exact .inr (.inl h)

theorem VerTar.step {s s' : St} (h : VerTar s) (hv : TarGhost.VerStep s.ver s'.ver) (ht : s.tar = none → s'.tar = none) :
    VerTar s' := by
  by_cases h5 : s'.ver = 5
  · exact .inl h5
  · unfold TarGhost.VerStep at hv
    rcases h with h | ⟨h, hn⟩
    · omega
    · exact .inr ⟨by omega, ht hn⟩

/-- a table without bindings whose maximum is the ghost's: what a CONNECT or CONNACK that we send with Topic Alias
    Maximum `v` leaves (`tamFold_unique`) -/
theorem RecvGhostInv.of_tam {s : St} {v : Nat} {o : Option TAR} (ht : s.tar = if v ≠ 0 then some { max := v } else o)
    (ho : v = 0 → o = none) (hv : s.ver = 5) (tbl : Mon.PeerTable) : RecvGhostInv s tbl v := by
  by_cases hz : v ≠ 0
  · rw [if_pos hz] at ht
    exact ⟨TarFresh.agree (ht ▸ tarFresh_mk v) _, fun t h => by cases ht.symm.trans h; rfl, .inl hv⟩
  · rw [if_neg hz, ho (Decidable.not_not.1 hz)] at ht
    exact .of_tar_none ht (.inr (.inr hv)) _ _

/-- **the receiver-side ghost invariant is inductive** (driver monitor
    `VIOL sig=C13 delivered_under_wrong_topic@<site>`: the monitor compares every delivered alias-only
    PUBLISH with `inTbl0`; `C13_delivered_under_ghost_topic` needs `TarAgree` for exactly that table).
    For every configuration, state and operation satisfying the contract `RecvGhostOk`: the model's
    receive table stays contained in the driver's ghost table and its Topic Alias Maximum stays the
    ghost's `ownTam`, with both ghosts updated as the driver does from the events of the call —
    in particular for a PUBLISH that registers a binding and is then refused (Receive Maximum
    exceeded): the "accepted or delivered" hypothesis of `C13_recv_ghost_step` is not needed. -/
theorem C13_recv_ghost_inv_step (cfg : Cfg) (s : St) (op : Op) (tbl : Mon.PeerTable) (ownTam : Nat)
    (hI : RecvGhostInv s tbl ownTam) (hok : RecvGhostOk cfg s op) :
    RecvGhostInv (step cfg s op).s
      (inTblNext op (recvParsed s op) (step cfg s op).ev ownTam tbl)
      (ownTamNext op (step cfg s op).ev ownTam) := by
  obtain ⟨hver, hres⟩ := TarGhost.step_out cfg s op
    (fun inp parse h => (hok.parse inp parse h).kind) hok.store
  have hver' := hver.known hI.ver.cases
  by_cases hcl : op = .closed
  · subst hcl
    exact .of_tar_none (notifyClosed_tar_none _) hver' _ _
  -- the receive table is kept and the ghosts read none of the events
  have keep : (step cfg s op).s.tar = s.tar → TarGhost.tg (step cfg s op).ev = [] →
      RecvGhostInv (step cfg s op).s (inTblReset op (step cfg s op).ev tbl) (ownTamNext op (step cfg s op).ev ownTam) := by
    intro ht he
    obtain ⟨g1, g2⟩ := ghost_of_tg_nil hcl he tbl ownTam
    rw [g1, g2]
    exact ⟨fun a t topic h => hI.agree a t topic (ht ▸ h), fun t h => hI.tam t (ht ▸ h), hI.ver.step hver (ht ▸ ·)⟩
  rw [inTblNext_eq hI.ver.cases hok.parse hok.size]
  cases hpi : TarGhost.pubIn s op with
  | some p =>
    rw [hpi] at hres
    obtain ⟨h1, -, -, h4⟩ := TarGhost.Kt_inj (t := TarGhost.aliasTar s.tar p) hres
    obtain ⟨g1, g2⟩ := ghost_of_tg_nil hcl h4 tbl ownTam
    obtain ⟨a1, a2⟩ := tarAgree_aliasTar p h1 hI.agree hI.tam
    dsimp only
    rw [g1, g2]
    exact ⟨a1, a2, hI.ver.step hver fun hn => h1.trans (by rw [hn]; rfl)⟩
  | none =>
    rw [hpi] at hres
    cases (hres : TarGhost.Out ..) with
    | keep h => exact keep (TarGhost.Kt_inj h).1 (TarGhost.Kt_inj h).2.2.2
    | closed h => exact .of_tar_none h.tar hver' _ _
    | connectRecv p hr hk hs h => exact .of_tar_none h.tar hver' _ _
    | connectErr hr hs hm h => exact keep h.tar h.ev
    | connackRecv p hr hk hrc hs h =>
      -- the ghost table is emptied: the contract asks for a table without bindings
      obtain ⟨g1, g2⟩ := ghost_of_tg_recv hcl h.ev (.inr ⟨hk, hrc⟩) tbl ownTam
      rw [g1, g2]
      exact ⟨TarFresh.agree (h.tar ▸ hok.connackEmpty ⟨p, TarGhost.mem_of_tg h.ev, hk, hrc⟩) _,
        fun t ht => hI.tam t (h.tar ▸ ht), hI.ver.step hver (h.tar ▸ ·)⟩
    | connectSent p hsp hk hpv hs h =>
      have hop := TarGhost.sentOf_eq hsp
      rcases hok.sendVer p hop with h4 | h5
      · exact .of_tar_none (h.tar.trans (if_pos h4)) hver' _ _
      · have htg : TarGhost.tgSend p = true := by simp [TarGhost.tgSend, h5, hk]
        obtain ⟨g1, g2⟩ := ghost_of_tg_send hcl (h.ev.trans (TarGhost.tg_send_pos htg)) htg tbl ownTam
        rw [g1, g2]
        exact .of_tam (h.tar.trans ((if_neg (by omega)).trans (tamFold_unique p (hok.tamUnique p hop (.inl hk)) none)))
          (fun _ => rfl) (hver.five (hpv.trans h5)) _
    | connackSent p st' hsp hk hpv hs hst' h =>
      have hop := TarGhost.sentOf_eq hsp
      by_cases hc : p.ver ≠ 4 ∧ p.rc = some 0
      · have h5 : p.ver = 5 := (hok.sendVer p hop).resolve_left hc.1
        have htg : TarGhost.tgSend p = true := by simp [TarGhost.tgSend, h5, hk, hc.2]
        obtain ⟨g1, g2⟩ := ghost_of_tg_send hcl (h.ev.trans (TarGhost.tg_send_pos htg)) htg tbl ownTam
        rw [g1, g2]
        exact .of_tam (h.tar.trans ((if_pos hc).trans (tamFold_unique p (hok.tamUnique p hop (.inr hk)) s.tar)))
          (fun hz => (hok.connackFresh p hop hk hc.2 hs).resolve_right (· hz)) (hver.five (hpv.trans h5)) _
      · -- a v3.1.1 CONNACK, or one that refuses
        have htg : TarGhost.tgSend p = false := by
          simp only [TarGhost.tgSend, hk, decide_eq_false_iff_not]
          exact fun h => hc ⟨by omega, by simpa using h.2⟩
        exact keep (h.tar.trans (if_neg hc)) (h.ev.trans (TarGhost.tg_send_neg htg))

/-- **the monitor's check, at the level of one call** (driver monitor
    `VIOL sig=C13 delivered_under_wrong_topic@recv.v5.publish`): under the ghost invariant and the
    contract, every alias-only PUBLISH a `recv` call delivers (`topic_name_extracted`) carries exactly
    the topic the driver's table `inTbl0 = inTblReset op evs tbl` binds its alias to.  `hx`: the L1
    parser never sets `topic_name_extracted` itself. -/
theorem C13_delivered_under_wrong_topic_never (cfg : Cfg) (s : St) (op : Op) (tbl : Mon.PeerTable) (ownTam : Nat)
    (hI : RecvGhostInv s tbl ownTam) (hok : RecvGhostOk cfg s op) (p : Pkt)
    (hp : recvParsed s op = some p) (h5 : p.ver = 5) (hk : p.kind = .publish) (hx : p.extracted = false) :
    ∀ q ∈ recvs (step cfg s op).ev, q.extracted = true →
      ∃ a, q.alias = some a ∧ Mon.peerLookup a (inTblReset op (step cfg s op).ev tbl) = some q.topic := by
  have hpi := (pubIn_iff hI.ver.cases hok.parse hok.size p).2 ⟨hp, h5, hk⟩
  obtain ⟨pb, he⟩ := TarGhost.step_pubIn_eq cfg s op p hpi
  have hcl : op ≠ .closed := fun h => nomatch (h ▸ hp : recvParsed s .closed = some p)
  have hres := (TarGhost.step_out cfg s op
    (fun inp parse h => (hok.parse inp parse h).kind) hok.store).2
  rw [hpi] at hres
  rw [(ghost_of_tg_nil hcl (TarGhost.Kt_inj hres).2.2.2 tbl ownTam).1, he]
  exact C13_delivered_under_ghost_topic { cfg := cfg, s := { s with pb := pb } } p tbl rfl hx hI.agree

/-! ### (c) a natural contract for "a successful CONNACK meets an empty receive table" -/

/-- while the connection is being established the receive table has no bindings, and it does not
    exist at all when the CONNECT was received (`isClient = false`) rather than sent -/
def ConnectingFresh (s : St) : Prop :=
  s.status = .connecting → TarFresh s.tar ∧ (s.isClient = false → s.tar = none)

/-- what a conformant peer and a sensible application guarantee; replaces `connackEmpty` and
    `connackFresh` -/
structure PeerOk (cfg : Cfg) (s : St) (op : Op) : Prop where
  /-- a CONNACK is sent in answer to a received CONNECT, not on top of a CONNECT we sent (`isClient` is
      set by `initConn`: true for a CONNECT sent, false for a CONNECT received; with role `server` it is
      never true) -/
  connackServer : ∀ p, op = .send p → p.kind = .connack → s.isClient = false
  /-- no PUBLISH arrives between the CONNECT and its CONNACK -/
  pubConn : ∀ p, recvParsed s op = some p → p.kind = .publish → s.status ≠ .connecting
  /-- a successful CONNACK is delivered only while a CONNECT is outstanding -/
  connackConn : (∃ p, Ev.recv p ∈ (step cfg s op).ev ∧ p.kind = .connack ∧ p.rc = some 0) → s.status = .connecting
  /-- a frame arriving on a disconnected connection meets a peer Maximum Packet Size that admits the
      5-byte error CONNACK (it is `noLimit` after `notify_closed`) -/
  connectFits : (∃ inp parse, op = .recv inp parse) → s.status = .disconnected → 5 ≤ s.mpsSend

theorem PeerOk.connackEmpty {cfg : Cfg} {s : St} {op : Op} (h : PeerOk cfg s op) (hf : ConnectingFresh s) :
    (∃ p, Ev.recv p ∈ (step cfg s op).ev ∧ p.kind = .connack ∧ p.rc = some 0) → TarFresh s.tar :=
  fun he => (hf (h.connackConn he)).1

theorem PeerOk.connackFresh {cfg : Cfg} {s : St} {op : Op} (h : PeerOk cfg s op) (hf : ConnectingFresh s) :
    ∀ p, op = .send p → p.kind = .connack → p.rc = some 0 → s.status = .connecting →
      s.tar = none ∨ (Mon.findProp p pTAM).getD 0 ≠ 0 :=
  fun p hop hk _ hs => .inl ((hf hs).2 (h.connackServer p hop hk))

theorem C13_connecting_fresh_step (cfg : Cfg) (s : St) (op : Op) (hv : VerTar s)
    (hparse : ∀ inp parse, op = .recv inp parse → ParseTG parse) (hstore : TarGhost.StoreTG s)
    (hsize : ∀ inp parse fh data, op = .recv inp parse → (Framing.feed s.pb inp).2.1 = some (.complete fh data) →
      fh / 16 = 3 → totalSize data.length ≤ s.mpsRecv)
    (hpeer : PeerOk cfg s op) (hf : ConnectingFresh s) : ConnectingFresh (step cfg s op).s := by
  have hres := (TarGhost.step_out cfg s op
    (fun inp parse h => (hparse inp parse h).kind) hstore).2
  intro hst
  cases hpi : TarGhost.pubIn s op with
  | some p =>
    rw [hpi] at hres
    obtain ⟨h1, -, h3⟩ := (pubIn_iff hv.cases hparse hsize p).1 hpi
    exact absurd ((TarGhost.Kt_inj hres).2.1 ▸ hst) (hpeer.pubConn p h1 h3)
  | none =>
    rw [hpi] at hres
    cases (hres : TarGhost.Out ..) with
    | keep h =>
      obtain ⟨h1, h2, h3, -⟩ := TarGhost.Kt_inj h
      rw [h1, h3]
      exact hf (h2 ▸ hst)
    | closed h => exact nomatch h.st.symm.trans hst
    | connectSent p hsp hk hpv hs h =>
      rw [h.tar, h.ic]
      exact ⟨Fp.ite_both (Q := TarFresh) tarFresh_none (tarFresh_tamFold tarFresh_none _), fun h => nomatch h⟩
    | connackSent p st' hsp hk hpv hs hst' h => exact absurd (h.st.symm.trans hst) hst'
    | connectRecv p hr hk hs h => rw [h.tar]; exact ⟨tarFresh_none, fun _ => rfl⟩
    | connectErr hr hs hm h => exact absurd (hpeer.connectFits (TarGhost.isRecvOp_eq hr) hs) (Nat.not_le.2 hm)
    | connackRecv p hr hk hrc hs h => exact nomatch h.st.symm.trans hst

/-- the contract with the state-dependent clauses in their natural form -/
structure RecvGhostPeerOk (cfg : Cfg) (s : St) (op : Op) : Prop extends RecvGhostBase s op, PeerOk cfg s op where
  /-- (d) `restore_packets` is given no v5.0 CONNECT / CONNACK (an export holds PUBLISH / PUBREL only) -/
  restore : TarGhost.RestoreTG op

/-- **the receiver-side ghost invariant with the natural peer contract** (driver monitor
    `VIOL sig=C13 delivered_under_wrong_topic@<site>`): `RecvGhostInv` together with "no bindings
    while connecting" and "no CONNECT / CONNACK in the store" is preserved by every call that respects
    `RecvGhostPeerOk` -/
theorem C13_recv_ghost_inv_step_peer (cfg : Cfg) (s : St) (op : Op) (tbl : Mon.PeerTable) (ownTam : Nat)
    (hI : RecvGhostInv s tbl ownTam) (hf : ConnectingFresh s) (hst : TarGhost.StoreTG s)
    (hok : RecvGhostPeerOk cfg s op) :
    RecvGhostInv (step cfg s op).s
      (inTblNext op (recvParsed s op) (step cfg s op).ev ownTam tbl)
      (ownTamNext op (step cfg s op).ev ownTam) ∧
    ConnectingFresh (step cfg s op).s ∧ TarGhost.StoreTG (step cfg s op).s :=
  ⟨C13_recv_ghost_inv_step cfg s op tbl ownTam hI
      { toRecvGhostBase := hok.toRecvGhostBase, store := hst, connackFresh := hok.toPeerOk.connackFresh hf,
        connackEmpty := hok.toPeerOk.connackEmpty hf },
   C13_connecting_fresh_step cfg s op hI.ver hok.parse hst hok.size hok.toPeerOk hf,
   TarGhost.storeTG_step cfg s op hok.restore hst⟩

/-- both ghosts along a history, updated as the driver does -/
def recvGhostRun (cfg : Cfg) : St → Mon.PeerTable → Nat → List Op → Mon.PeerTable × Nat
  | _, tbl, ownTam, [] => (tbl, ownTam)
  | s, tbl, ownTam, op :: ops =>
    recvGhostRun cfg (step cfg s op).s
      (inTblNext op (recvParsed s op) (step cfg s op).ev ownTam tbl)
      (ownTamNext op (step cfg s op).ev ownTam) ops

def RecvLegalSeq (cfg : Cfg) : St → List Op → Prop
  | _, [] => True
  | s, op :: ops => RecvGhostPeerOk cfg s op ∧ RecvLegalSeq cfg (step cfg s op).s ops

theorem C13_recv_ghost_run_from (cfg : Cfg) (ops : List Op) : ∀ (s : St) (tbl : Mon.PeerTable) (ownTam : Nat),
    RecvGhostInv s tbl ownTam → ConnectingFresh s → TarGhost.StoreTG s → RecvLegalSeq cfg s ops →
    RecvGhostInv (run cfg s ops) (recvGhostRun cfg s tbl ownTam ops).1 (recvGhostRun cfg s tbl ownTam ops).2 ∧
      ConnectingFresh (run cfg s ops) ∧ TarGhost.StoreTG (run cfg s ops) := by
  induction ops with
  | nil => intro s tbl ownTam hI hf hst _; exact ⟨hI, hf, hst⟩
  | cons op ops ih =>
    intro s tbl ownTam hI hf hst hl
    obtain ⟨h1, h2, h3⟩ := C13_recv_ghost_inv_step_peer cfg s op tbl ownTam hI hf hst hl.1
    exact ih _ _ _ h1 h2 h3 hl.2

/-- **run-level corollary** (driver monitor `VIOL sig=C13 delivered_under_wrong_topic@<site>`): from a
    fresh connection object of version 0 (undetermined), 4 or 5, with the ghosts started as the driver
    starts them (`inTbl = []`, `ownTam = 0`), along every call sequence that respects the contract the
    model's receive table is contained in the ghost table and its maximum is the ghost's `ownTam` -/
theorem C13_recv_ghost_run (cfg : Cfg) (ver : Nat) (hv : ver = 0 ∨ ver = 4 ∨ ver = 5) (ops : List Op)
    (hl : RecvLegalSeq cfg (St.init cfg ver) ops) :
    RecvGhostInv (run cfg (St.init cfg ver) ops) (recvGhostRun cfg (St.init cfg ver) [] 0 ops).1
      (recvGhostRun cfg (St.init cfg ver) [] 0 ops).2 ∧
    ConnectingFresh (run cfg (St.init cfg ver) ops) :=
  have h := C13_recv_ghost_run_from cfg ops _ _ _ (.of_tar_none rfl hv _ _) (fun h => by simp [St.init] at h)
    (TarGhost.storeTG_init cfg ver) hl
  ⟨h.1, h.2.1⟩

instance (p : Pkt) : Decidable (TamUnique p) := by unfold TamUnique; infer_instance


/-! ## non-vacuity: concrete states and inputs satisfying the hypotheses -/
namespace C13Ex

def cfg : Cfg := { role := .client, pw := 2 }
def connect : Pkt := { ver := 5, kind := .connect, size := 15, props := [(pSEI, 60), (pTAM, 3)] }
def connack : Pkt := { ver := 5, kind := .connack, size := 8, rc := some 0, props := [(pTAM, 2), (pRM, 5)] }
def pubBind : Pkt := { ver := 5, kind := .publish, topic := [97], alias := some 1 }
def pubUse : Pkt := { ver := 5, kind := .publish, topic := [], alias := some 1 }
def pubStored : Pkt := { ver := 5, kind := .publish, topic := [], alias := some 1, qos := 1, pid := some 1 }
def pubAuto (t : Nat) : Pkt := { ver := 5, kind := .publish, topic := [t] }
/-- CONNECT, CONNACK(TAM=2), PUBLISH binding alias 1 to "a", a stored QoS 1 PUBLISH using it -/
def ops : List Op :=
  [.send connect, .recv [0x20, 0] (fun _ _ _ => .ok connack), .send pubBind, .acquire, .send pubStored,
   .setFlag .autoMap true]
def s1 : St := run cfg (St.init cfg 5) ops
def peer1 : Mon.PeerTable := [(1, [97])]

example : slookup s1 1 = some [97] ∧ s1.store.length = 1 ∧ s1.ver = 5 := by decide
theorem ghost1 : ghostRun cfg (St.init cfg 5) [] ops = some peer1 := by decide
theorem inv1 : AliasInv s1 peer1 := by
  obtain ⟨peer', h1, h2⟩ := C13_reachable cfg ops (by intro op hop; simp [ops] at hop; rcases hop with rfl | rfl | rfl | rfl | rfl | rfl <;> trivial)
  rw [ghost1] at h1; cases h1; exact h2

/-- `C13_alias_inv_step`, `C13_emitted_resolvable`, `C13_stored_has_no_alias`,
    `C13_tables_die_with_connection`: an established connection with a binding, a non-empty
    store, and an empty-topic PUBLISH that uses the binding -/
example : s1.ver = 5 ∧ AliasInv s1 peer1 ∧ RestoreLegal (.send pubUse) ∧
    pubs (step cfg s1 (.send pubUse)).ev = [pubUse] := ⟨by decide, inv1, trivial, by decide⟩
example : RestoreLegal (.restorePackets [{ pubStored with topic := [97], alias := none }]) := by
  simp only [RestoreLegal]; decide
/-- `C13_intended_topic`: auto-map rewrites topic "a" to alias 1 -/
example : (pubAuto 97).topic ≠ [] ∧ (pubAuto 97).alias = none ∧
    (autoAlias { cfg := cfg, s := s1 } (pubAuto 97)).2.topic = [] := by decide
/-- `C13_lru_rebinds_by_sending`: a new topic "b" gets the vacant alias 2 -/
example : (autoAlias { cfg := cfg, s := s1 } (pubAuto 98)).1.s.tas ≠ s1.tas := by decide
/-- `C13_manual_alias_registered_by_sending` -/
example : sendBlocked s1 { pubBind with alias := some 2 } = false ∧
    (psV5PublishAlias { cfg := cfg, s := s1 } { pubBind with alias := some 2 } none false).s.tas ≠ s1.tas := by
  decide
/-- `C13_retransmit_no_alias`: the stored packet has the full topic "a" and no alias -/
example : StoreInv s1 ∧ s1.store.map (fun e => (e.2.topic, e.2.alias)) = [([97], none)] := by
  refine ⟨inv1.store, by decide⟩
/-- `C13_recv_alias_spec` / `C13_recv_alias_invalid_effect`: a receive table with one binding -/
def cR : C := { cfg := cfg, s := { s1 with tar := some { max := 3, m := [(2, [120])] } } }
example : pubUse.topic = [] ∧ cR.s.tar = some { max := 3, m := [(2, [120])] } ∧
    lookup 2 ([(2, [120])] : List (Nat × List Nat)) = some [120] ∧ hasWildcard [120] = false ∧
    cR.s.status = .connected ∧ RecvAliasBad cR.s 4 := by
  refine ⟨rfl, rfl, rfl, rfl, by decide, ?_⟩
  intro t ht; cases ht; decide

/-- `C13_unbound_alias_not_accepted`: alias 2 was never bound on this connection; the call is refused -/
example : AliasInv s1 peer1 ∧ Mon.peerResolve peer1 { pubUse with alias := some 2 } = none ∧
    (step cfg s1 (.send { pubUse with alias := some 2 })).ev = [.error eNotAllowed] :=
  ⟨inv1, by decide, by decide⟩
/-- `C13_delivered_under_ghost_topic` / `C13_recv_ghost_step`: the ghost holds the binding 2 ↦ "x" the
    model's table has; the alias-only PUBLISH is delivered under "x" -/
def tblR : Mon.PeerTable := [(2, [120])]
theorem agreeR : TarAgree cR.s tblR := by
  intro a t topic ht hl
  have : cR.s.tar = some { max := 3, m := [(2, [120])] } := rfl
  rw [this] at ht; cases ht
  simp only [lookup] at hl
  split at hl
  · rename_i h; subst h; simpa [tblR, Mon.peerLookup] using hl
  · cases hl
example : cR.ev = [] ∧ ({ pubUse with alias := some 2 } : Pkt).extracted = false ∧
    recvs (prV5Publish cR (.ok { pubUse with alias := some 2 })).ev =
      [{ pubUse with alias := some 2, topic := [120], extracted := true }] := by decide
/-- the case `C13_recv_ghost_step` excludes is real (model = implementation): a PUBLISH that binds
    alias 1 and is then rejected with Receive Maximum exceeded leaves the binding in the receive
    table although nothing was delivered — the connection is being torn down (DISCONNECT 0x93 +
    close are requested), the table dies with `notify_closed` -/
def cRM : C := { cR with s := { cR.s with recvMax := some 1, publishRecv := [7] } }
def pubOver : Pkt := { ver := 5, kind := .publish, qos := 1, pid := some 9, topic := [98], alias := some 1 }
example : Mon.hasError (prV5Publish cRM (.ok pubOver)).ev = true ∧ recvs (prV5Publish cRM (.ok pubOver)).ev = [] ∧
    (prV5Publish cRM (.ok pubOver)).s.tar = some { max := 3, m := [(2, [120]), (1, [98])] } ∧
    (prV5Publish cRM (.ok pubOver)).s.status = .disconnected := by decide

end C13Ex

/-! ## non-vacuity and necessity of the hypotheses: receiver-side ghost, round 4 -/
namespace C13Ex2
open C13Ex

/-- `C13_recv_ghost_step2` on the example `C13_recv_ghost_step` had to exclude (`C13Ex.cRM`, `pubOver`):
    the PUBLISH binds alias 1, is refused for Receive Maximum, nothing is delivered — and the binding
    IS in the ghost table, so `TarAgree` holds afterwards -/
example : TamAgree cRM.s 3 ∧ TarAgree cRM.s tblR ∧
    Mon.hasError (prV5Publish cRM (.ok pubOver)).ev = true ∧ recvs (prV5Publish cRM (.ok pubOver)).ev = [] ∧
    (prV5Publish cRM (.ok pubOver)).s.tar = some { max := 3, m := [(2, [120]), (1, [98])] } ∧
    inTblStep2 3 tblR pubOver = [(1, [98]), (2, [120])] ∧
    TarAgree (prV5Publish cRM (.ok pubOver)).s (inTblStep2 3 tblR pubOver) := by
  have h1 : TamAgree cRM.s 3 := by
    intro t ht
    have : cRM.s.tar = some { max := 3, m := [(2, [120])] } := rfl
    rw [this] at ht; cases ht; rfl
  have h2 : TarAgree cRM.s tblR := agreeR
  exact ⟨h1, h2, by decide, by decide, by decide, by decide, (C13_recv_ghost_step2 cRM pubOver tblR 3 h2 h1).1⟩

def cfgC : Cfg := { role := .client, pw := 2 }
def cfgA : Cfg := { role := .any, pw := 2 }
def connect3 : Pkt := { ver := 5, kind := .connect, size := 15, props := [(pTAM, 3)] }
def connack0 : Pkt := { ver := 5, kind := .connack, size := 8, rc := some 0 }
def bind (a : Nat) (t : List Nat) : Pkt := { ver := 5, kind := .publish, topic := t, alias := some a }
def use (a : Nat) : Pkt := { ver := 5, kind := .publish, topic := [], alias := some a }
def disconnect : Pkt := { ver := 5, kind := .disconnect, size := 2 }
/-- a `recv` of the two-byte frame `fh 0` for which the harness reports the parsed packet `p` (the
    driver's constant parser) -/
def rcv (fh : Nat) (p : Pkt) : Op := .recv [fh, 0] (fun _ _ _ => .ok p)
def gh (cfg : Cfg) (ver : Nat) (ops : List Op) := recvGhostRun cfg (St.init cfg ver) [] 0 ops
def st (cfg : Cfg) (ver : Nat) (ops : List Op) := run cfg (St.init cfg ver) ops

/-- a parser in the sense of `ParseTG`: answers `q` for a frame of `q`'s type and version -/
def pz (q : Pkt) : Nat → Nat → List Nat → Except Nat Pkt :=
  fun v fh _ => if q.kind.nibble = fh / 16 ∧ q.ver = v then .ok q else .error eMalformed
theorem pz_ok (q : Pkt) : ParseTG (pz q) := by
  intro v fh d p h
  simp only [pz] at h
  split at h
  · rename_i hc; cases h; exact hc
  · cases h
def rcvP (fh : Nat) (q : Pkt) : Op := .recv [fh, 0] (pz q)

/-! #### a legal history: CONNECT (Topic Alias Maximum 3), CONNACK, a PUBLISH binding alias 1 -/
def opsOk : List Op := [.send connect3, rcvP 0x20 connack0, rcvP 0x30 (bind 1 [97])]

theorem legal_send (cfg : Cfg) (s : St) (p : Pkt) (hv : p.ver = 4 ∨ p.ver = 5)
    (hu : TamUnique p) (hk : p.kind ≠ .connack)
    (hc : (∃ q, Ev.recv q ∈ (step cfg s (.send p)).ev ∧ q.kind = .connack ∧ q.rc = some 0) → s.status = .connecting) :
    RecvGhostPeerOk cfg s (.send p) where
  parse := by intro _ _ h; cases h
  restore := trivial
  sendVer := by intro q h; cases h; exact hv
  tamUnique := by intro q h _; cases h; exact hu
  size := by intro _ _ _ _ h; cases h
  connackServer := by intro q h hq; cases h; exact absurd hq hk
  pubConn := by intro q h; simp [recvParsed] at h
  connackConn := hc
  connectFits := by rintro ⟨_, _, h⟩; cases h

theorem legal_recv (cfg : Cfg) (s : St) (fh : Nat) (q : Pkt)
    (hf : (Framing.feed s.pb [fh, 0]).2.1 = some (.complete fh []))
    (hsz : totalSize 0 ≤ s.mpsRecv) (hp : q.kind = .publish → s.status ≠ .connecting)
    (hc : (∃ p, Ev.recv p ∈ (step cfg s (rcvP fh q)).ev ∧ p.kind = .connack ∧ p.rc = some 0) → s.status = .connecting)
    (hm : s.status = .disconnected → 5 ≤ s.mpsSend) :
    RecvGhostPeerOk cfg s (rcvP fh q) where
  parse := by intro _ _ h; cases h; exact pz_ok q
  restore := trivial
  sendVer := by intro _ h; cases h
  tamUnique := by intro _ h; cases h
  size := by
    intro inp parse fh' data h hf' _
    cases h
    rw [hf] at hf'; cases hf'; exact hsz
  connackServer := by intro _ h; cases h
  pubConn := by
    intro p h hk
    simp only [rcvP, recvParsed, hf, pz] at h
    split at h
    · simp only [TarGhost.okOf, Option.some.injEq] at h; subst h; exact hp hk
    · cases h
  connackConn := hc
  connectFits := fun _ => hm

theorem opsOk_legal : RecvLegalSeq cfgC (St.init cfgC 5) opsOk := by
  refine ⟨legal_send _ _ _ (.inr rfl) (by decide) (by decide) ?_, ?_, ?_, trivial⟩
  · rintro ⟨q, hq, _⟩
    have e : (step cfgC (St.init cfgC 5) (.send connect3)).ev = [.send connect3 none] := by decide
    rw [e] at hq; simp at hq
  · exact legal_recv _ _ _ _ (by decide) (by decide) (by decide) (fun _ => by decide)
      (fun h => absurd h (by decide))
  · refine legal_recv _ _ _ _ (by decide) (by decide) (fun _ => by decide) ?_ (fun h => absurd h (by decide))
    rintro ⟨q, hq, hk, _⟩
    have e : (step cfgC (step cfgC (step cfgC (St.init cfgC 5) (.send connect3)).s (rcvP 0x20 connack0)).s
        (rcvP 0x30 (bind 1 [97]))).ev = [.recv (bind 1 [97])] := by decide
    rw [e] at hq; simp at hq; subst hq; cases hk

/-- `C13_recv_ghost_run` on this history: the ghosts end as `([(1, "a")], 3)`, the model's table holds
    `1 ↦ "a"` with maximum 3 -/
example : recvGhostRun cfgC (St.init cfgC 5) [] 0 opsOk = ([(1, [97])], 3) ∧
    (run cfgC (St.init cfgC 5) opsOk).tar = some { max := 3, m := [(1, [97])] } ∧
    RecvGhostInv (run cfgC (St.init cfgC 5) opsOk) [(1, [97])] 3 := by
  have h := (C13_recv_ghost_run cfgC 5 (.inr (.inr rfl)) opsOk opsOk_legal).1
  have e : recvGhostRun cfgC (St.init cfgC 5) [] 0 opsOk = ([(1, [97])], 3) := by decide
  rw [e] at h
  exact ⟨e, by decide, h⟩

/-! #### every clause of the contract is needed (`decide`-checked on the model; the ghosts are computed
by `recvGhostRun`, i.e. exactly as the driver does) -/

theorem not_tarAgree {s : St} {tbl : Mon.PeerTable} (a : Nat) (t : TAR) (topic : List Nat) (h1 : s.tar = some t)
    (h2 : lookup a t.m = some topic) (h3 : Mon.peerLookup a tbl ≠ some topic) : ¬ TarAgree s tbl :=
  fun h => h3 (h a t topic h1 h2)
theorem not_tamAgree {s : St} {ownTam : Nat} (t : TAR) (h1 : s.tar = some t) (h2 : t.max ≠ ownTam) :
    ¬ TamAgree s ownTam := fun h => h2 (h t h1)

/-- (a) `tamUnique`: a CONNECT with two Topic Alias Maximum properties — the implementation takes the
    last (5), the ghost the first (3): `TamAgree` fails; a PUBLISH binding alias 4 is then registered
    by the model only, and the alias-only PUBLISH that follows is delivered under a topic the ghost
    does not know (the driver would report `delivered_under_wrong_topic`) -/
def connect2 : Pkt := { connect3 with props := [(pTAM, 3), (pTAM, 5)] }
def opsA : List Op := [.send connect2, rcv 0x20 connack0, rcv 0x30 (bind 4 [97])]
example : ¬ TamUnique connect2 ∧ (st cfgC 5 [.send connect2]).tar = some { max := 5 } ∧
    gh cfgC 5 [.send connect2] = ([], 3) ∧ ¬ TamAgree (st cfgC 5 [.send connect2]) 3 ∧
    gh cfgC 5 opsA = ([], 3) ∧
    recvs (step cfgC (st cfgC 5 opsA) (rcv 0x30 (use 4))).ev = [{ use 4 with topic := [97], extracted := true }] ∧
    Mon.peerLookup 4 (gh cfgC 5 opsA).1 = none :=
  ⟨by decide, by decide, by decide, not_tamAgree { max := 5 } (by decide) (by decide), by decide, by decide, by decide⟩

/-- (b) the version: on an object of version 7 (`VerTar` fails) or with a "version 0" packet handed to
    `send` on an undetermined object (`sendVer` fails) the v5.0 CONNECT handler runs and creates the
    table, while the ghost looks at `p.ver = 5` only -/
example : ¬ VerTar (St.init cfgC 7) ∧ (st cfgC 7 [.send { connect3 with ver := 7 }]).tar = some { max := 3 } ∧
    gh cfgC 7 [.send { connect3 with ver := 7 }] = ([], 0) ∧
    (st cfgC 0 [.send { connect3 with ver := 0 }]).tar = some { max := 3 } ∧
    gh cfgC 0 [.send { connect3 with ver := 0 }] = ([], 0) :=
  ⟨by intro h; rcases h with h | ⟨h | h, _⟩ <;> revert h <;> decide, by decide, by decide, by decide, by decide⟩

/-- `connackFresh` / `connackServer`: with role `any`, a CONNACK without Topic Alias Maximum sent on top
    of a CONNECT we sent ourselves (`isClient = true`) leaves the CONNECT's table (maximum 3) in force;
    the ghost's `ownTam` becomes 0 -/
example : (st cfgA 5 [.send connect3]).tar ≠ none ∧ (st cfgA 5 [.send connect3]).isClient = true ∧
    (st cfgA 5 [.send connect3]).status = .connecting ∧ (Mon.findProp connack0 pTAM).getD 0 = 0 ∧
    (st cfgA 5 [.send connect3, .send connack0]).tar = some { max := 3 } ∧
    gh cfgA 5 [.send connect3, .send connack0] = ([], 0) ∧
    ¬ TamAgree (st cfgA 5 [.send connect3, .send connack0]) 0 :=
  ⟨by decide, by decide, by decide, by decide, by decide, by decide,
   not_tamAgree { max := 3 } (by decide) (by decide)⟩

/-- `size`: we announced Maximum Packet Size 4; a 5-byte PUBLISH re-binding alias 1 is refused before
    its handler runs (the model keeps `1 ↦ "a"`), the ghost registers `1 ↦ "b"`: `TarAgree` fails, and
    the next alias-only PUBLISH (still processed: the handler has no status check) is delivered under
    "a" while the ghost says "b" -/
def connectMps : Pkt := { connect3 with props := [(pTAM, 3), (pMPS, 4)] }
def opsSize : List Op := [.send connectMps, rcv 0x20 connack0, rcv 0x30 (bind 1 [97]),
  .recv [0x30, 3, 0, 0, 0] (fun _ _ _ => .ok (bind 1 [98]))]
example : totalSize 3 > (st cfgC 5 (opsSize.take 3)).mpsRecv ∧
    (st cfgC 5 opsSize).tar = some { max := 3, m := [(1, [97])] } ∧ gh cfgC 5 opsSize = ([(1, [98])], 3) ∧
    ¬ TarAgree (st cfgC 5 opsSize) (gh cfgC 5 opsSize).1 ∧
    recvs (step cfgC (st cfgC 5 opsSize) (rcv 0x30 (use 1))).ev = [{ use 1 with topic := [97], extracted := true }] :=
  ⟨by decide, by decide, by decide,
   not_tarAgree 1 { max := 3, m := [(1, [97])] } [97] (by decide) (by decide) (by decide), by decide⟩

/-- (c) `pubConn` — CONFIRMED: a client that has sent CONNECT (Topic Alias Maximum 3) processes a
    PUBLISH that arrives BEFORE the CONNACK (no status check in `process_recv_v5_0_publish`): it is
    delivered and binds alias 1; the CONNACK's delivery empties the ghost table but not the model's;
    the alias-only PUBLISH that follows is delivered under "a", which the ghost does not know -/
def opsC : List Op := [.send connect3, rcv 0x30 (bind 1 [97]), rcv 0x20 connack0]
example : (st cfgC 5 [.send connect3]).status = .connecting ∧
    recvs (step cfgC (st cfgC 5 [.send connect3]) (rcv 0x30 (bind 1 [97]))).ev = [bind 1 [97]] ∧
    (st cfgC 5 opsC).tar = some { max := 3, m := [(1, [97])] } ∧ gh cfgC 5 opsC = ([], 3) ∧
    ¬ TarAgree (st cfgC 5 opsC) (gh cfgC 5 opsC).1 ∧
    recvs (step cfgC (st cfgC 5 opsC) (rcv 0x30 (use 1))).ev = [{ use 1 with topic := [97], extracted := true }] ∧
    Mon.peerLookup 1 (gh cfgC 5 opsC).1 = none :=
  ⟨by decide, by decide, by decide, by decide,
   not_tarAgree 1 { max := 3, m := [(1, [97])] } [97] (by decide) (by decide) (by decide), by decide, by decide⟩

/-- (c) `connackConn`: a CONNACK that arrives after we sent DISCONNECT (status `disconnected`, no
    `notify_closed` yet) is accepted and delivered: the ghost table is emptied, the model's survives -/
def opsC2 : List Op := [.send connect3, rcv 0x20 connack0, rcv 0x30 (bind 1 [97]), .send disconnect, rcv 0x20 connack0]
example : (st cfgC 5 (opsC2.take 4)).status = .disconnected ∧ (st cfgC 5 opsC2).status = .connected ∧
    (st cfgC 5 opsC2).tar = some { max := 3, m := [(1, [97])] } ∧ gh cfgC 5 opsC2 = ([], 3) ∧
    ¬ TarAgree (st cfgC 5 opsC2) (gh cfgC 5 opsC2).1 :=
  ⟨by decide, by decide, by decide, by decide,
   not_tarAgree 1 { max := 3, m := [(1, [97])] } [97] (by decide) (by decide) (by decide)⟩

/-- (c) `connectFits`: role `any`; the peer's Maximum Packet Size 4 is still in force after our
    DISCONNECT; a CONNECT that does not parse moves the status to `connecting`, the 5-byte error
    CONNACK does not fit and nothing is reset; a CONNACK then arrives *while connecting* and meets the
    old connection's bindings -/
def connectIn : Pkt := { ver := 5, kind := .connect, size := 15, props := [(pMPS, 4)] }
def connackOut : Pkt := { ver := 5, kind := .connack, size := 4, rc := some 0, props := [(pTAM, 3)] }
def opsK2 : List Op := [rcv 0x10 connectIn, .send connackOut, rcv 0x30 (bind 1 [97]), .send disconnect,
  .recv [0x10, 0] (fun _ _ _ => .error eMalformed), rcv 0x20 connack0]
example : (st cfgA 5 (opsK2.take 4)).status = .disconnected ∧ (st cfgA 5 (opsK2.take 4)).mpsSend = 4 ∧
    (st cfgA 5 (opsK2.take 5)).status = .connecting ∧ ¬ ConnectingFresh (st cfgA 5 (opsK2.take 5)) ∧
    (st cfgA 5 opsK2).tar = some { max := 3, m := [(1, [97])] } ∧ gh cfgA 5 opsK2 = ([], 3) ∧
    ¬ TarAgree (st cfgA 5 opsK2) (gh cfgA 5 opsK2).1 :=
  ⟨by decide, by decide, by decide,
   fun h => by
     have := (h (by decide)).1 { max := 3, m := [(1, [97])] } (by decide)
     revert this; decide,
   by decide, by decide,
   not_tarAgree 1 { max := 3, m := [(1, [97])] } [97] (by decide) (by decide) (by decide)⟩

/-- (d) `parse`: a parser that labels the PUBLISH of a v5.0 connection as a v3.1.1 packet, or hands a
    "CONNECT" to the PUBLISH handler: the handler registers the binding, the ghost (which tests
    `p.ver = 5 ∧ p.kind = publish`) does not -/
def opsPV : List Op := [.send connect3, rcv 0x20 connack0, rcv 0x30 { bind 1 [97] with ver := 4 }]
def opsPK : List Op := [.send connect3, rcv 0x20 connack0, rcv 0x30 { bind 1 [97] with kind := .connect }]
example : (st cfgC 5 opsPV).tar = some { max := 3, m := [(1, [97])] } ∧ gh cfgC 5 opsPV = ([], 3) ∧
    (st cfgC 5 opsPK).tar = some { max := 3, m := [(1, [97])] } ∧ gh cfgC 5 opsPK = ([], 3) ∧
    ¬ TarAgree (st cfgC 5 opsPV) (gh cfgC 5 opsPV).1 :=
  ⟨by decide, by decide, by decide, by decide,
   not_tarAgree 1 { max := 3, m := [(1, [97])] } [97] (by decide) (by decide) (by decide)⟩

/-- (d) `restore` / `store`: a v5.0 CONNECT in the store (only `restore_packets` of a list no real
    export contains puts it there) is "resent" when the session is resumed; the ghost reads its Topic
    Alias Maximum 9 -/
def storedConnect : Pkt := { ver := 5, kind := .connect, size := 15, pid := some 5, props := [(pTAM, 9)] }
def opsStore : List Op := [.restorePackets [storedConnect], .send connect3, rcv 0x20 { connack0 with sp := true }]
example : ¬ TarGhost.RestoreTG (.restorePackets [storedConnect]) ∧ ¬ TarGhost.StoreTG (st cfgC 5 (opsStore.take 2)) ∧
    (st cfgC 5 opsStore).tar = some { max := 3 } ∧ gh cfgC 5 opsStore = ([], 9) ∧
    ¬ TamAgree (st cfgC 5 opsStore) 9 :=
  ⟨fun h => by
     have := h storedConnect (by simp)
     revert this; decide,
   fun h => by
     have := h (5, storedConnect) (by decide)
     revert this; decide,
   by decide, by decide, not_tamAgree { max := 3 } (by decide) (by decide)⟩

end C13Ex2

end MqttVerif.Conn
