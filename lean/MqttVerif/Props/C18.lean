import MqttVerif.Spec.Placement
import MqttVerif.Gen.Placement
import MqttVerif.Codec.Validate
/-!
# C18 — v5.0 property placement and multiplicity follow the specification table

*Code side*: `Gen.Placement` — for every location (14 in this crate: the 13 packets with a
property section + the will section), every `PropertyId` (27), occurrence count 1 / 2 and
boundary value class (4), the verdict of the real BUILDER and of the real PARSER, regenerated
from /repo's current tree on every check (`tools/gen_tables.py`, `harness tables`).
*Specification side*: `Spec.Placement.specVerdict`, transcribed from MQTT v5.0 Table 2-4.

The two are compared over the COMPLETE table (3 024 cells × 2 paths) by `decide +kernel`: builder
and parser accept exactly what the specification accepts (outside a list of known deviations,
empty on the current tree), agree with each other on every cell, never panic, and where a
property is allowed acceptance is decided by its value rule.  The table only has cells for one
and two occurrences; the UNBOUNDED statement, for property lists of any length and order, goes
through the hand model of the validators (`Codec.Validate`), whose arms are checked against the
table in the same pass (`validateProps_eq_table`).
-/
namespace MqttVerif.Props.C18
open MqttVerif.Spec.Placement
open MqttVerif.Codec.Validate (validate validateWith arm Arm Verdict validateWith_ok_iff validateAuth_ok_iff)
open MqttVerif

/-! ## cells and their position in the generated chunks -/

structure Cell where
  loc : Location
  prop : PropId
  occ : Occur
  vc : ValueClass
deriving DecidableEq, Repr

def Location.idx : Location → Nat
  | .connect => 0 | .will => 1 | .connack => 2 | .publish => 3 | .puback => 4 | .pubrec => 5
  | .pubrel => 6 | .pubcomp => 7 | .subscribe => 8 | .suback => 9 | .unsubscribe => 10
  | .unsuback => 11 | .disconnect => 12 | .auth => 13

def PropId.idx : PropId → Nat
  | .payloadFormatIndicator => 0 | .messageExpiryInterval => 1 | .contentType => 2
  | .responseTopic => 3 | .correlationData => 4 | .subscriptionIdentifier => 5
  | .sessionExpiryInterval => 6 | .assignedClientIdentifier => 7 | .serverKeepAlive => 8
  | .authenticationMethod => 9 | .authenticationData => 10 | .requestProblemInformation => 11
  | .willDelayInterval => 12 | .requestResponseInformation => 13 | .responseInformation => 14
  | .serverReference => 15 | .reasonString => 16 | .receiveMaximum => 17
  | .topicAliasMaximum => 18 | .topicAlias => 19 | .maximumQoS => 20 | .retainAvailable => 21
  | .userProperty => 22 | .maximumPacketSize => 23 | .wildcardSubscriptionAvailable => 24
  | .subscriptionIdentifierAvailable => 25 | .sharedSubscriptionAvailable => 26

def Occur.idx : Occur → Nat | .once => 0 | .twice => 1
def ValueClass.idx : ValueClass → Nat | .v0 => 0 | .v1 => 1 | .v2 => 2 | .vmax => 3

/-- `idx` is the position in `all` (so the generated order is the order of the inductive types) -/
theorem idx_is_position :
    Location.all.map Location.idx = List.range 14 ∧ PropId.all.map PropId.idx = List.range 27
    ∧ Occur.all.map Occur.idx = [0, 1] ∧ ValueClass.all.map ValueClass.idx = [0, 1, 2, 3] := by
  decide

/-- mixed-radix position of a cell inside its location's chunk (as documented in
    `Gen/Placement.lean`) -/
def posOf (p : PropId) (n : Occur) (v : ValueClass) : Nat :=
  (PropId.idx p * 2 + Occur.idx n) * 4 + ValueClass.idx v

def Cell.pos (c : Cell) : Nat := posOf c.prop c.occ c.vc

/-- a missing chunk is empty, and a look-up outside the table (`lookup`) answers code 99 = "no such entry" (never
    produced by the generator) -/
def chunk (table : List (List Nat)) (l : Location) : List Nat := table.getD (Location.idx l) []

def lookup (table : List (List Nat)) (c : Cell) : Nat := (chunk table c.loc).getD c.pos 99

def builderCode (c : Cell) : Nat := lookup Gen.Placement.builder c
def parserCode (c : Cell) : Nat := lookup Gen.Placement.parser c

/-- verdict code 0 = `ok`; every other code is a rejection (error, value constructor error,
    panic, missing entry) -/
def accepts (code : Nat) : Bool := code == 0

def builderAccepts (c : Cell) : Bool := accepts (builderCode c)
def parserAccepts (c : Cell) : Bool := accepts (parserCode c)
def spec (c : Cell) : Bool := specVerdict c.loc c.prop c.occ c.vc

/-! ## enumeration of all cells -/

/-- `propAt`, `occAt`, `vcAt`: the digits of the mixed-radix position `i` in a chunk (the inverse of `posOf`) -/
def propAt (i : Nat) : PropId := PropId.all.getD (i / 8) .payloadFormatIndicator
def occAt (i : Nat) : Occur := if i / 4 % 2 = 0 then .once else .twice
def vcAt (i : Nat) : ValueClass := match i % 4 with | 0 => .v0 | 1 => .v1 | 2 => .v2 | _ => .vmax
def cellAt (l : Location) (i : Nat) : Cell := ⟨l, propAt i, occAt i, vcAt i⟩

def Cell.allAt (l : Location) : List Cell := (List.range 216).map (cellAt l)

def Cell.all : List Cell := Location.all.flatMap Cell.allAt

theorem Location.mem_all (l : Location) : l ∈ Location.all := by cases l <;> decide
theorem PropId.mem_all (p : PropId) : p ∈ PropId.all := Codec.Validate.mem_all p

theorem at_posOf (p : PropId) (n : Occur) (v : ValueClass) :
    propAt (posOf p n v) = p ∧ occAt (posOf p n v) = n ∧ vcAt (posOf p n v) = v
    ∧ posOf p n v < 216 := by
  have h : ∀ p ∈ PropId.all, ∀ n ∈ Occur.all, ∀ v ∈ ValueClass.all,
      propAt (posOf p n v) = p ∧ occAt (posOf p n v) = n ∧ vcAt (posOf p n v) = v ∧ posOf p n v < 216 := by
    decide +kernel
  exact h p (PropId.mem_all p) n (by cases n <;> decide) v (by cases v <;> decide)

theorem cellAt_pos (c : Cell) : cellAt c.loc c.pos = c := by
  obtain ⟨l, p, n, v⟩ := c
  have ⟨h1, h2, h3, _⟩ := at_posOf p n v
  simp only [cellAt, Cell.pos, h1, h2, h3]

theorem pos_lt (c : Cell) : c.pos < 216 := (at_posOf c.prop c.occ c.vc).2.2.2

/-- the enumeration order of `Cell.allAt` is the mixed-radix order of the generated chunks -/
theorem allAt_pos (c : Cell) : (Cell.allAt c.loc)[c.pos]? = some c := by
  simp [Cell.allAt, List.getElem?_map, List.getElem?_range (pos_lt c), cellAt_pos]

theorem Cell.mem_allAt (c : Cell) : c ∈ Cell.allAt c.loc := List.mem_of_getElem? (allAt_pos c)

theorem Cell.mem_all (c : Cell) : c ∈ Cell.all := by
  simp only [Cell.all, List.mem_flatMap]
  exact ⟨c.loc, Location.mem_all c.loc, Cell.mem_allAt c⟩

theorem forall_cell_of_chunks (f : Cell → Bool)
    (h : ∀ l ∈ Location.all, (Cell.allAt l).all f = true) (c : Cell) : f c = true :=
  List.all_eq_true.mp (h c.loc (Location.mem_all c.loc)) c (Cell.mem_allAt c)

/-- the table is exactly as large as the enumeration: 14 chunks of 216 = 3 024 cells per path -/
theorem table_complete :
    Gen.Placement.builder.map List.length = List.replicate 14 216
    ∧ Gen.Placement.parser.map List.length = List.replicate 14 216
    ∧ Cell.all.length = 3024 := by
  refine ⟨by decide +kernel, by decide +kernel, ?_⟩
  simp [Cell.all, Cell.allAt, Location.all, List.length_flatMap]

/-- the crate's `PropertyId` discriminants are the identifiers of Table 2-4, and its
    property-carrying locations are the standard's -/
theorem constants_eq_spec :
    Gen.Placement.propIds = PropId.all.map PropId.code
    ∧ Gen.Placement.locationNames = Location.all.map Location.name := by
  decide +kernel

/-! ## deviations of the code from the specification

Cells on which builder and parser accept what the specification forbids are listed here; the table is regenerated from
the tree on every check, and `knownDeviations_are_deviations` stops type-checking when the list no longer matches it.
(The finding of `notes/c18-findings.md`: a SUBSCRIBE with two Subscription Identifiers was accepted, §3.8.2.1.2.)
With the empty list `C18_full` follows from `C18_full_of_no_deviations rfl`. -/
def knownDeviations : List Cell := []

/-! ## the table equals the specification — chunk by chunk

Each chunk is checked in ONE lock-step pass over (enumeration of the cells, builder chunk,
parser chunk) — `all3` — because 216 independent `getD` look-ups per chunk cost the kernel
far more; `all3_get` and `allAt_pos` bring the result back to look-ups at the
documented mixed-radix position. -/

def all3 (f : Cell → Nat → Nat → Bool) : List Cell → List Nat → List Nat → Bool
  | c :: cs, b :: bs, p :: ps => f c b p && all3 f cs bs ps
  | [], [], [] => true
  | _, _, _ => false

theorem all3_get (f : Cell → Nat → Nat → Bool) (cs : List Cell) (bs ps : List Nat)
    (h : all3 f cs bs ps = true) (i : Nat) (c : Cell) (hc : cs[i]? = some c) :
    f c (bs.getD i 99) (ps.getD i 99) = true := by
  induction cs generalizing bs ps i with
  | nil => simp at hc
  | cons c0 cs ih =>
    match bs, ps with
    | [], _ => simp [all3] at h
    | _ :: _, [] => simp [all3] at h
    | b :: bs, p :: ps =>
      simp only [all3, Bool.and_eq_true] at h
      cases i with
      | zero => simp at hc; subst hc; simpa using h.1
      | succ i => simpa using ih bs ps h.2 i (by simpa using hc)

/-- everything that is checked about one cell, on its builder code `b` and parser code `p`:
    builder = specification (∨ known deviation); parser = specification (∨ known deviation);
    builder = parser; no panic (code 4) and every entry present (parser: ok or an `MqttError`,
    codes 0–3; builder: additionally 5–7, value refused by / not expressible through the
    property constructor) — the error *kind* is not part of C18 and is not constrained; where
    the property may appear once, acceptance is decided by the value rule alone; and (for the
    unbounded lift) the model validator's `match` arm agrees with the cell of the harmless
    value 1 / "a". -/
def cellOk (c : Cell) (b p : Nat) : Bool :=
  (accepts b == spec c || decide (c ∈ knownDeviations))
  && (accepts p == spec c || decide (c ∈ knownDeviations))
  && (accepts b == accepts p)
  && (decide (p < 4) && decide (b < 8 ∧ b ≠ 4))
  && (!(allowed c.loc c.prop && c.occ == .once)
      || (accepts b == valueOk c.prop c.vc && accepts p == valueOk c.prop c.vc))
  && (c.vc != .v1
      || (match c.occ with
          | .once => (arm c.loc c.prop != .reject) == (accepts b && accepts p)
          | .twice => (arm c.loc c.prop == .free) == (accepts b && accepts p)))

def chunkOk (l : Location) : Bool :=
  all3 cellOk (Cell.allAt l) (chunk Gen.Placement.builder l) (chunk Gen.Placement.parser l)

theorem all_chunks : ∀ l ∈ Location.all, chunkOk l = true := by decide +kernel

theorem cell_ok (c : Cell) : cellOk c (builderCode c) (parserCode c) = true :=
  all3_get cellOk _ _ _ (all_chunks c.loc (Location.mem_all c.loc)) c.pos c (allAt_pos c)

theorem cell_ok_unfolded (c : Cell) :
    (builderAccepts c = spec c ∨ c ∈ knownDeviations)
    ∧ (parserAccepts c = spec c ∨ c ∈ knownDeviations)
    ∧ builderAccepts c = parserAccepts c
    ∧ (parserCode c < 4 ∧ builderCode c < 8 ∧ builderCode c ≠ 4)
    ∧ (allowed c.loc c.prop = true → c.occ = .once →
        builderAccepts c = valueOk c.prop c.vc ∧ parserAccepts c = valueOk c.prop c.vc)
    ∧ (c.vc = .v1 →
        (c.occ = .once → (arm c.loc c.prop != .reject) = (builderAccepts c && parserAccepts c))
        ∧ (c.occ = .twice → (arm c.loc c.prop == .free) = (builderAccepts c && parserAccepts c))) := by
  have h := cell_ok c
  simp only [cellOk, Bool.and_eq_true, Bool.or_eq_true, beq_iff_eq, decide_eq_true_eq] at h
  obtain ⟨⟨⟨⟨⟨h1, h2⟩, h3⟩, h4⟩, h5⟩, h6⟩ := h
  refine ⟨h1, h2, h3, ⟨h4.1, h4.2.1, h4.2.2⟩, ?_, ?_⟩
  · intro ha ho
    rcases h5 with h5 | h5
    · simp [ha, ho] at h5
    · exact h5
  · intro hv
    rcases h6 with h6 | h6
    · simp [hv] at h6
    · constructor
      · intro ho
        simp only [ho] at h6
        exact beq_iff_eq.mp h6
      · intro ho
        simp only [ho] at h6
        exact beq_iff_eq.mp h6

/-- BUILDER path: on every cell of the complete regenerated table the public builder
    accepts exactly when the specification does — except on the listed deviations -/
theorem placement_builder_eq_spec (c : Cell) :
    builderAccepts c = spec c ∨ c ∈ knownDeviations := (cell_ok_unfolded c).1

/-- PARSER path, likewise -/
theorem placement_parser_eq_spec (c : Cell) :
    parserAccepts c = spec c ∨ c ∈ knownDeviations := (cell_ok_unfolded c).2.1

/-- builder and parser agree on EVERY cell (no exception set) -/
theorem builder_eq_parser (c : Cell) : builderAccepts c = parserAccepts c := (cell_ok_unfolded c).2.2.1

/-- no cell panics (code 4), on either path -/
theorem table_no_panic (c : Cell) : builderCode c ≠ 4 ∧ parserCode c ≠ 4 := by
  have := (cell_ok_unfolded c).2.2.2.1
  omega

/-- a rejecting parser answers with an `MqttError` (codes 1–3) -/
theorem parser_rejects_with_error (c : Cell) (h : parserAccepts c = false) :
    parserCode c = 1 ∨ parserCode c = 2 ∨ parserCode c = 3 := by
  have := (cell_ok_unfolded c).2.2.2.1.1
  simp only [parserAccepts, accepts, beq_eq_false_iff_ne, ne_eq] at h
  omega

/-- value rules: wherever a property may appear, one occurrence is accepted exactly when its
    value is legal — zero Receive Maximum / Topic Alias / Maximum Packet Size / Subscription
    Identifier and flag values other than 0/1 are rejected by builder and parser -/
theorem value_rules_eq_spec (c : Cell) (ha : allowed c.loc c.prop = true) (ho : c.occ = .once) :
    builderAccepts c = valueOk c.prop c.vc ∧ parserAccepts c = valueOk c.prop c.vc :=
  (cell_ok_unfolded c).2.2.2.2.1 ha ho

/-! ## the full statement, its status on the current tree -/

/-- C18 at full strength: builder and parser both implement the specification table -/
def C18_full : Prop := ∀ c : Cell, builderAccepts c = spec c ∧ parserAccepts c = spec c

/-- the full statement outside the exception set -/
theorem C18_partial (c : Cell) (h : c ∉ knownDeviations) :
    builderAccepts c = spec c ∧ parserAccepts c = spec c :=
  ⟨(placement_builder_eq_spec c).resolve_right h, (placement_parser_eq_spec c).resolve_right h⟩

/-- every listed deviation is a real one (builder AND parser accept what the specification
    forbids), so the exception set is not padded -/
theorem knownDeviations_are_deviations :
    ∀ c ∈ knownDeviations, builderAccepts c = true ∧ parserAccepts c = true ∧ spec c = false := by
  decide +kernel

theorem C18_full_of_no_deviations (h : knownDeviations = []) : C18_full := by
  intro c
  exact C18_partial c (by simp [h])

/-- C18 at full strength holds of the current tree -/
theorem C18_holds : C18_full := C18_full_of_no_deviations rfl

/-! ## non-vacuity: the table is not trivially all-accept / all-reject, and the theorems
    talk about the cells one expects -/

example : (Gen.Placement.builder.map fun ch => (ch.filter accepts).length).sum = 290 := by decide +kernel
example : (Gen.Placement.parser.map fun ch => (ch.filter accepts).length).sum = 290 := by decide +kernel
example : (Cell.all.filter spec).length = 290 := by decide +kernel
-- Receive Maximum in CONNECT: 0 rejected by the value constructor, 1 accepted, twice rejected
example : builderCode ⟨.connect, .receiveMaximum, .once, .v0⟩ = 5 := by decide +kernel
example : parserCode ⟨.connect, .receiveMaximum, .once, .v0⟩ = 1 := by decide +kernel
example : builderCode ⟨.connect, .receiveMaximum, .once, .v1⟩ = 0 := by decide +kernel
example : parserCode ⟨.connect, .receiveMaximum, .twice, .v1⟩ = 1 := by decide +kernel
-- User Property twice in UNSUBSCRIBE, Subscription Identifier twice in PUBLISH: accepted
example : parserCode ⟨.unsubscribe, .userProperty, .twice, .vmax⟩ = 0 := by decide +kernel
example : builderCode ⟨.publish, .subscriptionIdentifier, .twice, .vmax⟩ = 0 := by decide +kernel
-- Will Delay Interval belongs to the will section only
example : (Location.all.filter fun l => parserAccepts ⟨l, .willDelayInterval, .once, .v1⟩) = [.will] := by
  decide +kernel

/-! ## the unbounded lift

The table has cells for one and two occurrences only.  The hand model of the validators
(`Codec.Validate`, the Rust loops with their counters) is characterised for property lists
of arbitrary length and order (`validateWith_ok_iff`); the arms of the model agree with the
regenerated table (`arm_ne_reject_iff`, `arm_free_iff`, from the chunk checks); hence the
verdict of every validator on every list is what the table says. -/

/-- table reading used by the lift: the property, with the harmless value 1 / "a", is
    accepted `n` times at the location by the builder and by the parser -/
def tableAccepts (l : Location) (p : PropId) (n : Occur) : Bool :=
  builderAccepts ⟨l, p, n, .v1⟩ && parserAccepts ⟨l, p, n, .v1⟩

/-- the model's `match` arms are what the regenerated table shows: a kind has an arm iff the
    table accepts it once, and a non-counting arm iff the table accepts it twice (part of
    the chunk checks) -/
theorem arm_ne_reject_iff (l : Location) (p : PropId) :
    arm l p ≠ .reject ↔ tableAccepts l p .once = true := by
  have := ((cell_ok_unfolded ⟨l, p, .once, .v1⟩).2.2.2.2.2 rfl).1 rfl
  rw [tableAccepts, ← this]; simp

theorem arm_free_iff (l : Location) (p : PropId) :
    arm l p = .free ↔ tableAccepts l p .twice = true := by
  have := ((cell_ok_unfolded ⟨l, p, .twice, .v1⟩).2.2.2.2.2 rfl).2 rfl
  rw [tableAccepts, ← this]; simp

/-- "accept iff every property is allowed at the location and every non-repeatable property
    occurs at most once", read off the regenerated table -/
def tableSays (l : Location) (ps : List PropId) : Prop :=
  (∀ p ∈ ps, tableAccepts l p .once = true)
  ∧ (∀ p ∈ ps, 2 ≤ ps.count p → tableAccepts l p .twice = true)

/-- side condition of the AUTH validator that is not a placement rule: Authentication Data
    needs an Authentication Method, and so does a reason code other than Success -/
def crossRules (l : Location) (rcIsSuccess : Bool) (ps : List PropId) : Prop :=
  l = .auth → (.authenticationData ∈ ps → .authenticationMethod ∈ ps)
              ∧ (rcIsSuccess = false → .authenticationMethod ∈ ps)

theorem counted_iff (l : Location) (ps : List PropId)
    (hall : ∀ p ∈ ps, arm l p ≠ .reject) :
    (∀ p, arm l p = .count → ps.count p ≤ 1)
      ↔ (∀ p ∈ ps, 2 ≤ ps.count p → tableAccepts l p .twice = true) := by
  constructor
  · intro h p hp h2
    rw [← arm_free_iff]
    cases ha : arm l p with
    | free => rfl
    | reject => exact absurd ha (hall p hp)
    | count => have := h p ha; omega
  · intro h p hc
    by_cases hp : p ∈ ps
    · by_cases h2 : 2 ≤ ps.count p
      · have := (arm_free_iff l p).mpr (h p hp h2)
        rw [hc] at this; cases this
      · omega
    · have := List.count_eq_zero.mpr hp
      omega

/-- UNBOUNDED: for every location and every property list — any length, any order — the
    model of `validate_<location>_properties` answers `ok` exactly when the regenerated
    table accepts each property of the list once and accepts twice each property that
    occurs more than once (plus, for AUTH, the two cross-property rules). -/
theorem validateProps_eq_table (l : Location) (rcIsSuccess : Bool) (ps : List PropId) :
    validate l rcIsSuccess ps = .ok ↔ tableSays l ps ∧ crossRules l rcIsSuccess ps := by
  have key : ((∀ p ∈ ps, arm l p ≠ .reject) ∧ (∀ p, arm l p = .count → ps.count p ≤ 1))
      ↔ tableSays l ps := by
    unfold tableSays
    constructor
    · intro ⟨h1, h2⟩
      exact ⟨fun p hp => (arm_ne_reject_iff l p).mp (h1 p hp), (counted_iff l ps h1).mp h2⟩
    · intro ⟨h1, h2⟩
      have h1' : ∀ p ∈ ps, arm l p ≠ .reject := fun p hp => (arm_ne_reject_iff l p).mpr (h1 p hp)
      exact ⟨h1', (counted_iff l ps h1').mpr h2⟩
  by_cases hl : l = .auth
  · subst hl
    show Codec.Validate.validateAuth rcIsSuccess ps = .ok ↔ _
    rw [validateAuth_ok_iff, ← key]
    simp only [crossRules, true_implies]
    constructor
    · intro ⟨a, b, c, d⟩; exact ⟨⟨a, b⟩, c, d⟩
    · intro ⟨⟨a, b⟩, c, d⟩; exact ⟨a, b, c, d⟩
  · have hv : validate l rcIsSuccess ps = validateWith (arm l) ps := by
      cases l <;> first | rfl | exact absurd rfl hl
    rw [hv, validateWith_ok_iff, key]
    simp [crossRules, hl]

/-- the lift in specification terms: outside the known deviations the table *is* the
    specification, so a validator accepts a list iff every property is allowed at the
    location and every non-repeatable property occurs at most once.  (Stated for the
    locations without deviating cells.) -/
theorem validateProps_eq_spec (l : Location) (rc : Bool) (ps : List PropId)
    (hl : ∀ c ∈ knownDeviations, c.loc ≠ l) :
    validate l rc ps = .ok ↔
      ((∀ p ∈ ps, allowed l p = true) ∧ (∀ p ∈ ps, 2 ≤ ps.count p → mayRepeat l p = true))
      ∧ crossRules l rc ps := by
  rw [validateProps_eq_table]
  have tb : ∀ p n, tableAccepts l p n = specVerdict l p n .v1 := by
    intro p n
    have hc : (⟨l, p, n, .v1⟩ : Cell) ∉ knownDeviations := fun hm => hl _ hm rfl
    have ⟨hb, hp⟩ := C18_partial _ hc
    simp only [tableAccepts, hb, hp, spec, Bool.and_self]
  have v1ok : ∀ p, valueOk p .v1 = true := by intro p; cases p <;> decide
  have once : ∀ p, specVerdict l p .once .v1 = allowed l p := by
    intro p; simp [specVerdict, v1ok]
  have twice : ∀ p, specVerdict l p .twice .v1 = (allowed l p && mayRepeat l p) := by
    intro p
    have : (Occur.twice == Occur.once) = false := by decide
    simp [specVerdict, v1ok, this]
  unfold tableSays
  simp only [tb, once, twice, Bool.and_eq_true]
  constructor
  · intro ⟨⟨h1, h2⟩, h3⟩
    exact ⟨⟨h1, fun p hp h => (h2 p hp h).2⟩, h3⟩
  · intro ⟨⟨h1, h2⟩, h3⟩
    exact ⟨⟨h1, fun p hp h => ⟨h1 p hp, h2 p hp h⟩⟩, h3⟩

/-- non-vacuity of the lift: concrete lists of length 5 -/
example : validate .connack true
    [.userProperty, .receiveMaximum, .userProperty, .userProperty, .reasonString] = .ok := by decide
example : validate .connack true
    [.userProperty, .receiveMaximum, .userProperty, .receiveMaximum, .reasonString] = .protocolError := by decide
example : validate .publish true
    [.subscriptionIdentifier, .topicAlias, .subscriptionIdentifier, .subscriptionIdentifier] = .ok := by decide
/-- the hypothesis of `validateProps_eq_spec` holds for all 14 locations -/
example : (Location.all.filter fun l => knownDeviations.all fun c => c.loc != l).length = 14 := by decide

end MqttVerif.Props.C18
