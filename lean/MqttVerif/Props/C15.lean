import MqttVerif.Conn.Lemmas.TimersRearm
import MqttVerif.Conn.Lemmas.SrvMs2
/-!
# C15 — keep-alive timer requests are consistent and complete

Model: `Conn.step` (L2).  Ghost state: `Mon.Armed`, maintained from the *events* of each call by
`Mon.timersStep` (`RequestTimerReset k` arms, `RequestTimerCancel k` requires armed and clears);
a fired timer is no longer armed when `notify_timer_fired` starts (`startArmed`).
`flagsOf s` = the model's own `pingreq_send_set / pingreq_recv_set / pingresp_recv_set`.

Section 8: the driver monitor `C15 no_recv_rearm` (ghost `srvMs`) as a theorem of the model; its
lemma files `Conn/Lemmas/SrvMs*.lean` live in their own namespace `SrvMs`.

All theorems are for **every** configuration, state, operation (a `recv` carries arbitrary bytes
and an arbitrary parser) and operation sequence; none is restricted to reachable states unless
it says `Reachable`.
-/
set_option linter.unusedSimpArgs false
set_option linter.unusedVariables false
namespace MqttVerif.Conn
open MqttVerif Mon

/-! ## 1. the timer events of every call are consistent with, and account for, the flags -/

/-- **C15 (1)** — for every state and every call: folding the call's timer events over the
    ghost flags (= the model flags before the call, minus the fired timer for a `.timer k` call)
    never meets a cancel of an unarmed timer, and ends exactly in the model flags after the
    call. -/
theorem C15_events_match_flags (cfg : Cfg) (s : St) (op : Op) :
    timersStep (startArmed s op) (step cfg s op).ev = some (flagsOf (step cfg s op).s) := by
  rw [← timersStep_tev]; exact (step_inv cfg s op).g

/-- (1) for the calls that are not a timer expiry: start from the flags themselves -/
theorem C15_events_match_flags_nontimer (cfg : Cfg) (s : St) (op : Op) (h : ∀ k, op ≠ .timer k) :
    timersStep (flagsOf s) (step cfg s op).ev = some (flagsOf (step cfg s op).s) := by
  have := C15_events_match_flags cfg s op
  cases op <;> simp_all [startArmed]

/-- (1) for a timer expiry: the fired timer counts as not armed -/
theorem C15_events_match_flags_timer (cfg : Cfg) (s : St) (k : Timer) :
    timersStep ((flagsOf s).set k false) (step cfg s (.timer k)).ev
      = some (flagsOf (step cfg s (.timer k)).s) :=
  C15_events_match_flags cfg s (.timer k)

theorem timersStep_cancel_armed (a r : Armed) (pre post : List Ev) (k : Timer)
    (h : timersStep a (pre ++ .timerCancel k :: post) = some r) :
    ∃ b, timersStep a pre = some b ∧ b.get k = true := by
  rw [timersStep_append] at h
  cases hb : timersStep a pre with
  | none => simp [hb] at h
  | some b =>
    refine ⟨b, rfl, ?_⟩
    simp only [hb, Option.bind_some, timersStep] at h
    by_cases hk : b.get k = true
    · exact hk
    · simp [hk] at h

/-- **C15 (1a), cancel only armed** — wherever a call emits `RequestTimerCancel k`, the timer
    `k` is armed at that point according to the events seen so far. -/
theorem C15_cancel_only_armed (cfg : Cfg) (s : St) (op : Op) (pre post : List Ev) (k : Timer)
    (h : (step cfg s op).ev = pre ++ .timerCancel k :: post) :
    ∃ b, timersStep (startArmed s op) pre = some b ∧ b.get k = true :=
  timersStep_cancel_armed _ _ pre post k (h ▸ C15_events_match_flags cfg s op)

/-- the monitor form evaluated by the driver: the fold never fails -/
theorem C15_cancel_only_armed_mon (cfg : Cfg) (s : St) (op : Op) :
    timersStep (startArmed s op) (step cfg s op).ev ≠ none := by
  rw [C15_events_match_flags]; simp

-- non-vacuity of the hypothesis of `C15_cancel_only_armed`: a call that emits a cancel
example : (step ⟨.client, 2⟩ { St.init ⟨.client, 2⟩ 4 with sendSet := true } .closed).ev
    = [] ++ .timerCancel .pingreqSend :: [] := by decide

/-- `ghostRun`: the ghost flags an observer computes from the events of a whole history (`none` =
    some call cancelled an unarmed timer); `fired`: a timer that expired is no longer armed when
    its `notify_timer_fired` call starts -/
def fired (a : Armed) : Op → Armed
  | .timer k => a.set k false
  | _ => a

def ghostRun (cfg : Cfg) : St → Armed → List Op → Option Armed
  | _, a, [] => some a
  | s, a, op :: ops =>
    match timersStep (fired a op) (step cfg s op).ev with
    | none => none
    | some a' => ghostRun cfg (step cfg s op).s a' ops

/-- **C15 (1b)** — along any operation sequence from any state, the ghost flags computed from
    the events alone always equal the model's flags: the flags are a faithful account of what
    the application has been told. -/
theorem C15_ghost_equals_flags (cfg : Cfg) (s : St) (ops : List Op) :
    ghostRun cfg s (flagsOf s) ops = some (flagsOf (run cfg s ops)) := by
  induction ops generalizing s with
  | nil => rfl
  | cons op ops ih =>
    have h := C15_events_match_flags cfg s op
    have e : fired (flagsOf s) op = startArmed s op := by cases op <;> rfl
    simp only [ghostRun, run, e, h]
    exact ih _

/-- (1b) from a fresh connection object: nothing armed initially -/
theorem C15_ghost_equals_flags_init (cfg : Cfg) (ver : Nat) (ops : List Op) :
    ghostRun cfg (St.init cfg ver) unarmed ops = some (flagsOf (run cfg (St.init cfg ver) ops)) :=
  C15_ghost_equals_flags cfg (St.init cfg ver) ops

/-! ## 2. disconnected means unarmed -/

/-- **C15 (2), step form** — `status = disconnected → no timer armed` is preserved by every
    call from every state; no side condition on the operation (in particular a `.timer k` for a
    timer that is not armed, and `setInterval`, are covered). -/
theorem C15_disconnected_means_unarmed_step (cfg : Cfg) (s : St) (op : Op) (h : DU s) :
    DU (step cfg s op).s :=
  (step_inv cfg s op).d h

theorem C15_disconnected_means_unarmed_run (cfg : Cfg) (s : St) (ops : List Op) (h : DU s) :
    DU (run cfg s ops) :=
  run_ind (C15_disconnected_means_unarmed_step cfg) ops h

/-- **C15 (2)** — in every reachable state: if the status is `disconnected` (the transport was
    reported closed, a DISCONNECT was sent, a CONNACK refused the connection, or no connection
    was ever made) no timer is armed. -/
theorem C15_disconnected_means_unarmed (cfg : Cfg) (ver : Nat) (s : St) (h : Reachable cfg ver s) :
    s.status = .disconnected → flagsOf s = unarmed := by
  obtain ⟨ops, rfl⟩ := h
  exact C15_disconnected_means_unarmed_run cfg _ ops (fun _ => rfl)

-- non-vacuity: a non-initial state with armed timers satisfies `DU`, and a reachable one
example : DU { St.init ⟨.client, 2⟩ 4 with status := .connected, sendSet := true, respSet := true } := by
  decide
example : Reachable ⟨.client, 2⟩ 4 (run ⟨.client, 2⟩ (St.init ⟨.client, 2⟩ 4)
    [.send { ver := 4, kind := .connect, keepAlive := 10 }]) := ⟨_, rfl⟩

theorem C15_closed_unarms (cfg : Cfg) (s : St) :
    (step cfg s .closed).s.status = .disconnected ∧ flagsOf (step cfg s .closed).s = unarmed := by
  show (notifyClosed _).s.status = _ ∧ flagsOf (notifyClosed _).s = _
  unfold flagsOf
  rw [Fp.notifyClosed_s_eq]
  exact ⟨rfl, rfl⟩

/-- a `send` of a DISCONNECT either is refused with a single `NotifyError` (state unchanged), or
    cancels exactly the armed timers, sends the packet, requests the close, and leaves the
    endpoint `disconnected` with nothing armed -/
theorem C15_disconnect_sent_unarms (cfg : Cfg) (s : St) (p : Pkt) (hk : p.kind = .disconnect) :
    (∃ e, step cfg s (.send p) = C.err { cfg := cfg, s := s } e) ∨
    ((step cfg s (.send p)).s.status = .disconnected ∧ flagsOf (step cfg s (.send p)).s = unarmed ∧
     (step cfg s (.send p)).ev = cancelEvs (flagsOf s) ++ [.send p none, .close]) := by
  have href : ∀ (c : C) (e : Nat), refuseSend c e p = c.err e := by
    intro c e; simp [refuseSend, initiatingId, hk]
  simp only [step, send]
  split
  · exact .inl ⟨_, href _ _⟩
  split
  · exact .inl ⟨_, href _ _⟩
  simp only [processSend, hk]
  split
  · unfold psV3Disconnect
    split
    · exact .inl ⟨_, rfl⟩
    · refine .inr ⟨by simp, by simp, ?_⟩
      simp [cancelTimers_ev, flagsOf]
  · unfold psV5Disconnect
    split
    · exact .inl ⟨_, rfl⟩
    split
    · exact .inl ⟨_, rfl⟩
    · refine .inr ⟨by simp, by simp, ?_⟩
      simp [cancelTimers_ev, flagsOf]

example : (step ⟨.client, 2⟩ { St.init ⟨.client, 2⟩ 4 with status := .connected, sendSet := true, respSet := true }
      (.send { ver := 4, kind := .disconnect, size := 2 })).ev
    = [.timerCancel .pingreqSend, .timerCancel .pingrespRecv,
       .send { ver := 4, kind := .disconnect, size := 2 } none, .close] := by decide

/-! ## 3. no arming while disconnected -/

/-- **C15 (3), strong form** — a call (local or `recv` of arbitrary bytes) that emits any
    `RequestTimerReset` does not end in status `disconnected`. -/
theorem C15_arming_call_not_disconnected (cfg : Cfg) (s : St) (op : Op)
    (h : anyReset (step cfg s op).ev = true) : (step cfg s op).s.status ≠ .disconnected :=
  (step_inv cfg s op).n (by rw [anyReset_tev]; exact h)

/-- **C15 (3)** — if the status is `disconnected` before and after a call, the call emits no
    `RequestTimerReset` (every op, including arbitrary received bytes). -/
theorem C15_no_arming_while_disconnected (cfg : Cfg) (s : St) (op : Op)
    (h : s.status = .disconnected) (h' : (step cfg s op).s.status = .disconnected) :
    anyReset (step cfg s op).ev = false := by
  cases hr : anyReset (step cfg s op).ev with
  | false => rfl
  | true => exact absurd h' (C15_arming_call_not_disconnected cfg s op hr)

-- non-vacuity: a client with a persistent session queues a PUBREL while disconnected (the
-- scenario of finding #14): status stays `disconnected`, and the theorem says nothing is armed
def exOfflineClient : St :=
  { St.init ⟨.client, 2⟩ 4 with
    needStore := true, isClient := true, keepAliveMs := 10000
    pidMan := (Alloc.useValue (Alloc.new 1 65535 65535) 1).2 }

example :
    exOfflineClient.status = .disconnected ∧
    (step ⟨.client, 2⟩ exOfflineClient (.send { ver := 4, kind := .pubrel, pid := some 1 })).s.status
      = .disconnected ∧
    (step ⟨.client, 2⟩ exOfflineClient (.send { ver := 4, kind := .pubrel, pid := some 1 })).s.pubcomp = [1] := by
  decide

/-! ## 6. PINGREQ arms the response timer, PINGRESP cancels it -/

theorem step_send_pingreq (cfg : Cfg) (s : St) (p : Pkt) (hv : s.ver = p.ver)
    (hr : roleMaySend cfg.role p = true) (hk : p.kind = .pingreq) :
    step cfg s (.send p) = psPingreq { cfg := cfg, s := s } p := by
  rw [step_send_eq hv.symm hr, processSend, hk]
  exact ite_self _

/-- **C15 (6a)** — a `send` of a PINGREQ that is accepted (version and role checks passed,
    connected; for v5.0 within the peer's Maximum Packet Size) emits exactly: the packet,
    `RequestTimerReset(PingrespRecv, pingresp_recv_timeout_ms)` iff that timeout is non-zero,
    then the client's PINGREQ-timer re-arm. -/
theorem C15_pingreq_arms_response_timer (cfg : Cfg) (s : St) (p : Pkt) (hv : s.ver = p.ver)
    (hr : roleMaySend cfg.role p = true) (hk : p.kind = .pingreq)
    (hsz : p.ver = 5 → p.size ≤ s.mpsSend) (hs : s.status = .connected) :
    (step cfg s (.send p)).ev = [.send p none] ++ armResp s ++ rearmSend s ∧
    (step cfg s (.send p)).s.respSet = (s.respSet || decide (s.respTimeoutMs ≠ 0)) ∧
    (∀ ms, .timerReset .pingrespRecv ms ∈ (step cfg s (.send p)).ev ↔
      (s.respTimeoutMs ≠ 0 ∧ ms = s.respTimeoutMs)) := by
  rw [step_send_pingreq cfg s p hv hr hk]
  have hz : p.ver = 5 → sizeOk { cfg := cfg, s := s } p = true := by
    intro h5; exact (sizeOk_small _ _ (by simp [hk])).2 (hsz h5)
  obtain ⟨h1, h2, _⟩ := psPingreq_accepted { cfg := cfg, s := s } p hz hs
  refine ⟨by simpa using h1, h2, ?_⟩
  intro ms
  rw [h1]
  unfold armResp rearmSend
  by_cases h0 : s.respTimeoutMs = 0 <;> by_cases hc : s.isClient = true ∧ pingInterval s > 0 <;>
    simp [h0, hc] <;> omega

-- non-vacuity: a connected v3.1.1 client with a 5 s response timeout and keep-alive 10 s
def exConnectedClient : St :=
  { St.init ⟨.client, 2⟩ 4 with
    status := .connected, isClient := true, keepAliveMs := 10000, respTimeoutMs := 5000 }

example : (step ⟨.client, 2⟩ exConnectedClient (.send (mkPingreq 4))).ev
    = [.send (mkPingreq 4) none, .timerReset .pingrespRecv 5000, .timerReset .pingreqSend 10000] := by
  decide

/-- **C15 (6b)** — a received PINGRESP emits `RequestTimerCancel(PingrespRecv)` iff the response
    timer is armed, then the notification; afterwards the response timer is not armed. -/
theorem C15_pingresp_cancels (c : C) (p : Pkt) :
    (dispatchRecv c 13 (.ok p)).ev
      = c.ev ++ (if c.s.respSet then [.timerCancel .pingrespRecv] else []) ++ [.recv p] ∧
    (dispatchRecv c 13 (.ok p)).s.respSet = false := by
  have := prPingresp_ok c p
  exact ⟨this.1, this.2.1⟩

-- end to end through the framing layer: the two bytes of a PINGRESP
example : (step ⟨.client, 2⟩ { exConnectedClient with respSet := true }
      (.recv [0xD0, 0x00] (fun v _ _ => .ok (mkPingresp v)))).ev
    = [.timerCancel .pingrespRecv, .recv (mkPingresp 4)] := by
  decide

/-! ## 7. the effect of each expiry -/

/-- **C15 (7a)** — PINGREQ-send timer fires on an established v3.1.1 connection: a PINGREQ is
    sent (and the response timer and the PINGREQ timer are armed as for any PINGREQ). -/
theorem C15_expiry_pingreq_send_v3 (cfg : Cfg) (s : St) (hs : s.status = .connected) (hv : s.ver = 4) :
    (step cfg s (.timer .pingreqSend)).ev = [.send (mkPingreq 4) none] ++ armResp s ++ rearmSend s := by
  have e : step cfg s (.timer .pingreqSend)
      = psPingreq { cfg := cfg, s := { s with sendSet := false } } (mkPingreq 4) := by
    simp [step, notifyTimerFired, hs, hv]
  rw [e]
  exact (psPingreq_accepted _ _ (by simp [mkPingreq]) hs).1

/-- **C15 (7a)**, v5.0: the PINGREQ is sent when its two bytes fit the peer's Maximum Packet
    Size, otherwise the call reports `PacketTooLarge` and nothing else. -/
theorem C15_expiry_pingreq_send_v5 (cfg : Cfg) (s : St) (hs : s.status = .connected) (hv : s.ver = 5) :
    (step cfg s (.timer .pingreqSend)).ev =
      if 2 ≤ s.mpsSend then [.send (mkPingreq 5) none] ++ armResp s ++ rearmSend s
      else [.error eTooLarge] := by
  have e : step cfg s (.timer .pingreqSend)
      = psPingreq { cfg := cfg, s := { s with sendSet := false } } (mkPingreq 5) := by
    simp [step, notifyTimerFired, hs, hv]
  rw [e]
  have hz := sizeOk_small { cfg := cfg, s := { s with sendSet := false } } (mkPingreq 5) (by simp [mkPingreq])
  by_cases hm : 2 ≤ s.mpsSend
  · rw [if_pos hm]
    exact (psPingreq_accepted _ _ (fun _ => hz.2 hm) hs).1
  · rw [if_neg hm]
    have hz' : sizeOk { cfg := cfg, s := { s with sendSet := false } } (mkPingreq 5) = false := by
      cases h : sizeOk { cfg := cfg, s := { s with sendSet := false } } (mkPingreq 5) with
      | false => rfl
      | true => exact absurd (hz.1 h) hm
    unfold psPingreq
    rw [if_pos ⟨rfl, by rw [hz']; rfl⟩]
    rfl

/-- **C15 (7a)**, not connected: the expiry only clears the flag -/
theorem C15_expiry_pingreq_send_not_connected (cfg : Cfg) (s : St) (hs : s.status ≠ .connected) :
    (step cfg s (.timer .pingreqSend)).ev = [] ∧
    (step cfg s (.timer .pingreqSend)).s = { s with sendSet := false } := by
  simp [step, notifyTimerFired, hs]

/-- **C15 (7b)** — a receive-side timeout (PINGREQ not received / PINGRESP not received) on a
    v3.1.1 connection: exactly a close request. -/
theorem C15_expiry_timeout_v3 (cfg : Cfg) (s : St) (k : Timer) (hk : k ≠ .pingreqSend) (hv : s.ver = 4) :
    (step cfg s (.timer k)).ev = [.close] := by
  cases k
  · exact absurd rfl hk
  · simp [step, notifyTimerFired, hv]
  · simp [step, notifyTimerFired, hv]

/-- a keep-alive timeout on an established v5.0 connection, in the context left by clearing the fired timer's flag -/
theorem C15.keepAliveTimeout_v5 (c : C) (hs : c.s.status = .connected) :
    (v5DisconnectOrClose c (mkV5Disconnect eKeepAliveTimeout)).ev = c.ev ++ cancelEvs (flagsOf c.s) ++
      (if 3 ≤ c.s.mpsSend then [.send (mkV5Disconnect 141) none, .close] else [.close]) ∧
    (v5DisconnectOrClose c (mkV5Disconnect eKeepAliveTimeout)).s.status = .disconnected ∧
    flagsOf (v5DisconnectOrClose c (mkV5Disconnect eKeepAliveTimeout)).s = unarmed := by
  have hz := sizeOk_small c (mkV5Disconnect eKeepAliveTimeout) (by simp [mkV5Disconnect])
  obtain ⟨h1, h2, h3⟩ := v5DisconnectOrClose_connected c (mkV5Disconnect eKeepAliveTimeout) hs
  refine ⟨?_, h2, h3⟩
  rw [h1]
  by_cases hm : 3 ≤ c.s.mpsSend
  · rw [if_pos hm, if_pos (hz.2 hm)]; rfl
  · rw [if_neg hm, if_neg (fun h => hm (hz.1 h))]

/-- **C15 (7b)**, v5.0 on an established connection: the remaining timers are cancelled, a
    DISCONNECT with reason 0x8D (Keep Alive timeout) is sent if its three bytes fit the peer's
    Maximum Packet Size, and the close is requested either way; the connection ends
    disconnected with nothing armed. -/
theorem C15_expiry_timeout_v5 (cfg : Cfg) (s : St) (k : Timer) (hk : k ≠ .pingreqSend) (hv : s.ver = 5)
    (hs : s.status = .connected) :
    (step cfg s (.timer k)).ev = cancelEvs ((flagsOf s).set k false) ++
      (if 3 ≤ s.mpsSend then [.send (mkV5Disconnect 141) none, .close] else [.close]) ∧
    (step cfg s (.timer k)).s.status = .disconnected ∧
    flagsOf (step cfg s (.timer k)).s = unarmed := by
  cases k
  · exact absurd rfl hk
  · have e : step cfg s (.timer .pingreqRecv)
        = v5DisconnectOrClose { cfg := cfg, s := { s with recvSet := false } } (mkV5Disconnect eKeepAliveTimeout) := by
      simp [step, notifyTimerFired, hv, hs]
    rw [e]
    exact C15.keepAliveTimeout_v5 { cfg := cfg, s := { s with recvSet := false } } hs
  · have e : step cfg s (.timer .pingrespRecv)
        = v5DisconnectOrClose { cfg := cfg, s := { s with respSet := false } } (mkV5Disconnect eKeepAliveTimeout) := by
      simp [step, notifyTimerFired, hv, hs]
    rw [e]
    exact C15.keepAliveTimeout_v5 { cfg := cfg, s := { s with respSet := false } } hs

/-- **C15 (7b)**, v5.0 while not connected: the expiry only clears the flag -/
theorem C15_expiry_timeout_v5_not_connected (cfg : Cfg) (s : St) (k : Timer) (hk : k ≠ .pingreqSend)
    (hv : s.ver = 5) (hs : s.status ≠ .connected) :
    (step cfg s (.timer k)).ev = [] ∧ flagsOf (step cfg s (.timer k)).s = (flagsOf s).set k false := by
  cases k
  · exact absurd rfl hk
  · simp [step, notifyTimerFired, hv, hs, flagsOf, Armed.set]
  · simp [step, notifyTimerFired, hv, hs, flagsOf, Armed.set]

-- non-vacuity of (7): v5.0 server, PINGREQ-receive timeout, with and without room for DISCONNECT
def exV5Server (mps : Nat) : St :=
  { St.init ⟨.server, 2⟩ 5 with
    status := .connected, recvSet := true, recvTimeoutMs := 15000, mpsSend := mps, respSet := true }

example : (step ⟨.server, 2⟩ (exV5Server 100) (.timer .pingreqRecv)).ev
    = [.timerCancel .pingrespRecv, .send (mkV5Disconnect 141) none, .close] := by decide
example : (step ⟨.server, 2⟩ (exV5Server 2) (.timer .pingreqRecv)).ev
    = [.timerCancel .pingrespRecv, .close] := by decide
example : (step ⟨.server, 2⟩ (exV5Server 1) (.timer .pingreqSend)).ev = [.error eTooLarge] := by decide
example : (step ⟨.client, 2⟩ exConnectedClient (.timer .pingrespRecv)).ev = [.close] := by decide
example : (step ⟨.client, 2⟩ exConnectedClient (.timer .pingreqSend)).ev
    = [.send (mkPingreq 4) none, .timerReset .pingrespRecv 5000, .timerReset .pingreqSend 10000] := by decide

/-! ## 5. a server re-arms the 1.5 × keep-alive receive timer on every packet it accepts -/

/-- **C15 (5a)** — a CONNECT received while disconnected sets the receive timeout to
    1.5 × keep-alive (ms) — 0 for keep-alive 0, whatever an earlier connection used, because
    `initialize` resets it (finding #3) — and arms the timer iff keep-alive ≠ 0. -/
theorem C15_connect_sets_recv_timeout (c : C) (p : Pkt) (hs : c.s.status = .disconnected) :
    (dispatchRecv c 1 (.ok p)).s.recvTimeoutMs = recvTimeoutOf p.keepAlive ∧
    (dispatchRecv c 1 (.ok p)).ev = c.ev ++
      (if p.keepAlive ≠ 0 then [.timerReset .pingreqRecv (recvTimeoutOf p.keepAlive)] else []) ++ [.recv p] ∧
    (dispatchRecv c 1 (.ok p)).s.status = .connecting := by
  have k := (dispatchRecv_connect c (.ok p) hs).ok
  exact ⟨k.2.1, k.1, k.2.2⟩

theorem C15_recv_timeout_values : recvTimeoutOf 0 = 0 ∧ recvTimeoutOf 10 = 15000 ∧
    ∀ k, k ≠ 0 → recvTimeoutOf k ≠ 0 :=
  ⟨rfl, rfl, recvTimeoutOf_pos⟩

-- end to end: a version-undetermined server whose previous connection used 15 s receives the
-- 14 bytes of a v3.1.1 CONNECT with keep-alive 0, resp. 10
def exConnectBytes : List Nat := [0x10, 12, 0, 4, 77, 81, 84, 84, 4, 2, 0, 10, 0, 0]
example : (step ⟨.server, 2⟩ { St.init ⟨.server, 2⟩ 0 with recvTimeoutMs := 15000 }
      (.recv exConnectBytes (fun v _ _ => .ok { ver := v, kind := .connect, keepAlive := 0 }))).ev
    = [.recv { ver := 4, kind := .connect, keepAlive := 0 }] := by decide
example : (step ⟨.server, 2⟩ { St.init ⟨.server, 2⟩ 0 with recvTimeoutMs := 15000 }
      (.recv exConnectBytes (fun v _ _ => .ok { ver := v, kind := .connect, keepAlive := 10 }))).ev
    = [.timerReset .pingreqRecv 15000, .recv { ver := 4, kind := .connect, keepAlive := 10 }] := by decide

/-- **C15 (5b)** — every handler of an inbound packet other than CONNECT (5a), CONNACK,
    PINGRESP (client side) and DISCONNECT (cancels the timers) ends in one of four ways:
    refused (`NotifyError` last), a panic site (C05), or — accepted, or answered as a QoS 2
    duplicate — the events end with the re-arm `RequestTimerReset(PingreqRecv, recv_timeout)`,
    present iff `recv_timeout ≠ 0` and the status is not `disconnected` (both as at the start
    of the call), followed by the notification if there is one. -/
theorem C15_server_rearms_on_accept (c : C) (t : Nat) (pp : Except Nat Pkt)
    (ht : t ≠ 1 ∧ t ≠ 2 ∧ t ≠ 13 ∧ t ≠ 14) :
    (∃ m e, dispatchRecv c t pp = C.err m e) ∨
    (∃ m site, dispatchRecv c t pp = C.setPanic m site) ∨
    (∃ pre tail, (tail = [] ∨ ∃ p, tail = [.recv p]) ∧
      (dispatchRecv c t pp).ev = pre ++
        (if c.s.recvTimeoutMs ≠ 0 ∧ c.s.status ≠ .disconnected
          then [.timerReset .pingreqRecv c.s.recvTimeoutMs] else []) ++ tail ∧
      (c.s.recvTimeoutMs ≠ 0 ∧ c.s.status ≠ .disconnected → (dispatchRecv c t pp).s.recvSet = true)) := by
  have ho := dispatchRecv_recvd c t pp ht
  generalize dispatchRecv c t pp = d at ho ⊢
  cases ho with
  | refused k x e => exact .inl ⟨_, e, rfl⟩
  | panic m site k => exact .inr (.inl ⟨m, site, rfl⟩)
  | accepted m p k =>
    refine .inr (.inr ⟨m.ev, [.recv p], .inr ⟨p, rfl⟩, ?_, (refresh_auto k).2⟩)
    rw [push_ev, (refresh_auto k).1]; rfl
  | duplicate m k =>
    refine .inr (.inr ⟨m.ev, [], .inl rfl, ?_, (refresh_auto k).2⟩)
    rw [(refresh_auto k).1, List.append_nil]; rfl

-- non-vacuity: a connected server with a 15 s receive timeout receives the two bytes of PINGREQ
def exServer : St :=
  { St.init ⟨.server, 2⟩ 4 with status := .connected, recvTimeoutMs := 15000 }
example : (step ⟨.server, 2⟩ exServer (.recv [0xC0, 0x00] (fun v _ _ => .ok (mkPingreq v)))).ev
    = [.timerReset .pingreqRecv 15000, .recv (mkPingreq 4)] := by decide
example : (step ⟨.server, 2⟩ { exServer with recvTimeoutMs := 0 }
      (.recv [0xC0, 0x00] (fun v _ _ => .ok (mkPingreq v)))).ev = [.recv (mkPingreq 4)] := by decide

/-! ## 4. a client re-arms the PINGREQ timer after every packet it sends -/

/-- the interval is chosen by priority: application override, then Server Keep Alive, then the
    CONNECT keep-alive -/
theorem C15_ping_interval_priority (s : St) :
    pingInterval s = s.userInterval.getD (s.serverKeepAliveMs.getD s.keepAliveMs) := by
  unfold pingInterval; cases s.userInterval <;> cases s.serverKeepAliveMs <;> rfl

/-- what `send_post_process` does, exactly: for a client whose interval is non-zero, one
    `RequestTimerReset(PingreqSend, interval)`; otherwise nothing (0 disables) -/
theorem C15_send_post_process (c : C) :
    (sendPostProcess c).ev = c.ev ++
      (if c.s.isClient ∧ pingInterval c.s > 0 then [.timerReset .pingreqSend (pingInterval c.s)] else []) :=
  sendPostProcess_ev c

/-- **C15 (4)** — every `send` call, whatever the packet and the state, ends in one of three
    ways: (i) nothing was sent and no timer event was emitted; (ii) the connection ended
    (DISCONNECT sent / CONNACK refusing: status `disconnected`, see (2)); (iii) the call's events
    are `pre ++ re-arm` where `pre` contains no PINGREQ-timer event at all and the re-arm is
    `RequestTimerReset(PingreqSend, interval)` iff the endpoint is a client and the interval by
    priority is non-zero (state after the call; CONNECT makes the endpoint a client and sets the
    keep-alive first). -/
theorem C15_client_rearms_after_send (cfg : Cfg) (s : St) (p : Pkt) :
    (sends (step cfg s (.send p)).ev = [] ∧ tev (step cfg s (.send p)).ev = []) ∨
    (step cfg s (.send p)).s.status = .disconnected ∨
    (∃ pre, (step cfg s (.send p)).ev = pre ++ rearmSend (step cfg s (.send p)).s ∧ stev pre = []) := by
  have h := send_sendok { cfg := cfg, s := s } p
  simp only [step]
  rcases h with h | h | ⟨m, hm, hs⟩
  · exact .inl h
  · exact .inr (.inl h)
  · refine .inr (.inr ⟨m.ev, ?_, hs⟩)
    rw [hm, sendPostProcess_ev, rearmSend_spp]

/-- **C15 (4), the full statement** — in **every** call (not only `send`: also a received packet
    answered automatically, a received CONNACK(session present) that makes the client resend its
    stored packets, a timer expiry that sends PINGREQ), from **every** state: after every
    `RequestSendPacket` of the call a re-arm `RequestTimerReset(PingreqSend, interval)` with the
    priority interval follows, provided the endpoint ends the call as a client that is not
    disconnected with a non-zero interval.

    Finding #26, fix 999e935: without the fix the stored packets a client resends on a
    *received* CONNACK are not followed by a re-arm (events `[send stored, recv connack]`);
    `C15_resend_on_connack_rearm_witness` below is that scenario. -/
def C15_client_rearms_full : Prop :=
  ∀ (cfg : Cfg) (s : St) (op : Op) (pre post : List Ev) (q : Pkt) (rel : Option Nat),
    (step cfg s op).ev = pre ++ .send q rel :: post →
    (step cfg s op).s.isClient = true → (step cfg s op).s.status ≠ .disconnected →
    pingInterval (step cfg s op).s > 0 →
    .timerReset .pingreqSend (pingInterval (step cfg s op).s) ∈ post

/-- the full statement holds (fix 999e935; `step_rs`: every path of every handler that
    requests a packet for sending ends in `send_post_process`, or leaves the endpoint
    disconnected, or is not a client's) -/
theorem C15_client_rearms_full_holds : C15_client_rearms_full := by
  intro cfg s op pre post q rel he hc hs hi
  exact step_rs cfg s op hc hs hi pre post q rel he

/-- (4) in the form of the full statement, for the `send` calls: after every
    `RequestSendPacket` of the call a re-arm with the priority interval follows -/
theorem C15_client_rearms_after_send_partial (cfg : Cfg) (s : St) (p : Pkt)
    (pre post : List Ev) (q : Pkt) (rel : Option Nat)
    (he : (step cfg s (.send p)).ev = pre ++ .send q rel :: post)
    (hc : (step cfg s (.send p)).s.isClient = true)
    (hs : (step cfg s (.send p)).s.status ≠ .disconnected)
    (hi : pingInterval (step cfg s (.send p)).s > 0) :
    .timerReset .pingreqSend (pingInterval (step cfg s (.send p)).s) ∈ post :=
  C15_client_rearms_full_holds cfg s (.send p) pre post q rel he hc hs hi

def exStoredPublish : Pkt := { ver := 4, kind := .publish, qos := 1, pid := some 1, dup := true, topic := [97] }
def exConnackSP : Pkt := { ver := 4, kind := .connack, rc := some 0, sp := true }

/-- a v3.1.1 client (keep-alive 10 s) that sent CONNECT with a stored QoS 1 PUBLISH -/
def exResumingClient : St :=
  { St.init ⟨.client, 2⟩ 4 with
    status := .connecting, isClient := true, keepAliveMs := 10000, needStore := true
    store := [(1, exStoredPublish)], puback := [1]
    pidMan := (Alloc.useValue (Alloc.new 1 65535 65535) 1).2 }

/-- finding #26, fix 999e935: the retransmission on a received CONNACK(session present) is
    followed by the re-arm of the PINGREQ timer, before the CONNACK is delivered -/
theorem C15_resend_on_connack_rearm_witness :
    (step ⟨.client, 2⟩ exResumingClient (.recv [0x20, 2, 1, 0] (fun _ _ _ => .ok exConnackSP))).ev
      = [.send exStoredPublish none, .timerReset .pingreqSend 10000, .recv exConnackSP] ∧
    (step ⟨.client, 2⟩ exResumingClient (.recv [0x20, 2, 1, 0] (fun _ _ _ => .ok exConnackSP))).s.status
      = .connected ∧
    (step ⟨.client, 2⟩ exResumingClient (.recv [0x20, 2, 1, 0] (fun _ _ _ => .ok exConnackSP))).s.sendSet
      = true ∧
    pingInterval
      (step ⟨.client, 2⟩ exResumingClient (.recv [0x20, 2, 1, 0] (fun _ _ _ => .ok exConnackSP))).s
      = 10000 := by
  decide

/-- nothing stored to resend: no re-arm is requested by the CONNACK -/
example :
    (step ⟨.client, 2⟩ { exResumingClient with store := [], puback := [] }
      (.recv [0x20, 2, 1, 0] (fun _ _ _ => .ok exConnackSP))).ev = [.recv exConnackSP] := by
  decide

-- non-vacuity of (4): override beats Server Keep Alive beats keep-alive; 0 disables
example : (step ⟨.client, 2⟩ exConnectedClient (.send (mkAck ⟨.client, 2⟩ 4 .puback 7))).ev
    = [.send (mkAck ⟨.client, 2⟩ 4 .puback 7) none, .timerReset .pingreqSend 10000] := by decide
example : (step ⟨.client, 2⟩ { exConnectedClient with serverKeepAliveMs := some 3000 }
      (.send (mkAck ⟨.client, 2⟩ 4 .puback 7))).ev
    = [.send (mkAck ⟨.client, 2⟩ 4 .puback 7) none, .timerReset .pingreqSend 3000] := by decide
example : (step ⟨.client, 2⟩ { exConnectedClient with serverKeepAliveMs := some 3000, userInterval := some 500 }
      (.send (mkAck ⟨.client, 2⟩ 4 .puback 7))).ev
    = [.send (mkAck ⟨.client, 2⟩ 4 .puback 7) none, .timerReset .pingreqSend 500] := by decide
example : (step ⟨.client, 2⟩ { exConnectedClient with serverKeepAliveMs := some 3000, userInterval := some 0 }
      (.send (mkAck ⟨.client, 2⟩ 4 .puback 7))).ev
    = [.send (mkAck ⟨.client, 2⟩ 4 .puback 7) none] := by decide

/-! ## non-vacuity of the remaining hypotheses -/

example : ∀ k, Op.closed ≠ .timer k := by intro k h; cases h
example : timersStep ⟨true, false, false⟩ ([] ++ .timerCancel .pingreqSend :: []) = some unarmed := by decide
example : anyReset (step ⟨.client, 2⟩ exConnectedClient (.send (mkAck ⟨.client, 2⟩ 4 .puback 7))).ev = true := by
  decide
example : exConnectedClient.ver = (mkPingreq 4).ver ∧ roleMaySend Role.client (mkPingreq 4) = true ∧
    (mkPingreq 4).kind = .pingreq ∧ exConnectedClient.status = .connected := by decide
example : (exV5Server 100).status = .connected ∧ (exV5Server 100).ver = 5 ∧
    exConnectedClient.ver = 4 ∧ Timer.pingreqRecv ≠ Timer.pingreqSend := by decide
example : (St.init ⟨.server, 2⟩ 5).status ≠ .connected ∧ (St.init ⟨.server, 2⟩ 5).ver = 5 := by decide
example : ({ cfg := ⟨.server, 2⟩, s := St.init ⟨.server, 2⟩ 4 } : C).s.status = .disconnected := by decide
example : (12 : Nat) ≠ 1 ∧ (12 : Nat) ≠ 2 ∧ (12 : Nat) ≠ 13 ∧ (12 : Nat) ≠ 14 := by decide
example :
    (step ⟨.client, 2⟩ exConnectedClient (.send (mkAck ⟨.client, 2⟩ 4 .puback 7))).ev
      = [] ++ .send (mkAck ⟨.client, 2⟩ 4 .puback 7) none :: [.timerReset .pingreqSend 10000] ∧
    (step ⟨.client, 2⟩ exConnectedClient (.send (mkAck ⟨.client, 2⟩ 4 .puback 7))).s.isClient = true ∧
    (step ⟨.client, 2⟩ exConnectedClient (.send (mkAck ⟨.client, 2⟩ 4 .puback 7))).s.status ≠ .disconnected ∧
    pingInterval (step ⟨.client, 2⟩ exConnectedClient (.send (mkAck ⟨.client, 2⟩ 4 .puback 7))).s > 0 := by
  decide

/-! ## 8. the driver monitor `C15 no_recv_rearm` is a theorem of the model -/

/-- the driver's ghost `srvMs`, before the call: `closed` forgets the timeout
    (`srv0` in `Driver/ConnDrv.lean`) -/
def C15.srvReset : Op → Nat → Nat
  | .closed, _ => 0
  | _, g => g

/-- the driver's ghost `srvMs`, after the call: the fold of `monitorCall` over the call's events, verbatim -/
def C15.srvStep (srv0 : Nat) (evs : List Ev) : Nat :=
  evs.foldl (fun (acc : Nat) (e : Ev) => match e with
    | .recv q => if q.kind = Kind.connect then q.keepAlive * 1000 * 3 / 2 else acc
    | .send q _ => if q.kind = Kind.connack ∧ q.rc = some 0 then (match Mon.findProp q pSKA with | some v => v * 1000 * 3 / 2 | none => acc) else acc
    | _ => acc) srv0

def C15.srvRun (cfg : Cfg) : St → Nat → List Op → Nat
  | _, g, [] => g
  | s, g, op :: ops => C15.srvRun cfg (step cfg s op).s (C15.srvStep (C15.srvReset op g) (step cfg s op).ev) ops

theorem C15.srvStep_eq (g : Nat) (evs : List Ev) : C15.srvStep g evs = SrvMs.srvStep g evs := by
  unfold C15.srvStep SrvMs.srvStep
  congr 1

theorem C15.srvReset_eq (op : Op) (g : Nat) : C15.srvReset op g = SrvMs.srvReset op g := by
  cases op <;> rfl

theorem C15.srvRun_eq (cfg : Cfg) (ops : List Op) : ∀ (s : St) (g : Nat),
    C15.srvRun cfg s g ops = SrvMs.srvRun cfg s g ops := by
  induction ops with
  | nil => intro s g; rfl
  | cons op ops ih => intro s g; simp only [C15.srvRun, SrvMs.srvRun, C15.srvStep_eq, C15.srvReset_eq, ih]


/-- **C15 (8a), one call** (ghost side of `VIOL sig=C15 no_recv_rearm@<site>`): the relation
    `SrvMs.Inv s g` between the model state and the driver's ghost `srvMs` —

    * `s.isClient = false → g = s.recvTimeoutMs ∨ g = 0`, and
    * no stored packet is a successful CONNACK with a Server Keep Alive property —

    is kept by every call that respects the contract `SrvMs.Legal` (CONNACKs sent with an
    unambiguous Server Keep Alive, `SrvMs.SendOk`; a parser whose result is a CONNECT exactly for
    a CONNECT frame, `SrvMs.ParseKind`; no such CONNACK handed to `restore_packets`), the ghost
    being updated exactly as the driver does (`C15.srvReset`, then `C15.srvStep` over the events). -/
theorem C15_srv_ghost_step (cfg : Cfg) (s : St) (op : Op) (g : Nat) (hl : SrvMs.Legal op)
    (h : SrvMs.Inv s g) :
    SrvMs.Inv (step cfg s op).s (C15.srvStep (C15.srvReset op g) (step cfg s op).ev) := by
  rw [C15.srvStep_eq, C15.srvReset_eq]
  exact SrvMs.step_inv cfg s op g hl h

/-- **C15 (8a), every history** (ghost side of `VIOL sig=C15 no_recv_rearm@<site>`): from a new
    connection object with ghost 0, after any sequence of calls that respect `SrvMs.Legal`. -/
theorem C15_srv_ghost_run (cfg : Cfg) (ver : Nat) (ops : List Op) (hl : ∀ op ∈ ops, SrvMs.Legal op) :
    SrvMs.Inv (run cfg (St.init cfg ver) ops) (C15.srvRun cfg (St.init cfg ver) 0 ops) := by
  rw [C15.srvRun_eq]
  exact SrvMs.run_inv cfg ops _ _ hl (SrvMs.init_inv cfg ver)

/-- what the monitor uses of the relation: on an endpoint that did not start the connection
    itself, a non-zero ghost **is** the model's `pingreq_recv_timeout_ms` -/
theorem C15_srv_ghost_is_timeout {s : St} {g : Nat} (h : SrvMs.Inv s g) (hc : s.isClient = false)
    (hg : g > 0) : s.recvTimeoutMs = g := by
  rcases h.1 hc with e | e
  · exact e.symm
  · omega

theorem C15.hasError_err (c : C) (e : Nat) : Mon.hasError (c.err e).ev = true := by
  simp [Mon.hasError, C.err, C.push]

theorem C15.prConnect_established (c : C) (pp : Except Nat Pkt) (hs : c.s.status ≠ .disconnected) :
    (∃ m e, prV3Connect c pp = C.err m e) ∧ (∃ m e, prV5Connect c pp = C.err m e) :=
  ⟨prV3Connect_cases (Q := fun r => ∃ m e, r = C.err m e) c pp (fun _ => ⟨_, _, rfl⟩) (fun h => absurd h hs),
    prV5Connect_cases (Q := fun r => ∃ m e, r = C.err m e) c pp (fun _ => ⟨_, _, rfl⟩) (fun h => absurd h hs)⟩

theorem C15.processRecvPacket_shape (c : C) (fh : Nat) (data : List Nat) (parse : Nat → Except Nat Pkt)
    (hs : c.s.status ≠ .disconnected) :
    (∃ m e, processRecvPacket c fh data parse = C.err m e) ∨
    (fh / 16 ≠ 1 ∧ processRecvPacket c fh data parse = dispatchRecv c (fh / 16) (parse c.s.ver)) := by
  refine Fp.processRecvPacket_cases (Q := fun r => (∃ m e, r = C.err m e) ∨
      (fh / 16 ≠ 1 ∧ r = dispatchRecv c (fh / 16) (parse c.s.ver))) c fh data parse
    (fun _ => .inl ⟨_, _, rfl⟩) (fun e _ _ => .inl ⟨c, e, rfl⟩)
    (fun _ _ _ _ _ _ => .inl (C15.prConnect_established { c with s := { c.s with ver := 4 } } (parse 4) hs).1)
    (fun _ _ _ _ _ _ => .inl (C15.prConnect_established { c with s := { c.s with ver := 5 } } (parse 5) hs).2)
    (fun _ _ _ => ?_)
  by_cases h1 : fh / 16 = 1
  · left
    rw [h1]
    exact Fp.ite_ind (Q := fun r => ∃ m e, r = C.err m e) (fun _ => (C15.prConnect_established c _ hs).1)
      (fun _ => (C15.prConnect_established c _ hs).2)
  · exact .inr ⟨h1, rfl⟩

theorem C15.processRecvPacket_rearms (c : C) (fh : Nat) (data : List Nat) (parse : Nat → Except Nat Pkt)
    (hs : c.s.status ≠ .disconnected) (hrt : c.s.recvTimeoutMs ≠ 0)
    (ht : fh / 16 ≠ 2 ∧ fh / 16 ≠ 13 ∧ fh / 16 ≠ 14)
    (hne : Mon.hasError (processRecvPacket c fh data parse).ev = false)
    (hpan : (processRecvPacket c fh data parse).s.panic = none) :
    .timerReset .pingreqRecv c.s.recvTimeoutMs ∈ (processRecvPacket c fh data parse).ev := by
  rcases C15.processRecvPacket_shape c fh data parse hs with ⟨m, e, h⟩ | ⟨h1, h⟩
  · rw [h, C15.hasError_err] at hne; cases hne
  · rw [h] at hne hpan ⊢
    have ho := dispatchRecv_recvd c (fh / 16) (parse c.s.ver) ⟨h1, ht.1, ht.2.1, ht.2.2⟩
    have hr : rearmRecv c.s = [.timerReset .pingreqRecv c.s.recvTimeoutMs] := if_pos ⟨hrt, hs⟩
    generalize dispatchRecv c (fh / 16) (parse c.s.ver) = d at ho hne hpan ⊢
    cases ho with
    | refused k x e => exact Bool.noConfusion (hne.symm.trans (C15.hasError_err _ e))
    | panic m site k => simp [C.setPanic] at hpan
    | accepted m q k => rw [push_ev, (refresh_auto k).1, hr]; simp
    | duplicate m k => rw [(refresh_auto k).1, hr]; simp

/-- the parser contract of the claim: a successful result has the packet type of the frame it was
    parsed from (as `NSn.ParseNS` of C10, `ParseOk` of C07); implies `SrvMs.ParseKind` -/
def C15.ParseNibble (parse : Nat → Nat → List Nat → Except Nat Pkt) : Prop :=
  ∀ v fh d q, parse v fh d = .ok q → q.kind.nibble = fh / 16

theorem C15.ParseNibble.kind {parse : Nat → Nat → List Nat → Except Nat Pkt} (h : C15.ParseNibble parse) :
    SrvMs.ParseKind parse := SrvMs.ParseKind.of_nibble h

theorem C15.step_recv_complete (cfg : Cfg) (s : St) (inp : List Nat)
    (parse : Nat → Nat → List Nat → Except Nat Pkt) (pb : Framing.PB) (fh : Nat) (data rest : List Nat)
    (hfeed : Framing.feed s.pb inp = (pb, some (.complete fh data), rest)) :
    step cfg s (.recv inp parse)
      = processRecvPacket { cfg := cfg, s := { s with pb := pb } } fh data (fun v => parse v fh data) :=
  step_recv_feed hfeed parse

/-- a `recv` call that ends in a framing error reports an error (the monitor's guard
    `frame ≠ none` lets it through, `!hasError` excludes it) -/
theorem C15_recv_frame_error_has_error (cfg : Cfg) (s : St) (inp : List Nat)
    (parse : Nat → Nat → List Nat → Except Nat Pkt) (pb : Framing.PB) (rest : List Nat)
    (hfeed : Framing.feed s.pb inp = (pb, some .error, rest)) :
    Mon.hasError (step cfg s (.recv inp parse)).ev = true := by
  simp [step, recv, hfeed, Mon.hasError, C.err, C.push]

theorem C15.kind_excl_nibble {k : Kind} {t : Nat} (h : k.nibble = t)
    (hk : k ≠ .disconnect ∧ k ≠ .connack ∧ k ≠ .pingresp) : t ≠ 2 ∧ t ≠ 13 ∧ t ≠ 14 := by
  subst h; cases k <;> simp_all [Kind.nibble]

/-- **C15 (8b), the claim of `VIOL sig=C15 no_recv_rearm@<site>`** — state `s`, ghost `g` related by
    `SrvMs.Inv`; a `recv` call completes a frame which the parser (contract `C15.ParseNibble`) turns
    into packet `p`; the connection is not `disconnected` before the call (the monitor: `connected`
    before and after); the endpoint did not start the connection (`is_client = false` *after* the
    call, the digest field `cli`); the ghost is non-zero; the call reports no error and does not
    panic (the monitor is not evaluated on a panicking call); `p` is not DISCONNECT, CONNACK,
    PINGRESP (the monitor excludes SUBACK and UNSUBACK too: not needed).
    Then the call's events contain `RequestTimerReset(PingreqRecv, g)`. -/
theorem C15_no_recv_rearm (cfg : Cfg) (s : St) (g : Nat) (inp : List Nat)
    (parse : Nat → Nat → List Nat → Except Nat Pkt) (pb : Framing.PB) (fh : Nat) (data rest : List Nat)
    (p : Pkt)
    (hinv : SrvMs.Inv s g)
    (hnib : C15.ParseNibble parse)
    (hfeed : Framing.feed s.pb inp = (pb, some (.complete fh data), rest))
    (hp : parse s.ver fh data = .ok p)
    (hs : s.status ≠ .disconnected)
    (hcli : (step cfg s (.recv inp parse)).s.isClient = false)
    (hg : g > 0)
    (hne : Mon.hasError (step cfg s (.recv inp parse)).ev = false)
    (hpan : (step cfg s (.recv inp parse)).s.panic = none)
    (hkind : p.kind ≠ .disconnect ∧ p.kind ≠ .connack ∧ p.kind ≠ .pingresp) :
    .timerReset .pingreqRecv g ∈ (step cfg s (.recv inp parse)).ev := by
  have ht := C15.kind_excl_nibble (hnib _ _ _ _ hp) hkind
  -- `is_client` is the one before the call
  have hk3 := SrvMs.recv_keeps g { cfg := cfg, s := s } inp parse hnib.kind ⟨hinv.2⟩ hs
  have hcl0 : s.isClient = false := by
    have := congrArg (·.1) hk3
    simp only [SrvMs.K3] at this
    rw [← this]; exact hcli
  have hrt : s.recvTimeoutMs = g := C15_srv_ghost_is_timeout hinv hcl0 hg
  rw [C15.step_recv_complete cfg s inp parse pb fh data rest hfeed] at hne hpan ⊢
  rw [← hrt]
  exact C15.processRecvPacket_rearms { cfg := cfg, s := { s with pb := pb } } fh data _ hs
    (by show s.recvTimeoutMs ≠ 0; omega) ht hne hpan

/-- (8b) in the driver's own terms: with the relation, the parser contract, a completed frame and
    no panic as in (8b), the guard of `monitorCall` (status `connected` before and after,
    `cli = 0`, the five excluded packet types, `srv0 > 0`, `!hasError`) implies that the test
    `evs.any (· = RequestTimerReset(PingreqRecv, srv0))` succeeds: no `VIOL` -/
theorem C15_no_recv_rearm_mon (cfg : Cfg) (s : St) (srv0 : Nat) (inp : List Nat)
    (parse : Nat → Nat → List Nat → Except Nat Pkt) (pb : Framing.PB) (fh : Nat) (data rest : List Nat)
    (p : Pkt)
    (hinv : SrvMs.Inv s srv0) (hnib : C15.ParseNibble parse)
    (hfeed : Framing.feed s.pb inp = (pb, some (.complete fh data), rest))
    (hp : parse s.ver fh data = .ok p)
    (hpan : (step cfg s (.recv inp parse)).s.panic = none)
    (hguard : s.status = .connected ∧ (step cfg s (.recv inp parse)).s.status = .connected ∧
      (step cfg s (.recv inp parse)).s.isClient = false ∧ srv0 > 0 ∧
      Mon.hasError (step cfg s (.recv inp parse)).ev = false ∧ p.kind ≠ Kind.disconnect ∧
      p.kind ≠ Kind.connack ∧ p.kind ≠ Kind.suback ∧ p.kind ≠ Kind.unsuback ∧ p.kind ≠ Kind.pingresp) :
    ((step cfg s (.recv inp parse)).ev.any fun (e : Ev) => e = Ev.timerReset Timer.pingreqRecv srv0) = true := by
  obtain ⟨h1, _, h3, h4, h5, h6, h7, _, _, h10⟩ := hguard
  have := C15_no_recv_rearm cfg s srv0 inp parse pb fh data rest p hinv hnib hfeed hp
    (by rw [h1]; decide) h3 h4 h5 hpan ⟨h6, h7, h10⟩
  exact List.any_eq_true.2 ⟨_, this, by simp⟩

/-- **C15 (8), along a history** (`VIOL sig=C15 no_recv_rearm@<site>` on every legal walk): after
    any calls that respect `SrvMs.Legal` from a new connection object, with the ghost computed from
    the events alone (`C15.srvRun … 0`), a further `recv` call that satisfies the monitor's guard
    re-arms the receive timer with the ghost's value. -/
theorem C15_no_recv_rearm_run (cfg : Cfg) (ver : Nat) (ops : List Op) (hl : ∀ op ∈ ops, SrvMs.Legal op)
    (inp : List Nat) (parse : Nat → Nat → List Nat → Except Nat Pkt) (pb : Framing.PB) (fh : Nat)
    (data rest : List Nat) (p : Pkt) (hnib : C15.ParseNibble parse)
    (hfeed : Framing.feed (run cfg (St.init cfg ver) ops).pb inp = (pb, some (.complete fh data), rest))
    (hp : parse (run cfg (St.init cfg ver) ops).ver fh data = .ok p)
    (hpan : (step cfg (run cfg (St.init cfg ver) ops) (.recv inp parse)).s.panic = none)
    (hguard : (run cfg (St.init cfg ver) ops).status = .connected ∧
      (step cfg (run cfg (St.init cfg ver) ops) (.recv inp parse)).s.status = .connected ∧
      (step cfg (run cfg (St.init cfg ver) ops) (.recv inp parse)).s.isClient = false ∧
      C15.srvReset (.recv inp parse) (C15.srvRun cfg (St.init cfg ver) 0 ops) > 0 ∧
      Mon.hasError (step cfg (run cfg (St.init cfg ver) ops) (.recv inp parse)).ev = false ∧
      p.kind ≠ Kind.disconnect ∧ p.kind ≠ Kind.connack ∧ p.kind ≠ Kind.suback ∧ p.kind ≠ Kind.unsuback ∧
      p.kind ≠ Kind.pingresp) :
    ((step cfg (run cfg (St.init cfg ver) ops) (.recv inp parse)).ev.any fun (e : Ev) =>
      e = Ev.timerReset Timer.pingreqRecv (C15.srvReset (.recv inp parse) (C15.srvRun cfg (St.init cfg ver) 0 ops))) = true :=
  C15_no_recv_rearm_mon cfg _ _ inp parse pb fh data rest p (C15_srv_ghost_run cfg ver ops hl) hnib hfeed hp hpan hguard

/-! ### non-vacuity of (8), and every hypothesis is needed -/

/-- a parser that honours `C15.ParseNibble`: it answers PINGREQ frames only -/
def C15.exParsePing : Nat → Nat → List Nat → Except Nat Pkt :=
  fun v fh _ => if fh / 16 = 12 then .ok (mkPingreq v) else .error eMalformed

theorem C15.exParsePing_nibble : C15.ParseNibble C15.exParsePing := by
  intro v fh d q h
  unfold C15.exParsePing at h
  split at h
  · rename_i h12; cases h; rw [h12]; rfl
  · cases h

-- every hypothesis of `C15_no_recv_rearm` holds for a connected v3.1.1 server with receive timeout
-- 15 s = ghost and the two bytes of a PINGREQ, and so does the conclusion
example :
    SrvMs.Inv exServer 15000 ∧
    Framing.feed exServer.pb [0xC0, 0x00] = ({}, some (.complete 0xC0 []), []) ∧
    (C15.exParsePing exServer.ver 0xC0 []).toOption = some (mkPingreq 4) ∧
    exServer.status ≠ .disconnected ∧
    (step ⟨.server, 2⟩ exServer (.recv [0xC0, 0x00] C15.exParsePing)).s.isClient = false ∧
    Mon.hasError (step ⟨.server, 2⟩ exServer (.recv [0xC0, 0x00] C15.exParsePing)).ev = false ∧
    (step ⟨.server, 2⟩ exServer (.recv [0xC0, 0x00] C15.exParsePing)).s.panic = none ∧
    ((mkPingreq 4).kind ≠ .disconnect ∧ (mkPingreq 4).kind ≠ .connack ∧ (mkPingreq 4).kind ≠ .pingresp) ∧
    .timerReset .pingreqRecv 15000 ∈ (step ⟨.server, 2⟩ exServer (.recv [0xC0, 0x00] C15.exParsePing)).ev := by
  decide

example : .timerReset .pingreqRecv 15000 ∈ (step ⟨.server, 2⟩ exServer (.recv [0xC0, 0x00] C15.exParsePing)).ev :=
  C15_no_recv_rearm ⟨.server, 2⟩ exServer 15000 [0xC0, 0x00] C15.exParsePing {} 0xC0 [] [] (mkPingreq 4)
    (by decide) C15.exParsePing_nibble (by decide) rfl (by decide) (by decide) (by decide) (by decide)
    (by decide) (by decide)

/-- the history of a v5.0 server: CONNECT (keep-alive 10) delivered, CONNACK with Server Keep Alive
    20 sent, then a PINGREQ arrives -/
def C15.exParseSrv : Nat → Nat → List Nat → Except Nat Pkt :=
  fun v fh _ => if fh / 16 = 1 then .ok { ver := v, kind := .connect, keepAlive := 10 }
    else if fh / 16 = 12 then .ok (mkPingreq v) else .error eMalformed
def C15.exConnackSka : Pkt := { ver := 5, kind := .connack, size := 8, rc := some 0, props := [(pSKA, 20)] }
def C15.exSrvOps : List Op := [.recv exConnectBytes C15.exParseSrv, .send C15.exConnackSka]

theorem C15.exParseSrv_nibble : C15.ParseNibble C15.exParseSrv := by
  intro v fh d q h
  unfold C15.exParseSrv at h
  split at h
  · rename_i h1; cases h; rw [h1]; rfl
  · split at h
    · rename_i h12; cases h; rw [h12]; rfl
    · cases h

theorem C15.exSrvOps_legal : ∀ op ∈ C15.exSrvOps, SrvMs.Legal op := by
  intro op h
  simp only [C15.exSrvOps, List.mem_cons, List.mem_nil_iff, or_false] at h
  rcases h with rfl | rfl
  · exact C15.exParseSrv_nibble.kind
  · show SrvMs.SendOk C15.exConnackSka
    decide

-- the ghost follows the model: 15000 after the CONNECT, 30000 after the CONNACK; the PINGREQ re-arms
-- with 30000
example :
    C15.srvRun ⟨.server, 2⟩ (St.init ⟨.server, 2⟩ 5) 0 (C15.exSrvOps.take 1) = 15000 ∧
    (run ⟨.server, 2⟩ (St.init ⟨.server, 2⟩ 5) (C15.exSrvOps.take 1)).recvTimeoutMs = 15000 ∧
    C15.srvRun ⟨.server, 2⟩ (St.init ⟨.server, 2⟩ 5) 0 C15.exSrvOps = 30000 ∧
    (run ⟨.server, 2⟩ (St.init ⟨.server, 2⟩ 5) C15.exSrvOps).recvTimeoutMs = 30000 ∧
    (run ⟨.server, 2⟩ (St.init ⟨.server, 2⟩ 5) C15.exSrvOps).status = .connected ∧
    (step ⟨.server, 2⟩ (run ⟨.server, 2⟩ (St.init ⟨.server, 2⟩ 5) C15.exSrvOps) (.recv [0xC0, 0x00] C15.exParseSrv)).ev
      = [.timerReset .pingreqRecv 30000, .recv (mkPingreq 5)] := by
  decide

-- `g > 0` is needed: after `closed` the ghost is 0 while the model keeps the old timeout until the
-- next CONNECT (the relation holds by its second disjunct); the re-arm is with 15000, not with 0
example :
    SrvMs.Inv exServer 0 ∧ exServer.status ≠ .disconnected ∧
    (step ⟨.server, 2⟩ exServer (.recv [0xC0, 0x00] C15.exParsePing)).s.isClient = false ∧
    Mon.hasError (step ⟨.server, 2⟩ exServer (.recv [0xC0, 0x00] C15.exParsePing)).ev = false ∧
    (step ⟨.server, 2⟩ exServer (.recv [0xC0, 0x00] C15.exParsePing)).s.panic = none ∧
    .timerReset .pingreqRecv 0 ∉ (step ⟨.server, 2⟩ exServer (.recv [0xC0, 0x00] C15.exParsePing)).ev := by
  decide

-- `SrvMs.Inv` is needed (ghost 7 s, model 15 s)
example :
    ¬ SrvMs.Inv exServer 7000 ∧
    .timerReset .pingreqRecv 7000 ∉ (step ⟨.server, 2⟩ exServer (.recv [0xC0, 0x00] C15.exParsePing)).ev := by
  decide

-- `is_client = false` is needed: an endpoint of role `any` that sent the CONNECT itself has no
-- receive timeout, whatever ghost is left from an earlier connection it accepted
example :
    SrvMs.Inv { St.init ⟨.any, 2⟩ 4 with status := .connected, isClient := true } 15000 ∧
    Mon.hasError (step ⟨.any, 2⟩ { St.init ⟨.any, 2⟩ 4 with status := .connected, isClient := true }
      (.recv [0xC0, 0x00] C15.exParsePing)).ev = false ∧
    (step ⟨.any, 2⟩ { St.init ⟨.any, 2⟩ 4 with status := .connected, isClient := true }
      (.recv [0xC0, 0x00] C15.exParsePing)).ev = [.recv (mkPingreq 4)] := by
  decide

-- `status ≠ disconnected` is needed (fix of finding #18: no refresh while disconnected)
example :
    SrvMs.Inv { exServer with status := .disconnected } 15000 ∧
    Mon.hasError (step ⟨.server, 2⟩ { exServer with status := .disconnected } (.recv [0xC0, 0x00] C15.exParsePing)).ev
      = false ∧
    (step ⟨.server, 2⟩ { exServer with status := .disconnected } (.recv [0xC0, 0x00] C15.exParsePing)).ev
      = [.recv (mkPingreq 4)] := by
  decide

-- "no error event" is needed: a PUBACK that matches nothing in flight is refused, not re-armed
example :
    (step ⟨.server, 2⟩ exServer (.recv [0x40, 2, 0, 1] (fun v _ _ => .ok (mkAck ⟨.server, 2⟩ v .puback 1)))).ev
      = [.close, .error eProtocol] ∧
    (step ⟨.server, 2⟩ exServer (.recv [0x40, 2, 0, 1] (fun v _ _ => .ok (mkAck ⟨.server, 2⟩ v .puback 1)))).s.panic
      = none := by
  decide

-- "no panic" is needed: a parser result without packet identifier for a QoS 1 PUBLISH is a panic
-- site (C05): no event at all, in particular no error event and no re-arm
example :
    (step ⟨.server, 2⟩ exServer (.recv [0x32, 5, 0, 1, 97, 0, 1]
      (fun v _ _ => .ok { ver := v, kind := .publish, qos := 1 }))).ev = [] ∧
    (step ⟨.server, 2⟩ exServer (.recv [0x32, 5, 0, 1, 97, 0, 1]
      (fun v _ _ => .ok { ver := v, kind := .publish, qos := 1 }))).s.panic ≠ none := by
  decide

-- the excluded packet types are needed: PINGRESP and DISCONNECT are delivered without re-arm …
example :
    (step ⟨.any, 2⟩ { exServer with status := .connected } (.recv [0xD0, 0x00] (fun v _ _ => .ok (mkPingresp v)))).ev
      = [.recv (mkPingresp 4)] ∧
    (step ⟨.server, 2⟩ exServer (.recv [0xE0, 0x00] (fun v _ _ => .ok { ver := v, kind := .disconnect }))).ev
      = [.recv { ver := 4, kind := .disconnect }] := by
  decide

-- … and so is a CONNACK on a connection of role `any` that is `connecting` (with the monitor's
-- `connected` it is a protocol error, already excluded by "no error event")
example :
    (step ⟨.any, 2⟩ { exServer with status := .connecting } (.recv [0x20, 2, 0, 0]
      (fun v _ _ => .ok { ver := v, kind := .connack, rc := some 0 }))).ev
      = [.recv { ver := 4, kind := .connack, rc := some 0 }] := by
  decide

-- `C15.ParseNibble` is needed: a parser that calls the two bytes of a PINGRESP a PINGREQ passes the
-- monitor's packet-type guard, but the handler is PINGRESP's
example :
    (step ⟨.any, 2⟩ exServer (.recv [0xD0, 0x00] (fun v _ _ => .ok (mkPingreq v)))).ev = [.recv (mkPingreq 4)] ∧
    Mon.hasError (step ⟨.any, 2⟩ exServer (.recv [0xD0, 0x00] (fun v _ _ => .ok (mkPingreq v)))).ev = false := by
  decide

-- a CONNECT the parser rejects is answered with a refusing CONNACK: neither the model's timeout (no
-- `initialize`) nor the ghost (no delivery) moves
example :
    (step ⟨.server, 2⟩ { St.init ⟨.server, 2⟩ 4 with recvTimeoutMs := 15000 }
      (.recv exConnectBytes (fun _ _ _ => .error eClientId))).ev
      = [.send (mkV3Connack 2) none, .close, .error eClientId] ∧
    (step ⟨.server, 2⟩ { St.init ⟨.server, 2⟩ 4 with recvTimeoutMs := 15000 }
      (.recv exConnectBytes (fun _ _ _ => .error eClientId))).s.recvTimeoutMs = 15000 ∧
    C15.srvStep 15000 (step ⟨.server, 2⟩ { St.init ⟨.server, 2⟩ 4 with recvTimeoutMs := 15000 }
      (.recv exConnectBytes (fun _ _ _ => .error eClientId))).ev = 15000 := by
  decide

/-! ### every clause of the contract `SrvMs.Legal` is needed for the relation (8a) -/

/-- a server (protocol version `ver`) that has received CONNECT with keep-alive 10 -/
def C15.exAccepting (ver : Nat) : St :=
  { St.init ⟨.server, 2⟩ ver with status := .connecting, recvTimeoutMs := 15000 }

-- `SendOk`, v5.0: with two Server Keep Alive properties the connection keeps the last, an observer
-- (`Mon.findProp`) reads the first
example :
    SrvMs.Inv (C15.exAccepting 5) 15000 ∧
    ¬ SrvMs.SendOk { ver := 5, kind := .connack, size := 11, rc := some 0, props := [(pSKA, 10), (pSKA, 20)] } ∧
    (step ⟨.server, 2⟩ (C15.exAccepting 5)
      (.send { ver := 5, kind := .connack, size := 11, rc := some 0, props := [(pSKA, 10), (pSKA, 20)] })).s.recvTimeoutMs
      = 30000 ∧
    C15.srvStep 15000 (step ⟨.server, 2⟩ (C15.exAccepting 5)
      (.send { ver := 5, kind := .connack, size := 11, rc := some 0, props := [(pSKA, 10), (pSKA, 20)] })).ev
      = 15000 ∧
    ¬ SrvMs.Inv (step ⟨.server, 2⟩ (C15.exAccepting 5)
        (.send { ver := 5, kind := .connack, size := 11, rc := some 0, props := [(pSKA, 10), (pSKA, 20)] })).s
      (C15.srvStep 15000 (step ⟨.server, 2⟩ (C15.exAccepting 5)
        (.send { ver := 5, kind := .connack, size := 11, rc := some 0, props := [(pSKA, 10), (pSKA, 20)] })).ev) := by
  decide

-- `SendOk`, v3.1.1: the model ignores the properties of a v3.1.1 CONNACK, the ghost does not
example :
    ¬ SrvMs.SendOk { ver := 4, kind := .connack, size := 4, rc := some 0, props := [(pSKA, 20)] } ∧
    (step ⟨.server, 2⟩ (C15.exAccepting 4)
      (.send { ver := 4, kind := .connack, size := 4, rc := some 0, props := [(pSKA, 20)] })).s.recvTimeoutMs = 15000 ∧
    C15.srvStep 15000 (step ⟨.server, 2⟩ (C15.exAccepting 4)
      (.send { ver := 4, kind := .connack, size := 4, rc := some 0, props := [(pSKA, 20)] })).ev = 30000 := by
  decide

-- `ParseKind`, one direction: a PINGREQ frame whose parser result claims to be a CONNECT moves the ghost only
example :
    (step ⟨.server, 2⟩ exServer (.recv [0xC0, 0x00]
      (fun v _ _ => .ok { ver := v, kind := .connect, keepAlive := 20 }))).s.recvTimeoutMs = 15000 ∧
    C15.srvStep 15000 (step ⟨.server, 2⟩ exServer (.recv [0xC0, 0x00]
      (fun v _ _ => .ok { ver := v, kind := .connect, keepAlive := 20 }))).ev = 30000 := by
  decide

-- `ParseKind`, the other direction: a CONNECT frame whose parser result does not say CONNECT moves the model only
example :
    SrvMs.Inv { St.init ⟨.server, 2⟩ 4 with recvTimeoutMs := 15000 } 15000 ∧
    (step ⟨.server, 2⟩ { St.init ⟨.server, 2⟩ 4 with recvTimeoutMs := 15000 } (.recv exConnectBytes
      (fun v _ _ => .ok { ver := v, kind := .pingreq, keepAlive := 20 }))).s.recvTimeoutMs = 30000 ∧
    C15.srvStep 15000 (step ⟨.server, 2⟩ { St.init ⟨.server, 2⟩ 4 with recvTimeoutMs := 15000 } (.recv exConnectBytes
      (fun v _ _ => .ok { ver := v, kind := .pingreq, keepAlive := 20 }))).ev = 15000 := by
  decide

-- the store clause: a successful CONNACK with Server Keep Alive handed to `restore_packets` is resent
-- by the next CONNACK(session present) and moves the ghost; the model's timeout stays
def C15.exLoudOps : List Op :=
  [.restorePackets [{ ver := 4, kind := .connack, pid := some 1, rc := some 0, props := [(pSKA, 20)] }],
   .send { ver := 4, kind := .connack, size := 4, rc := some 0, sp := true }]
example :
    SrvMs.Inv (C15.exAccepting 4) 15000 ∧
    SrvMs.loud { ver := 4, kind := .connack, pid := some 1, rc := some 0, props := [(pSKA, 20)] } = true ∧
    SrvMs.SendOk { ver := 4, kind := .connack, size := 4, rc := some 0, sp := true } ∧
    (run ⟨.server, 2⟩ (C15.exAccepting 4) C15.exLoudOps).recvTimeoutMs = 15000 ∧
    C15.srvRun ⟨.server, 2⟩ (C15.exAccepting 4) 15000 C15.exLoudOps = 30000 ∧
    (run ⟨.server, 2⟩ (C15.exAccepting 4) C15.exLoudOps).status = .connected ∧
    (run ⟨.server, 2⟩ (C15.exAccepting 4) C15.exLoudOps).isClient = false := by
  decide

/-! ### what the relation does *not* say (reported)

After `closed` the ghost is 0 while the model keeps `pingreq_recv_timeout_ms` of the connection that
ended (`notify_closed` does not reset it; the next CONNECT, received or sent, does).  An endpoint of
role `any` accepts a CONNACK while `disconnected` (`process_recv_*_connack` refuses only when
`connected`): it becomes `connected` with `is_client = false` and the stale timeout, and re-arms the
receive timer with it on the next packet, although no CONNECT was received on this connection.
The monitor is silent there (`srv0 = 0`). -/
def C15.exStaleOps : List Op :=
  [.recv exConnectBytes C15.exParseSrv, .closed,
   .recv [0x20, 2, 0, 0] (fun v _ _ => .ok { ver := v, kind := .connack, rc := some 0 })]

theorem C15_stale_recv_timeout_witness :
    (run ⟨.any, 2⟩ (St.init ⟨.any, 2⟩ 4) C15.exStaleOps).status = .connected ∧
    (run ⟨.any, 2⟩ (St.init ⟨.any, 2⟩ 4) C15.exStaleOps).isClient = false ∧
    (run ⟨.any, 2⟩ (St.init ⟨.any, 2⟩ 4) C15.exStaleOps).recvTimeoutMs = 15000 ∧
    C15.srvRun ⟨.any, 2⟩ (St.init ⟨.any, 2⟩ 4) 0 C15.exStaleOps = 0 ∧
    (step ⟨.any, 2⟩ (run ⟨.any, 2⟩ (St.init ⟨.any, 2⟩ 4) C15.exStaleOps) (.recv [0xC0, 0x00] C15.exParseSrv)).ev
      = [.timerReset .pingreqRecv 15000, .recv (mkPingreq 4)] := by
  decide

end MqttVerif.Conn
