import MqttVerif.Conn.Step
import MqttVerif.Framing.Lemmas
/-!
# C09 — a receive buffer that completes no frame produces no event

Driver monitor `VIOL sig=C09 events_without_frame@<site>`: a `recv` whose buffer completes no
frame (in particular an empty buffer, trace operation `recv_empty`) must return no event.
The model can never trigger it: when the one call of `Framing.feed` that `recv` makes returns no
output, `recv` is the identity but for the field `pb`.  This holds in any context (reachable or
not, no assembler invariant) and for any parser, which is not called.  Only the form with
`Framing.feedSpec` in the hypothesis - what the driver's ghost assembler evaluates - needs
`Framing.Inv`, through `Framing.feed_eq_spec`.
-/
namespace MqttVerif.Conn
open MqttVerif

theorem r5_recv_incomplete (c : C) (inp : List Nat) (parse : Nat → Nat → List Nat → Except Nat Pkt)
    (h : (Framing.feed c.s.pb inp).2.1 = none) :
    recv c inp parse =
      ({ c with s := { c.s with pb := (Framing.feed c.s.pb inp).1 } }, (Framing.feed c.s.pb inp).2.2) := by
  unfold recv
  generalize Framing.feed c.s.pb inp = r at h ⊢
  obtain ⟨pb, out, rest⟩ := r
  cases out with
  | none => rfl
  | some o => cases h

/-- **C09 events_without_frame** — a receive buffer that completes no frame: no event, only the
    assembler changes. -/
theorem C09_incomplete_buffer_no_event (c : C) (inp : List Nat)
    (parse : Nat → Nat → List Nat → Except Nat Pkt)
    (h : (Framing.feed c.s.pb inp).2.1 = none) :
    (recv c inp parse).1.ev = c.ev ∧
    (recv c inp parse).1.cfg = c.cfg ∧
    (recv c inp parse).1.s = { c.s with pb := (Framing.feed c.s.pb inp).1 } ∧
    (recv c inp parse).2 = (Framing.feed c.s.pb inp).2.2 := by
  rw [r5_recv_incomplete c inp parse h]
  exact ⟨rfl, rfl, rfl, rfl⟩

/-- **C09 events_without_frame**, read through an observation `f` of the state that does not look
    at `pb` (every digest field of the harness except the assembler): a receive buffer that
    completes no frame leaves it unchanged. -/
theorem C09_incomplete_buffer_fields {α : Type} (f : St → α)
    (hf : ∀ (s : St) (pb : Framing.PB), f { s with pb := pb } = f s)
    (c : C) (inp : List Nat) (parse : Nat → Nat → List Nat → Except Nat Pkt)
    (h : (Framing.feed c.s.pb inp).2.1 = none) :
    f (recv c inp parse).1.s = f c.s := by
  rw [(C09_incomplete_buffer_no_event c inp parse h).2.2.1, hf]

/-- **C09 events_without_frame, `recv_empty`** — an empty receive buffer changes nothing. -/
theorem C09_empty_buffer_noop (c : C) (parse : Nat → Nat → List Nat → Except Nat Pkt) :
    recv c [] parse = (c, []) := by
  have h : Framing.feed c.s.pb [] = (c.s.pb, none, []) := by simp [Framing.feed]
  rw [r5_recv_incomplete c [] parse (by rw [h]), h]

/-- **C09 events_without_frame** for one API call: a `recv` whose buffer completes no frame returns
    no event and changes `pb` only. -/
theorem C09_incomplete_buffer_no_event_step (cfg : Cfg) (s : St) (inp : List Nat)
    (parse : Nat → Nat → List Nat → Except Nat Pkt)
    (h : (Framing.feed s.pb inp).2.1 = none) :
    (step cfg s (.recv inp parse)).ev = [] ∧
    (step cfg s (.recv inp parse)).s = { s with pb := (Framing.feed s.pb inp).1 } := by
  have := C09_incomplete_buffer_no_event { cfg := cfg, s := s } inp parse h
  exact ⟨this.1, this.2.2.1⟩

theorem C09_empty_buffer_noop_step (cfg : Cfg) (s : St)
    (parse : Nat → Nat → List Nat → Except Nat Pkt) :
    (step cfg s (.recv [] parse)).ev = [] ∧ (step cfg s (.recv [] parse)).s = s := by
  show (recv { cfg := cfg, s := s } [] parse).1.ev = [] ∧ (recv { cfg := cfg, s := s } [] parse).1.s = s
  rw [C09_empty_buffer_noop]
  exact ⟨rfl, rfl⟩

/-- the same with the hypothesis as the driver's ghost assembler evaluates it (`Framing.feedSpec`);
    here the assembler invariant `Framing.Inv` is assumed (kept by every call and true initially,
    `C09_conn_inv_step`) -/
theorem C09_incomplete_buffer_no_event_spec (cfg : Cfg) (s : St) (inp : List Nat)
    (parse : Nat → Nat → List Nat → Except Nat Pkt) (hinv : Framing.Inv s.pb)
    (h : (Framing.feedSpec s.pb inp).2.1 = none) :
    (step cfg s (.recv inp parse)).ev = [] ∧
    (step cfg s (.recv inp parse)).s = { s with pb := (Framing.feedSpec s.pb inp).1 } := by
  have e := Framing.feed_eq_spec s.pb inp hinv
  have := C09_incomplete_buffer_no_event_step cfg s inp parse (by rw [e]; exact h)
  rw [e] at this
  exact this

/-! ### non-vacuity: states reached by running the model from `St.init` -/
namespace C09R5Ex
def cfg : Cfg := { role := .client, pw := 2 }
def connect : Pkt := { ver := 4, kind := .connect, size := 14, keepAlive := 10, clean := true }
def connack : Pkt := { ver := 4, kind := .connack, size := 4, rc := some 0 }
def parse : Nat → Nat → List Nat → Except Nat Pkt := fun _ _ _ => .ok connack
/-- a client that has sent CONNECT and received the first three bytes of the CONNACK -/
def s1 : St := run cfg (St.init cfg 4) [.send connect, .recv [0x20, 0x02, 0x00] parse]

example : Reachable cfg 4 s1 := ⟨_, rfl⟩
example : s1.status = .connecting ∧ s1.pb = ⟨.payload, [0x20, 2], 1, 128, [0]⟩ := by decide
-- the hypothesis holds for the first three bytes (from the initial assembler) …
example : (Framing.feed (run cfg (St.init cfg 4) [.send connect]).pb [0x20, 0x02, 0x00]).2.1 = none := by decide
-- … and fails for the fourth (the frame completes, the CONNACK is delivered)
example : (Framing.feed s1.pb [0x00]).2.1 = some (.complete 0x20 [0, 0]) ∧
    (step cfg s1 (.recv [0x00] parse)).ev = [.recv connack] := by decide
-- the empty buffer on the half-received frame: nothing changes
example : (step cfg s1 (.recv [] parse)).ev = [] ∧ (step cfg s1 (.recv [] parse)).s = s1 :=
  C09_empty_buffer_noop_step cfg s1 parse
-- an observation that does not read the assembler
example : (step cfg (run cfg (St.init cfg 4) [.send connect]) (.recv [0x20, 0x02, 0x00] parse)).s.status
    = (run cfg (St.init cfg 4) [.send connect]).status :=
  C09_incomplete_buffer_fields (·.status) (fun _ _ => rfl) _ _ _ (by decide)
end C09R5Ex

end MqttVerif.Conn
