import MqttVerif.Conn.Lemmas.TimersSpec
import MqttVerif.Conn.Lemmas.SrvMs
/-!
# C15 — the driver monitors `pingreq_without_response_timer` and `wrong_recv_timeout` cannot fire on the model

(a) a PINGREQ requested for sending is followed, in the same call, by the arming of the response
timer; (b) on an established connection the receive timer is only ever armed with
`pingreq_recv_timeout_ms`, which a `recv` does not change; (c) a Server Keep Alive on a sent v5.0
CONNACK replaces that timeout, the last such property winning, and 0 switches it off.  Every
statement is for every context / state, reachable or not, unless a hypothesis says otherwise.
-/
namespace MqttVerif.Conn
open MqttVerif

/-! ## (a) a PINGREQ that is requested for sending arms the response timer -/

/-- the events an accepted PINGREQ pushes before the PINGREQ-send timer re-arm -/
def r5_pingAccepted (c : C) (p : Pkt) : List Ev :=
  [.send p none] ++ (if c.s.respTimeoutMs ≠ 0 then [.timerReset .pingrespRecv c.s.respTimeoutMs] else [])

/-- what a PINGREQ send leaves, relative to the context `c` the handler started from: refused
    (one error event), or accepted (`r5_pingAccepted`, then at most one re-arm of the PINGREQ-send
    timer, the response flag set if the timeout is non-zero); `pingresp_recv_timeout_ms` is
    unchanged either way -/
def r5_PingShape (c : C) (p : Pkt) (c' : C) : Prop :=
  (∃ e, c'.ev = c.ev ++ [.error e] ∧ c'.s.respTimeoutMs = c.s.respTimeoutMs) ∨
  (∃ tail, c'.ev = c.ev ++ r5_pingAccepted c p ++ tail ∧
    (tail = [] ∨ ∃ ms, tail = [.timerReset .pingreqSend ms]) ∧
    c'.s.respTimeoutMs = c.s.respTimeoutMs ∧
    (c.s.respTimeoutMs ≠ 0 → c'.s.respSet = true))

/-- **C15 (a), handler** — `process_send_*_pingreq` refuses with one error event, or pushes
    exactly `RequestSendPacket(p)`, then `RequestTimerReset(PingrespRecv, pingresp_recv_timeout_ms)`
    iff that timeout is non-zero, then at most one re-arm of the PINGREQ-send timer -/
theorem C15_pingreq_handler_shape (c : C) (p : Pkt) : r5_PingShape c p (psPingreq c p) := by
  by_cases h : (p.ver = 5 ∧ sizeOk c p = false) ∨ c.s.status ≠ .connected
  · obtain ⟨e, he⟩ := psPingreq_refused c p h
    rw [he]; exact .inl ⟨e, rfl, rfl⟩
  · have hs : c.s.status = .connected := Decidable.of_not_not (fun q => h (.inr q))
    have hz : p.ver = 5 → sizeOk c p = true := fun v => by
      cases hq : sizeOk c p with
      | true => rfl
      | false => exact absurd (.inl ⟨v, hq⟩) h
    obtain ⟨h1, h2, _⟩ := psPingreq_accepted c p hz hs
    refine .inr ⟨rearmSend c.s, by rw [h1, List.append_assoc c.ev]; rfl, ?_, by rw [Fp.psPingreq_s], fun h0 => ?_⟩
    · unfold rearmSend
      exact Fp.ite_both (Q := fun l : List Ev => l = [] ∨ ∃ ms, l = [.timerReset .pingreqSend ms]) (.inr ⟨_, rfl⟩) (.inl rfl)
    · rw [h2, decide_eq_true h0, Bool.or_true]

/-- **C15 (a), `send`** — a `send` of a PINGREQ is refused with one error event, or has the
    accepted shape -/
theorem C15_pingreq_arms_response_timer_send (c : C) (p : Pkt) (hk : p.kind = .pingreq) :
    r5_PingShape c p (send c p) := by
  have hr : ∀ e, refuseSend c e p = c.err e := fun e => by
    unfold refuseSend
    rw [show initiatingId p = none by simp [initiatingId, hk]]
  refine Fp.send_cases c p (fun _ => ?_) (fun _ _ => ?_) (fun _ _ => ?_)
  · rw [hr]; exact .inl ⟨_, rfl, rfl⟩
  · rw [hr]; exact .inl ⟨_, rfl, rfl⟩
  · have : processSend c p = psPingreq c p := by
      unfold processSend; rw [hk]; split <;> rfl
    rw [this]
    exact C15_pingreq_handler_shape c p

/-- **C15 (a), expiry of the PINGREQ-send timer** — no event, or the shape of a PINGREQ send
    (of `mkPingreq 4` / `mkPingreq 5`) -/
theorem C15_pingreq_arms_response_timer_fired (c : C) :
    ((notifyTimerFired c .pingreqSend).ev = c.ev ∧
      (notifyTimerFired c .pingreqSend).s.respTimeoutMs = c.s.respTimeoutMs) ∨
    r5_PingShape c (mkPingreq c.s.ver) (notifyTimerFired c .pingreqSend) := by
  -- the handler starts from `c` with the send-timer flag cleared: same events, same timeout
  have sent : ∀ v, c.s.ver = v →
      r5_PingShape c (mkPingreq c.s.ver) (psPingreq { c with s := { c.s with sendSet := false } } (mkPingreq v)) :=
    fun v hv => hv ▸ C15_pingreq_handler_shape ({ c with s := { c.s with sendSet := false } } : C) _
  unfold notifyTimerFired
  dsimp only
  by_cases hs : c.s.status = .connected
  · rw [if_pos hs]
    by_cases h4 : c.s.ver = 4
    · rw [if_pos h4]; exact .inr (sent 4 h4)
    rw [if_neg h4]
    by_cases h5 : c.s.ver = 5
    · rw [if_pos h5]; exact .inr (sent 5 h5)
    · rw [if_neg h5]; exact .inl ⟨rfl, rfl⟩
  · rw [if_neg hs]; exact .inl ⟨rfl, rfl⟩

/-- in an event list of the accepted shape the response-timer reset comes after the PINGREQ -/
theorem r5_shape_after (c : C) (p : Pkt) (c' : C) (hc : c.ev = []) (h : r5_PingShape c p c')
    (ht : c.s.respTimeoutMs > 0) (pre post : List Ev) (q : Pkt) (r : Option Nat)
    (he : c'.ev = pre ++ .send q r :: post) :
    .timerReset .pingrespRecv c.s.respTimeoutMs ∈ post ∧ q = p ∧ pre = [] := by
  have h0 : c.s.respTimeoutMs ≠ 0 := by omega
  rcases h with ⟨e, h1, _⟩ | ⟨tail, h1, h2, _, _⟩
  · rw [hc, he] at h1
    rcases pre with _ | ⟨a, pre⟩ <;> simp at h1
  · have hl : c'.ev = .send p none :: .timerReset .pingrespRecv c.s.respTimeoutMs :: tail := by
      rw [h1, hc]; simp [r5_pingAccepted, h0]
    have hns : ∀ e ∈ (Ev.timerReset .pingrespRecv c.s.respTimeoutMs :: tail), ∀ q r, e ≠ .send q r := by
      rcases h2 with rfl | ⟨ms, rfl⟩ <;> simp
    rw [hl] at he
    rcases pre with _ | ⟨a, pre⟩
    · simp only [List.nil_append, List.cons.injEq, Ev.send.injEq] at he
      obtain ⟨⟨rfl, _⟩, h3⟩ := he
      exact ⟨by rw [← h3]; simp, rfl, rfl⟩
    · exfalso
      simp only [List.cons_append, List.cons.injEq] at he
      have : Ev.send q r ∈ (Ev.timerReset .pingrespRecv c.s.respTimeoutMs :: tail) := by rw [he.2]; simp
      exact hns _ this q r rfl

theorem r5_resp_step (cfg : Cfg) (s : St) (op : Op)
    (hop : (∃ p, op = .send p ∧ p.kind = .pingreq) ∨ op = .timer .pingreqSend) :
    (step cfg s op).s.respTimeoutMs = s.respTimeoutMs := by
  rcases hop with ⟨p, rfl, _⟩ | rfl
  · show (send _ p).s.respTimeoutMs = _
    rw [Fp.send_s]
  · show (notifyTimerFired _ _).s.respTimeoutMs = _
    rw [Fp.notifyTimerFired_s]

/-- **C15 pingreq_without_response_timer** — for the two API calls that send a PINGREQ: with a
    response timeout configured, the `RequestTimerReset(PingrespRecv, timeout)` follows every
    `RequestSendPacket` of a PINGREQ among the events of the call; the timeout is not changed by
    the call (so it does not matter whether the monitor reads it before or after). -/
theorem C15_pingreq_arms_response_timer_step (cfg : Cfg) (s : St) (op : Op)
    (hop : (∃ p, op = .send p ∧ p.kind = .pingreq) ∨ op = .timer .pingreqSend)
    (ht : s.respTimeoutMs > 0) :
    (step cfg s op).s.respTimeoutMs = s.respTimeoutMs ∧
    ∀ (pre post : List Ev) (q : Pkt) (r : Option Nat),
      (step cfg s op).ev = pre ++ .send q r :: post → q.kind = .pingreq →
      .timerReset .pingrespRecv s.respTimeoutMs ∈ post := by
  refine ⟨r5_resp_step cfg s op hop, fun pre post q r he _ => ?_⟩
  rcases hop with ⟨p, rfl, hk⟩ | rfl
  · exact (r5_shape_after _ p _ rfl (C15_pingreq_arms_response_timer_send { cfg := cfg, s := s } p hk) ht
      pre post q r he).1
  · rcases C15_pingreq_arms_response_timer_fired { cfg := cfg, s := s } with ⟨h1, _⟩ | h
    · have : (step cfg s (.timer .pingreqSend)).ev = [] := h1
      rw [this] at he
      rcases pre with _ | ⟨a, pre⟩ <;> simp at he
    · exact (r5_shape_after _ _ _ rfl h ht pre post q r he).1

/-- the two tests of the driver's monitor -/
def r5_sentPing (evs : List Ev) : Bool :=
  evs.any fun (e : Ev) => match e with | .send q _ => q.kind = Kind.pingreq | _ => false
def r5_armedP (pto : Nat) (evs : List Ev) : Bool :=
  evs.any fun (e : Ev) => match e with | .timerReset k ms => k = Timer.pingrespRecv ∧ ms = pto | _ => false

/-- **C15 pingreq_without_response_timer**, as the driver evaluates it: never
    `sentPing ∧ pto > 0 ∧ !armedP` -/
theorem C15_pingreq_arms_response_timer_mon (cfg : Cfg) (s : St) (op : Op)
    (hop : (∃ p, op = .send p ∧ p.kind = .pingreq) ∨ op = .timer .pingreqSend) :
    ¬ (r5_sentPing (step cfg s op).ev = true ∧ (step cfg s op).s.respTimeoutMs > 0 ∧
        r5_armedP (step cfg s op).s.respTimeoutMs (step cfg s op).ev = false) := by
  rintro ⟨h1, h2, h3⟩
  have hs := r5_resp_step cfg s op hop
  rw [hs] at h2 h3
  obtain ⟨_, hall⟩ := C15_pingreq_arms_response_timer_step cfg s op hop h2
  simp only [r5_sentPing, List.any_eq_true] at h1
  obtain ⟨e, hmem, he⟩ := h1
  obtain ⟨pre, post, hsplit⟩ := List.append_of_mem hmem
  cases e with
  | send q r =>
    have hq : q.kind = .pingreq := by simpa using he
    have := hall pre post q r hsplit hq
    have h3' : r5_armedP s.respTimeoutMs (step cfg s op).ev = true := by
      simp only [r5_armedP, List.any_eq_true]
      exact ⟨.timerReset .pingrespRecv s.respTimeoutMs, by rw [hsplit]; simp [this], by simp⟩
    rw [h3'] at h3
    cases h3
  | _ => simp at he

/-! ## (b) the value the receive timer is armed with -/

def r5_okE (t : Nat) : Ev → Bool
  | .timerReset .pingreqRecv ms => ms = t && t != 0
  | _ => true

def r5_okR (t : Nat) (l : List Ev) : Bool := l.all (r5_okE t)

/-- what (b) reads: the receive timeout, and whether all receive-timer resets pushed so far carry it -/
def r5_K (c : C) : Nat × Bool := (c.s.recvTimeoutMs, r5_okR c.s.recvTimeoutMs c.ev)

theorem r5_K_adds {c c' : C} {l : List Ev} (hs : c'.s.recvTimeoutMs = c.s.recvTimeoutMs) (hev : c'.ev = c.ev ++ l)
    (hl : ∀ e ∈ l, r5_okE c.s.recvTimeoutMs e = true) : r5_K c' = r5_K c := by
  unfold r5_K r5_okR
  rw [hs, hev, List.all_append, List.all_eq_true.2 hl, Bool.and_true]

theorem r5_K_push (c : C) (e : Ev) (h : ∀ ms, e ≠ .timerReset .pingreqRecv ms) : r5_K (c.push e) = r5_K c := by
  refine r5_K_adds rfl rfl (fun x hx => ?_)
  rw [List.mem_singleton.1 hx]
  cases e with
  | timerReset k ms => cases k <;> first | rfl | exact absurd rfl (h ms)
  | _ => rfl

theorem r5_K_push_recv (c : C) (p) : r5_K (c.push (.recv p)) = r5_K c := r5_K_push c _ (by simp)
theorem r5_K_push_tc (c : C) (k) : r5_K (c.push (.timerCancel k)) = r5_K c := r5_K_push c _ (by simp)
theorem r5_K_push_trP (c : C) (ms) : r5_K (c.push (.timerReset .pingrespRecv ms)) = r5_K c :=
  r5_K_push c _ (by simp)
theorem r5_K_setPanic (c : C) (x : String) : r5_K (c.setPanic x) = r5_K c := rfl
theorem r5_K_err (c : C) (e) : r5_K (c.err e) = r5_K c := r5_K_push c _ (by simp)

theorem r5_K_ite {p : Prop} [Decidable p] {a b c : C} (ha : p → r5_K a = r5_K c) (hb : ¬p → r5_K b = r5_K c) :
    r5_K (if p then a else b) = r5_K c :=
  Fp.ite_ind (Q := fun x => r5_K x = r5_K c) ha hb

theorem r5_K_frame {T : List EvTag} {c c' : C} (hs : c'.s.recvTimeoutMs = c.s.recvTimeoutMs) (h : Appends T c c')
    (hT : EvTag.timerReset ∉ T := by decide) : r5_K c' = r5_K c := by
  obtain ⟨l, hev, hl⟩ := h
  refine r5_K_adds hs hev (fun e he => ?_)
  cases e <;> first | rfl | exact absurd (hl _ he) hT

theorem r5_K_fr {T : List EvTag} {c c' : C} (k : TFr T c c') (hT : EvTag.timerReset ∉ T := by decide) :
    r5_K c' = r5_K c :=
  r5_K_frame k.recvTimeoutMs k.ev hT

/-- a send re-arms at most the PINGREQ-send timer -/
theorem r5_K_sendPostProcess (c : C) : r5_K (sendPostProcess c) = r5_K c := by
  rw [sendPostProcess_eq]
  exact r5_K_ite (fun _ => r5_K_push _ _ (by simp)) (fun _ => rfl)

theorem r5_K_sent {c r : C} (k : Sent c r) : r5_K r = r5_K c := by
  cases k with
  | quiet k => exact r5_K_fr k
  | spp k _ => exact (r5_K_sendPostProcess _).trans (r5_K_fr k)

theorem r5_K_auto {c r : C} (k : Auto c r) : r5_K r = r5_K c := by
  induction k with
  | refl => rfl
  | step _ s ih => exact (r5_K_sent s).trans ih

/-- the only source of receive-timer resets on an established connection re-arms with the
    field's value, and only when that is non-zero -/
theorem r5_K_refreshPingreqRecv (c : C) : r5_K (refreshPingreqRecv c) = r5_K c := by
  unfold refreshPingreqRecv
  refine r5_K_ite (fun h => ?_) (fun _ => rfl)
  refine r5_K_adds rfl rfl (fun x hx => ?_)
  rw [List.mem_singleton.1 hx]
  simp [r5_okE, h.1]

theorem r5_K_cancelTimers (c : C) : r5_K (cancelTimers c) = r5_K c :=
  r5_K_frame (by rw [Fp.cancelTimers_s]) (Fp.cancelTimers_ev c)

theorem r5_K_ended {c r : C} (k : Ended c r) : r5_K r = r5_K c := by
  cases k with
  | kept k => exact r5_K_fr k
  | shut k => exact (r5_K_fr k).trans (r5_K_cancelTimers _)

theorem r5_K_recvd {c r : C} (k : Recvd c r) : r5_K r = r5_K c := by
  cases k with
  | refused k x e => exact (r5_K_err _ e).trans ((r5_K_ended x).trans (r5_K_fr k))
  | panic m site k => exact (r5_K_setPanic m site).trans (r5_K_fr k)
  | accepted m p k => exact (r5_K_push_recv _ p).trans ((r5_K_refreshPingreqRecv m).trans (r5_K_auto k))
  | duplicate m k => exact (r5_K_refreshPingreqRecv m).trans (r5_K_auto k)

theorem r5_K_recv (c : C) (inp : List Nat) (parse : Nat → Nat → List Nat → Except Nat Pkt)
    (hs : c.s.status = .connected) : r5_K (recv c inp parse).1 = r5_K c :=
  have st : ∀ {c' : C}, TFr [] c c' → c'.s.status = .connected := fun k => k.status.trans hs
  recv_walk (Q := fun r => r5_K r = r5_K c) c inp parse (fun _ k => r5_K_fr k)
    (fun _ _ k hd => Status.noConfusion ((st k).symm.trans hd)) (fun _ k hn => absurd (st k) hn)
    (fun c' k p => (r5_K_frame (by rw [Fp.prPingresp_s]) (Fp.prPingresp_ev c' (.ok p))).trans (r5_K_fr k))
    (fun _ k _ s => (r5_K_fr s).trans ((r5_K_cancelTimers _).trans (r5_K_fr k)))
    (fun _ k _ x => (r5_K_recvd x).trans (r5_K_fr k))

theorem r5_okR_mem {t : Nat} {l : List Ev} (h : r5_okR t l = true) {ms : Nat}
    (hm : Ev.timerReset .pingreqRecv ms ∈ l) : ms = t ∧ t > 0 := by
  have := List.all_eq_true.1 h _ hm
  simp only [r5_okE, Bool.and_eq_true, decide_eq_true_eq, bne_iff_ne, ne_eq] at this
  exact ⟨this.1, by omega⟩

/-- **C15 wrong_recv_timeout** — `recv` on an established connection: the receive timeout is
    not changed, and every `RequestTimerReset(PingreqRecv, ms)` has `ms` = that timeout, which is
    then non-zero (given the same of the events already pushed; none for an API call). -/
theorem C15_recv_timer_value (c : C) (inp : List Nat) (parse : Nat → Nat → List Nat → Except Nat Pkt)
    (hs : c.s.status = .connected)
    (hold : ∀ ms, Ev.timerReset .pingreqRecv ms ∈ c.ev → ms = c.s.recvTimeoutMs ∧ c.s.recvTimeoutMs > 0) :
    (recv c inp parse).1.s.recvTimeoutMs = c.s.recvTimeoutMs ∧
    ∀ ms, Ev.timerReset .pingreqRecv ms ∈ (recv c inp parse).1.ev →
      ms = c.s.recvTimeoutMs ∧ c.s.recvTimeoutMs > 0 := by
  have hk := r5_K_recv c inp parse hs
  have h0 : r5_okR c.s.recvTimeoutMs c.ev = true := by
    apply List.all_eq_true.2
    intro e he
    cases e with
    | timerReset k ms =>
      cases k <;> first | rfl | skip
      have := hold ms he
      simp only [r5_okE, Bool.and_eq_true, decide_eq_true_eq, bne_iff_ne, ne_eq]
      exact ⟨this.1, by omega⟩
    | _ => rfl
  simp only [r5_K, Prod.mk.injEq] at hk
  obtain ⟨h1, h2⟩ := hk
  rw [h1, h0] at h2
  exact ⟨h1, fun ms hm => r5_okR_mem h2 hm⟩

/-- **C15 wrong_recv_timeout**, one API call -/
theorem C15_recv_timer_value_step (cfg : Cfg) (s : St) (inp : List Nat)
    (parse : Nat → Nat → List Nat → Except Nat Pkt) (hs : s.status = .connected) :
    (step cfg s (.recv inp parse)).s.recvTimeoutMs = s.recvTimeoutMs ∧
    ∀ ms, Ev.timerReset .pingreqRecv ms ∈ (step cfg s (.recv inp parse)).ev →
      ms = s.recvTimeoutMs ∧ s.recvTimeoutMs > 0 :=
  C15_recv_timer_value { cfg := cfg, s := s } inp parse hs (by intro ms h; cases h)


/-! ## (c) Server Keep Alive on a sent v5.0 CONNACK -/

def r5_T (c : C) : Nat × Bool := (c.s.recvTimeoutMs, c.s.recvSet)

/-- the receive timeout after the property loop: the last Server Keep Alive wins -/
def r5_skaFold (t : Nat) : List (Nat × Nat) → Nat
  | [] => t
  | (id, v) :: rest => r5_skaFold (if id = pSKA then v * 1000 * 3 / 2 else t) rest

theorem r5_T_connackSendProp_other (c : C) (id v : Nat) (h : id ≠ pSKA) :
    r5_T (connackSendProp c id v) = r5_T c :=
  connackSendProp_cases (Q := fun r => r5_T r = r5_T c) c id v (fun e => absurd e h)
    (fun _ _ k => Prod.ext k.recvTimeoutMs (congrArg Mon.Armed.r k.flags))

theorem r5_T_connackSendProp_ska0 (c : C) : r5_T (connackSendProp c pSKA 0) = (0, false) :=
  connackSendProp_cases (Q := fun r => r5_T r = (0, false)) c pSKA 0
    (fun _ => congrArg (Prod.mk 0) (congrArg Mon.Armed.r (flagsOf_disarm c .pingreqRecv))) (fun h => absurd rfl h)

theorem r5_propsFold_append (f : C → Nat → Nat → C) (a b : List (Nat × Nat)) :
    ∀ c, propsFold f c (a ++ b) = propsFold f (propsFold f c a) b := by
  induction a with
  | nil => intro c; rfl
  | cons x rest ih => intro c; obtain ⟨i, v⟩ := x; simp only [List.cons_append, propsFold]; exact ih _

theorem r5_fold_rt (l : List (Nat × Nat)) :
    ∀ c, (propsFold connackSendProp c l).s.recvTimeoutMs = r5_skaFold c.s.recvTimeoutMs l := by
  induction l with
  | nil => intro c; rfl
  | cons x rest ih =>
    intro c; obtain ⟨i, v⟩ := x
    rw [propsFold, ih, connackSendProp_rt]; rfl

theorem r5_fold_T_noSka (l : List (Nat × Nat)) (h : ∀ x ∈ l, x.1 ≠ pSKA) :
    ∀ c, r5_T (propsFold connackSendProp c l) = r5_T c := by
  induction l with
  | nil => intro c; rfl
  | cons x rest ih =>
    intro c; obtain ⟨i, v⟩ := x
    rw [propsFold, ih (fun y hy => h y (List.mem_cons_of_mem _ hy)),
      r5_T_connackSendProp_other c i v (h (i, v) List.mem_cons_self)]

theorem r5_fold_status (l : List (Nat × Nat)) :
    ∀ c, (propsFold connackSendProp c l).s.status = c.s.status := by
  intro c
  rw [Fp.propsFold_connackSendProp_s]

/-- an accepted successful v5.0 CONNACK: after the property loop nothing touches the receive
    timeout or the receive-timer flag -/
theorem r5_psV5Connack_T (c : C) (p : Pkt) (hz : sizeOk c p = true) (hs : c.s.status = .connecting)
    (hrc : p.rc = some 0) : r5_T (psV5Connack c p) = r5_T (propsFold connackSendProp c p.props) := by
  rw [Fp.psV5Connack_eq, if_neg (by simp [hz]), if_neg (by simp [hs]), if_pos hrc]
  unfold Fp.connackTail r5_T
  rw [if_neg (by simp [hrc]), Fp.sendPostProcess_s]
  refine Fp.ite_ind (Q := fun x : C => (x.s.recvTimeoutMs, x.s.recvSet) = _) (fun _ => ?_) (fun _ => rfl)
  rw [Fp.sendStored_s]
  rfl

/-- **C15 (c), general form** — after a v5.0 CONNACK with reason code 0 that `process_send_v5_0_connack`
    accepts (it fits the size limit, `status = .connecting`) the receive timeout is `r5_skaFold` of
    the timeout before over the packet's properties: 1.5 × the last Server Keep Alive, unchanged
    if there is none -/
theorem C15_connack_ska_fold (c : C) (p : Pkt) (hz : sizeOk c p = true) (hs : c.s.status = .connecting)
    (hrc : p.rc = some 0) :
    (psV5Connack c p).s.recvTimeoutMs = r5_skaFold c.s.recvTimeoutMs p.props := by
  have := congrArg Prod.fst (r5_psV5Connack_T c p hz hs hrc)
  exact this.trans (r5_fold_rt p.props c)

/-- **C15 (c)** — Server Keep Alive 0 (the last such property of the packet) switches the
    receive timeout off and leaves the receive-timer flag clear, whatever the state held before
    (a timeout from the CONNECT's keep alive, or from an earlier Server Keep Alive in `pre`) -/
theorem C15_connack_ska_zero_disables (c : C) (p : Pkt) (hz : sizeOk c p = true)
    (hs : c.s.status = .connecting) (hrc : p.rc = some 0)
    (pre post : List (Nat × Nat)) (hp : p.props = pre ++ (pSKA, 0) :: post)
    (hpost : ∀ x ∈ post, x.1 ≠ pSKA) :
    (psV5Connack c p).s.recvTimeoutMs = 0 ∧ (psV5Connack c p).s.recvSet = false := by
  have hT := r5_psV5Connack_T c p hz hs hrc
  rw [hp, r5_propsFold_append, propsFold, r5_fold_T_noSka post hpost, r5_T_connackSendProp_ska0] at hT
  simp only [r5_T, Prod.mk.injEq] at hT
  exact hT

/-- **C15 (c)**, through `send`: version 5.0 endpoint, role server or any, the CONNACK fits the
    peer's Maximum Packet Size, a CONNECT has been received (`status = .connecting`) -/
theorem C15_connack_ska_zero_send (c : C) (p : Pkt) (hk : p.kind = .connack) (hv : p.ver = 5)
    (hcv : c.s.ver = 5) (hr : c.cfg.role = .server ∨ c.cfg.role = .any)
    (hz : p.size ≤ c.s.mpsSend) (hs : c.s.status = .connecting) (hrc : p.rc = some 0)
    (pre post : List (Nat × Nat)) (hp : p.props = pre ++ (pSKA, 0) :: post)
    (hpost : ∀ x ∈ post, x.1 ≠ pSKA) :
    (send c p).s.recvTimeoutMs = 0 ∧ (send c p).s.recvSet = false := by
  have e : send c p = psV5Connack c p := by
    unfold send
    rw [if_neg (by rw [hcv, hv]; simp), if_neg (by rcases hr with h | h <;> simp [roleMaySend, hk, h])]
    unfold processSend
    rw [if_neg (by rw [hv]; decide), hk]
  rw [e]
  refine C15_connack_ska_zero_disables c p ?_ hs hrc pre post hp hpost
  simp [sizeOk, Pkt.sz, hk]; omega

/-! ## non-vacuity: states reached by running the model from `St.init` -/
namespace C15R5Ex
def cfgC : Cfg := { role := .client, pw := 2 }
def cfgS : Cfg := { role := .server, pw := 2 }
def connect4 : Pkt := { ver := 4, kind := .connect, size := 14, keepAlive := 10, clean := true }
def connack4 : Pkt := { ver := 4, kind := .connack, size := 4, rc := some 0 }
def connect5 : Pkt := { ver := 5, kind := .connect, size := 15, keepAlive := 10, clean := true }
def connack5 (props : List (Nat × Nat)) : Pkt := { ver := 5, kind := .connack, size := 8, rc := some 0, props := props }
def parseC : Nat → Nat → List Nat → Except Nat Pkt := fun _ _ _ => .ok connack4
def parseS : Nat → Nat → List Nat → Except Nat Pkt := fun v fh _ =>
  if fh = 0x10 then .ok (if v = 4 then connect4 else connect5) else .ok (mkPingreq v)

/-- (a) a connected v3.1.1 client with a 5 s response timeout -/
def client : St := run cfgC (St.init cfgC 4)
  [.send connect4, .recv [0x20, 0x02, 0x00, 0x00] parseC, .setRespTimeout 5000]
example : Reachable cfgC 4 client := ⟨_, rfl⟩
example : client.status = .connected ∧ client.respTimeoutMs = 5000 := by decide
example : (step cfgC client (.send (mkPingreq 4))).ev
    = [.send (mkPingreq 4) none, .timerReset .pingrespRecv 5000, .timerReset .pingreqSend 10000] := by decide
example : (step cfgC client (.timer .pingreqSend)).ev
    = [.send (mkPingreq 4) none, .timerReset .pingrespRecv 5000, .timerReset .pingreqSend 10000] := by decide
example : r5_sentPing (step cfgC client (.send (mkPingreq 4))).ev = true ∧
    r5_armedP 5000 (step cfgC client (.send (mkPingreq 4))).ev = true := by decide
-- the refusal alternative: a PINGREQ of the other version
example : (step cfgC client (.send (mkPingreq 5))).ev = [.error eVersionMismatch] := by decide

/-- (b) a v3.1.1 server that has accepted a CONNECT with keep alive 10 s and sent the CONNACK -/
def server : St := run cfgS (St.init cfgS 0)
  [.recv ([0x10, 12, 0, 4, 77, 81, 84, 84, 4, 2, 0, 10, 0, 0]) parseS, .send connack4]
example : Reachable cfgS 0 server := ⟨_, rfl⟩
example : server.status = .connected ∧ server.recvTimeoutMs = 15000 ∧ server.isClient = false := by decide
example : (step cfgS server (.recv [0xC0, 0x00] parseS)).ev
    = [.timerReset .pingreqRecv 15000, .recv (mkPingreq 4)] := by decide

/-- `status = .connected` is needed in (b): the CONNECT a disconnected server receives arms the
    timer with the *new* value (15000), not with the one the state held before (0) -/
theorem C15_recv_timer_value_needs_connected :
    (St.init cfgS 0).status = .disconnected ∧ (St.init cfgS 0).recvTimeoutMs = 0 ∧
    Ev.timerReset .pingreqRecv 15000 ∈
      (step cfgS (St.init cfgS 0) (.recv ([0x10, 12, 0, 4, 77, 81, 84, 84, 4, 2, 0, 10, 0, 0]) parseS)).ev := by
  decide

/-- (c) a v5.0 server that has accepted a CONNECT with keep alive 10 s (timeout 15000 ms, timer
    armed) and answers with Server Keep Alive 0 -/
def server5 : St := run cfgS (St.init cfgS 0)
  [.recv ([0x10, 13, 0, 4, 77, 81, 84, 84, 5, 2, 0, 10, 0, 0, 0]) parseS]
example : Reachable cfgS 0 server5 := ⟨_, rfl⟩
example : server5.status = .connecting ∧ server5.ver = 5 ∧ server5.recvTimeoutMs = 15000 ∧
    server5.recvSet = true := by decide
example : (step cfgS server5 (.send (connack5 [(pRM, 10), (pSKA, 0), (pTAM, 5)]))).ev
      = [.timerCancel .pingreqRecv, .send (connack5 [(pRM, 10), (pSKA, 0), (pTAM, 5)]) none] ∧
    (step cfgS server5 (.send (connack5 [(pRM, 10), (pSKA, 0), (pTAM, 5)]))).s.recvTimeoutMs = 0 ∧
    (step cfgS server5 (.send (connack5 [(pRM, 10), (pSKA, 0), (pTAM, 5)]))).s.status = .connected := by decide
example : (step cfgS server5 (.send (connack5 [(pRM, 10), (pSKA, 0), (pTAM, 5)]))).s.recvTimeoutMs = 0 :=
  (C15_connack_ska_zero_send { cfg := cfgS, s := server5 } _ rfl rfl (by decide) (.inl rfl) (by decide)
    (by decide) rfl [(pRM, 10)] [(pTAM, 5)] rfl (by decide)).1
-- afterwards a received PINGREQ does not arm the receive timer
example : (step cfgS (step cfgS server5 (.send (connack5 [(pSKA, 0)]))).s (.recv [0xC0, 0x00] parseS)).ev
    = [.recv (mkPingreq 5)] := by decide
-- the last Server Keep Alive wins
example : r5_skaFold 15000 [(pSKA, 0), (pSKA, 20)] = 30000 ∧ r5_skaFold 15000 [(pRM, 3)] = 15000 := by decide
end C15R5Ex

end MqttVerif.Conn
