import MqttVerif.Codec.LemmasRTAll
/-!
# C02 — codec round trip

For a packet `p` satisfying the decidable well-formedness checks `K.checks` (`Codec/Wf.lean`:
what `build()` establishes — value ranges, permitted properties, cached lengths = sum of the
parts, `utf8Ok` for strings, which a Rust `&str` has by type):

* `K.parse (K.body p) = ok p |K.body p|`            (parse ∘ encode = id, whole body consumed)
* `K.encode p = fixedHeader :: vbi(remaining_length) ++ K.body p`
* `K.size p = |K.encode p|`                          (reported size = serialised length)
* `remaining_length = |K.body p|`                    (Remaining Length on the wire = body length)

for both packet-id widths (`pw = 2 ∨ pw = 4`) and unbounded field lengths.
-/
namespace MqttVerif.Props.C02
open MqttVerif.Codec

/-! ## combinators -/

/-- variable-byte integer: every `v ≤ 268435455` (the 127/128, 16383/16384, 2097151/2097152
    boundaries are not special cases of the statement) -/
theorem C02_vbi_roundtrip (v : Nat) (rest : List Nat) (hv : v ≤ vbiMax) :
    vbiDec (vbiEnc v ++ rest) = .ok v (vbiSize v) ∧ (vbiEnc v).length = vbiSize v :=
  ⟨vbiDec_enc v rest hv, vbiEnc_length v hv⟩

example : (16384 : Nat) ≤ vbiMax ∧ vbiEnc 16384 = [0x80, 0x80, 0x01] := by decide

theorem C02_string_roundtrip (s rest : List Nat) (hl : s.length ≤ 65535) (hu : utf8Ok s = true) :
    decStr (encStr s ++ rest) = .ok s (strSize s) ∧ (encStr s).length = strSize s :=
  ⟨decStr_enc s rest hl hu, encStr_length s⟩

example : [0xe2, 0x82, 0xac].length ≤ 65535 ∧ utf8Ok [0xe2, 0x82, 0xac] = true := by decide

theorem C02_binary_roundtrip (b rest : List Nat) (hl : b.length ≤ 65535) :
    decBin (encStr b ++ rest) = .ok b (strSize b) := decBin_enc b rest hl

example : [0xff, 0x00].length ≤ 65535 := by decide

theorem C02_subentry_roundtrip (e : SubEntry) (rest : List Nat) (h : entryOk e = true) :
    SubEntry.parse (e.encode ++ rest) = .ok e e.size ∧ e.encode.length = e.size :=
  ⟨SubEntry.parse_enc e rest h, SubEntry.encode_length e⟩

example : entryOk ⟨[0x61, 0x2f, 0x23], 0x2d⟩ = true := by decide

/-- each of the 27 properties (7 wire shapes) -/
theorem C02_property_roundtrip (p : Property) (rest : List Nat) (h : p.ok = true) :
    Property.parse (p.encode ++ rest) = .ok p p.size ∧ p.encode.length = p.size :=
  ⟨Property.parse_enc p rest h, Property.encode_length p h⟩

example : (Property.vbi 11 268435455).ok = true ∧ (Property.pair 38 [0x6b] [0x76]).ok = true
    ∧ (Property.u16 35 1).ok = true := by decide

/-- property lists of any length (induction) behind their length prefix -/
theorem C02_properties_roundtrip (ps : Props) (rest : List Nat) (h : propsOk ps = true) (hs : ps.size ≤ vbiMax) :
    Props.parse (vbiEnc ps.size ++ Props.encode ps ++ rest) = .ok ps (vbiSize ps.size + ps.size)
      ∧ (Props.encode ps).length = ps.size :=
  ⟨Props.parse_enc ps rest h hs, Props.encode_length ps h⟩

example : propsOk [.u8 1 1, .str 31 [0x6f, 0x6b], .pair 38 [0x6b] [0x76], .pair 38 [0x6b] [0x76]] = true
    ∧ Props.size [.u8 1 1, .str 31 [0x6f, 0x6b], .pair 38 [0x6b] [0x76], .pair 38 [0x6b] [0x76]] ≤ vbiMax := by decide

theorem C02_frame (fh rl : Nat) (body : List Nat) (h : rl ≤ vbiMax) :
    frameBody (fh :: vbiEnc rl ++ body) = some (fh, rl, body) := frameBody_enc fh rl body h

/-! ## packet kinds -/

theorem rt4 {a b c d e : Prop} (h : a ∧ b ∧ c ∧ d ∧ e) : a ∧ b ∧ c ∧ d := ⟨h.1, h.2.1, h.2.2.1, h.2.2.2.1⟩

theorem C02_pingreq_pingresp_disconnect3 (fh : Nat) (p : Codec.Empty) (h : allOk p.checks = true) :
    Codec.Empty.parse [] = .ok p 0 ∧ p.encode fh = fh :: vbiEnc p.remLen ++ [] ∧ p.size = (p.encode fh).length
      ∧ p.remLen = ([] : List Nat).length := rt4 (Codec.Empty.roundtrip fh p h)

example : allOk (Codec.Empty.checks ⟨0⟩) = true := by decide

theorem C02_connack3 (p : Connack3) (h : allOk p.checks = true) :
    Connack3.parse p.body = .ok p p.body.length ∧ p.encode = 0x20 :: vbiEnc p.remLen ++ p.body
      ∧ p.size = p.encode.length ∧ p.remLen = p.body.length := rt4 (Connack3.roundtrip p h)

example : allOk (Connack3.checks ⟨2, 1, 5⟩) = true := by decide

theorem C02_ack3 (k : AckKind) (pw : Nat) (p : Ack3) (hpw : pw = 2 ∨ pw = 4) (h : allOk (p.checks k pw) = true) :
    Ack3.parse k pw (p.body pw) = .ok p (p.body pw).length ∧ p.encode k pw = k.fh :: vbiEnc p.remLen ++ p.body pw
      ∧ p.size = (p.encode k pw).length ∧ p.remLen = (p.body pw).length := rt4 (Ack3.roundtrip k pw p hpw h)

example : allOk (Ack3.checks .pubrel 4 ⟨5, 65536, some 0x92⟩) = true := by decide

theorem C02_unsuback3 (pw : Nat) (p : Unsuback3) (hpw : pw = 2 ∨ pw = 4) (h : allOk (p.checks pw) = true) :
    Unsuback3.parse pw (p.body pw) = .ok p (p.body pw).length ∧ p.encode pw = 0xb0 :: vbiEnc p.remLen ++ p.body pw
      ∧ p.size = (p.encode pw).length ∧ p.remLen = (p.body pw).length := rt4 (Unsuback3.roundtrip pw p hpw h)

example : allOk (Unsuback3.checks 4 ⟨4, 1⟩) = true := by decide

theorem C02_suback3 (pw : Nat) (p : Suback3) (hpw : pw = 2 ∨ pw = 4) (h : allOk (p.checks pw) = true) :
    Suback3.parse pw (p.body pw) = .ok p (p.body pw).length ∧ p.encode pw = 0x90 :: vbiEnc p.remLen ++ p.body pw
      ∧ p.size = (p.encode pw).length ∧ p.remLen = (p.body pw).length := rt4 (Suback3.roundtrip pw p hpw h)

example : allOk (Suback3.checks 2 ⟨5, 7, [0, 2, 0x80]⟩) = true := by decide

theorem C02_unsubscribe3 (pw : Nat) (p : Unsubscribe3) (hpw : pw = 2 ∨ pw = 4) (h : allOk (p.checks pw) = true) :
    Unsubscribe3.parse pw (p.body pw) = .ok p (p.body pw).length
      ∧ p.encode pw = 0xa2 :: vbiEnc p.remLen ++ p.body pw
      ∧ p.size = (p.encode pw).length ∧ p.remLen = (p.body pw).length := rt4 (Unsubscribe3.roundtrip pw p hpw h)

example : allOk (Unsubscribe3.checks 2 ⟨9, 7, [[0x61], [0x62, 0x2f]]⟩) = true := by decide

theorem C02_subscribe3 (pw : Nat) (p : Subscribe3) (hpw : pw = 2 ∨ pw = 4) (h : allOk (p.checks pw) = true) :
    Subscribe3.parse pw (p.body pw) = .ok p (p.body pw).length
      ∧ p.encode pw = 0x82 :: vbiEnc p.remLen ++ p.body pw
      ∧ p.size = (p.encode pw).length ∧ p.remLen = (p.body pw).length := rt4 (Subscribe3.roundtrip pw p hpw h)

example : allOk (Subscribe3.checks 2 ⟨11, 7, [⟨[0x61], 1⟩, ⟨[0x62, 0x2f], 2⟩]⟩) = true := by decide

theorem C02_publish3 (pw : Nat) (p : Publish3) (hpw : pw = 2 ∨ pw = 4) (h : allOk (p.checks pw) = true) :
    Publish3.parse pw (p.fh % 16) (p.body pw) = .ok p (p.body pw).length
      ∧ p.encode pw = p.fh :: vbiEnc p.remLen ++ p.body pw
      ∧ p.size = (p.encode pw).length ∧ p.remLen = (p.body pw).length := rt4 (Publish3.roundtrip pw p hpw h)

example : allOk (Publish3.checks 2 ⟨0x3b, 10, [0x61, 0x2f, 0x62], some 10, [1, 2, 3]⟩) = true := by decide

theorem C02_connect3 (p : Connect3) (h : allOk p.checks = true) :
    Connect3.parse p.body = .ok p p.body.length ∧ p.encode = 0x10 :: vbiEnc p.remLen ++ p.body
      ∧ p.size = p.encode.length ∧ p.remLen = p.body.length := rt4 (Connect3.roundtrip p h)

example : allOk (Connect3.checks ⟨27, 0xee, 60, [0x63], [0x74], [1, 2], [0x75], [0x70, 0x77]⟩) = true := by decide

/-! ### v5.0 -/

theorem C02_connack5 (p : Connack5) (h : allOk p.checks = true) :
    Connack5.parse p.body = .ok p p.body.length ∧ p.encode = 0x20 :: vbiEnc p.remLen ++ p.body
      ∧ p.size = p.encode.length ∧ p.remLen = p.body.length := rt4 (Connack5.roundtrip p h)

example : allOk (Connack5.checks ⟨8, 1, 0, 5, [.u16 33 10, .u8 36 1]⟩) = true := by decide

theorem C02_ack5 (k : AckKind) (pw : Nat) (p : Ack5) (hpw : pw = 2 ∨ pw = 4) (h : allOk (p.checks k pw) = true) :
    Ack5.parse k pw (p.body pw) = .ok p (p.body pw).length ∧ p.encode k pw = k.fh :: vbiEnc p.remLen ++ p.body pw
      ∧ p.size = (p.encode k pw).length ∧ p.remLen = (p.body pw).length := rt4 (Ack5.roundtrip k pw p hpw h)

example : allOk (Ack5.checks .puback 2 ⟨9, 1, some 0x10, 5, some [.str 31 [0x6f, 0x6b]]⟩) = true
    ∧ allOk (Ack5.checks .pubcomp 4 ⟨4, 1, none, 0, none⟩) = true := by decide

theorem C02_suback5_unsuback5 (rcOk : Nat → Bool) (fh pw : Nat) (p : Codes5) (hpw : pw = 2 ∨ pw = 4)
    (h : allOk (p.checks rcOk pw) = true) :
    Codes5.parse rcOk pw (p.body pw) = .ok p (p.body pw).length
      ∧ p.encode fh pw = fh :: vbiEnc p.remLen ++ p.body pw
      ∧ p.size = (p.encode fh pw).length ∧ p.remLen = (p.body pw).length := rt4 (Codes5.roundtrip rcOk fh pw p hpw h)

example : allOk (Codes5.checks subackRc5Ok 2 ⟨5, 1, 0, [], [0, 0x87]⟩) = true := by decide

theorem C02_subscribe5 (pw : Nat) (p : Subscribe5) (hpw : pw = 2 ∨ pw = 4) (h : allOk (p.checks pw) = true) :
    Subscribe5.parse pw (p.body pw) = .ok p (p.body pw).length
      ∧ p.encode pw = 0x82 :: vbiEnc p.remLen ++ p.body pw
      ∧ p.size = (p.encode pw).length ∧ p.remLen = (p.body pw).length := rt4 (Subscribe5.roundtrip pw p hpw h)

example : allOk (Subscribe5.checks 2 ⟨10, 1, 3, [.vbi 11 200], [⟨[0x61], 0x2d⟩]⟩) = true := by decide

theorem C02_unsubscribe5 (pw : Nat) (p : Unsubscribe5) (hpw : pw = 2 ∨ pw = 4) (h : allOk (p.checks pw) = true) :
    Unsubscribe5.parse pw (p.body pw) = .ok p (p.body pw).length
      ∧ p.encode pw = 0xa2 :: vbiEnc p.remLen ++ p.body pw
      ∧ p.size = (p.encode pw).length ∧ p.remLen = (p.body pw).length := rt4 (Unsubscribe5.roundtrip pw p hpw h)

example : allOk (Unsubscribe5.checks 2 ⟨6, 1, 0, [], [[0x61]]⟩) = true := by decide

theorem C02_disconnect5 (p : RcProps5) (h : allOk (Disconnect5.checks p) = true) :
    Disconnect5.parse p.body = .ok p p.body.length ∧ p.encode 0xe0 = 0xe0 :: vbiEnc p.remLen ++ p.body
      ∧ p.size = (p.encode 0xe0).length ∧ p.remLen = p.body.length := rt4 (Disconnect5.roundtrip p h)

example : allOk (Disconnect5.checks ⟨7, some 0x8e, some 5, some [.u32 17 0]⟩) = true
    ∧ allOk (Disconnect5.checks ⟨0, none, none, none⟩) = true := by decide

theorem C02_auth5 (p : RcProps5) (h : allOk (Auth5.checks p) = true) :
    Auth5.parse p.body = .ok p p.body.length ∧ p.encode 0xf0 = 0xf0 :: vbiEnc p.remLen ++ p.body
      ∧ p.size = (p.encode 0xf0).length ∧ p.remLen = p.body.length := rt4 (Auth5.roundtrip p h)

example : allOk (Auth5.checks ⟨6, some 0x18, some 4, some [.str 21 [0x6d]]⟩) = true := by decide

theorem C02_publish5 (pw : Nat) (p : Publish5) (hpw : pw = 2 ∨ pw = 4) (h : allOk (p.checks pw) = true) :
    Publish5.parse pw (p.fh % 16) (p.body pw) = .ok p (p.body pw).length
      ∧ p.encode pw = p.fh :: vbiEnc p.remLen ++ p.body pw
      ∧ p.size = (p.encode pw).length ∧ p.remLen = (p.body pw).length := rt4 (Publish5.roundtrip pw p hpw h)

example : allOk (Publish5.checks 4 ⟨0x32, 13, [], some 70000, 3, [.u16 35 7], [9, 9, 9]⟩) = true := by decide

theorem C02_connect5 (p : Connect5) (h : allOk p.checks = true) :
    Connect5.parse p.body = .ok p p.body.length ∧ p.encode = 0x10 :: vbiEnc p.remLen ++ p.body
      ∧ p.size = p.encode.length ∧ p.remLen = p.body.length := rt4 (Connect5.roundtrip p h)

example : allOk (Connect5.checks ⟨29, 0x06, 60, 3, [.u16 33 5], [0x63], 5, [.u32 24 1], [0x74], [1], [], []⟩) = true := by
  decide

/-! ## all 29 kinds at once -/

/-- **C02.** For every packet of the sum type that satisfies its builder's well-formedness
    checks (`Packet.wf`), for 16- and 32-bit packet identifiers: the serialisation is
    `fixed header :: vbi(remaining_length) ++ body`; splitting the frame gives back that header,
    that Remaining Length and that body; the parser selected by (version, header) returns an
    equal packet and consumes exactly the body; `size()` is the serialised length; the Remaining
    Length on the wire is the body length. -/
theorem C02_all (pw : Nat) (p : Packet) (hpw : pw = 2 ∨ pw = 4) (h : p.wf pw = true) :
    ∃ fh body, p.encode pw = fh :: vbiEnc p.remLen ++ body ∧
      frameBody (p.encode pw) = some (fh, p.remLen, body) ∧
      Packet.parse p.version pw fh body = some (.ok p body.length) ∧
      p.size = (p.encode pw).length ∧ p.remLen = body.length :=
  Packet.roundTrips pw p hpw h

example : (4 = 2 ∨ 4 = 4) ∧
    Packet.wf 4 (.publish5 ⟨0x3d, 21, [0x74, 0x2f, 0xe2, 0x82, 0xac], some 65537, 7,
      [.u8 1 1, .u16 35 3, .vbi 11 1], [0xde, 0xad]⟩) = true := by decide

end MqttVerif.Props.C02
