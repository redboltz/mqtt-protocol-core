import MqttVerif.Conn.Lemmas.Gates
/-!
# C17 — Receive gating by role, and protocol-version auto-detection

Statement (properties.jsonl): a packet kind that MQTT never lets the remote side of this role
send is reported as a protocol error and never delivered or acted upon; a CONNECT or a CONNACK
arriving on an established connection is a protocol error that leaves session state untouched;
a server created with an undetermined version adopts v3.1.1 or v5.0 from the first CONNECT
(rejecting other levels and any other first packet) and from then on behaves exactly like a
server created with that version.

Specification: `Spec.mayReceive`, `Spec.typeImpossible` (`Spec/Gates.lean`).
Model: `processRecvPacket` (one complete frame) and `step cfg s (.recv inp parse)`.
Every theorem holds for **every** state, **every** frame `(fh, data)` and **every** parser
`parse` (the parser stands for arbitrary peer bytes / arbitrary L1 behaviour).
-/
set_option linter.unusedSimpArgs false
set_option linter.unusedVariables false
namespace MqttVerif.Conn
open MqttVerif

/-- a call of `recv` whose input completes a frame `(fh, data)` -/
def Completes (s : St) (inp : List Nat) (pb' : Framing.PB) (fh : Nat) (data rest : List Nat) : Prop :=
  Framing.feed s.pb inp = (pb', some (.complete fh data), rest)

theorem step_recv_complete {cfg : Cfg} {s : St} {inp : List Nat} {pb' fh data rest}
    (parse : Nat → Nat → List Nat → Except Nat Pkt) (h : Completes s inp pb' fh data rest) :
    step cfg s (.recv inp parse) =
      processRecvPacket ⟨cfg, { s with pb := pb' }, []⟩ fh data (fun v => parse v fh data) :=
  step_recv_feed h parse

/-! ## (1) the model's gate is the specification's -/

/-- **C17, gate table.**  `can_receive` is `Spec.mayReceive`, for all three roles, every
    version value and every type value. -/
theorem C17_canReceive_eq_spec (cfg : Cfg) (s : St) (t : Nat) :
    canReceive cfg s t = Spec.mayReceive cfg.role s.ver t :=
  Fp.canReceive_eq_spec cfg s t

/-! ## (2) a frame the peer may never send -/

/-- one complete frame (within the local Maximum Packet Size) of a type the peer of this role
    may never send: exactly one `NotifyError(ProtocolError)`, nothing else, state untouched —
    whatever the parser would have returned (the frame is never parsed). -/
theorem C17_recv_gate_frame (c : C) (fh : Nat) (data : List Nat) (parse : Nat → Except Nat Pkt)
    (hsz : totalSize data.length ≤ c.s.mpsRecv)
    (hg : Spec.mayReceive c.cfg.role c.s.ver (fh / 16) = false) :
    processRecvPacket c fh data parse = c.err eProtocol := by
  rw [Fp.processRecvPacket_fits c fh data parse hsz, if_pos hg]

/-- **C17, receive gate** at the API: the call of `recv` that completes such a frame yields
    exactly `[NotifyError(ProtocolError)]` — in particular no `NotifyPacketReceived`, no
    response packet, no close request — and the state is unchanged (apart from the frame
    having been consumed from the stream buffer). -/
theorem C17_recv_gate (cfg : Cfg) (s : St) (inp : List Nat)
    (parse : Nat → Nat → List Nat → Except Nat Pkt) (pb' : Framing.PB) (fh : Nat)
    (data rest : List Nat) (hc : Completes s inp pb' fh data rest)
    (hsz : totalSize data.length ≤ s.mpsRecv)
    (hg : Spec.mayReceive cfg.role s.ver (fh / 16) = false) :
    (step cfg s (.recv inp parse)).ev = [.error eProtocol] ∧
    (step cfg s (.recv inp parse)).s = { s with pb := pb' } ∧
    (∀ q, Ev.recv q ∉ (step cfg s (.recv inp parse)).ev) := by
  rw [step_recv_complete parse hc, C17_recv_gate_frame _ fh data _ hsz hg]
  simp

/-- the gate closes exactly the listed cells for Client and Server (so the theorem above is
    about: CONNECT/SUBSCRIBE/UNSUBSCRIBE/PINGREQ and v3.1.1 DISCONNECT/AUTH to a client;
    CONNACK/SUBACK/UNSUBACK/PINGRESP and v3.1.1 AUTH to a server); role Any: none -/
theorem C17_gate_cells (ver t : Nat) :
    (Spec.mayReceive .client ver t = false ↔
      t = 1 ∨ t = 8 ∨ t = 10 ∨ t = 12 ∨ (ver = 4 ∧ (t = 14 ∨ t = 15))) ∧
    (Spec.mayReceive .server ver t = false ↔
      t = 2 ∨ t = 9 ∨ t = 11 ∨ t = 13 ∨ (ver = 4 ∧ t = 15)) ∧
    Spec.mayReceive .any ver t = true := by
  simp only [Spec.mayReceive, Spec.tCONNECT, Spec.tCONNACK, Spec.tSUBSCRIBE, Spec.tSUBACK,
    Spec.tUNSUBSCRIBE, Spec.tUNSUBACK, Spec.tPINGREQ, Spec.tPINGRESP, Spec.tDISCONNECT, Spec.tAUTH,
    Bool.not_eq_false', Bool.or_eq_true, Bool.and_eq_true, beq_iff_eq, and_true, or_assoc]

/-- type values that are no packet of the connection's version (0; above 15; 15 unless v5.0)
    and pass the role gate (always the case for role Any): one `NotifyError(MalformedPacket)`,
    no delivery, state unchanged -/
theorem C17_impossible_type_frame (c : C) (fh : Nat) (data : List Nat) (parse : Nat → Except Nat Pkt)
    (hsz : totalSize data.length ≤ c.s.mpsRecv)
    (hg : Spec.mayReceive c.cfg.role c.s.ver (fh / 16) = true)
    (hi : Spec.typeImpossible c.s.ver (fh / 16) = true) :
    processRecvPacket c fh data parse = c.err eMalformed := by
  rw [Fp.processRecvPacket_fits c fh data parse hsz, if_neg (by rw [hg]; decide)]
  simp only [Spec.typeImpossible, Spec.tAUTH, Bool.or_eq_true, beq_iff_eq, decide_eq_true_eq,
    Bool.and_eq_true, bne_iff_ne, ne_eq] at hi
  by_cases h0 : c.s.ver = 0
  · rw [if_pos h0, if_neg (by omega)]
  · rw [if_neg h0]
    rcases hi with (h | h) | ⟨h, hv⟩
    · exact dispatchRecv_noType c _ _ (Or.inl h)
    · exact dispatchRecv_noType c _ _ (Or.inr h)
    · rw [h]; exact dispatchRecv_auth c _ hv

theorem C17_impossible_type (cfg : Cfg) (s : St) (inp : List Nat)
    (parse : Nat → Nat → List Nat → Except Nat Pkt) (pb' : Framing.PB) (fh : Nat)
    (data rest : List Nat) (hc : Completes s inp pb' fh data rest)
    (hsz : totalSize data.length ≤ s.mpsRecv)
    (hg : Spec.mayReceive cfg.role s.ver (fh / 16) = true)
    (hi : Spec.typeImpossible s.ver (fh / 16) = true) :
    (step cfg s (.recv inp parse)).ev = [.error eMalformed] ∧
    (step cfg s (.recv inp parse)).s = { s with pb := pb' } := by
  rw [step_recv_complete parse hc, C17_impossible_type_frame ⟨cfg, { s with pb := pb' }, []⟩ fh data _ hsz hg hi]
  exact ⟨rfl, rfl⟩

/-! ## (3) CONNECT / CONNACK on an established connection -/

/-- the session projection of C17: store, used identifiers, the three acknowledgement sets,
    the QoS 2 duplicate filter, the persistence flag -/
def sessionProj (s : St) :=
  (s.store, s.pidMan, s.puback, s.pubrec, s.pubcomp, s.handled, s.needStore)

theorem sessionProj_v5ErrState (s : St) : sessionProj (v5ErrState s) = sessionProj s := by
  unfold v5ErrState sessionProj; split <;> rfl

/-- what the two handlers do with a frame they reject as a protocol error: v3.1.1 — close
    request + error, state untouched; v5.0 — see `v5ErrEvs` / `v5ErrState` -/
def protoErrOutcome (c : C) : C :=
  if c.s.ver = 4 then { c with ev := c.ev ++ [.close, .error eProtocol] }
  else { c with s := v5ErrState c.s, ev := c.ev ++ v5ErrEvs c.s eProtocol }

theorem protoErrOutcome_eq (c : C) :
    protoErrOutcome c = if c.s.ver = 4 then handleV3Error c eProtocol else handleV5Error c eProtocol := by
  rw [handleV3Error_eq, handleV5Error_eq]
  rfl

/-- **C17, CONNECT on a connection that is not idle** (`connecting` or `connected`), version
    4 or 5, role Server/Any: never parsed-and-delivered; the outcome is `protoErrOutcome`. -/
theorem C17_connect_not_idle_frame (c : C) (fh : Nat) (data : List Nat) (parse : Nat → Except Nat Pkt)
    (hsz : totalSize data.length ≤ c.s.mpsRecv) (ht : fh / 16 = 1)
    (hrole : c.cfg.role ≠ .client) (hv : c.s.ver = 4 ∨ c.s.ver = 5)
    (hst : c.s.status ≠ .disconnected) :
    processRecvPacket c fh data parse = protoErrOutcome c := by
  rw [Fp.processRecvPacket_fits c fh data parse hsz, ht, if_neg (by rw [Fp.mayReceive_connect hrole]; decide),
    if_neg (by omega), protoErrOutcome_eq, Fp.dispatchRecv_connect]
  unfold prV3Connect prV5Connect
  rw [if_pos hst, if_pos hst]

/-- **C17, CONNACK on an established connection** (`connected`), version 4 or 5, role
    Client/Any: never parsed-and-delivered; the outcome is `protoErrOutcome`. -/
theorem C17_connack_established_frame (c : C) (fh : Nat) (data : List Nat) (parse : Nat → Except Nat Pkt)
    (hsz : totalSize data.length ≤ c.s.mpsRecv) (ht : fh / 16 = 2)
    (hrole : c.cfg.role ≠ .server) (hv : c.s.ver = 4 ∨ c.s.ver = 5)
    (hst : c.s.status = .connected) :
    processRecvPacket c fh data parse = protoErrOutcome c := by
  rw [Fp.processRecvPacket_fits c fh data parse hsz, ht, if_neg (by rw [Fp.mayReceive_connack hrole]; decide),
    if_neg (by omega), protoErrOutcome_eq, Fp.dispatchRecv_connack]
  unfold prV3Connack prV5Connack
  rw [if_pos hst, if_pos hst]

/-- the observable content of `protoErrOutcome` for a call starting with no events, on an
    **established** connection: no delivery; the last event is `NotifyError(ProtocolError)`;
    v3.1.1: exactly `[close, error]`; v5.0: timer cancellations, then DISCONNECT(0x82) + close
    + error — or, when even the DISCONNECT exceeds the peer's Maximum Packet Size, close +
    error; the session projection is unchanged; v3.1.1 changes nothing at all, v5.0 only
    `status` and the three timer flags. -/
theorem protoErrOutcome_established (cfg : Cfg) (s : St) (hv : s.ver = 4 ∨ s.ver = 5)
    (hst : s.status = .connected) :
    let o := protoErrOutcome ⟨cfg, s, []⟩
    (∀ q, Ev.recv q ∉ o.ev) ∧
    sessionProj o.s = sessionProj s ∧
    (s.ver = 4 → o.ev = [.close, .error eProtocol] ∧ o.s = s) ∧
    (s.ver = 5 →
      o.ev = cancelEvs s ++
        (if 3 ≤ s.mpsSend then [.send (mkV5Disconnect 0x82) none] else []) ++
        [.close, .error eProtocol] ∧
      o.s = { s with status := .disconnected, sendSet := false, recvSet := false, respSet := false }) := by
  have hrc : errToDisconnectRc eProtocol = 0x82 := by decide
  intro o
  rcases hv with hv | hv
  · have ho : o = ⟨cfg, s, [.close, .error eProtocol]⟩ := by
      show protoErrOutcome ⟨cfg, s, []⟩ = _
      simp only [protoErrOutcome, hv, if_true, List.nil_append]
    rw [ho]
    refine ⟨by simp, rfl, fun _ => ⟨rfl, rfl⟩, fun h => by omega⟩
  · have h4 : ¬ s.ver = 4 := by omega
    have ho : o = ⟨cfg, { s with status := .disconnected, sendSet := false, recvSet := false,
                                  respSet := false },
                   cancelEvs s ++ (if 3 ≤ s.mpsSend then [.send (mkV5Disconnect 0x82) none] else []) ++
                     [.close, .error eProtocol]⟩ := by
      show protoErrOutcome ⟨cfg, s, []⟩ = _
      simp only [protoErrOutcome, if_neg h4, v5ErrEvs, v5ErrState, hst, if_true, hrc, v5DiscFits,
        List.nil_append, decide_eq_true_eq]
    rw [ho]
    refine ⟨?_, rfl, fun h => by omega, fun _ => ⟨rfl, rfl⟩⟩
    intro q hq
    simp only [cancelEvs, List.mem_append] at hq
    rcases hq with (((hq | hq) | hq) | hq) | hq
    all_goals (try split at hq) <;> simp at hq

theorem protoErrOutcome_closes (cfg : Cfg) (s : St) (hv : s.ver = 4 ∨ s.ver = 5) (hst : s.status = .connected) :
    (protoErrOutcome ⟨cfg, s, []⟩).ev.getLast? = some (.error eProtocol) ∧ Ev.close ∈ (protoErrOutcome ⟨cfg, s, []⟩).ev := by
  obtain ⟨_, _, a3, a4⟩ := protoErrOutcome_established cfg s hv hst
  rcases hv with hv | hv
  · rw [(a3 hv).1]
    exact ⟨rfl, by simp⟩
  · rw [(a4 hv).1]
    exact ⟨by simp, by simp⟩

/-- **C17, `connect_on_established`** at the API: the call of `recv` that completes a CONNECT on
    a `connected` connection (version 4 or 5, role Server/Any; the frame within the local
    Maximum Packet Size) delivers nothing, ends with
    `NotifyError(ProtocolError)`, requests the close, and leaves the session projection as it
    was; the whole outcome is `protoErrOutcome` (see `protoErrOutcome_established`). -/
theorem C17_connect_on_established (cfg : Cfg) (s : St) (inp : List Nat)
    (parse : Nat → Nat → List Nat → Except Nat Pkt) (pb' : Framing.PB) (fh : Nat)
    (data rest : List Nat) (hc : Completes s inp pb' fh data rest)
    (hsz : totalSize data.length ≤ s.mpsRecv) (ht : fh / 16 = 1)
    (hrole : cfg.role ≠ .client) (hv : s.ver = 4 ∨ s.ver = 5) (hst : s.status = .connected) :
    let o := step cfg s (.recv inp parse)
    (∀ q, Ev.recv q ∉ o.ev) ∧ o.ev.getLast? = some (.error eProtocol) ∧ Ev.close ∈ o.ev ∧
    sessionProj o.s = sessionProj s ∧
    o = protoErrOutcome ⟨cfg, { s with pb := pb' }, []⟩ := by
  intro o
  have ho : o = protoErrOutcome ⟨cfg, { s with pb := pb' }, []⟩ :=
    (step_recv_complete parse hc).trans (C17_connect_not_idle_frame _ fh data _ hsz ht hrole hv (by simp [hst]))
  obtain ⟨a1, a2, _, _⟩ := protoErrOutcome_established cfg { s with pb := pb' } hv hst
  obtain ⟨b1, b2⟩ := protoErrOutcome_closes cfg { s with pb := pb' } hv hst
  rw [ho]
  exact ⟨a1, b1, b2, a2, rfl⟩

/-- **C17, `connack_on_established`** at the API: the same for a CONNACK on a `connected`
    connection (version 4 or 5, role Client/Any). -/
theorem C17_connack_on_established (cfg : Cfg) (s : St) (inp : List Nat)
    (parse : Nat → Nat → List Nat → Except Nat Pkt) (pb' : Framing.PB) (fh : Nat)
    (data rest : List Nat) (hc : Completes s inp pb' fh data rest)
    (hsz : totalSize data.length ≤ s.mpsRecv) (ht : fh / 16 = 2)
    (hrole : cfg.role ≠ .server) (hv : s.ver = 4 ∨ s.ver = 5) (hst : s.status = .connected) :
    let o := step cfg s (.recv inp parse)
    (∀ q, Ev.recv q ∉ o.ev) ∧ o.ev.getLast? = some (.error eProtocol) ∧ Ev.close ∈ o.ev ∧
    sessionProj o.s = sessionProj s ∧
    o = protoErrOutcome ⟨cfg, { s with pb := pb' }, []⟩ := by
  intro o
  have ho : o = protoErrOutcome ⟨cfg, { s with pb := pb' }, []⟩ :=
    (step_recv_complete parse hc).trans (C17_connack_established_frame _ fh data _ hsz ht hrole hv hst)
  obtain ⟨a1, a2, _, _⟩ := protoErrOutcome_established cfg { s with pb := pb' } hv hst
  obtain ⟨b1, b2⟩ := protoErrOutcome_closes cfg { s with pb := pb' } hv hst
  rw [ho]
  exact ⟨a1, b1, b2, a2, rfl⟩

/-- while **connecting**: a (second) CONNECT is rejected as well, the state is unchanged and
    nothing is delivered; v3.1.1 `[close, error]`; v5.0 — the library's DISCONNECT is itself
    refused by the send gate (not connected), so the events are two errors and *no* close
    request. -/
theorem C17_connect_while_connecting (cfg : Cfg) (s : St) (inp : List Nat)
    (parse : Nat → Nat → List Nat → Except Nat Pkt) (pb' : Framing.PB) (fh : Nat)
    (data rest : List Nat) (hc : Completes s inp pb' fh data rest)
    (hsz : totalSize data.length ≤ s.mpsRecv) (ht : fh / 16 = 1)
    (hrole : cfg.role ≠ .client) (hv : s.ver = 4 ∨ s.ver = 5) (hst : s.status = .connecting) :
    (step cfg s (.recv inp parse)).s = { s with pb := pb' } ∧
    (step cfg s (.recv inp parse)).ev =
      (if s.ver = 4 then [.close, .error eProtocol]
       else [.error (if 3 ≤ s.mpsSend then eNotAllowed else eTooLarge), .error eProtocol]) := by
  rw [step_recv_complete parse hc,
    C17_connect_not_idle_frame _ fh data _ hsz ht hrole hv (by simp [hst])]
  rcases hv with hv | hv
  · simp [protoErrOutcome, hv]
  · have h4 : ¬ s.ver = 4 := by omega
    simp [protoErrOutcome, h4, v5ErrState, v5ErrEvs, hst, v5DiscFits]

/-- while **not connected** (the normal case is `connecting`; version 4 or 5, role Client/Any):
    a CONNACK that parses is processed and delivered — `NotifyPacketReceived` is the last
    event. -/
theorem C17_connack_while_connecting (cfg : Cfg) (s : St) (inp : List Nat)
    (parse : Nat → Nat → List Nat → Except Nat Pkt) (pb' : Framing.PB) (fh : Nat)
    (data rest : List Nat) (p : Pkt) (hc : Completes s inp pb' fh data rest)
    (hsz : totalSize data.length ≤ s.mpsRecv) (ht : fh / 16 = 2)
    (hrole : cfg.role ≠ .server) (hv : s.ver = 4 ∨ s.ver = 5) (hst : s.status ≠ .connected)
    (hp : parse s.ver fh data = .ok p) :
    (step cfg s (.recv inp parse)).ev.getLast? = some (.recv p) := by
  rw [step_recv_complete parse hc, Fp.processRecvPacket_fits _ fh data _ hsz, ht,
    if_neg (by rw [Fp.mayReceive_connack hrole]; decide), if_neg (show ¬s.ver = 0 by omega), Fp.dispatchRecv_connack]
  show (if s.ver = 4 then prV3Connack _ (parse s.ver fh data) else prV5Connack _ (parse s.ver fh data)).ev.getLast? = _
  rw [hp]
  refine Fp.ite_ind (Q := fun x : C => x.ev.getLast? = some (.recv p)) (fun _ => ?_) fun _ => ?_
  · unfold prV3Connack
    rw [if_neg hst]
    exact List.getLast?_concat ..
  · unfold prV5Connack
    rw [if_neg hst]
    exact List.getLast?_concat ..

/-! ## (4) the undetermined version -/

/-- **C17, first frame on an undetermined connection** (version 0; the role gate passed, i.e.
    role Server/Any for CONNECT).  Any type other than CONNECT: `[MalformedPacket]`, state
    unchanged; CONNECT shorter than 7 bytes: the same; protocol level (byte 6 of the body)
    other than 4/5: `[UnsupportedProtocolVersion]`, state unchanged; level 4 / 5: the version
    is adopted and the frame is handled by the CONNECT handler of that version. -/
theorem C17_undetermined_first_frame (c : C) (fh : Nat) (data : List Nat) (parse : Nat → Except Nat Pkt)
    (h0 : c.s.ver = 0) (hsz : totalSize data.length ≤ c.s.mpsRecv)
    (hg : Spec.mayReceive c.cfg.role 0 (fh / 16) = true) :
    (fh / 16 ≠ 1 → processRecvPacket c fh data parse = c.err eMalformed) ∧
    (fh / 16 = 1 → data.length < 7 → processRecvPacket c fh data parse = c.err eMalformed) ∧
    (fh / 16 = 1 → 7 ≤ data.length → data.getD 6 0 ≠ 4 → data.getD 6 0 ≠ 5 →
      processRecvPacket c fh data parse = c.err eUnsupportedVersion) ∧
    (fh / 16 = 1 → 7 ≤ data.length → data.getD 6 0 = 4 →
      processRecvPacket c fh data parse = prV3Connect { c with s := { c.s with ver := 4 } } (parse 4)) ∧
    (fh / 16 = 1 → 7 ≤ data.length → data.getD 6 0 = 5 →
      processRecvPacket c fh data parse = prV5Connect { c with s := { c.s with ver := 5 } } (parse 5)) := by
  rw [Fp.processRecvPacket_fits c fh data parse hsz, h0, if_neg (by rw [hg]; decide), if_pos rfl]
  refine ⟨fun ht => if_neg ht, fun ht hl => ?_, fun ht hl n4 n5 => ?_, fun ht hl e4 => ?_, fun ht hl e5 => ?_⟩
  · rw [if_pos ht, if_pos hl]
  · rw [if_pos ht, if_neg (by omega), if_neg n4, if_neg n5]
  · rw [if_pos ht, if_neg (by omega), if_pos e4]
  · rw [if_pos ht, if_neg (by omega), if_neg (by omega), if_pos e5]

/-- **C17, adoption = fixed version.**  Processing the first CONNECT (level `v` ∈ {4,5}) on an
    undetermined connection gives *the same context* — state, events — as processing the same
    frame on the connection with `ver := v`. -/
theorem C17_undetermined_adopt_frame (c : C) (fh : Nat) (data : List Nat) (parse : Nat → Except Nat Pkt)
    (v : Nat) (h0 : c.s.ver = 0) (hsz : totalSize data.length ≤ c.s.mpsRecv) (ht : fh / 16 = 1)
    (hrole : c.cfg.role ≠ .client) (hl : 7 ≤ data.length) (hlv : data.getD 6 0 = v)
    (hv : v = 4 ∨ v = 5) :
    processRecvPacket c fh data parse =
      processRecvPacket { c with s := { c.s with ver := v } } fh data parse := by
  obtain ⟨_, _, _, a4, a5⟩ := C17_undetermined_first_frame c fh data parse h0 hsz (by rw [ht]; exact Fp.mayReceive_connect hrole 0)
  rw [Fp.processRecvPacket_fits { c with s := { c.s with ver := v } } fh data parse hsz, ht, Fp.dispatchRecv_connect]
  show _ = if Spec.mayReceive c.cfg.role v 1 = false then _ else if v = 0 then _ else if v = 4 then _ else _
  rw [if_neg (by rw [Fp.mayReceive_connect hrole]; decide), if_neg (by omega)]
  rcases hv with rfl | rfl
  · exact (a4 ht hl hlv).trans (if_pos rfl).symm
  · exact (a5 ht hl hlv).trans (if_neg (by decide)).symm

/-- **C17, `undetermined_first`** at the API: the call of `recv` that completes the first frame
    on an undetermined connection (within the local Maximum Packet Size, the role gate
    passed).  A type other than CONNECT, or a
    CONNECT shorter than 7 bytes: `[MalformedPacket]`; a protocol level other than 4/5:
    `[UnsupportedProtocolVersion]`; in these cases the state is unchanged apart from the consumed
    frame.  Level 4 / 5: that version is adopted. -/
theorem C17_undetermined_first (cfg : Cfg) (s : St) (inp : List Nat)
    (parse : Nat → Nat → List Nat → Except Nat Pkt) (pb' : Framing.PB) (fh : Nat)
    (data rest : List Nat) (hc : Completes s inp pb' fh data rest) (h0 : s.ver = 0)
    (hsz : totalSize data.length ≤ s.mpsRecv)
    (hg : Spec.mayReceive cfg.role 0 (fh / 16) = true) :
    let o := step cfg s (.recv inp parse)
    (fh / 16 ≠ 1 → o.ev = [.error eMalformed] ∧ o.s = { s with pb := pb' }) ∧
    (fh / 16 = 1 → data.length < 7 → o.ev = [.error eMalformed] ∧ o.s = { s with pb := pb' }) ∧
    (fh / 16 = 1 → 7 ≤ data.length → data.getD 6 0 ≠ 4 → data.getD 6 0 ≠ 5 →
      o.ev = [.error eUnsupportedVersion] ∧ o.s = { s with pb := pb' }) ∧
    (fh / 16 = 1 → 7 ≤ data.length → data.getD 6 0 = 4 ∨ data.getD 6 0 = 5 →
      o.s.ver = data.getD 6 0) := by
  intro o
  have ho : o = processRecvPacket ⟨cfg, { s with pb := pb' }, []⟩ fh data (fun v => parse v fh data) :=
    step_recv_complete parse hc
  obtain ⟨a1, a2, a3, a4, a5⟩ :=
    C17_undetermined_first_frame ⟨cfg, { s with pb := pb' }, []⟩ fh data (fun v => parse v fh data)
      h0 hsz hg
  refine ⟨fun ht => ?_, fun ht hl => ?_, fun ht hl n4 n5 => ?_, fun ht hl hv => ?_⟩
  · rw [ho, a1 ht]; exact ⟨rfl, rfl⟩
  · rw [ho, a2 ht hl]; exact ⟨rfl, rfl⟩
  · rw [ho, a3 ht hl n4 n5]; exact ⟨rfl, rfl⟩
  · rcases hv with hv | hv
    · rw [ho, a4 ht hl hv, prV3Connect_ver, hv]
    · rw [ho, a5 ht hl hv, prV5Connect_ver, hv]

/-- **C17, `undetermined_bisim`, the adoption step.**  The call of `recv` that completes the
    first CONNECT (level `v` ∈ {4, 5}) on an undetermined connection returns the *same events*
    and leaves the *same state* as the same call on the connection whose version was `v` from
    the start. -/
theorem C17_undetermined_bisim (cfg : Cfg) (s : St) (inp : List Nat)
    (parse : Nat → Nat → List Nat → Except Nat Pkt) (pb' : Framing.PB) (fh : Nat)
    (data rest : List Nat) (v : Nat) (hc : Completes s inp pb' fh data rest) (h0 : s.ver = 0)
    (hsz : totalSize data.length ≤ s.mpsRecv) (ht : fh / 16 = 1) (hrole : cfg.role ≠ .client)
    (hl : 7 ≤ data.length) (hlv : data.getD 6 0 = v) (hv : v = 4 ∨ v = 5) :
    step cfg s (.recv inp parse) = step cfg { s with ver := v } (.recv inp parse) := by
  have hc' : Completes { s with ver := v } inp pb' fh data rest := hc
  rw [step_recv_complete parse hc, step_recv_complete parse hc']
  exact C17_undetermined_adopt_frame ⟨cfg, { s with pb := pb' }, []⟩ fh data _ v h0 hsz ht hrole hl hlv hv

theorem trace_equiv_of_bisim (cfg : Cfg) (R : St → St → Prop)
    (hR : ∀ s s' op, R s s' →
      (step cfg s op).ev = (step cfg s' op).ev ∧ R (step cfg s op).s (step cfg s' op).s) :
    ∀ ops s s', R s s' →
      runEvents cfg s ops = runEvents cfg s' ops ∧ R (run cfg s ops) (run cfg s' ops) := by
  intro ops
  induction ops with
  | nil => intro s s' h; exact ⟨rfl, h⟩
  | cons op ops ih =>
    intro s s' h
    obtain ⟨h1, h2⟩ := hR s s' op h
    obtain ⟨h3, h4⟩ := ih _ _ h2
    simp only [runEvents, run]
    exact ⟨by rw [h1, h3], h4⟩

/-- **C17, "from then on behaves exactly like a server created with that version".**  The
    adoption call followed by **any** sequence of API calls (arbitrary sends, arbitrary peer
    bytes with arbitrary parser results, timers, closes, …): the undetermined connection and
    the connection with `ver := v` produce the same events, call by call, and end in the same
    state. -/
theorem C17_undetermined_trace_equiv (cfg : Cfg) (s : St) (inp : List Nat)
    (parse : Nat → Nat → List Nat → Except Nat Pkt) (pb' : Framing.PB) (fh : Nat)
    (data rest : List Nat) (v : Nat) (hc : Completes s inp pb' fh data rest) (h0 : s.ver = 0)
    (hsz : totalSize data.length ≤ s.mpsRecv) (ht : fh / 16 = 1) (hrole : cfg.role ≠ .client)
    (hl : 7 ≤ data.length) (hlv : data.getD 6 0 = v) (hv : v = 4 ∨ v = 5) (ops : List Op) :
    runEvents cfg s (.recv inp parse :: ops) = runEvents cfg { s with ver := v } (.recv inp parse :: ops) ∧
    run cfg s (.recv inp parse :: ops) = run cfg { s with ver := v } (.recv inp parse :: ops) := by
  have hb := C17_undetermined_bisim cfg s inp parse pb' fh data rest v hc h0 hsz ht hrole hl hlv hv
  have := trace_equiv_of_bisim cfg Eq (fun a b op h => by subst h; exact ⟨rfl, rfl⟩) ops
    (step cfg s (.recv inp parse)).s (step cfg { s with ver := v } (.recv inp parse)).s (by rw [hb])
  simp only [runEvents, run]
  refine ⟨?_, this.2⟩
  rw [this.1, hb]

/-- the instance of the property text: a *fresh* undetermined server vs a *fresh* server
    created with version `v` -/
theorem C17_fresh_server_trace_equiv (cfg : Cfg) (inp : List Nat)
    (parse : Nat → Nat → List Nat → Except Nat Pkt) (pb' : Framing.PB) (fh : Nat)
    (data rest : List Nat) (v : Nat) (hc : Completes (St.init cfg 0) inp pb' fh data rest)
    (hsz : totalSize data.length ≤ noLimit) (ht : fh / 16 = 1) (hrole : cfg.role ≠ .client)
    (hl : 7 ≤ data.length) (hlv : data.getD 6 0 = v) (hv : v = 4 ∨ v = 5) (ops : List Op) :
    runEvents cfg (St.init cfg 0) (.recv inp parse :: ops) =
      runEvents cfg (St.init cfg v) (.recv inp parse :: ops) ∧
    run cfg (St.init cfg 0) (.recv inp parse :: ops) = run cfg (St.init cfg v) (.recv inp parse :: ops) :=
  C17_undetermined_trace_equiv cfg (St.init cfg 0) inp parse pb' fh data rest v hc rfl hsz ht hrole hl
    hlv hv ops

/-! ### calls made *before* the first CONNECT is complete

An application configures the connection (`set_auto_pub_response`, …, `acquire`/`register`/
`release` of identifiers, `restore_qos2_publish_handled`) and the CONNECT may arrive in several
pieces.  None of these calls looks at the protocol version, so the undetermined connection and
the fixed-version one stay in lock step (states equal up to `ver`) until the adoption makes
them equal. -/

/-- calls that do not depend on the protocol version; a `recv` qualifies while it does not
    complete a frame -/
def VerFreeOp (s : St) : Op → Prop
  | .setFlag _ _ | .setRespTimeout _ | .setInterval _ | .acquire | .register _ | .release _
  | .restoreHandled _ => True
  | .recv inp _ => (Framing.feed s.pb inp).2.1 = none
  | _ => False

def PreAdopt (cfg : Cfg) : St → List Op → Prop
  | _, [] => True
  | s, op :: ops => VerFreeOp s op ∧ PreAdopt cfg (step cfg s op).s ops

theorem releasedState_setVer (s : St) (id v : Nat) :
    releasedState { s with ver := v } id = { releasedState s id with ver := v } :=
  Fp.ite_rel (R := fun x y : St => x = { y with ver := v }) (fun _ => rfl) fun _ => rfl

theorem releasedStateP_setVer (s : St) (id v : Nat) :
    releasedStateP { s with ver := v } id = { releasedStateP s id with ver := v } := by
  refine Fp.ite_rel (R := fun x y : St => x = { y with ver := v }) (fun _ => ?_) fun _ => rfl
  rw [releasedState_setVer]
  exact Fp.ite_rel (R := fun x y : St => x = { y with ver := v }) (fun _ => rfl) fun _ => rfl

theorem step_recv_none {cfg : Cfg} {s : St} {inp : List Nat} (parse : Nat → Nat → List Nat → Except Nat Pkt)
    (h : (Framing.feed s.pb inp).2.1 = none) :
    step cfg s (.recv inp parse) = ⟨cfg, { s with pb := (Framing.feed s.pb inp).1 }, []⟩ := by
  refine Fp.recv_cases (Q := fun r => r = _) ⟨cfg, s, []⟩ inp parse (fun pb rest hf => ?_) (fun pb fh data rest hf => ?_)
    (fun pb rest hf => ?_)
  · rw [show Framing.feed s.pb inp = _ from hf]
  · rw [show Framing.feed s.pb inp = _ from hf] at h
    cases h
  · rw [show Framing.feed s.pb inp = _ from hf] at h
    cases h

/-- the outcome of a call on the connection with the version fixed at `v`, and on the connection as it is -/
def SameButVer (v : Nat) (c' c : C) : Prop := c'.ev = c.ev ∧ c'.s = { c.s with ver := v }

/-- a version-free call commutes with fixing the version -/
theorem step_setVer (cfg : Cfg) (s : St) (v : Nat) (op : Op) (h : VerFreeOp s op) :
    SameButVer v (step cfg { s with ver := v } op) (step cfg s op) := by
  cases op with
  | setFlag f b => cases f <;> exact ⟨rfl, rfl⟩
  | setRespTimeout ms => exact ⟨rfl, rfl⟩
  | acquire => exact ⟨rfl, rfl⟩
  | register id => exact ⟨rfl, rfl⟩
  | restoreHandled ids => exact ⟨rfl, rfl⟩
  | release id =>
    simp only [step, releasePacketId_eqP, releasedStateP_setVer]
    exact ⟨rfl, rfl⟩
  | setInterval d =>
    cases d with
    | none => exact ⟨rfl, rfl⟩
    | some ms =>
      exact Fp.ite_rel (fun _ => Fp.ite_rel (fun _ => ⟨rfl, rfl⟩) fun _ => ⟨rfl, rfl⟩) fun _ =>
        Fp.ite_rel (fun _ => ⟨rfl, rfl⟩) fun _ => ⟨rfl, rfl⟩
  | recv inp parse =>
    rw [step_recv_none parse h, step_recv_none (s := { s with ver := v }) parse h]
    exact ⟨rfl, rfl⟩
  | send _ => exact False.elim h
  | timer _ => exact False.elim h
  | closed => exact False.elim h
  | erase _ => exact False.elim h
  | restorePackets _ => exact False.elim h

theorem preAdopt_setVer (cfg : Cfg) (v : Nat) (ops : List Op) :
    ∀ s, PreAdopt cfg s ops →
      runEvents cfg { s with ver := v } ops = runEvents cfg s ops ∧
      run cfg { s with ver := v } ops = { run cfg s ops with ver := v } ∧
      (run cfg s ops).ver = s.ver := by
  induction ops with
  | nil => intro s _; exact ⟨rfl, rfl, rfl⟩
  | cons op ops ih =>
    intro s h
    obtain ⟨h1, h2⟩ := h
    obtain ⟨e1, e2⟩ := step_setVer cfg s v op h1
    obtain ⟨a1, a2, a3⟩ := ih _ h2
    simp only [runEvents, run]
    rw [e1, e2, a1, a2]
    refine ⟨rfl, rfl, ?_⟩
    rw [a3]
    have := (step_setVer cfg s s.ver op h1).2
    have hs : ({ s with ver := s.ver } : St) = s := rfl
    rw [hs] at this
    rw [this]

theorem runEvents_append (cfg : Cfg) (ops1 ops2 : List Op) :
    ∀ s, runEvents cfg s (ops1 ++ ops2) = runEvents cfg s ops1 ++ runEvents cfg (run cfg s ops1) ops2 := by
  induction ops1 with
  | nil => intro s; rfl
  | cons op ops ih => intro s; simp only [List.cons_append, runEvents, run, ih]

/-- **C17, the whole life of an auto-detecting server.**  Any version-free prefix `pre`
    (configuration calls, identifier management, partial frames), then the call that completes
    the first CONNECT with level `v`, then **any** calls `ops`: the connection created
    undetermined and the connection created with version `v` produce the same events call by
    call, and end in the same state. -/
theorem C17_undetermined_session_equiv (cfg : Cfg) (s : St) (pre : List Op) (inp : List Nat)
    (parse : Nat → Nat → List Nat → Except Nat Pkt) (pb' : Framing.PB) (fh : Nat)
    (data rest : List Nat) (v : Nat) (ops : List Op) (h0 : s.ver = 0) (hpre : PreAdopt cfg s pre)
    (hc : Completes (run cfg s pre) inp pb' fh data rest)
    (hsz : totalSize data.length ≤ (run cfg s pre).mpsRecv) (ht : fh / 16 = 1)
    (hrole : cfg.role ≠ .client) (hl : 7 ≤ data.length) (hlv : data.getD 6 0 = v)
    (hv : v = 4 ∨ v = 5) :
    runEvents cfg s (pre ++ .recv inp parse :: ops) =
      runEvents cfg { s with ver := v } (pre ++ .recv inp parse :: ops) ∧
    run cfg s (pre ++ .recv inp parse :: ops) =
      run cfg { s with ver := v } (pre ++ .recv inp parse :: ops) := by
  obtain ⟨a1, a2, a3⟩ := preAdopt_setVer cfg v pre s hpre
  have := C17_undetermined_trace_equiv cfg (run cfg s pre) inp parse pb' fh data rest v hc
    (by rw [a3, h0]) hsz ht hrole hl hlv hv ops
  rw [runEvents_append, runEvents_append, run_append, run_append, a1, a2]
  exact ⟨by rw [this.1], this.2⟩

/-! ## non-vacuity: concrete instances of the hypotheses -/

/-- PINGREQ, and a v5.0 CONNECT (13-byte body: "MQTT", level 5, clean start, keep alive 60) -/
def C17.exPingreq : List Nat := [0xC0, 0]
def C17.exConnect (lvl : Nat) : List Nat := [0x10, 13, 0, 4, 77, 81, 84, 84, lvl, 2, 0, 60, 0, 0, 0]
def C17.exConnectBody (lvl : Nat) : List Nat := [0, 4, 77, 81, 84, 84, lvl, 2, 0, 60, 0, 0, 0]
def C17.exParse : Nat → Nat → List Nat → Except Nat Pkt :=
  fun v fh _ => if fh = 0x10 then .ok { ver := v, kind := .connect, size := 15, keepAlive := 60, clean := true }
                else .error eMalformed

instance (s : St) (inp : List Nat) (pb' : Framing.PB) (fh : Nat) (data rest : List Nat) :
    Decidable (Completes s inp pb' fh data rest) := by unfold Completes; infer_instance

def C17.cliCfg : Cfg := ⟨.client, 2⟩
def C17.srvCfg : Cfg := ⟨.server, 2⟩
def C17.anyCfg : Cfg := ⟨.any, 2⟩
def C17.exCli : St := St.init C17.cliCfg 4
def C17.exAny : St := St.init C17.anyCfg 4
def C17.exStored : Pkt := { ver := 5, kind := .pubrel, pid := some 1 }
def C17.exSrv : St :=
  { St.init C17.srvCfg 5 with status := .connected, needStore := true, store := [(1, C17.exStored)] }
def C17.exUndet : St := St.init C17.srvCfg 0

/-- a v3.1.1 client receives PINGREQ: hypotheses of `C17_recv_gate` and its conclusion -/
example :
    Completes C17.exCli C17.exPingreq {} 0xC0 [] [] ∧ totalSize 0 ≤ C17.exCli.mpsRecv ∧
    Spec.mayReceive .client C17.exCli.ver (0xC0 / 16) = false ∧
    (step C17.cliCfg C17.exCli (.recv C17.exPingreq C17.exParse)).ev = [.error 0x82] := by decide

/-- role Any, v3.1.1, type 15: hypotheses of `C17_impossible_type` -/
example :
    Completes C17.exAny [0xF0, 0] {} 0xF0 [] [] ∧ Spec.mayReceive .any C17.exAny.ver (0xF0 / 16) = true ∧
    Spec.typeImpossible C17.exAny.ver (0xF0 / 16) = true ∧
    (step C17.anyCfg C17.exAny (.recv [0xF0, 0] C17.exParse)).ev = [.error 0x81] := by decide

/-- a connected v5.0 server with a stored packet receives a second CONNECT: hypotheses of
    `C17_connect_on_established`; DISCONNECT(0x82) + close + error, store untouched -/
example :
    Completes C17.exSrv (C17.exConnect 5) {} 0x10 (C17.exConnectBody 5) [] ∧
    totalSize (C17.exConnectBody 5).length ≤ C17.exSrv.mpsRecv ∧
    (step C17.srvCfg C17.exSrv (.recv (C17.exConnect 5) C17.exParse)).ev =
      [.send (mkV5Disconnect 0x82) none, .close, .error 0x82] ∧
    (step C17.srvCfg C17.exSrv (.recv (C17.exConnect 5) C17.exParse)).s.store = C17.exSrv.store := by
  decide

/-- an undetermined server receives CONNECT level 5 / level 4 / level 3 / a PINGREQ:
    hypotheses of `C17_undetermined_first`, `C17_undetermined_bisim`, and the outcomes -/
example :
    Completes C17.exUndet (C17.exConnect 5) {} 0x10 (C17.exConnectBody 5) [] ∧
    (C17.exConnectBody 5).getD 6 0 = 5 ∧ 7 ≤ (C17.exConnectBody 5).length ∧
    (step C17.srvCfg C17.exUndet (.recv (C17.exConnect 5) C17.exParse)).s.ver = 5 ∧
    (step C17.srvCfg C17.exUndet (.recv (C17.exConnect 4) C17.exParse)).s.ver = 4 ∧
    (step C17.srvCfg C17.exUndet (.recv (C17.exConnect 5) C17.exParse)).s.status = .connecting ∧
    (step C17.srvCfg C17.exUndet (.recv (C17.exConnect 3) C17.exParse)).ev = [.error 0x84] ∧
    (step C17.srvCfg C17.exUndet (.recv C17.exPingreq C17.exParse)).ev = [.error 0x81] := by decide

/-- hypotheses of `C17_undetermined_session_equiv`: configuration calls and the first four
    bytes of the CONNECT, then the rest of it -/
def C17.exPre : List Op :=
  [.setFlag .autoPub true, .acquire, .setRespTimeout 5000, .recv [0x10, 13, 0, 4] C17.exParse]
def C17.exRest : List Nat := [77, 81, 84, 84, 5, 2, 0, 60, 0, 0, 0]

example : PreAdopt C17.srvCfg C17.exUndet C17.exPre := by
  refine ⟨trivial, trivial, trivial, ?_, trivial⟩
  show (Framing.feed _ _).2.1 = none
  decide

example :
    Completes (run C17.srvCfg C17.exUndet C17.exPre) C17.exRest {} 0x10 (C17.exConnectBody 5) [] ∧
    (run C17.srvCfg C17.exUndet (C17.exPre ++ [.recv C17.exRest C17.exParse])).ver = 5 ∧
    (run C17.srvCfg C17.exUndet (C17.exPre ++ [.recv C17.exRest C17.exParse])).autoPub = true ∧
    (run C17.srvCfg C17.exUndet (C17.exPre ++ [.recv C17.exRest C17.exParse])).status = .connecting := by
  decide

end MqttVerif.Conn
