import MqttVerif.Props.C01L2b
/-!
# C01 at the level of the two `Conn` models (L2), one exchange, every crash point

`Props/C01.lean` proves C01 on the abstract flow system only.  Here the connection models
(`Conn/Model.lean`, shaped after `core.rs`) of a client endpoint and a server endpoint are
joined by two FIFO channels of packets (`Pair.Sys`, `Conn/Lemmas/PairExchange.lean`):

* delivering the head packet `p` of a channel is the API call
  `step cfg s (.recv (frameOf p) (fun _ _ _ => .ok p))`: a two-byte frame (type nibble of
  `p.kind`, remaining length 0) through the model's frame assembler, size check, role/version
  gates and dispatch, with a parser parameter that answers `p` (`deliver_eq`: this is exactly the
  handler of `p.kind` applied to `.ok p`);
* every packet an endpoint requests for sending (`.send q _`, in order) is appended to its
  outgoing channel; every event of every call is appended to the endpoint's log;
* `lose` = transport loss: both channels emptied, `.closed` at both endpoints;
  `resume` = client sends CONNECT(clean = false), delivered, server sends
  CONNACK(rc = 0, session present), delivered - the model's `sendStored`/`resendStored`
  retransmit the stored packets;
* `drain n` = the deterministic schedule "deliver the head of a non-empty channel" `n` times.

**Starting point** (`established v`, `v = 4` and `v = 5`): obtained by running the calls
`setFlag autoPub`, CONNECT(clean = false; v5.0: Session Expiry Interval ≠ 0), CONNACK(rc = 0,
session not present) from `St.init` through the pair system; `established_eq` computes it:
both endpoints connected, `needStore`, automatic responses on, stores and wait sets empty, all
identifiers free, no Receive Maximum / Maximum Packet Size / Topic Alias Maximum.
Identifier width 2 bytes.

The theorems are instances of the any-schedule theorems of `Props/C01L2b.lean` (`crash_eq`: a
loss after `k` deliveries followed by resumption is the schedule `deliv k ++ [lose]`), for both
versions, both directions (`startC`: client publishes, `startS`: server publishes) and an
arbitrary application PUBLISH `P` (`IsPub v q P`: version `v`, QoS `q`, the identifier `.acquire`
returned (`acquire_gives_1`), no Topic Alias, non-empty topic without wildcard, encodable size;
retain flag, payload, properties arbitrary).  The crash point `k` ranges over all naturals;
beyond the length of the loss-free schedule (4 resp. 2 deliveries) the loss hits an idle session.

**Not covered**: one exchange at a time in an idle session (the final endpoint states equal the
initial ones, so the theorems apply again to the next exchange, but concurrent exchanges,
several identifiers in flight, and a second loss during the resumption handshake or the
resumed exchange are not treated);
no flow control (Receive Maximum), Maximum Packet Size or Topic Alias negotiated; automatic
responses on; loss only between deliveries of whole packets (mid-frame loss is covered at L0 by
the framing theorems plus `notifyClosed` resetting the frame assembler, which `step_closed` shows
for these states); the byte-level codec (C02) is replaced by the parser parameter.
-/
namespace MqttVerif.Conn.Pair
open MqttVerif MqttVerif.Conn

theorem crash_eq (v k : Nat) (y : Sys) : resume v (lose (drain k y)) = runActs v y (deliv k ++ [.lose]) := by
  unfold deliv
  rw [runActs_append, ← drain_eq_runActs]; rfl

/-- QoS 1: the one duplicate arises when the loss hits the PUBACK (`k = 1`) -/
theorem notes1_crash (P : Pkt) (k n : Nat) (hn : 2 ≤ n) :
    notes1 P (deliv k ++ [.lose] ++ deliv n) = if k = 0 then [P.asDup] else if k = 1 then [P, P.asDup] else [P] := by
  obtain ⟨m, rfl⟩ := Nat.exists_eq_add_of_le' hn
  match k with
  | 0 | 1 | j + 2 => simp [notes1, deliv, List.replicate_succ, outRun, note1, next1, note1_done]

section
variable {v : Nat} {P : Pkt} (hv : v = 4 ∨ v = 5)
include hv

omit hv in
theorem Good.quiescent {d : Bool} {notes : List Pkt} {y : Sys} (h : Good v d notes y) :
    y.c.store = [] ∧ y.s.store = [] ∧
    y.c.puback = [] ∧ y.c.pubrec = [] ∧ y.c.pubcomp = [] ∧ y.s.puback = [] ∧ y.s.pubrec = [] ∧ y.s.pubcomp = [] ∧
    y.c.handled = [] ∧ y.s.handled = [] ∧ y.c.publishRecv = [] ∧ y.s.publishRecv = [] ∧
    (∀ id, isUsed y.c id = false) ∧ (∀ id, isUsed y.s id = false) ∧
    y.c.status = .connected ∧ y.s.status = .connected ∧ y.c.panic = none ∧ y.s.panic = none := by
  rw [h.cIdle, h.sIdle]
  refine ⟨rfl, rfl, rfl, rfl, rfl, rfl, rfl, rfl, rfl, rfl, rfl, rfl, ?_, ?_, rfl, rfl, rfl, rfl⟩ <;>
  · intro id
    simp only [isUsed, Alloc.isUsed, idle, mkSt, Alloc.Free]
    by_cases h1 : 1 ≤ id <;> by_cases h2 : id ≤ 65535 <;> simp [h1, h2]

/-! ## C01, L2, client publishes -/

/-- **QoS 2, no loss**: after the loss-free schedule, `Good`: channels empty, both endpoints
    idle again (`Good.quiescent`), no `.error` in either log, the receiving application notified
    of exactly `[P]`, the sending one of no PUBLISH, `.released 1` once at the sender only -/
theorem C01_l2_qos2_no_loss (hP : IsPub v 2 P) (n : Nat) (hn : 4 ≤ n) :
    Good v true [P] (drain n (startC v P)) :=
  C01_l2b_qos2_exactly_once hv hP true [] n hn

theorem C01_l2_qos1_no_loss (hP : IsPub v 1 P) (n : Nat) (hn : 2 ≤ n) :
    Good v true [P] (drain n (startC v P)) := by
  have h := C01_l2b_qos1_at_least_once hv hP true [] n hn
  exact h.2.2.2.2 (fun _ h => absurd h List.not_mem_nil) ▸ h.1

/-- **QoS 2, loss after `k` deliveries, for every `k`**, resumption, delivery until quiescence:
    the same `Good` with exactly one notification, `P.asDup` when the loss hit the first
    PUBLISH (`k = 0`), else `P` -/
theorem C01_l2_qos2_any_crash_point (hP : IsPub v 2 P) (k n : Nat) (hn : 4 ≤ n) :
    Good v true [if k = 0 then P.asDup else P] (drain n (resume v (lose (drain k (startC v P))))) := by
  have h := C01_l2b_qos2_exactly_once hv hP true (deliv k ++ [.lose]) n hn
  rw [← crash_eq] at h
  cases k <;> exact h

/-- **QoS 1, loss after `k` deliveries, for every `k`**: `Good` with the notifications
    `[P.asDup]` (`k = 0`), `[P, P.asDup]` (`k = 1`: the PUBACK was lost - the one duplicate of
    at-least-once), `[P]` (`k ≥ 2`: the PUBACK had reached the sender) -/
theorem C01_l2_qos1_any_crash_point (hP : IsPub v 1 P) (k n : Nat) (hn : 4 ≤ n) :
    Good v true (if k = 0 then [P.asDup] else if k = 1 then [P, P.asDup] else [P])
      (drain n (resume v (lose (drain k (startC v P))))) := by
  have h := (C01_l2b_qos1_at_least_once hv hP true (deliv k ++ [.lose]) n (by omega)).1
  rw [notes1_crash P k n (by omega), ← crash_eq] at h
  exact h

/-! ## C01, L2, server publishes -/

theorem C01_l2_qos2_no_loss_s2c (hP : IsPub v 2 P) (n : Nat) (hn : 4 ≤ n) :
    Good v false [P] (drain n (startS v P)) :=
  C01_l2b_qos2_exactly_once hv hP false [] n hn

theorem C01_l2_qos1_no_loss_s2c (hP : IsPub v 1 P) (n : Nat) (hn : 2 ≤ n) :
    Good v false [P] (drain n (startS v P)) := by
  have h := C01_l2b_qos1_at_least_once hv hP false [] n hn
  exact h.2.2.2.2 (fun _ h => absurd h List.not_mem_nil) ▸ h.1

theorem C01_l2_qos2_any_crash_point_s2c (hP : IsPub v 2 P) (k n : Nat) (hn : 4 ≤ n) :
    Good v false [if k = 0 then P.asDup else P] (drain n (resume v (lose (drain k (startS v P))))) := by
  have h := C01_l2b_qos2_exactly_once hv hP false (deliv k ++ [.lose]) n hn
  rw [← crash_eq] at h
  cases k <;> exact h

theorem C01_l2_qos1_any_crash_point_s2c (hP : IsPub v 1 P) (k n : Nat) (hn : 4 ≤ n) :
    Good v false (if k = 0 then [P.asDup] else if k = 1 then [P, P.asDup] else [P])
      (drain n (resume v (lose (drain k (startS v P))))) := by
  have h := (C01_l2b_qos1_at_least_once hv hP false (deliv k ++ [.lose]) n (by omega)).1
  rw [notes1_crash P k n (by omega), ← crash_eq] at h
  exact h

/-! ## the informal clauses, read off `Good` -/

/-- QoS 2: whatever the crash point, the receiving application is notified exactly once, of
    the message that was sent (same packet up to the DUP flag) -/
theorem C01_l2_qos2_exactly_once (hP : IsPub v 2 P) (k n : Nat) (hn : 4 ≤ n) :
    ∃ Q, pubNotes (drain n (resume v (lose (drain k (startC v P))))).logS = [Q] ∧ sameMsg P Q := by
  have h := (C01_l2_qos2_any_crash_point hv hP k n hn).notes
  simp only [if_true] at h
  refine ⟨_, h, ?_⟩
  split
  · exact Or.inr rfl
  · exact Or.inl rfl

/-- QoS 1: whatever the crash point, the receiving application is notified at least once and
    only of the message that was sent; exactly once when the loss happened before the PUBLISH
    reached the receiver (`k = 0`) or after the PUBACK reached the sender (`k ≥ 2`) -/
theorem C01_l2_qos1_at_least_once (hP : IsPub v 1 P) (k n : Nat) (hn : 4 ≤ n) :
    let notes := pubNotes (drain n (resume v (lose (drain k (startC v P))))).logS
    1 ≤ notes.length ∧ (∀ Q ∈ notes, sameMsg P Q) ∧ (k ≠ 1 → notes.length = 1) := by
  have h := (C01_l2_qos1_any_crash_point hv hP k n hn).notes
  simp only [if_true] at h
  intro notes
  have hn' : notes = _ := h
  rw [hn']
  by_cases h0 : k = 0
  · simp [h0, sameMsg]
  · by_cases h1 : k = 1
    · simp [h1, sameMsg]
    · simp [h0, h1, sameMsg]
end


theorem established_reachable (v : Nat) (hv : v = 4 ∨ v = 5) :
    Reachable cfgC v (established v).c ∧ Reachable cfgS v (established v).s := by
  refine ⟨⟨[.setFlag .autoPub true, .send (connectPkt v false), deliverOp (connackPkt v false)], ?_⟩,
          ⟨[.setFlag .autoPub true, deliverOp (connectPkt v false), .send (connackPkt v false)], ?_⟩⟩ <;>
    rcases hv with rfl | rfl <;> decide

/-! ## non-vacuity: concrete packets (`exPub`), every run recomputed by `decide` (independently of the
    step lemmas) -/

-- C01_l2_qos2_no_loss / C01_l2_qos1_no_loss
example : goodB 4 true [exPub 4 2] (drain 4 (startC 4 (exPub 4 2))) = true := by decide +kernel
example : goodB 5 true [exPub 5 2] (drain 4 (startC 5 (exPub 5 2))) = true := by decide +kernel
example : goodB 4 true [exPub 4 1] (drain 2 (startC 4 (exPub 4 1))) = true := by decide +kernel
example : goodB 5 true [exPub 5 1] (drain 2 (startC 5 (exPub 5 1))) = true := by decide +kernel
-- the exchange really takes 4 (resp. 2) deliveries: one less leaves a packet in flight
example : (drain 3 (startC 5 (exPub 5 2))).s2c ≠ [] := by decide +kernel
example : (drain 1 (startC 4 (exPub 4 1))).s2c ≠ [] := by decide +kernel
-- C01_l2_qos2_any_crash_point, k = 0 … 4
example : goodB 4 true [(exPub 4 2).asDup] (drain 4 (resume 4 (lose (drain 0 (startC 4 (exPub 4 2)))))) = true := by decide +kernel
example : goodB 5 true [exPub 5 2] (drain 4 (resume 5 (lose (drain 1 (startC 5 (exPub 5 2)))))) = true := by decide +kernel
example : goodB 4 true [exPub 4 2] (drain 4 (resume 4 (lose (drain 2 (startC 4 (exPub 4 2)))))) = true := by decide +kernel
example : goodB 5 true [exPub 5 2] (drain 4 (resume 5 (lose (drain 3 (startC 5 (exPub 5 2)))))) = true := by decide +kernel
example : goodB 5 true [exPub 5 2] (drain 4 (resume 5 (lose (drain 4 (startC 5 (exPub 5 2)))))) = true := by decide +kernel
-- at k = 3 the v5.0 server answers the retransmitted PUBREL with "Packet Identifier not found"
example : Ev.send ackRc none ∈ (drain 4 (resume 5 (lose (drain 3 (startC 5 (exPub 5 2)))))).logS := by decide +kernel
-- C01_l2_qos1_any_crash_point, k = 0, 1, 2: the duplicate at k = 1 is real
example : goodB 5 true [(exPub 5 1).asDup] (drain 4 (resume 5 (lose (drain 0 (startC 5 (exPub 5 1)))))) = true := by decide +kernel
example : goodB 4 true [exPub 4 1, (exPub 4 1).asDup] (drain 4 (resume 4 (lose (drain 1 (startC 4 (exPub 4 1)))))) = true := by decide +kernel
example : goodB 5 true [exPub 5 1] (drain 4 (resume 5 (lose (drain 2 (startC 5 (exPub 5 1)))))) = true := by decide +kernel
-- server publishes
example : goodB 5 false [exPub 5 2] (drain 4 (startS 5 (exPub 5 2))) = true := by decide +kernel
example : goodB 4 false [exPub 4 1] (drain 2 (startS 4 (exPub 4 1))) = true := by decide +kernel
example : goodB 4 false [exPub 4 2] (drain 4 (resume 4 (lose (drain 1 (startS 4 (exPub 4 2)))))) = true := by decide +kernel
example : goodB 5 false [exPub 5 2] (drain 4 (resume 5 (lose (drain 2 (startS 5 (exPub 5 2)))))) = true := by decide +kernel
example : goodB 5 false [exPub 5 1, (exPub 5 1).asDup] (drain 4 (resume 5 (lose (drain 1 (startS 5 (exPub 5 1)))))) = true := by decide +kernel

end MqttVerif.Conn.Pair

#print axioms MqttVerif.Conn.Pair.deliver_eq
#print axioms MqttVerif.Conn.Pair.established_eq
#print axioms MqttVerif.Conn.Pair.established_reachable
#print axioms MqttVerif.Conn.Pair.acquire_gives_1
#print axioms MqttVerif.Conn.Pair.Good.quiescent
#print axioms MqttVerif.Conn.Pair.C01_l2_qos2_no_loss
#print axioms MqttVerif.Conn.Pair.C01_l2_qos1_no_loss
#print axioms MqttVerif.Conn.Pair.C01_l2_qos2_any_crash_point
#print axioms MqttVerif.Conn.Pair.C01_l2_qos1_any_crash_point
#print axioms MqttVerif.Conn.Pair.C01_l2_qos2_no_loss_s2c
#print axioms MqttVerif.Conn.Pair.C01_l2_qos1_no_loss_s2c
#print axioms MqttVerif.Conn.Pair.C01_l2_qos2_any_crash_point_s2c
#print axioms MqttVerif.Conn.Pair.C01_l2_qos1_any_crash_point_s2c
#print axioms MqttVerif.Conn.Pair.C01_l2_qos2_exactly_once
#print axioms MqttVerif.Conn.Pair.C01_l2_qos1_at_least_once
