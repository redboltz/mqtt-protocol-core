import MqttVerif.Conn.Lemmas.Qos2Mon
/-!
# C07 — inbound QoS 2 is delivered exactly once per exchange

`Q2Step` lists every way one API call can notify packets and change the set
`qos2_publish_handled`: an identifier enters only together with the one notification of its
PUBLISH, and a notification of a QoS 2 PUBLISH happens only for an identifier not in the set.
At most once between two deleting steps follows by induction along the run.

Where a `recv` op is quantified the hypothesis is `ParseOk parse`: the parser invoked for a
frame with type nibble `t` returns (if anything) a packet of that type with QoS ≤ 2.  It is
necessary: the handlers notify whatever the parser hands them.
-/
namespace MqttVerif.Conn
open MqttVerif
set_option linter.unusedSimpArgs false

def isQ2 (id : Nat) (p : Pkt) : Prop := p.kind = .publish ∧ p.qos = 2 ∧ p.pid = some id
instance (id : Nat) (p : Pkt) : Decidable (isQ2 id p) := by unfold isQ2; infer_instance

def notified (id : Nat) (evs : List Ev) : Nat := (recvs evs).countP (fun p => decide (isQ2 id p))

def ParseOk (parse : Nat → Nat → List Nat → Except Nat Pkt) : Prop :=
  ∀ v fh d p, parse v fh d = .ok p → p.kind.nibble = fh / 16 ∧ p.qos ≤ 2

def OpWf : Op → Prop
  | .recv _ parse => ParseOk parse
  | _ => True

def NewSessionPkt (p : Pkt) : Prop :=
  (p.kind = .connect ∧ p.clean = true) ∨
  (p.kind = .connack ∧ p.rc = some 0 ∧ (p.sp = false ∨ (pSEI, 0) ∈ p.props))

inductive Q2Step (cfg : Cfg) (s : St) (op : Op) : Prop
  /-- includes the duplicate of a handled QoS 2 PUBLISH -/
  | quiet : recvs (step cfg s op).ev = [] → (step cfg s op).s.handled = s.handled → Q2Step cfg s op
  | other (p : Pkt) : recvs (step cfg s op).ev = [p] → ¬ (p.kind = .publish ∧ p.qos = 2) →
      (step cfg s op).s.handled = s.handled → Q2Step cfg s op
  | notify (p : Pkt) (id : Nat) : recvs (step cfg s op).ev = [p] → isQ2 id p → id ∉ s.handled →
      (step cfg s op).s.handled = ins id s.handled → Q2Step cfg s op
  | pubrelRecv (p : Pkt) : recvs (step cfg s op).ev = [p] → p.kind = .pubrel →
      (step cfg s op).s.handled = del (p.pid.getD 0) s.handled → Q2Step cfg s op
  | newSessRecv (p : Pkt) : recvs (step cfg s op).ev = [p] → NewSessionPkt p →
      (step cfg s op).s.handled = [] → Q2Step cfg s op
  | pubrecFailSent (p : Pkt) : op = .send p → recvs (step cfg s op).ev = [] → p.kind = .pubrec → p.ver ≠ 4 →
      (∃ rc, p.rc = some rc ∧ rc ≥ 0x80) → p ∈ sends (step cfg s op).ev →
      (step cfg s op).s.handled = del (p.pid.getD 0) s.handled → Q2Step cfg s op
  | connectCleanSent (p : Pkt) : op = .send p → recvs (step cfg s op).ev = [] → p.kind = .connect →
      p.clean = true → (step cfg s op).s.handled = [] → Q2Step cfg s op
  /-- new session started by the CONNACK we sent (fix 10ee029) -/
  | connackNoSessionSent (p : Pkt) : op = .send p → recvs (step cfg s op).ev = [] → p.kind = .connack →
      p.rc = some 0 → p.sp = false → (step cfg s op).s.handled = [] → Q2Step cfg s op
  | closedNonPersistent : op = .closed → s.needStore = false → recvs (step cfg s op).ev = [] →
      (step cfg s op).s.handled = [] → Q2Step cfg s op
  | restored (ids : List Nat) : op = .restoreHandled ids → recvs (step cfg s op).ev = [] →
      (∀ x, x ∈ (step cfg s op).s.handled ↔ x ∈ ids) → Q2Step cfg s op

theorem mem_foldl_ins (ids acc : List Nat) (x : Nat) :
    x ∈ ids.foldl (fun acc x => ins x acc) acc ↔ x ∈ ids ∨ x ∈ acc := by
  induction ids generalizing acc with
  | nil => simp
  | cons a t ih => simp [ih, mem_ins]; grind

/-- `Q2Step`, with what the driver's ghost reads besides: a delivered packet that leaves `handled` as it is is no
    PUBREL, and a new session that `send` starts shows as the request to send its CONNECT or CONNACK. -/
inductive Q2Seen (cfg : Cfg) (s : St) (op : Op) : Prop
  | quiet : recvs (step cfg s op).ev = [] → (step cfg s op).s.handled = s.handled → Q2Seen cfg s op
  | other (p : Pkt) : recvs (step cfg s op).ev = [p] → p.kind ≠ .pubrel → ¬ (p.kind = .publish ∧ p.qos = 2) →
      (step cfg s op).s.handled = s.handled → Q2Seen cfg s op
  | notify (p : Pkt) (id : Nat) : recvs (step cfg s op).ev = [p] → isQ2 id p → id ∉ s.handled →
      (step cfg s op).s.handled = ins id s.handled → Q2Seen cfg s op
  | pubrelRecv (p : Pkt) : recvs (step cfg s op).ev = [p] → p.kind = .pubrel →
      (step cfg s op).s.handled = del (p.pid.getD 0) s.handled → Q2Seen cfg s op
  | newSessRecv (p : Pkt) : recvs (step cfg s op).ev = [p] → NewSessionPkt p →
      (step cfg s op).s.handled = [] → Q2Seen cfg s op
  | pubrecFailSent (p : Pkt) : op = .send p → p.kind = .pubrec → p.ver ≠ 4 →
      (∃ rc, p.rc = some rc ∧ rc ≥ 0x80) → p ∈ sends (step cfg s op).ev →
      (step cfg s op).s.handled = del (p.pid.getD 0) s.handled → Q2Seen cfg s op
  | newSessSent (p : Pkt) : op = .send p → Ev.send p none ∈ (step cfg s op).ev →
      (p.kind = .connect ∧ p.clean = true ∨ p.kind = .connack ∧ p.rc = some 0 ∧ p.sp = false) →
      (step cfg s op).s.handled = [] → Q2Seen cfg s op
  | closedNonPersistent : op = .closed → s.needStore = false → (step cfg s op).s.handled = [] → Q2Seen cfg s op
  | restored (ids : List Nat) : op = .restoreHandled ids →
      (∀ x, x ∈ (step cfg s op).s.handled ↔ x ∈ ids) → Q2Seen cfg s op

theorem step_seen (cfg : Cfg) (s : St) (op : Op) (hwf : OpWf op) : Q2Seen cfg s op := by
  -- a call whose footprint avoids the deliveries and `handled`
  have quiet : ∀ {T : List EvTag} {w : St → St → St}, Fp.Footprint T w ⟨cfg, s, []⟩ (step cfg s op) →
      EvTag.recv ∉ T → (∀ a x, (w a x).handled = a.handled) → Q2Seen cfg s op := fun h hT hw =>
    .quiet (h.ev.recvs_eq hT) (by rw [h.s, hw])
  cases op with
  | send p =>
    rcases send_handled { cfg := cfg, s := s } p with h | ⟨h, hm, hk⟩ | ⟨h, hk, hv, hrc, hs⟩
    · exact .quiet (send_recvs ..) h
    · exact .newSessSent p rfl hm hk h
    · exact .pubrecFailSent p rfl hk hv hrc hs h
  | recv inp parse =>
    -- the summary of the handler, with the type nibble of the frame read as the kind of the packet
    obtain ⟨v, fh, d, h⟩ := recv_sum { cfg := cfg, s := s } inp parse fun v fh d p hx => (hwf v fh d p hx).2
    have hk : ∀ p, parse v fh d = .ok p → p.kind.nibble = fh / 16 := fun p hx => (hwf v fh d p hx).1
    cases h with
    | quiet a b _ => exact .quiet a b
    | plain p p' hx a r _ b e h6 =>
      have hn := kind_of_nib (hk p hx)
      refine .other p' a ?_ ?_ b
      · rw [r.kind]
        exact fun hp => h6 (hn.1.1 hp)
      · rintro ⟨h1, h2⟩
        rw [r.kind] at h1
        exact e (hn.2.1.1 h1) (by rw [← r.qos]; exact h2)
    | pubrel p hx ht a b => exact .pubrelRecv p a ((kind_of_nib (hk p hx)).1.2 ht) b
    | newSess p hx hn a b => exact .newSessRecv p a (hn.kind (hk p hx)) b
    | notify p p' id hx ht h2 hid ha a r b =>
      exact .notify p' id a ⟨by rw [r.kind]; exact (kind_of_nib (hk p hx)).2.1.2 ht, r.qos.trans h2, r.pid.trans hid⟩ ha b
  | timer k => exact quiet (Fp.notifyTimerFired_fp _ k) (by decide) fun _ _ => rfl
  | closed =>
    have hh := notifyClosed_handled { cfg := cfg, s := s }
    cases hn : s.needStore with
    | false => exact .closedNonPersistent rfl hn (hh.trans (by rw [hn]; rfl))
    | true => exact .quiet (notifyClosed_recvs _) (hh.trans (by rw [hn]; rfl))
  | setInterval d => exact quiet (Fp.setPingreqSendInterval_fp _ d) (by decide) fun _ _ => rfl
  | setFlag f b => exact .quiet rfl (by cases f <;> rfl)
  | setRespTimeout ms => exact .quiet rfl rfl
  | acquire => exact .quiet rfl rfl
  | register id => exact .quiet rfl rfl
  | release id => exact quiet (Fp.releasePacketId_fp _ id) (by decide) fun _ _ => rfl
  | erase id => exact quiet (Fp.eraseStoredPublish_fp _ id) (by decide) fun _ _ => rfl
  | restoreHandled ids => exact .restored ids rfl fun x => (mem_foldl_ins ids [] x).trans (or_iff_left (List.not_mem_nil))
  | restorePackets ps => exact quiet (Fp.restorePackets_fp _ ps) (by decide) fun _ _ => rfl

/-- **C07 (3)**: the complete list of ways `handled` and the notifications change in one call
    (for a `recv`: with a parser satisfying `ParseOk`). -/
theorem C07_handled_changes (cfg : Cfg) (s : St) (op : Op) (hwf : OpWf op) : Q2Step cfg s op := by
  cases step_seen cfg s op hwf with
  | quiet a b => exact .quiet a b
  | other p a _ n b => exact .other p a n b
  | notify p id a q ha b => exact .notify p id a q ha b
  | pubrelRecv p a k b => exact .pubrelRecv p a k b
  | newSessRecv p a n b => exact .newSessRecv p a n b
  | pubrecFailSent p e k v rc hs b => exact .pubrecFailSent p e (e ▸ send_recvs ..) k v rc hs b
  | newSessSent p e _ hk b =>
    rcases hk with ⟨k, c⟩ | ⟨k, rc, sp⟩
    · exact .connectCleanSent p e (e ▸ send_recvs ..) k c b
    · exact .connackNoSessionSent p e (e ▸ send_recvs ..) k rc sp b
  | closedNonPersistent e n b => exact .closedNonPersistent e n (e ▸ notifyClosed_recvs _) b
  | restored ids e b => exact .restored ids e (e ▸ rfl) b


/-! ## consequences of the characterisation -/

def Deletes (cfg : Cfg) (id : Nat) (s : St) (op : Op) : Prop :=
  id ∈ s.handled ∧ id ∉ (step cfg s op).s.handled

/-- `id` enters `handled` only together with the single notification of a QoS 2 PUBLISH `id`
    (or by `restore_qos2_publish_handled`). -/
theorem C07_insert_only_by_notification (cfg : Cfg) (s : St) (op : Op) (hwf : OpWf op) (id : Nat)
    (h0 : id ∉ s.handled) (h1 : id ∈ (step cfg s op).s.handled) :
    (∃ p, recvs (step cfg s op).ev = [p] ∧ isQ2 id p) ∨ (∃ ids, op = .restoreHandled ids ∧ id ∈ ids) := by
  cases C07_handled_changes cfg s op hwf with
  | quiet a b => rw [b] at h1; exact absurd h1 h0
  | other p a n b => rw [b] at h1; exact absurd h1 h0
  | notify p id' a q ha b =>
    rw [b, mem_ins] at h1
    rcases h1 with rfl | h1
    · exact .inl ⟨p, a, q⟩
    · exact absurd h1 h0
  | pubrelRecv p a k b => rw [b, mem_del] at h1; exact absurd h1.1 h0
  | newSessRecv p a n b => simp [b] at h1
  | pubrecFailSent p e a k v rc hs b => rw [b, mem_del] at h1; exact absurd h1.1 h0
  | connectCleanSent p e a k c b => simp [b] at h1
  | connackNoSessionSent p e a k rc sp b => simp [b] at h1
  | closedNonPersistent e n a b => simp [b] at h1
  | restored ids e a b => exact .inr ⟨ids, e, (b id).1 h1⟩

/-- `id` leaves `handled` only by: PUBREL(id) received; a failing PUBREC(id) sent (v5.0); a new
    session (CONNECT clean sent / received, CONNACK without session received / sent); a
    non-persistent close; `restore_qos2_publish_handled` with a list not containing it. -/
theorem C07_delete_causes (cfg : Cfg) (s : St) (op : Op) (hwf : OpWf op) (id : Nat)
    (h : Deletes cfg id s op) :
    (∃ p, recvs (step cfg s op).ev = [p] ∧ p.kind = .pubrel ∧ p.pid.getD 0 = id) ∨
    (∃ p, op = .send p ∧ p.kind = .pubrec ∧ p.ver ≠ 4 ∧ p.pid.getD 0 = id ∧ (∃ rc, p.rc = some rc ∧ rc ≥ 0x80) ∧
      p ∈ sends (step cfg s op).ev) ∨
    (∃ p, recvs (step cfg s op).ev = [p] ∧ NewSessionPkt p) ∨
    (∃ p, op = .send p ∧ p.kind = .connect ∧ p.clean = true) ∨
    (op = .closed ∧ s.needStore = false) ∨
    (∃ ids, op = .restoreHandled ids ∧ id ∉ ids) ∨
    -- new session started by the CONNACK we sent (fix 10ee029)
    (∃ p, op = .send p ∧ p.kind = .connack ∧ p.rc = some 0 ∧ p.sp = false) := by
  obtain ⟨h0, h1⟩ := h
  cases C07_handled_changes cfg s op hwf with
  | quiet a b => rw [b] at h1; exact absurd h0 h1
  | other p a n b => rw [b] at h1; exact absurd h0 h1
  | notify p id' a q ha b => rw [b, mem_ins] at h1; exact absurd (.inr h0) h1
  | pubrelRecv p a k b =>
    rw [b, mem_del] at h1
    exact .inl ⟨p, a, k, by grind⟩
  | newSessRecv p a n b => exact .inr (.inr (.inl ⟨p, a, n⟩))
  | pubrecFailSent p e a k v rc hs b =>
    rw [b, mem_del] at h1
    exact .inr (.inl ⟨p, e, k, v, by grind, rc, hs⟩)
  | connectCleanSent p e a k c b => exact .inr (.inr (.inr (.inl ⟨p, e, k, c⟩)))
  | closedNonPersistent e n a b => exact .inr (.inr (.inr (.inr (.inl ⟨e, n⟩))))
  | restored ids e a b => exact .inr (.inr (.inr (.inr (.inr (.inl ⟨ids, e, fun hm => h1 ((b id).2 hm)⟩)))))
  | connackNoSessionSent p e a k rc sp b => exact .inr (.inr (.inr (.inr (.inr (.inr ⟨p, e, k, rc, sp⟩)))))

/-- per call: at most one notification for `id`, and only when `id` was not handled; afterwards
    it is. -/
theorem C07_step_notified (cfg : Cfg) (s : St) (op : Op) (hwf : OpWf op) (id : Nat) :
    notified id (step cfg s op).ev ≤ 1 ∧
    (notified id (step cfg s op).ev = 1 → id ∉ s.handled ∧ id ∈ (step cfg s op).s.handled) := by
  unfold notified
  cases C07_handled_changes cfg s op hwf with
  | quiet a b => simp [a]
  | other p a n b =>
    have : ¬ isQ2 id p := fun h => n ⟨h.1, h.2.1⟩
    simp [a, this]
  | notify p id' a q ha b =>
    rw [a]
    by_cases hq : isQ2 id p
    · have : id = id' := by
        have h1 := hq.2.2; have h2 := q.2.2; rw [h1] at h2; exact Option.some.inj h2
      subst this
      simp [hq, ha, b, mem_ins]
    · simp [hq]
  | pubrelRecv p a k b =>
    have : ¬ isQ2 id p := fun h => by have := h.1; rw [k] at this; cases this
    simp [a, this]
  | newSessRecv p a n b =>
    have : ¬ isQ2 id p := fun h => by
      rcases n with ⟨k, _⟩ | ⟨k, _⟩ <;> (have := h.1; rw [k] at this; cases this)
    simp [a, this]
  | pubrecFailSent p e a k v rc hs b => simp [a]
  | connectCleanSent p e a k c b => simp [a]
  | connackNoSessionSent p e a k rc sp b => simp [a]
  | closedNonPersistent e n a b => simp [a]
  | restored ids e a b => simp [a]

def NoDelete (cfg : Cfg) (id : Nat) : St → List Op → Prop
  | _, [] => True
  | s, op :: ops => ¬ Deletes cfg id s op ∧ NoDelete cfg id (step cfg s op).s ops

def notifiedRun (cfg : Cfg) (id : Nat) (s : St) (ops : List Op) : Nat :=
  ((runEvents cfg s ops).map (notified id)).sum

/-- Along a run that never deletes `id`, a notification of `id` takes it from "not handled" to "handled", and nothing
    takes it back: the notifications are bounded by the change of that indicator. -/
theorem at_most_once_aux (cfg : Cfg) (id : Nat) (ops : List Op) :
    ∀ s, (∀ op ∈ ops, OpWf op) → NoDelete cfg id s ops →
      notifiedRun cfg id s ops + (if id ∈ s.handled then 1 else 0) ≤
        if id ∈ (run cfg s ops).handled then 1 else 0 := by
  induction ops with
  | nil => intro s _ _; exact Nat.le_of_eq (Nat.zero_add _)
  | cons op rest ih =>
    intro s hwf hnd
    have ih := ih (step cfg s op).s (fun o ho => hwf o (List.mem_cons_of_mem _ ho)) hnd.2
    obtain ⟨s1, s2⟩ := C07_step_notified cfg s op (hwf op List.mem_cons_self) id
    have hsum : notifiedRun cfg id s (op :: rest) =
        notified id (step cfg s op).ev + notifiedRun cfg id (step cfg s op).s rest := by
      simp [notifiedRun, runEvents]
    have one : notified id (step cfg s op).ev + (if id ∈ s.handled then 1 else 0) ≤
        if id ∈ (step cfg s op).s.handled then 1 else 0 := by
      by_cases h1 : notified id (step cfg s op).ev = 1
      · rw [h1, if_neg (s2 h1).1, if_pos (s2 h1).2]
        exact Nat.le_refl 1
      · by_cases h : id ∈ s.handled
        · rw [if_pos h, if_pos (Classical.byContradiction fun hh => hnd.1 ⟨h, hh⟩)]
          omega
        · rw [if_neg h]
          omega
    rw [hsum, run]
    omega

/-- **C07 (at most once)**: along every operation sequence, started in every state, in which no
    step deletes `id` from `handled` — i.e. between two consecutive deleting steps
    (`C07_delete_causes`: PUBREL received, failing PUBREC sent, new session, non-persistent close,
    restore), or from the start — the application is notified of at most one QoS 2 PUBLISH with
    that identifier; and if it was, the identifier is handled at the end. -/
theorem C07_at_most_once (cfg : Cfg) (id : Nat) (s : St) (ops : List Op)
    (hwf : ∀ op ∈ ops, OpWf op) (hnd : NoDelete cfg id s ops) :
    notifiedRun cfg id s ops ≤ 1 ∧ (notifiedRun cfg id s ops = 1 → id ∈ (run cfg s ops).handled) := by
  have h := at_most_once_aux cfg id ops s hwf hnd
  by_cases hf : id ∈ (run cfg s ops).handled
  · rw [if_pos hf] at h
    exact ⟨by omega, fun _ => hf⟩
  · rw [if_neg hf] at h
    exact ⟨by omega, fun h1 => by omega⟩

/-- at most one notification in a segment without deleting step anywhere inside a history that
    starts from a fresh connection object -/
theorem C07_at_most_once_between (cfg : Cfg) (ver id : Nat) (pre seg : List Op)
    (hwf : ∀ op ∈ seg, OpWf op)
    (hnd : NoDelete cfg id (run cfg (St.init cfg ver) pre) seg) :
    notifiedRun cfg id (run cfg (St.init cfg ver) pre) seg ≤ 1 :=
  (C07_at_most_once cfg id _ seg hwf hnd).1

/-- once `id` is handled, nothing is notified for it until a deleting step -/
theorem C07_handled_blocks (cfg : Cfg) (id : Nat) (s : St) (ops : List Op)
    (hwf : ∀ op ∈ ops, OpWf op) (hnd : NoDelete cfg id s ops) (h : id ∈ s.handled) :
    notifiedRun cfg id s ops = 0 := by
  have h1 := at_most_once_aux cfg id ops s hwf hnd
  rw [if_pos h] at h1
  split at h1 <;> omega


/-! ## the ghost of the driver (`Mon.q2Step`) tracks `qos2_publish_handled` exactly -/

/-- what the monitor's reading of the events presupposes of the packets handed in (all hold for
    real packets): the parser answers with the packet type of the frame and a legal QoS; the store
    holds no PUBREC (it holds PUBLISH / PUBREL only: C05's `StoreInv`); a v3.1.1 PUBREC handed to
    `send` carries no error reason code (v3.1.1 PUBREC has none); a delivered CONNACK has at most
    one Session Expiry Interval property -/
structure MonWf (cfg : Cfg) (s : St) (op : Op) : Prop where
  parse : OpWf op
  store : EPn.StoreNoPubrec s
  v4 : ∀ p, op = .send p → p.kind = .pubrec → p.ver = 4 → Mon.isErrorRc p.rc = false
  sei : ∀ p, Ev.recv p ∈ (step cfg s op).ev → (pSEI, 0) ∈ p.props → Mon.findProp p pSEI = some 0

theorem startsNewSession_of_recv {l : List Ev} {p : Pkt} (hm : Ev.recv p ∈ l)
    (h : (p.kind = .connect ∧ p.clean = true) ∨
      (p.kind = .connack ∧ p.rc = some 0 ∧ (p.sp = false ∨ Mon.findProp p pSEI = some 0))) :
    Mon.startsNewSession l = true := by
  simp only [Mon.startsNewSession, List.any_eq_true]
  refine ⟨_, hm, ?_⟩
  rcases h with ⟨a, b⟩ | ⟨a, b, d⟩
  · simp [a, b]
  · rcases d with d | d <;> simp [a, b, d]

/-- **the QoS 2 monitor is a theorem of the model** (driver monitors `VIOL sig=C07 notified_twice@…`
    and the ghost `q2open` they run on).  If the ghost list `o` is duplicate-free and equals, as a
    set, `qos2_publish_handled` before the call (`Tracks`), and the call neither starts a new
    session (as seen by the monitor in its events), nor is a non-persistent `notify_closed`, nor
    `restore_qos2_publish_handled` (the three cases in which the driver resets its ghost instead),
    then folding the events of the call over the ghost reports **no second notification**
    (`(Mon.q2Step o evs).2 = []`) and the new ghost again tracks `qos2_publish_handled` exactly.
    Every configuration, state and operation for which `MonWf` holds. -/
theorem C07_monitor_sound (cfg : Cfg) (s : St) (op : Op) (o : List Nat) (hw : MonWf cfg s op)
    (ht : Tracks o s.handled)
    (hns : Mon.startsNewSession (step cfg s op).ev = false)
    (hcl : ¬ (op = .closed ∧ s.needStore = false)) (hrs : ∀ ids, op ≠ .restoreHandled ids) :
    (Mon.q2Step o (step cfg s op).ev).2 = [] ∧
    Tracks (Mon.q2Step o (step cfg s op).ev).1 (step cfg s op).s.handled := by
  -- the `send` of an error PUBREC is the one call in which the ghost follows a send request
  by_cases he : ∃ p, op = .send p ∧ EPn.nsSend p = true
  · obtain ⟨p, rfl, hn⟩ := he
    obtain ⟨hk, hrc⟩ : p.kind = .pubrec ∧ Mon.isErrorRc p.rc = true := by simpa [EPn.nsSend] using hn
    have hv : p.ver ≠ 4 := fun h4 => by have := hw.v4 p rfl hk h4; rw [hrc] at this; cases this
    show (Mon.q2Step o (send _ p).ev).2 = [] ∧ Tracks (Mon.q2Step o (send _ p).ev).1 (send _ p).s.handled
    rcases send_errPubrec { cfg := cfg, s := s } p o rfl hk hrc hv with ⟨h1, h2⟩ | ⟨h1, h2⟩ <;> rw [h1, h2]
    · exact ⟨rfl, ht⟩
    · exact ⟨rfl, ht.erase _⟩
  -- any other call requests no error PUBREC: the ghost reads the deliveries alone
  have hns' : ∀ p, op = .send p → EPn.nsSend p = false := fun p hp => Bool.eq_false_iff.2 fun h => he ⟨p, hp, h⟩
  rw [q2Step_no_send _ (EPn.ns_step cfg s op hw.store hns') o]
  cases step_seen cfg s op hw.parse with
  | quiet a b => rw [a, b]; exact ⟨rfl, ht⟩
  | other p a k n b =>
    rw [a, b]
    simp only [List.map_cons, List.map_nil, q2Step_recv_other o p n k]
    exact ⟨trivial, ht⟩
  | notify p id a q ha b =>
    rw [a, b]
    simp only [List.map_cons, List.map_nil, q2Step_recv_new o p id q.1 q.2.1 q.2.2 fun hm => ha ((ht.2 id).1 hm)]
    exact ⟨trivial, ht.insert ha⟩
  | pubrelRecv p a k b =>
    rw [a, b]
    simp only [List.map_cons, List.map_nil, q2Step_recv_pubrel o p k]
    exact ⟨trivial, ht.erase _⟩
  | newSessRecv p a n b =>
    have hm : Ev.recv p ∈ (step cfg s op).ev := mem_recvs.1 (by rw [a]; exact List.mem_singleton.2 rfl)
    have := startsNewSession_of_recv hm (n.imp id fun ⟨n1, n2, n3⟩ => ⟨n1, n2, n3.imp id (hw.sei p hm)⟩)
    rw [this] at hns; cases hns
  | pubrecFailSent p e k v rc hs b =>
    obtain ⟨r, hr, hge⟩ := rc
    exact absurd ⟨p, e, by simp [EPn.nsSend, k, Mon.isErrorRc, hr, hge]⟩ he
  | newSessSent p e hm hk b => rw [startsNewSession_of_mem hm hk] at hns; cases hns
  | closedNonPersistent e n b => exact absurd ⟨e, n⟩ hcl
  | restored ids e b => exact absurd e (hrs ids)

/-! ## one call: duplicate answered, first copy notified -/

theorem step_recv_publish {cfg : Cfg} {s : St} {inp : List Nat} {pb' : Framing.PB} {fh : Nat} {data : List Nat}
    (parse : Nat → Nat → List Nat → Except Nat Pkt) {p : Pkt} (h : Delivers cfg s inp pb' fh data) (ht : fh / 16 = 3)
    (hp : parse s.ver fh data = .ok p) :
    step cfg s (.recv inp parse) =
      if s.ver = 4 then prV3Publish { cfg := cfg, s := { s with pb := pb' } } (.ok p)
      else prV5Publish { cfg := cfg, s := { s with pb := pb' } } (.ok p) := by
  rw [step_recv_of_delivers h, ht, hp]
  rfl

/-- **C07 (1), v3.1.1**: a received QoS 2 PUBLISH whose identifier is handled produces no
    notification; while connected the PUBREC for that identifier is sent (and nothing else);
    `handled` is unchanged.
    Known finding kept open (KNOWN_FINDINGS.txt, `qos2_duplicate_while_not_connected_swallowed`):
    when NOT connected such a duplicate produces no send and no error either (last conjunct). -/
theorem C07_dup_answered_v3 {cfg : Cfg} {s : St} {inp : List Nat} {pb' : Framing.PB} {fh : Nat} {data : List Nat}
    (parse : Nat → Nat → List Nat → Except Nat Pkt) {p : Pkt} {id : Nat}
    (h : Delivers cfg s inp pb' fh data) (ht : fh / 16 = 3) (hv : s.ver = 4)
    (hp : parse 4 fh data = .ok p) (hq : p.qos = 2) (hid : p.pid = some id) (hh : id ∈ s.handled) :
    recvs (step cfg s (.recv inp parse)).ev = [] ∧
    (step cfg s (.recv inp parse)).s.handled = s.handled ∧
    (s.status = .connected →
      sends (step cfg s (.recv inp parse)).ev = [mkAck cfg 4 .pubrec id] ∧ errs (step cfg s (.recv inp parse)).ev = []) ∧
    (s.status ≠ .connected →
      sends (step cfg s (.recv inp parse)).ev = [] ∧ errs (step cfg s (.recv inp parse)).ev = []) := by
  rw [step_recv_publish parse h ht (by rw [hv]; exact hp), if_pos hv]
  obtain ⟨r1, r2, -, r3, r4⟩ := (prV3Publish_q2 { cfg := cfg, s := { s with pb := pb' } } p id hq hid).dup hh
  exact ⟨r1, r2, fun hs => r3 hs trivial, r4⟩

/-- **C07 (2), v3.1.1** (`first_is_notified` = `never_swallowed`): with the identifier not handled,
    exactly one notification, carrying that packet, and the identifier is handled afterwards. -/
theorem C07_first_is_notified_v3 {cfg : Cfg} {s : St} {inp : List Nat} {pb' : Framing.PB} {fh : Nat} {data : List Nat}
    (parse : Nat → Nat → List Nat → Except Nat Pkt) {p : Pkt} {id : Nat}
    (h : Delivers cfg s inp pb' fh data) (ht : fh / 16 = 3) (hv : s.ver = 4)
    (hp : parse 4 fh data = .ok p) (hq : p.qos = 2) (hid : p.pid = some id) (hh : id ∉ s.handled) :
    recvs (step cfg s (.recv inp parse)).ev = [p] ∧
    (step cfg s (.recv inp parse)).s.handled = ins id s.handled ∧
    id ∈ (step cfg s (.recv inp parse)).s.handled := by
  rw [step_recv_publish parse h ht (by rw [hv]; exact hp), if_pos hv]
  obtain ⟨r1, r2⟩ := (prV3Publish_q2 { cfg := cfg, s := { s with pb := pb' } } p id hq hid).first hh
  exact ⟨r1, r2, r2 ▸ mem_ins.2 (.inl rfl)⟩

/-- the hypotheses "passes the alias stage and Receive Maximum" for a v5.0 PUBLISH: `p'` is the
    packet that leaves the alias stage (`prV5PublishAlias_some`: `p` itself, or `p` with the
    topic looked up in the alias table) -/
structure PassesV5 (cfg : Cfg) (s : St) (pb' : Framing.PB) (p p' : Pkt) : Prop where
  alias : (prV5PublishAlias { cfg := cfg, s := { s with pb := pb' } } p).2 = some p'
  rm : ∀ m, s.recvMax = some m → s.publishRecv.length < m

/-- a PUBLISH that passes the alias stage and the Receive Maximum test reaches the last stage, in a context `c1` that
    differs from the one it arrived in by the alias table at most -/
theorem prV5Publish_passes {cfg : Cfg} {s : St} {pb' : Framing.PB} {p p' : Pkt} {id : Nat}
    (hpass : PassesV5 cfg s pb' p p') (hid : p.pid = some id) :
    ∃ c1 : C, c1.cfg = cfg ∧ c1.ev = [] ∧ c1.s = { ({ s with pb := pb' } : St) with tar := c1.s.tar } ∧
      prV5Publish { cfg := cfg, s := { s with pb := pb' } } (.ok p) = prvMain c1 p p' := by
  obtain ⟨ha, hrm⟩ := hpass
  obtain ⟨c1, e, hc, he, hs⟩ := prV5PublishAlias_some_ctx ha
  refine ⟨c1, hc, he, hs, ?_⟩
  have hrm' : recvMaxReached c1.s = false := recvMaxReached_eq_false.2 (by rw [hs]; exact hrm)
  rw [prV5Publish_main, ha]
  dsimp only
  rw [e, if_neg (fun h => by rw [hid] at h; exact Bool.noConfusion h.2), hrm', if_neg (fun h => Bool.noConfusion h.2)]

/-- **C07 (1), v5.0**: duplicate of a handled QoS 2 PUBLISH that passes the alias stage and
    Receive Maximum (`PassesV5`): no notification, `handled` unchanged,
    PUBREC sent while connected (provided the peer's Maximum Packet Size admits a PUBREC), nothing
    sent while not connected (the known finding, see the v3.1.1 theorem). -/
theorem C07_dup_answered_v5 {cfg : Cfg} {s : St} {inp : List Nat} {pb' : Framing.PB} {fh : Nat} {data : List Nat}
    (parse : Nat → Nat → List Nat → Except Nat Pkt) {p p' : Pkt} {id : Nat}
    (h : Delivers cfg s inp pb' fh data) (ht : fh / 16 = 3) (hv : s.ver = 5)
    (hp : parse 5 fh data = .ok p) (hpass : PassesV5 cfg s pb' p p')
    (hq : p.qos = 2) (hid : p.pid = some id) (hh : id ∈ s.handled) :
    recvs (step cfg s (.recv inp parse)).ev = [] ∧
    (step cfg s (.recv inp parse)).s.handled = s.handled ∧
    (s.status = .connected → 2 + cfg.pw ≤ s.mpsSend →
      sends (step cfg s (.recv inp parse)).ev = [mkAck cfg 5 .pubrec id] ∧ errs (step cfg s (.recv inp parse)).ev = []) ∧
    (s.status ≠ .connected →
      sends (step cfg s (.recv inp parse)).ev = [] ∧ errs (step cfg s (.recv inp parse)).ev = []) := by
  obtain ⟨c1, e1, e2, e3, e7⟩ := prV5Publish_passes hpass hid
  rw [step_recv_publish parse h ht (by rw [hv]; exact hp), if_neg (by rw [hv]; decide), e7]
  have hh1 : c1.s.handled = s.handled := by rw [e3]
  have hst : c1.s.status = s.status := by rw [e3]
  obtain ⟨r1, r2, -, r3, r4⟩ := (prvMain_q2 c1 p p' id hq hid).dup (hh1 ▸ hh)
  rw [e2] at r1 r3 r4
  refine ⟨r1, r2.trans hh1, fun hs hsz => ?_, fun hs => r4 (by rw [hst]; exact hs)⟩
  have := r3 (hst.trans hs) (sizeOk_iff.2 (by rw [e1, e3]; exact hsz))
  rwa [e1] at this

/-- **C07 (2), v5.0**: first copy, passing the alias stage and Receive Maximum (`PassesV5`):
    exactly one notification — the packet that left the alias stage (topic resolved through the
    alias table when it came aliased) — and the id is handled. -/
theorem C07_first_is_notified_v5 {cfg : Cfg} {s : St} {inp : List Nat} {pb' : Framing.PB} {fh : Nat} {data : List Nat}
    (parse : Nat → Nat → List Nat → Except Nat Pkt) {p p' : Pkt} {id : Nat}
    (h : Delivers cfg s inp pb' fh data) (ht : fh / 16 = 3) (hv : s.ver = 5)
    (hp : parse 5 fh data = .ok p) (hpass : PassesV5 cfg s pb' p p')
    (hq : p.qos = 2) (hid : p.pid = some id) (hh : id ∉ s.handled) :
    recvs (step cfg s (.recv inp parse)).ev = [p'] ∧
    (step cfg s (.recv inp parse)).s.handled = ins id s.handled ∧
    id ∈ (step cfg s (.recv inp parse)).s.handled ∧
    (p' = p ∨ (p.topic = [] ∧ ∃ a t topic, p.alias = some a ∧ s.tar = some t ∧ t.get a = some topic ∧
      p' = { p with topic := topic, extracted := true })) := by
  obtain ⟨c1, -, e2, e3, e7⟩ := prV5Publish_passes hpass hid
  rw [step_recv_publish parse h ht (by rw [hv]; exact hp), if_neg (by rw [hv]; decide), e7]
  have hh1 : c1.s.handled = s.handled := by rw [e3]
  obtain ⟨r1, r2⟩ := (prvMain_q2 c1 p p' id hq hid).first (hh1 ▸ hh)
  rw [e2] at r1
  rw [hh1] at r2
  exact ⟨r1, r2, r2 ▸ mem_ins.2 (.inl rfl), prV5PublishAlias_some hpass.alias⟩


/-! ## never swallowed, in the shape of the driver's monitor -/

/-- **C07, never swallowed** (driver monitor `VIOL sig=C07 swallowed@<site>`): a complete, receivable
    frame carrying a valid QoS 2 PUBLISH whose identifier is not handled, processed without any error
    event, IS notified to the application (a `NotifyPacketReceived` with a PUBLISH of that
    identifier) — on v3.1.1 always, on v5.0 because the only ways not to notify it (Topic Alias
    invalid, Receive Maximum exceeded) report an error.  The monitor additionally requires the
    connection to be established; the model needs no such condition. -/
theorem C07_monitor_not_swallowed {cfg : Cfg} {s : St} {inp : List Nat} {pb' : Framing.PB} {fh : Nat} {data : List Nat}
    (parse : Nat → Nat → List Nat → Except Nat Pkt) {p : Pkt} {id : Nat}
    (h : Delivers cfg s inp pb' fh data) (ht : fh / 16 = 3) (hv : s.ver = 4 ∨ s.ver = 5)
    (hp : parse s.ver fh data = .ok p) (hk : p.kind = .publish) (hq : p.qos = 2) (hid : p.pid = some id)
    (hh : id ∉ s.handled) (hne : Mon.hasError (step cfg s (.recv inp parse)).ev = false) :
    ∃ q, Ev.recv q ∈ (step cfg s (.recv inp parse)).ev ∧ q.kind = .publish ∧ q.pid = some id := by
  rcases hv with hv | hv
  · have := (C07_first_is_notified_v3 parse h ht hv (hv ▸ hp) hq hid hh).1
    exact ⟨p, mem_recvs.1 (by rw [this]; simp), hk, hid⟩
  · -- v5.0: no error event means the alias stage and the Receive Maximum test were passed
    rw [step_recv_publish parse h ht hp, if_neg (by rw [hv]; decide)] at hne
    obtain ⟨p', hal, hrm⟩ := prV5Publish_passed hid (by omega) hne
    obtain ⟨c1, e, -, -, hs⟩ := prV5PublishAlias_some_ctx hal
    rw [e, hs] at hrm
    obtain ⟨r1, -⟩ := C07_first_is_notified_v5 parse h ht hv (hv ▸ hp) ⟨hal, recvMaxReached_eq_false.1 hrm⟩ hq hid hh
    have hres := Fp.prV5PublishAlias_resolved _ p p' hal
    exact ⟨p', mem_recvs.1 (by rw [r1]; exact List.mem_singleton.2 rfl), hres.kind.trans hk, hres.pid.trans hid⟩

/-! ## (4) persistence across resume / export-restore; release makes the id new again -/

theorem C07_survives_resume (cfg : Cfg) (s : St) (h : s.needStore = true) :
    (step cfg s .closed).s.handled = s.handled := by
  simp [step, notifyClosed_handled, h]

theorem C07_close_non_persistent (cfg : Cfg) (s : St) (h : s.needStore = false) :
    (step cfg s .closed).s.handled = [] := by
  simp [step, notifyClosed_handled, h]

/-- `restore_qos2_publish_handled(get_qos2_publish_handled())` on any (e.g. a fresh) object
    reproduces the exported set -/
theorem C07_restore_export (cfg : Cfg) (s0 s : St) (x : Nat) :
    x ∈ (step cfg s0 (.restoreHandled s.handled)).s.handled ↔ x ∈ s.handled := by
  simp [step, mem_foldl_ins]

/-- a received PUBREL(id) releases the identifier (both versions) -/
theorem C07_release_by_pubrel {cfg : Cfg} {s : St} {inp : List Nat} {pb' : Framing.PB} {fh : Nat} {data : List Nat}
    (parse : Nat → Nat → List Nat → Except Nat Pkt) {p : Pkt}
    (h : Delivers cfg s inp pb' fh data) (ht : fh / 16 = 6) (hp : parse s.ver fh data = .ok p) :
    (step cfg s (.recv inp parse)).s.handled = del (p.pid.getD 0) s.handled ∧
    p.pid.getD 0 ∉ (step cfg s (.recv inp parse)).s.handled := by
  rw [step_recv_of_delivers h, ht, hp]
  have hd : (dispatchRecv _ 6 (.ok p)).s.handled = _ := (prPubrel_ok { cfg := cfg, s := { s with pb := pb' } } p).2
  rw [hd]
  exact ⟨rfl, fun hm => (mem_del.1 hm).2 rfl⟩

/-- an accepted failing PUBREC (v5.0, reason code ≥ 0x80) releases the identifier -/
theorem C07_release_by_failing_pubrec (cfg : Cfg) (s : St) (p : Pkt) (rc : Nat)
    (hk : p.kind = .pubrec) (hv : p.ver = 5) (hsv : s.ver = 5) (hrc : p.rc = some rc) (hge : rc ≥ 0x80)
    (hsz : p.sz cfg.pw ≤ s.mpsSend) (hst : s.status = .connected) :
    (step cfg s (.send p)).s.handled = del (p.pid.getD 0) s.handled ∧
    p.pid.getD 0 ∉ (step cfg s (.send p)).s.handled := by
  have hs : sizeOk { cfg := cfg, s := s } p = true := sizeOk_of_le hsz
  have : (step cfg s (.send p)).s.handled = del (p.pid.getD 0) s.handled := by
    rw [step_send_eq (hv.trans hsv.symm) (by simp [roleMaySend, hk]), processSend, hk, hv]
    exact (psV5Pubrec_handled_eq _ p).trans (if_pos ⟨hs, hst, rc, hrc, hge⟩)
  rw [this]; simp [mem_del]

/-- a new session (CONNECT with clean start accepted for sending) empties `handled` -/
theorem C07_release_by_new_session (cfg : Cfg) (s : St) (p : Pkt)
    (hk : p.kind = .connect) (hv : p.ver = s.ver) (hrole : cfg.role ≠ .server) (hc : p.clean = true)
    (hst : s.status = .disconnected) (hsz : p.ver = 4 ∨ p.sz cfg.pw ≤ s.mpsSend) :
    (step cfg s (.send p)).s.handled = [] := by
  rw [step_send_connect hk hv hrole]
  rcases hsz with h4 | hsz
  · rw [if_pos h4, psV3Connect_handled, if_pos ⟨hst, hc⟩]
  · have hs : sizeOk { cfg := cfg, s := s } p = true := sizeOk_of_le hsz
    by_cases h4 : p.ver = 4
    · rw [if_pos h4, psV3Connect_handled, if_pos ⟨hst, hc⟩]
    · rw [if_neg h4, psV5Connect_handled, if_pos ⟨hs, hst, hc⟩]

/-- **released_then_new** (v3.1.1): after PUBREL(id) has been received, the next QoS 2 PUBLISH
    with that identifier is notified — whatever the state before. -/
theorem C07_released_then_new_v3 {cfg : Cfg} {s : St} {inp1 inp2 : List Nat} {pb1 pb2 : Framing.PB}
    {fh1 fh2 : Nat} {d1 d2 : List Nat} (parse1 parse2 : Nat → Nat → List Nat → Except Nat Pkt) {r p : Pkt} {id : Nat}
    (h1 : Delivers cfg s inp1 pb1 fh1 d1) (ht1 : fh1 / 16 = 6) (hr : parse1 s.ver fh1 d1 = .ok r)
    (hrid : r.pid.getD 0 = id)
    (h2 : Delivers cfg (step cfg s (.recv inp1 parse1)).s inp2 pb2 fh2 d2) (ht2 : fh2 / 16 = 3)
    (hv : (step cfg s (.recv inp1 parse1)).s.ver = 4)
    (hp : parse2 4 fh2 d2 = .ok p) (hq : p.qos = 2) (hid : p.pid = some id) :
    recvs (step cfg (step cfg s (.recv inp1 parse1)).s (.recv inp2 parse2)).ev = [p] :=
  (C07_first_is_notified_v3 parse2 h2 ht2 hv hp hq hid (hrid ▸ (C07_release_by_pubrel parse1 h1 ht1 hr).2)).1

/-- **released_then_new** (v5.0) -/
theorem C07_released_then_new_v5 {cfg : Cfg} {s : St} {inp1 inp2 : List Nat} {pb1 pb2 : Framing.PB}
    {fh1 fh2 : Nat} {d1 d2 : List Nat} (parse1 parse2 : Nat → Nat → List Nat → Except Nat Pkt) {r p p' : Pkt} {id : Nat}
    (h1 : Delivers cfg s inp1 pb1 fh1 d1) (ht1 : fh1 / 16 = 6) (hr : parse1 s.ver fh1 d1 = .ok r)
    (hrid : r.pid.getD 0 = id)
    (h2 : Delivers cfg (step cfg s (.recv inp1 parse1)).s inp2 pb2 fh2 d2) (ht2 : fh2 / 16 = 3)
    (hv : (step cfg s (.recv inp1 parse1)).s.ver = 5)
    (hp : parse2 5 fh2 d2 = .ok p) (hpass : PassesV5 cfg (step cfg s (.recv inp1 parse1)).s pb2 p p')
    (hq : p.qos = 2) (hid : p.pid = some id) :
    recvs (step cfg (step cfg s (.recv inp1 parse1)).s (.recv inp2 parse2)).ev = [p'] :=
  (C07_first_is_notified_v5 parse2 h2 ht2 hv hp hpass hq hid
    (hrid ▸ (C07_release_by_pubrel parse1 h1 ht1 hr).2)).1

/-- with `handled` empty (the state a new session leaves) a received v3.1.1 QoS 2 PUBLISH is
    notified exactly once -/
theorem C07_not_handled_then_new_v3 {cfg : Cfg} {s : St} {inp : List Nat} {pb' : Framing.PB} {fh : Nat} {data : List Nat}
    (parse : Nat → Nat → List Nat → Except Nat Pkt) {p : Pkt} {id : Nat}
    (h : Delivers cfg s inp pb' fh data) (ht : fh / 16 = 3) (hv : s.ver = 4)
    (hp : parse 4 fh data = .ok p) (hk : p.kind = .publish) (hq : p.qos = 2) (hid : p.pid = some id)
    (hempty : s.handled = []) :
    notified id (step cfg s (.recv inp parse)).ev = 1 := by
  have := (C07_first_is_notified_v3 parse h ht hv hp hq hid (by simp [hempty])).1
  simp [notified, this, isQ2, hk, hq, hid]


/-! ## non-vacuity: concrete states / inputs satisfying the hypotheses -/
namespace C07Ex

def cfg : Cfg := { role := .client, pw := 2 }
def pub4 : Pkt := { ver := 4, kind := .publish, qos := 2, pid := some 7, topic := [97], size := 7 }
def pub5 : Pkt := { ver := 5, kind := .publish, qos := 2, pid := some 7, topic := [97] }
def rel (v : Nat) : Pkt := { ver := v, kind := .pubrel, pid := some 7, size := 4 }
def parse : Nat → Nat → List Nat → Except Nat Pkt := fun v fh _ =>
  if fh / 16 = 3 then .ok (if v = 4 then pub4 else pub5) else if fh / 16 = 6 then .ok (rel v) else .error eMalformed
/-- frame: fixed header 0x34 (PUBLISH, QoS 2), remaining length 2 -/
def inPub : List Nat := [0x34, 2, 0, 7]
def inRel : List Nat := [0x62, 2, 0, 7]
def s4 (handled : List Nat) : St := { St.init cfg 4 with status := .connected, needStore := true, handled := handled }
def s5 (handled : List Nat) : St := { St.init cfg 5 with status := .connected, needStore := true, handled := handled }

theorem parse_ok : ParseOk parse := by
  intro v fh d p h
  simp only [parse] at h
  split at h
  · rename_i h3
    cases h; split <;> simp [pub4, pub5, Kind.nibble, h3]
  · split at h
    · rename_i h6; cases h; simp [rel, Kind.nibble, h6]
    · cases h

theorem delivers4 (hd : List Nat) : Delivers cfg (s4 hd) inPub {} 0x34 [0, 7] :=
  ⟨⟨[], rfl⟩, by show totalSize 2 ≤ noLimit; decide, rfl, by show (4 : Nat) ≠ 0; decide⟩
theorem delivers5 (hd : List Nat) : Delivers cfg (s5 hd) inPub {} 0x34 [0, 7] :=
  ⟨⟨[], rfl⟩, by show totalSize 2 ≤ noLimit; decide, rfl, by show (5 : Nat) ≠ 0; decide⟩
theorem deliversRel4 (hd : List Nat) : Delivers cfg (s4 hd) inRel {} 0x62 [0, 7] :=
  ⟨⟨[], rfl⟩, by show totalSize 2 ≤ noLimit; decide, rfl, by show (4 : Nat) ≠ 0; decide⟩

-- (1) duplicate: hypotheses satisfiable, conclusion as computed
example := C07_dup_answered_v3 parse (delivers4 [7]) (by decide) rfl rfl rfl rfl (by decide)
example : (step cfg (s4 [7]) (.recv inPub parse)).ev = [.send (mkAck cfg 4 .pubrec 7) none] := by decide
example := C07_dup_answered_v5 (p' := pub5) parse (delivers5 [7]) (by decide) rfl rfl
  ⟨by decide, by intro m h; cases h⟩ rfl rfl (by decide)
-- (2) first copy
example := C07_first_is_notified_v3 parse (delivers4 []) (by decide) rfl rfl rfl rfl (by decide)
example : (step cfg (s4 []) (.recv inPub parse)).ev = [.recv pub4] := by decide
example := C07_first_is_notified_v5 (p' := pub5) parse (delivers5 []) (by decide) rfl rfl
  ⟨by decide, by intro m h; cases h⟩ rfl rfl (by decide)
-- (3) a history: PUBLISH, duplicate PUBLISH (no deleting step): exactly one notification
example : OpWf (.recv inPub parse) := parse_ok
example : NoDelete cfg 7 (s4 []) [.recv inPub parse, .recv inPub parse] :=
  ⟨by unfold Deletes; decide, by unfold Deletes; decide, trivial⟩
example : notifiedRun cfg 7 (s4 []) [.recv inPub parse, .recv inPub parse] = 1 := by decide
-- … and with a PUBREL in between (a deleting step) the second PUBLISH is a new message
example : Deletes cfg 7 (s4 [7]) (.recv inRel parse) := by unfold Deletes; decide
example : notifiedRun cfg 7 (s4 []) [.recv inPub parse, .recv inRel parse, .recv inPub parse] = 2 := by decide
example := C07_release_by_pubrel parse (deliversRel4 [7]) (by decide) rfl
example := C07_release_by_failing_pubrec cfg (s5 [7]) { ver := 5, kind := .pubrec, pid := some 7, rc := some 0x80, size := 5 }
  0x80 rfl rfl rfl rfl (by decide) (by decide) rfl
example := C07_release_by_new_session cfg { s4 [7] with status := .disconnected }
  { ver := 4, kind := .connect, clean := true } rfl rfl (by decide) rfl rfl (.inl rfl)
-- a CONNACK(success, session present = false) accepted for sending starts a new session
example : Deletes { role := .server, pw := 2 } 7 { s4 [7] with status := .connecting }
    (.send { ver := 4, kind := .connack, size := 4, rc := some 0, sp := false }) := by unfold Deletes; decide
example := C07_survives_resume cfg (s4 [7]) rfl
example : (step cfg (s4 [7]) .closed).s.handled = [7] := by decide
-- (5) the monitor theorems: ghost [7] tracks handled = [7]; a PUBREL 7 arrives; afterwards both are empty
theorem monWf_rel : MonWf cfg (s4 [7]) (.recv inRel parse) where
  parse := parse_ok
  store := by intro x hx; simp [s4, St.init] at hx
  v4 := by intro p h; cases h
  sei := by
    intro p hm hp
    have : (step cfg (s4 [7]) (.recv inRel parse)).ev = [.recv (rel 4)] := by decide
    rw [this] at hm; simp at hm; subst hm; simp [rel] at hp
example : Tracks [7] (s4 [7]).handled ∧ Mon.startsNewSession (step cfg (s4 [7]) (.recv inRel parse)).ev = false ∧
    Mon.q2Step [7] (step cfg (s4 [7]) (.recv inRel parse)).ev = ([], []) ∧
    (step cfg (s4 [7]) (.recv inRel parse)).s.handled = [] :=
  ⟨⟨by decide, fun x => Iff.rfl⟩, by decide, by decide, by decide⟩
example := C07_monitor_sound cfg (s4 [7]) (.recv inRel parse) [7] monWf_rel ⟨by decide, fun x => Iff.rfl⟩
  (by decide) (by intro h; cases h.1) (by intro ids h; cases h)
example := C07_monitor_not_swallowed parse (delivers4 []) (by decide) (.inl rfl) rfl rfl rfl rfl (by decide) (by decide)

end C07Ex

end MqttVerif.Conn
