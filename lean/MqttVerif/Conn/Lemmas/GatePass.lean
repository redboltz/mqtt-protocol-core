import MqttVerif.Conn.Lemmas.Gates
import MqttVerif.Conn.Lemmas.FootprintSites
/-!
# Helper lemmas for C11: a call that passes the gate emits no gate error

`Ext c c'`: the events of `c'` are those of `c` followed by events none of which is
`NotifyError(VersionMismatch)` / `NotifyError(PacketNotAllowedToSend)`.
-/
namespace MqttVerif.Conn
open MqttVerif

def gateErr : Ev → Bool
  | .error e => e == eVersionMismatch || e == eNotAllowed
  | _ => false

def gateFree (t : List Ev) : Bool := t.all (fun e => !gateErr e)

def gateRefusedEv : List Ev → Bool
  | e :: _ => gateErr e
  | [] => false

theorem gateRefusedEv_of_free {t : List Ev} (h : gateFree t = true) : gateRefusedEv t = false := by
  cases t with
  | nil => rfl
  | cons e r => simp [gateFree] at h; simp [gateRefusedEv, h.1]

def Ext (c c' : C) : Prop := ∃ t, c'.ev = c.ev ++ t ∧ gateFree t = true

theorem Ext.refl (c : C) : Ext c c := ⟨[], by simp, rfl⟩
theorem Ext.of_ev {c c' : C} (h : c'.ev = c.ev) : Ext c c' := ⟨[], by simp [h], rfl⟩
theorem Ext.trans {a b c : C} (h1 : Ext a b) (h2 : Ext b c) : Ext a c := by
  obtain ⟨t1, e1, f1⟩ := h1; obtain ⟨t2, e2, f2⟩ := h2
  refine ⟨t1 ++ t2, by rw [e2, e1, List.append_assoc], ?_⟩
  simp [gateFree] at *; exact ⟨f1, f2⟩
theorem Ext.push {a b : C} (h : Ext a b) (e : Ev) (he : gateErr e = false) : Ext a (b.push e) :=
  Ext.trans h ⟨[e], rfl, by simp [gateFree, he]⟩
theorem Ext.err {a b : C} (h : Ext a b) (e : Nat) (h1 : e ≠ eVersionMismatch) (h2 : e ≠ eNotAllowed) :
    Ext a (b.err e) :=
  Ext.push h (.error e) (by simp [gateErr, h1, h2])
theorem Ext.setS {a b : C} (h : Ext a b) (s : St) : Ext a { b with s := s } := Ext.trans h (Ext.of_ev rfl)
theorem Ext.setPanic {a b : C} (h : Ext a b) (m : String) : Ext a (b.setPanic m) :=
  Ext.trans h (Ext.of_ev rfl)

theorem Ext.of_appends {T : List EvTag} {c c' : C} (h : Appends T c c') (hT : EvTag.error ∉ T) : Ext c c' := by
  obtain ⟨l, e, hl⟩ := h
  refine ⟨l, e, List.all_eq_true.2 fun x hx => ?_⟩
  have := hl x hx
  cases x <;> first | rfl | exact absurd this hT

theorem Ext.sent {a b : C} (h : Ext a b) (p : Pkt) (r : Option Nat) : Ext a (sendPostProcess (b.push (.send p r))) :=
  (h.push _ rfl).trans (.of_appends (Fp.sendPostProcess_ev _) (by decide))
theorem Ext.sentIf {a b : C} (h : Ext a b) (p : Pkt) (r : Option Nat) :
    Ext a (Fp.sendIfConnected b p r) :=
  Fp.sendIfConnected_cases b p r (fun _ => h.sent p r) fun _ => h
theorem Ext.storeAdd {a b : C} (h : Ext a b) (id : Nat) (p : Pkt) (m : String) : Ext a (storeAdd b id p m) :=
  h.trans (.of_ev (Fp.storeAdd_ev b id p m))
theorem Ext.closed {a b : C} (h : Ext a b) (s : St) : Ext a ((cancelTimers { b with s := s }).push .close) :=
  ((h.setS s).trans (.of_appends (Fp.cancelTimers_ev _) (by decide))).push _ rfl

/-! ## every `process_send_*` past its gate -/

theorem Ext.guarded {c : C} {large refuse : Prop} [Decidable large] [Decidable refuse] {rel : Option Nat} {body : C}
    (hl : ¬large) (hr : ¬refuse) (h : Ext c body) : Ext c (Fp.guarded c large refuse rel body) :=
  (Fp.guarded_pass hl hr).symm ▸ h

theorem pass_psV3Connect (c : C) (p : Pkt) (hr : ¬c.s.status ≠ .disconnected) : Ext c (psV3Connect c p) := by
  rw [Fp.psV3Connect_eq]
  refine .guarded not_false hr (Ext.sent (.setS ?_ _) p none)
  exact Fp.ite_ind (fun _ => .of_ev rfl) fun _ => .of_ev rfl

theorem pass_psV5Connect (c : C) (p : Pkt) (hl : ¬(!sizeOk c p) = true) (hr : ¬c.s.status ≠ .disconnected) :
    Ext c (psV5Connect c p) := by
  rw [Fp.psV5Connect_eq]
  refine .guarded hl hr (Ext.sent (.of_ev ((Fp.propsFold_keeps C.ev _ Fp.connectSendProp_ev _ _).trans ?_)) p none)
  exact Fp.ite_ind (Q := fun x : C => x.ev = c.ev) (fun _ => rfl) fun _ => rfl

theorem pass_connackTail {c0 c : C} (p : Pkt) (h : Ext c0 c) : Ext c0 (Fp.connackTail c p) := by
  unfold Fp.connackTail
  refine Fp.ite_ind (fun _ => h.closed _) fun _ => .trans ?_ (.of_appends (Fp.sendPostProcess_ev _) (by decide))
  exact Fp.ite_ind (fun _ => (h.setS _).trans (.of_appends (Fp.sendStored_ev _) (by decide))) fun _ => (h.setS _).setS _

theorem pass_psV3Connack (c : C) (p : Pkt) (hr : ¬c.s.status ≠ .connecting) : Ext c (psV3Connack c p) :=
  Fp.psV3Connack_guarded c p ▸ .guarded not_false hr (pass_connackTail p ((Ext.refl c).push _ rfl))

theorem pass_psV5Connack (c : C) (p : Pkt) (hl : ¬(!sizeOk c p) = true) (hr : ¬c.s.status ≠ .connecting) :
    Ext c (psV5Connack c p) := by
  rw [Fp.psV5Connack_guarded]
  refine .guarded hl hr (pass_connackTail p (Ext.push ?_ _ rfl))
  exact Fp.ite_ind (fun _ => .of_appends (Fp.propsFold_ev _ Fp.connackSendProp_ev c _) (by decide)) fun _ => .refl c

theorem pass_psV3Simple (c : C) (p : Pkt) (hr : ¬c.s.status ≠ .connected) : Ext c (psV3Simple c p) :=
  Fp.psV3Simple_eq c p ▸ .guarded not_false hr ((Ext.refl c).sent p none)

theorem pass_psV5Simple (c : C) (p : Pkt) (hl : ¬(!sizeOk c p) = true) (hr : ¬c.s.status ≠ .connected) :
    Ext c (psV5Simple c p) :=
  Fp.psV5Simple_eq c p ▸ .guarded hl hr ((Ext.refl c).sent p none)

theorem pass_psV5Puback (c : C) (p : Pkt) (hl : ¬(!sizeOk c p) = true) (hr : ¬c.s.status ≠ .connected) :
    Ext c (psV5Puback c p) :=
  Fp.psV5Puback_eq c p ▸ .guarded hl hr (((Ext.refl c).setS _).sent p none)

theorem pass_psV5Pubrec (c : C) (p : Pkt) (hl : ¬(!sizeOk c p) = true) (hr : ¬c.s.status ≠ .connected) :
    Ext c (psV5Pubrec c p) := by
  rw [Fp.psV5Pubrec_eq]
  refine .guarded hl hr (Ext.sent ?_ p none)
  exact Fp.ite_ind (fun _ => .of_ev rfl) fun _ => .refl c

theorem pass_disconnect (c : C) (p : Pkt) :
    Ext c (((cancelTimers { c with s := { c.s with status := .disconnected } }).push (.send p none)).push .close) :=
  ((((Ext.refl c).setS _).trans (.of_appends (Fp.cancelTimers_ev _) (by decide))).push _ rfl).push _ rfl

theorem pass_psV3Disconnect (c : C) (p : Pkt) (hr : ¬c.s.status ≠ .connected) : Ext c (psV3Disconnect c p) :=
  Fp.psV3Disconnect_eq c p ▸ .guarded not_false hr (pass_disconnect c p)

theorem pass_psV5Disconnect (c : C) (p : Pkt) (hl : ¬(!sizeOk c p) = true) (hr : ¬c.s.status ≠ .connected) :
    Ext c (psV5Disconnect c p) :=
  Fp.psV5Disconnect_eq c p ▸ .guarded hl hr (pass_disconnect c p)

theorem pass_psV5Auth (c : C) (p : Pkt) (hl : ¬(!sizeOk c p) = true) (hr : ¬c.s.status = .disconnected) :
    Ext c (psV5Auth c p) :=
  Fp.psV5Auth_eq c p ▸ .guarded hl hr ((Ext.refl c).sent p none)

theorem pass_psPingreq (c : C) (p : Pkt) (hl : ¬Fp.oversize c p) (hr : ¬c.s.status ≠ .connected) :
    Ext c (psPingreq c p) := by
  rw [Fp.psPingreq_eq]
  refine .guarded hl hr (.trans ?_ (.of_appends (Fp.sendPostProcess_ev _) (by decide)))
  exact Fp.ite_ind (fun _ => (((Ext.refl c).push _ rfl).setS _).push _ rfl) fun _ => (Ext.refl c).push _ rfl

theorem pass_psPubrel (c : C) (p : Pkt) (hl : ¬Fp.oversize c p)
    (hr : ¬(c.s.status ≠ .connected ∧ (!c.s.needStore) = true)) : Ext c (psPubrel c p) := by
  rw [Fp.psPubrel_eq]
  refine .guarded hl hr (Fp.ite_ind (fun _ => (Ext.refl c).err _ (by decide) (by decide)) fun _ =>
    Ext.sentIf (.setS ?_ _) p none)
  exact Fp.ite_ind (fun _ => (Ext.refl c).storeAdd ..) fun _ => .refl c

theorem pass_psSubUnsub (c : C) (p : Pkt) (hl : ¬Fp.oversize c p) (hr : ¬c.s.status ≠ .connected) :
    Ext c (psSubUnsub c p) := by
  rw [Fp.psSubUnsub_eq]
  refine .guarded hl hr (Fp.ite_ind (fun _ => (Ext.refl c).err _ (by decide) (by decide)) fun _ => Ext.sent ?_ p _)
  exact Fp.ite_ind (fun _ => .of_ev rfl) fun _ => .of_ev rfl

theorem pass_psV3Publish (c : C) (p : Pkt) (hid : p.qos > 0 → p.pid.isSome = true)
    (h : ¬Fp.stateRefuses c.s .publish p.qos) : Ext c (psV3Publish c p) :=
  Fp.psV3Publish_paths c p (fun hq hp => nomatch hp ▸ hid hq) (fun _ hq _ ha => absurd ((if_pos hq).mpr ha) h)
    (fun _ _ _ _ _ => (Ext.refl c).err _ (by decide) (by decide))
    (fun id _ _ => Ext.sentIf (.of_ev ((Fp.addWait_ev ..).trans (Fp.storeAdd_ev ..))) p _)
    (fun id _ _ => Ext.sentIf (.of_ev (Fp.addWait_ev ..)) p _) (fun hq hc => absurd ((if_neg hq).mpr hc) h)
    (fun _ _ => (Ext.refl c).sent p none)

/-! ### v5.0 PUBLISH -/

theorem Ext.tail {a b : C} (h : Ext a b) (p : Pkt) (rel : Option Nat) : Ext a (psV5PublishTail b p rel) :=
  h.trans (.of_appends (Fp.psV5PublishTail_ev b p rel) (by decide))

theorem Ext.refused {a b : C} (h : Ext a b) (e : Nat) (h1 : e ≠ eVersionMismatch) (h2 : e ≠ eNotAllowed)
    (pid : Option Nat) : Ext a (pubRefuseCleanup (b.err e) pid) :=
  (h.err e h1 h2).trans (.of_appends (Fp.pubRefuseCleanup_ev _ pid) (by decide))

theorem validateTopicAliasRange_tas {s s' : St} (h : s'.tas = s.tas) (a : Nat) :
    validateTopicAliasRange s' a = validateTopicAliasRange s a := by
  unfold validateTopicAliasRange; rw [h]

theorem ext_validateTopicAlias (c : C) (ao : Option Nat) : Ext c (validateTopicAlias c ao).2 :=
  .of_ev (Fp.validateTopicAlias_ev c ao)

/-- the alias stage past its two refusals with `PacketNotAllowedToSend`: an alias given with a topic is in range, and
    an empty topic that has not been validated resolves -/
theorem pass_psV5PublishAlias (c0 c : C) (p : Pkt) (rel : Option Nat) (v : Bool) (h0 : Ext c0 c)
    (hr : p.topic ≠ [] → ∀ a, p.alias = some a → validateTopicAliasRange c.s a = true)
    (hu : v = false → p.topic = [] → (validateTopicAlias c p.alias).1 ≠ none) :
    Ext c0 (psV5PublishAlias c p rel v) :=
  Fp.psV5PublishAlias_paths c p rel v (fun _ => h0.refused _ (by decide) (by decide) _)
    (fun _ ht a ha hf => absurd ((hr ht a ha).symm.trans hf) nofun) (fun _ hv ht hn => absurd hn (hu hv ht))
    (fun _ _ _ => h0.tail p rel) (fun _ _ _ _ _ => (h0.trans (ext_validateTopicAlias c p.alias)).tail p rel)
    (fun _ _ _ _ _ => Ext.tail (Fp.ite_ind (fun _ => h0.trans (.of_ev (Fp.tasInsert_ev ..))) fun _ => h0) p rel)
    (fun _ _ _ => (h0.trans (.of_ev (Fp.autoAlias_ev c p))).tail _ rel)

/-- what `validate_topic_alias` answers: a function of the alias and the send-side table only -/
def aliasLookup (tas : Option TAS) (ao : Option Nat) : Option (List Nat) :=
  match ao, tas with
  | some a, some t => if a = 0 ∨ a > t.max then none else (t.get a).1
  | _, _ => none

theorem validateTopicAlias_fst (c : C) (ao : Option Nat) :
    (validateTopicAlias c ao).1 = aliasLookup c.s.tas ao := by
  unfold validateTopicAlias aliasLookup validateTopicAliasRange
  cases ao with
  | none => rfl
  | some a =>
    cases ht : c.s.tas with
    | none => simp
    | some t =>
      by_cases hr : a = 0 ∨ a > t.max
      · simp [hr]
      · simp [hr]

theorem pass_psV5Publish (c : C) (p : Pkt) (hs : ¬(!sizeOk c p) = true)
    (hid : p.qos > 0 → p.pid.isSome = true) (h : ¬Fp.stateRefuses c.s .publish p.qos)
    (hal : if p.topic.isEmpty then (aliasLookup c.s.tas p.alias).isSome = true
           else ∀ a, p.alias = some a → validateTopicAliasRange c.s a = true) :
    Ext c (psV5Publish c p) := by
  have found : p.topic = [] → ∀ {c' : C}, c'.s.tas = c.s.tas → (validateTopicAlias c' p.alias).1 ≠ none :=
    fun he c' ht hn => by
      rw [validateTopicAlias_fst, ht] at hn
      have := (if_pos (List.isEmpty_iff.2 he)).mp hal
      rw [hn] at this
      cases this
  -- the alias stage entered with the packet as given, in a context that has the alias table of `c`
  have stage : ∀ (c' : C) (rel : Option Nat), Ext c c' → c'.s.tas = c.s.tas →
      Ext c (psV5PublishAlias c' p rel false) := fun c' rel h0 ht =>
    pass_psV5PublishAlias c c' p rel false h0
      (fun hne a ha => (validateTopicAliasRange_tas ht a).trans
        ((if_neg fun he => hne (List.isEmpty_iff.1 he)).mp hal a ha))
      (fun _ he => found he ht)
  have large : sizeOk c p = false → False := fun e => hs (by rw [e]; rfl)
  refine Fp.psV5Publish_paths c p (fun e _ => (large e).elim) (fun _ e _ => (large e).elim)
    (fun _ hq e => nomatch e ▸ hid hq) (fun _ _ hq _ hn => absurd ((if_pos hq).mpr hn) h)
    (fun _ _ _ _ _ _ => (Ext.refl c).err _ (by decide) (by decide))
    (fun id _ _ ht hr => absurd hr (found ht rfl)) (fun id t _ _ ht _ => ?_)
    (fun id _ _ _ => stage _ none (.of_ev ((Fp.addWait_ev ..).trans (Fp.storeAdd_ev ..)))
      (by rw [Fp.addWait_s, Fp.storeAdd_s]))
    (fun id _ _ => stage _ (some id) (.of_ev (Fp.addWait_ev ..)) (by rw [Fp.addWait_s]))
    (fun _ hq hc => absurd ((if_neg hq).mpr hc) h) (fun _ _ _ => stage c none (.refl c) rfl)
  refine pass_psV5PublishAlias c _ p none true ((ext_validateTopicAlias c p.alias).trans (.of_ev ?_))
    (fun hne => absurd ht hne) (fun hv => nomatch hv)
  exact (Fp.addWait_ev ..).trans ((Fp.storeAdd_ev ..).trans (Fp.wildcardCheck_ev ..))

/-! ## `processSend` / `send` past the gate -/

/-- the packet is not a v5.0 PUBLISH that depends on the Topic Alias table being in a
    particular state (alias refusals are C13's subject): either it has a topic name and its
    alias, if any, is within the peer's Topic Alias Maximum; or it has none and its alias
    resolves in the send-side alias table -/
def AliasFine (s : St) (p : Pkt) : Prop :=
  p.ver = 5 → p.kind = .publish →
    if p.topic.isEmpty then (aliasLookup s.tas p.alias).isSome = true
    else ∀ a, p.alias = some a → validateTopicAliasRange s a = true

theorem processSend_pass (c : C) (p : Pkt) (wf : Spec.PktWf p) (hs : ¬Fp.oversize c p)
    (hst : ¬Fp.stateRefuses c.s p.kind p.qos) (ha : AliasFine c.s p) : Ext c (processSend c p) :=
  have t : ∀ {k}, p.kind = k → ¬Fp.stateRefuses c.s k p.qos := fun hk => hk ▸ hst
  have v5 : p.ver ≠ 4 → ¬(!sizeOk c p) = true := fun h4 h => hs ⟨wf.ver.resolve_left h4, h⟩
  Fp.processSend_cases c p (fun _ hk => pass_psV3Connect c p (t hk)) (fun _ hk => pass_psV3Connack c p (t hk))
    (fun _ hk => pass_psV3Publish c p (wf.pubId hk) (t hk))
    (fun _ hk => pass_psV3Simple c p (Fp.stateRefuses_simple hk ▸ hst))
    (fun _ hk => pass_psV3Disconnect c p (t hk)) (fun _ _ => .refl c)
    (fun hk => pass_psPubrel c p hs (t hk)) (fun hk => pass_psSubUnsub c p hs (hk.elim t t))
    (fun hk => pass_psPingreq c p hs (t hk))
    (fun hv hk => pass_psV5Connect c p (v5 hv) (t hk)) (fun hv hk => pass_psV5Connack c p (v5 hv) (t hk))
    (fun hv hk => pass_psV5Publish c p (v5 hv) (wf.pubId hk) (t hk) (ha (wf.ver.resolve_left hv) hk))
    (fun hv hk => pass_psV5Puback c p (v5 hv) (t hk)) (fun hv hk => pass_psV5Pubrec c p (v5 hv) (t hk))
    (fun hv hk => pass_psV5Puback c p (v5 hv) (t hk)) (fun hv hk => pass_psV5Disconnect c p (v5 hv) (t hk))
    (fun hv hk => pass_psV5Auth c p (v5 hv) (t hk))
    (fun hv hk => pass_psV5Simple c p (v5 hv) (Fp.stateRefuses_simple (List.mem_append_right [_, _, _] hk) ▸ hst))

theorem send_pass (c : C) (p : Pkt) (wf : Spec.PktWf p) (hs : ¬Fp.oversize c p)
    (h : Spec.mayTransmit c.cfg.role c.s.ver c.s.status p c.s.needStore c.s.offline = true)
    (ha : AliasFine c.s p) : Ext c (send c p) :=
  have ⟨hv, hr, hst⟩ := (mayTransmit_iff c p wf).1 h
  Fp.send_cases c p (fun h => absurd hv h) (fun _ h => absurd (hr.symm.trans h) (by decide)) fun _ _ =>
    processSend_pass c p wf hs hst ha

end MqttVerif.Conn
