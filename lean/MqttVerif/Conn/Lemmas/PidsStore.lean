import MqttVerif.Conn.Lemmas.PidsStep
/-!
# C08 — when releases are announced (close, completion, a refused send); the ownership invariant `PidInv` (what is
provable of it); store ids stay pairwise distinct (unconditionally); `restorePackets` and `release` keep `PidInv`
-/
namespace MqttVerif.Conn
open MqttVerif

/-! ## close -/

theorem notifyClosed_free {c : C} (h : Wf c) {id : Nat}
    (hm : id ∈ c.s.suback ∨ id ∈ c.s.unsuback ∨
      (c.s.needStore = false ∧ (id ∈ c.s.puback ∨ id ∈ c.s.pubrec ∨ id ∈ c.s.pubcomp))) :
    isUsed (notifyClosed c).s id = false :=
  (Fp.notifyClosed_ids c).free h (IdPrim.close_mild c.s) (IdPrim.mem_close hm)

/-! ## completion -/

/-- the call `recv inp parse` in state `s` completes a frame whose type nibble is `t`, passes
    the size / role / version gates of `process_recv_packet`, and reaches the handler of `t`
    with parse result `parsed` -/
def Delivers (cfg : Cfg) (s : St) (inp : List Nat) (parse : Nat → Nat → List Nat → Except Nat Pkt)
    (t : Nat) (parsed : Except Nat Pkt) : Prop :=
  ∃ pb fh data rest, Framing.feed s.pb inp = (pb, some (.complete fh data), rest) ∧
    totalSize data.length ≤ s.mpsRecv ∧ canReceive cfg s (fh / 16) = true ∧ s.ver ≠ 0 ∧
    t = fh / 16 ∧ parsed = parse s.ver fh data

theorem step_recv_delivers {cfg : Cfg} {s : St} {inp : List Nat}
    {parse : Nat → Nat → List Nat → Except Nat Pkt} {t : Nat} {parsed : Except Nat Pkt}
    (d : Delivers cfg s inp parse t parsed) :
    ∃ pb, step cfg s (.recv inp parse) = dispatchRecv { cfg := cfg, s := { s with pb := pb } } t parsed := by
  obtain ⟨pb, fh, data, rest, hf, hsz, hcan, hv, rfl, rfl⟩ := d
  exact ⟨pb, step_recv_dispatch hf hsz hcan hv parse⟩

/-! ## refusal -/

attribute [simp] errs_append

theorem ite_errs (p : Prop) {_ : Decidable p} (a b : List Ev) :
    errs (if p then a else b) = if p then errs a else errs b := apply_ite _ _ _ _

/-- closes `errs c'.ev = errs c.ev` for a `c'` built from `c` by steps that report no error -/
macro "errs_tac" : tactic =>
  `(tactic| simp [ite_cfg, ite_s, ite_ev, ite_pidMan, ite_rel, ite_fst, ite_snd, ite_errs, errs])

@[simp] theorem sendPostProcess_errs (c : C) : errs (sendPostProcess c).ev = errs c.ev :=
  (Fp.sendPostProcess_ev c).errs_eq (by decide)
@[simp] theorem storeAdd_errs (c : C) (id : Nat) (p : Pkt) (x : String) : errs (storeAdd c id p x).ev = errs c.ev := by
  rw [Fp.storeAdd_ev]
@[simp] theorem tasInsert_errs (c : C) (t : List Nat) (a : Nat) (x : String) : errs (tasInsert c t a x).ev = errs c.ev := by
  rw [Fp.tasInsert_ev]
@[simp] theorem autoAlias_errs (c : C) (p : Pkt) : errs (autoAlias c p).1.ev = errs c.ev := by
  rw [Fp.autoAlias_ev]
@[simp] theorem validateTopicAlias_errs (c : C) (ao : Option Nat) : errs (validateTopicAlias c ao).2.ev = errs c.ev := by
  rw [Fp.validateTopicAlias_ev]
@[simp] theorem psV5PublishTail_errs (c : C) (p : Pkt) (r : Option Nat) : errs (psV5PublishTail c p r).ev = errs c.ev :=
  (Fp.psV5PublishTail_ev c p r).errs_eq (by decide)

theorem pubRefuseCleanup_rel (c : C) (id : Nat) :
    Mon.releasedIds (pubRefuseCleanup c (some id)).ev =
      Mon.releasedIds c.ev ++ (if isUsed c.s id = true then [id] else []) := by
  unfold pubRefuseCleanup; dsimp only
  by_cases hu : isUsed c.s id = true
  · rw [if_pos hu, if_pos hu, push_ev, releasedIds_append]
    show Mon.releasedIds (releaseId c id).ev ++ _ = _
    rw [Fp.releaseId_ev]; rfl
  · rw [if_neg hu, if_neg hu, List.append_nil]

theorem pubRefuseCleanup_pidMan (c : C) (pid : Option Nat) :
    (pubRefuseCleanup c pid).s.pidMan = (match pid with | some id => (releaseIfUsed c id).s.pidMan | none => c.s.pidMan) := by
  unfold pubRefuseCleanup
  split
  · rfl
  · rename_i id
    simp only []
    unfold releaseIfUsed
    split <;> simp

/-- outcome of a send handler for a packet carrying the in-use id `id`: either no new error
    was reported, or exactly `id` was announced as released -/
def Refuse (c c' : C) (id : Nat) : Prop :=
  errs c'.ev = errs c.ev ∨ Mon.releasedIds c'.ev = Mon.releasedIds c.ev ++ [id]

theorem Refuse.release {c c1 : C} {id : Nat} (q : Quiet c c1) (hu : isUsed c.s id = true) :
    Refuse c (releaseIfUsed c1 id) id :=
  .inr (by rw [releaseIfUsed_rel, isUsed_congr q.2.1, if_pos hu, q.2.2])

theorem Refuse.cleanup {c c1 : C} {id : Nat} (q : Quiet c c1) (hu : isUsed c.s id = true) :
    Refuse c (pubRefuseCleanup c1 (some id)) id :=
  .inr (by rw [pubRefuseCleanup_rel, isUsed_congr q.2.1, if_pos hu, q.2.2])

theorem Refuse.via {c c1 c' : C} {id : Nat} (q : Quiet c c1) (e : errs c1.ev = errs c.ev)
    (hu : isUsed c.s id = true) (r : isUsed c1.s id = true → Refuse c1 c' id) : Refuse c c' id := by
  have r := r ((isUsed_congr q.2.1 id).trans hu)
  unfold Refuse at *
  rw [← e, ← q.2.2]; exact r

theorem Refuse.ite {c a b : C} {id : Nat} {p : Prop} [Decidable p] (ha : p → Refuse c a id)
    (hb : ¬p → Refuse c b id) : Refuse c (if p then a else b) id :=
  Fp.ite_ind (Q := fun x => Refuse c x id) ha hb

theorem psV3Publish_refuse (c : C) (p : Pkt) (id : Nat) (hq : p.qos > 0) (hp : p.pid = some id)
    (hu : isUsed c.s id = true) : Refuse c (psV3Publish c p) id := by
  unfold psV3Publish
  rw [if_pos hq, hp]
  refine Refuse.ite (fun _ => Refuse.release ((Quiet.refl c).err _) hu) (fun _ => Refuse.ite (fun hn => ?_)
    (fun _ => Or.inl (by errs_tac)))
  rw [hu] at hn; exact absurd hn (by decide)

theorem psSubUnsub_refuse (c : C) (p : Pkt) (id : Nat) (hp : p.pid = some id)
    (hu : isUsed c.s id = true) : Refuse c (psSubUnsub c p) id := by
  unfold psSubUnsub
  rw [hp]
  refine Refuse.ite (fun _ => Refuse.release ((Quiet.refl c).err _) hu) (fun _ =>
    Refuse.ite (fun _ => Refuse.release ((Quiet.refl c).err _) hu) (fun _ => Refuse.ite (fun hn => ?_)
      (fun _ => Or.inl (by errs_tac))))
  rw [show isUsed c.s ((some id).getD 0) = true from hu] at hn; exact absurd hn (by decide)

theorem psV5PublishAlias_refuse (c : C) (p : Pkt) (rel : Option Nat) (v : Bool) (id : Nat)
    (hp : p.pid = some id) (hu : isUsed c.s id = true) : Refuse c (psV5PublishAlias c p rel v) id := by
  unfold psV5PublishAlias
  rw [hp]
  refine Refuse.ite (fun _ => Refuse.cleanup ((Quiet.refl c).err _) hu) (fun _ => Refuse.ite (fun _ => ?_) (fun _ => ?_))
  · cases v
    · exact Refuse.ite (fun _ => Refuse.cleanup ((validateTopicAlias_q c p.alias).err _) hu) (fun _ => Or.inl (by errs_tac))
    · exact Refuse.ite (fun _ => Refuse.cleanup ((Quiet.refl c).err _) hu) (fun _ => Or.inl (by errs_tac))
  · cases p.alias with
    | none => exact Or.inl (by errs_tac)
    | some a => exact Refuse.ite (fun _ => Or.inl (by errs_tac)) (fun _ => Refuse.cleanup ((Quiet.refl c).err _) hu)

/-- fix 1d0ef05: a refusal before the handler (version, role) of a packet carrying the in-use
    id it was given to start an exchange announces that id -/
theorem refuseSend_refuse (c : C) (e : Nat) (p : Pkt) (id : Nat) (hi : initiatingId p = some id)
    (hu : isUsed c.s id = true) : Refuse c (refuseSend c e p) id := by
  unfold refuseSend
  rw [hi]
  exact Refuse.release ((Quiet.refl c).err e) hu

theorem initiatingId_of_kind {p : Pkt} {id : Nat}
    (hk : p.kind = .publish ∨ p.kind = .subscribe ∨ p.kind = .unsubscribe) (hp : p.pid = some id) :
    initiatingId p = some id := by
  unfold initiatingId; rw [if_pos hk, hp]

theorem refuseSend_none (c : C) (e : Nat) (p : Pkt) (hi : initiatingId p = none) :
    refuseSend c e p = c.err e := by
  unfold refuseSend; rw [hi]

theorem refuseSend_unused (c : C) (e : Nat) (p : Pkt) (id : Nat) (hi : initiatingId p = some id)
    (hu : isUsed c.s id = false) : refuseSend c e p = c.err e := by
  unfold refuseSend; rw [hi]
  exact releaseIfUsed_unused (c := c.err e) hu

theorem refuseSend_used {c : C} (h : Wf c) (e : Nat) (p : Pkt) (id : Nat) (hi : initiatingId p = some id)
    (hu : isUsed c.s id = true) :
    refuseSend c e p =
      { c with s := { c.s with pidMan := (Alloc.deallocate c.s.pidMan id).2 },
               ev := c.ev ++ [.error e, .released id] } := by
  unfold refuseSend; rw [hi]
  have hw : Wf (c.err e) := h.congr rfl rfl
  show releaseIfUsed (c.err e) id = _
  rw [releaseIfUsed_used hw hu]
  simp [C.push, C.err]

theorem psV5Publish_refuse (c : C) (p : Pkt) (id : Nat) (hq : p.qos > 0) (hp : p.pid = some id)
    (hu : isUsed c.s id = true) : Refuse c (psV5Publish c p) id := by
  unfold psV5Publish
  rw [hp, if_pos hq]
  refine Refuse.ite (fun _ => Refuse.release ((Quiet.refl c).err _) hu) (fun _ =>
    Refuse.ite (fun _ => Refuse.release ((Quiet.refl c).err _) hu) (fun _ => Refuse.ite (fun hn => ?_) (fun _ =>
      Refuse.ite (fun _ => Refuse.ite (fun _ => ?_) (fun _ => ?_)) (fun _ => ?_))))
  · rw [hu] at hn; exact absurd hn (by decide)
  · have q := validateTopicAlias_q c p.alias
    have e := validateTopicAlias_errs c p.alias
    generalize validateTopicAlias c p.alias = r at q e ⊢
    obtain ⟨o, c1⟩ := r
    cases o with
    | none => exact Refuse.release (q.err _) hu
    | some t =>
      exact Refuse.via (q.trans (by quiet_tac)) (Eq.trans (by errs_tac) e) hu
        (psV5PublishAlias_refuse _ p none true id hp)
  · exact Refuse.via (by quiet_tac) (by errs_tac) hu (psV5PublishAlias_refuse _ p none false id hp)
  · exact Refuse.via (by quiet_tac) (by errs_tac) hu (psV5PublishAlias_refuse _ p (some id) false id hp)

/-- ids owned by an in-flight exchange -/
def waitIds (s : St) : List Nat := s.suback ++ s.unsuback ++ s.puback ++ s.pubrec ++ s.pubcomp

/-- **ownership invariant** (no dangling owner): (i) every id in a wait set is in use,
    (ii) every stored packet's id is in use, (iii) store ids are pairwise distinct -/
def PidInv (s : St) : Prop :=
  (∀ id ∈ waitIds s, isUsed s id = true) ∧ (∀ x ∈ s.store, isUsed s x.1 = true) ∧
    (s.store.map (·.1)).Nodup

instance (s : St) : Decidable (PidInv s) := by unfold PidInv; infer_instance

instance (cfg : Cfg) (s : St) : Decidable (PidWf cfg s) := by unfold PidWf; infer_instance

def owned (s : St) (id : Nat) : Prop := id ∈ waitIds s ∨ storeHas id s.store = true

instance (s : St) (id : Nat) : Decidable (owned s id) := by unfold owned; infer_instance

abbrev Still (c c' : C) : Prop :=
  c'.s.suback = c.s.suback ∧ c'.s.unsuback = c.s.unsuback ∧ c'.s.puback = c.s.puback ∧
    c'.s.pubrec = c.s.pubrec ∧ c'.s.pubcomp = c.s.pubcomp ∧ c'.s.store = c.s.store

theorem PidInv.of_ids {s s' : St} (i : PidInv s) (h : s'.ids = s.ids) : PidInv s' := by
  obtain ⟨h1, h2, h3, h4, h5, h6, h7⟩ := Ids.mk.inj h
  unfold PidInv waitIds isUsed at *
  rw [h1, h2, h3, h4, h5, h6, h7]
  exact i

theorem PidInv.of_still {c c' : C} (i : PidInv c.s) (st : Still c c')
    (hu : ∀ id, owned c.s id → isUsed c.s id = true → isUsed c'.s id = true) : PidInv c'.s := by
  obtain ⟨s1, s2, s3, s4, s5, s6⟩ := st
  obtain ⟨i1, i2, i3⟩ := i
  have hw : waitIds c'.s = waitIds c.s := by simp only [waitIds, s1, s2, s3, s4, s5]
  refine ⟨?_, ?_, ?_⟩
  · intro id hm
    rw [hw] at hm
    exact hu id (Or.inl hm) (i1 id hm)
  · intro x hx
    rw [s6] at hx
    refine hu x.1 (Or.inr ?_) (i2 x hx)
    simp only [storeHas, List.any_eq_true, decide_eq_true_eq]
    exact ⟨x, hx, rfl⟩
  · rw [s6]; exact i3

theorem releaseIfUsed_keeps {c : C} (h : Wf c) {id x : Nat} (hne : x ≠ id) (hx : isUsed c.s x = true) :
    isUsed (releaseIfUsed c id).s x = true := by
  rw [releaseIfUsed_isUsed h, hx]; simpa using hne

set_option linter.unusedVariables false in
theorem releaseIfUsed_still {c : C} (h : Wf c) (id : Nat) : Still c (releaseIfUsed c id) := by
  rw [Still, Fp.releaseIfUsed_s]; exact ⟨rfl, rfl, rfl, rfl, rfl, rfl⟩

def ncA (c : C) : C :=
  { c with s := { c.s with mpsSend := noLimit, mpsRecv := noLimit, status := .disconnected,
                            tas := none, tar := none } }
def ncH (c : C) : C := { c with s := { c.s with handled := [] } }
def ncS (c : C) : C := { c with s := { c.s with store := [] } }
def ncP (c : C) : C := { c with s := { c.s with pb := Framing.PB.reset } }

theorem ncS_suback (c : C) : (ncS c).s.suback = c.s.suback := rfl
theorem ncS_unsuback (c : C) : (ncS c).s.unsuback = c.s.unsuback := rfl
theorem ncS_puback (c : C) : (ncS c).s.puback = c.s.puback := rfl
theorem ncS_pubrec (c : C) : (ncS c).s.pubrec = c.s.pubrec := rfl
theorem ncS_pubcomp (c : C) : (ncS c).s.pubcomp = c.s.pubcomp := rfl
theorem ncS_store (c : C) : (ncS c).s.store = [] := rfl
theorem ncH_suback (c : C) : (ncH c).s.suback = c.s.suback := rfl
theorem ncH_unsuback (c : C) : (ncH c).s.unsuback = c.s.unsuback := rfl
theorem ncH_puback (c : C) : (ncH c).s.puback = c.s.puback := rfl
theorem ncH_pubrec (c : C) : (ncH c).s.pubrec = c.s.pubrec := rfl
theorem ncH_pubcomp (c : C) : (ncH c).s.pubcomp = c.s.pubcomp := rfl
theorem ncH_store (c : C) : (ncH c).s.store = c.s.store := rfl
theorem ncP_suback (c : C) : (ncP c).s.suback = c.s.suback := rfl
theorem ncP_unsuback (c : C) : (ncP c).s.unsuback = c.s.unsuback := rfl
theorem ncP_puback (c : C) : (ncP c).s.puback = c.s.puback := rfl
theorem ncP_pubrec (c : C) : (ncP c).s.pubrec = c.s.pubrec := rfl
theorem ncP_pubcomp (c : C) : (ncP c).s.pubcomp = c.s.pubcomp := rfl
theorem ncP_store (c : C) : (ncP c).s.store = c.s.store := rfl
theorem ncA_suback (c : C) : (ncA c).s.suback = c.s.suback := rfl
theorem ncA_unsuback (c : C) : (ncA c).s.unsuback = c.s.unsuback := rfl
theorem ncA_puback (c : C) : (ncA c).s.puback = c.s.puback := rfl
theorem ncA_pubrec (c : C) : (ncA c).s.pubrec = c.s.pubrec := rfl
theorem ncA_pubcomp (c : C) : (ncA c).s.pubcomp = c.s.pubcomp := rfl
theorem ncA_store (c : C) : (ncA c).s.store = c.s.store := rfl

theorem notifyClosed_nonpersistent {c : C} (hn : c.s.needStore = false) :
    waitIds (notifyClosed c).s = [] ∧ (notifyClosed c).s.store = [] := by
  rw [waitIds, Fp.notifyClosed_s_eq]
  simp only [hn, Bool.false_eq_true, if_false, List.append_nil, and_self]

abbrev SS (c c' : C) : Prop := c'.s.store = c.s.store

@[simp] theorem psV5Disconnect_ss (c : C) (p : Pkt) : SS c (psV5Disconnect c p) := by rw [SS, Fp.psV5Disconnect_s]
@[simp] theorem v5DisconnectOrClose_ss (c : C) (p : Pkt) : SS c (v5DisconnectOrClose c p) := by
  rw [SS, Fp.v5DisconnectOrClose_s]
@[simp] theorem psPingreq_ss (c : C) (p : Pkt) : SS c (psPingreq c p) := by rw [SS, Fp.psPingreq_s]

theorem KN_add {l : List (Nat × Pkt)} (h : KN l) (id : Nat) (p : Pkt) :
    KN (if storeHas id l = true then l else l ++ [(id, p)]) :=
  Fp.ite_ind (fun _ => h) (fun hn => h.snoc (Bool.eq_false_iff.2 hn) p)

theorem KN.run {x : Ids} (h : KN x.store) (a : IdPrim) : KN (a.run x).1.store := by
  rcases a.run_store x with hs | ⟨id, q, -, hn, hs⟩
  · exact h.sublist hs
  · rw [hs]
    exact h.snoc hn q

theorem KN.runAll {x : Ids} (h : KN x.store) (l : List IdPrim) : KN (IdPrim.runAll l x).1.store := by
  induction l generalizing x with
  | nil => exact h
  | cons a l ih => exact ih (h.run a)

theorem IdRun.kn {l : List IdPrim} {c c' : C} (r : IdRun l c c') (h : KN c.s.store) : KN c'.s.store := by
  rw [show c'.s.store = c'.s.ids.store from rfl, r.ids]
  exact h.runAll l

theorem storeAdd_kn {c : C} (h : KN c.s.store) (id : Nat) (p : Pkt) (x : String) :
    KN (storeAdd c id p x).s.store := (Fp.storeAdd_ids c id p x).kn h

theorem step_kn {cfg : Cfg} {s : St} (h : KN s.store) (op : Op) : KN (step cfg s op).s.store := by
  obtain ⟨l, -, hr⟩ := Fp.step_ids cfg s op
  exact hr.kn h

/-! ## `restore_packets` keeps the ownership invariant (finding #24 fixed) -/

/-- the state after a restored packet was registered: its identifier is in use, it enters one wait set and,
    if absent, the store -/
theorem PidInv.restore {s s' : St} {id : Nat} {p : Pkt} (i : PidInv s)
    (hu : ∀ x, (x = id ∨ isUsed s x = true) → isUsed s' x = true)
    (hw : ∀ x ∈ waitIds s', x = id ∨ x ∈ waitIds s)
    (hs : s'.store = if storeHas id s.store = true then s.store else s.store ++ [(id, p)]) : PidInv s' := by
  obtain ⟨i1, i2, i3⟩ := i
  refine ⟨fun x hx => hu x ((hw x hx).imp_right (i1 x)), fun x hx => hu x.1 ?_, hs ▸ KN_add i3 id p⟩
  rw [hs] at hx
  by_cases hh : storeHas id s.store = true
  · rw [if_pos hh] at hx; exact .inr (i2 x hx)
  · rw [if_neg hh] at hx
    rcases List.mem_append.1 hx with hx | hx
    · exact .inr (i2 x hx)
    · exact .inl (by rw [List.mem_singleton.1 hx])

theorem restoreOne_cases (c : C) (p : Pkt) (r : C) (h : restoreOne c p = r) :
    r = c ∨ r = (register c (p.pid.getD 0)).2 ∨
      ((register c (p.pid.getD 0)).1 = true ∧ r.s.pidMan = (register c (p.pid.getD 0)).2.s.pidMan ∧
        (∀ x ∈ waitIds r.s, x = p.pid.getD 0 ∨ x ∈ waitIds c.s) ∧
        r.s.store = if storeHas (p.pid.getD 0) c.s.store = true then c.s.store else c.s.store ++ [(p.pid.getD 0, p)]) := by
  subst h
  refine Fp.restoreOne_cases (Q := fun r => r = c ∨ r = (register c (p.pid.getD 0)).2 ∨
      ((register c (p.pid.getD 0)).1 = true ∧ r.s.pidMan = (register c (p.pid.getD 0)).2.s.pidMan ∧
        (∀ x ∈ waitIds r.s, x = p.pid.getD 0 ∨ x ∈ waitIds c.s) ∧
        r.s.store = if storeHas (p.pid.getD 0) c.s.store = true then c.s.store else c.s.store ++ [(p.pid.getD 0, p)]))
    c p (fun _ => .inl rfl) (fun _ _ => .inr (.inl rfl)) (fun _ hr => .inr (.inr ⟨hr, ?_, fun x hx => ?_, ?_⟩))
  · rw [Fp.restored_s]
  · rw [Fp.restored_s] at hx
    simp only [waitIds, List.mem_append] at hx ⊢
    rcases hx with (((hx | hx) | hx) | hx) | hx
    · exact .inr (.inl (.inl (.inl (.inl hx))))
    · exact .inr (.inl (.inl (.inl (.inr hx))))
    · exact (mem_ite_ins hx).imp_right fun h => .inl (.inl (.inr h))
    · exact (mem_ite_ins hx).imp_right fun h => .inl (.inr h)
    · exact (mem_ite_ins hx).imp_right .inr
  · rw [Fp.restored_s]
    rfl

theorem restoreOne_inv {c : C} (h : Wf c) (i : PidInv c.s) (p : Pkt) : PidInv (restoreOne c p).s := by
  obtain ⟨_, _, u⟩ := h.2.w.use (p.pid.getD 0)
  have u' : ∀ x, isUsed (register c (p.pid.getD 0)).2.s x = true ↔
      (isUsed c.s x = true ∨ ((register c (p.pid.getD 0)).1 = true ∧ x = p.pid.getD 0)) := u
  rcases restoreOne_cases c p _ rfl with e | e | ⟨hr, e1, e2, e3⟩
  · rw [e]; exact i
  · rw [e]; exact ⟨fun x hx => (u' x).2 (.inl (i.1 x hx)), fun x hx => (u' x.1).2 (.inl (i.2.1 x hx)), i.2.2⟩
  · exact i.restore (fun x hx => (isUsed_congr e1 x).trans ((u' x).2 (hx.symm.imp_right (⟨hr, ·⟩)))) e2 e3

theorem restorePackets_inv (ps : List Pkt) : ∀ c, Wf c → PidInv c.s → PidInv (restorePackets c ps).s := by
  induction ps with
  | nil => intro c _ i; exact i
  | cons p rest ih =>
    intro c h i
    rw [restorePackets]
    exact ih _ (restoreOne_grow h p).wf (restoreOne_inv h i p)

/-! ## `release_packet_id` (fix ba1a812): the exact effect, and the ownership invariant -/

theorem releasePacketId_unused {c : C} {id : Nat} (hu : isUsed c.s id = false) : releasePacketId c id = c := by
  rw [releasePacketId_def, hu]; rfl

/-- the counter after `release id`: one less if the identifier was awaited by PUBACK / PUBREC
    (`decSendCount`: only under a Receive Maximum, never below zero) -/
def countAfterRelease (s : St) (id : Nat) : Nat :=
  if (id ∈ s.puback ∨ id ∈ s.pubrec) ∧ s.sendMax.isSome = true ∧ s.sendCount > 0 then s.sendCount - 1 else s.sendCount

theorem releasePacketId_used {c : C} (h : Wf c) {id : Nat} (hu : isUsed c.s id = true) :
    releasePacketId c id =
      ({ c with s := { c.s with pidMan := (Alloc.deallocate c.s.pidMan id).2, suback := del id c.s.suback, unsuback := del id c.s.unsuback, puback := del id c.s.puback, pubrec := del id c.s.pubrec, sendCount := countAfterRelease c.s id } } : C).push (.released id) := by
  rw [releasePacketId_def, if_pos hu, releaseIfUsed_used h hu]
  unfold countAfterRelease
  by_cases ha : id ∈ c.s.puback ∨ id ∈ c.s.pubrec
  · rw [if_pos (by exact ha)]
    by_cases hc : c.s.sendMax.isSome = true ∧ c.s.sendCount > 0
    · rw [if_pos ⟨ha, hc⟩]
      unfold decSendCount
      rw [if_pos (by exact hc)]
      rfl
    · rw [if_neg (fun x => hc x.2)]
      unfold decSendCount
      rw [if_neg (by exact hc)]
      rfl
  · rw [if_neg (by exact ha), if_neg (fun x => ha x.1)]
    rfl

theorem releasePacketId_inv {c : C} (h : Wf c) (i : PidInv c.s) {id : Nat} (hpc : id ∉ c.s.pubcomp)
    (hst : storeHas id c.s.store = false) : PidInv (releasePacketId c id).s := by
  cases hu : isUsed c.s id with
  | false => rw [releasePacketId_unused hu]; exact i
  | true =>
    rw [releasePacketId_used h hu]
    obtain ⟨i1, i2, i3⟩ := i
    have d3 := (h.2.w.dealloc hu).2.2
    have keep : ∀ x, x ≠ id → isUsed c.s x = true →
        Alloc.isUsed (Alloc.deallocate c.s.pidMan id).2 x = true := fun x hx hux =>
      (d3 x).trans (Bool.and_eq_true_iff.2 ⟨hux, bne_iff_ne.2 hx⟩)
    have hne : ∀ x ∈ c.s.store, x.1 ≠ id := by
      simpa only [storeHas, List.any_eq_false, decide_eq_true_eq] using hst
    refine ⟨?_, ?_, i3⟩
    · intro x hx
      simp only [waitIds, push_s, List.mem_append, mem_del] at hx
      have hx' : x ∈ waitIds c.s ∧ x ≠ id := by
        simp only [waitIds, List.mem_append]
        rcases hx with (((hx | hx) | hx) | hx) | hx
        · exact ⟨.inl (.inl (.inl (.inl hx.1))), hx.2⟩
        · exact ⟨.inl (.inl (.inl (.inr hx.1))), hx.2⟩
        · exact ⟨.inl (.inl (.inr hx.1)), hx.2⟩
        · exact ⟨.inl (.inr hx.1), hx.2⟩
        · exact ⟨.inr hx, fun e => hpc (e ▸ hx)⟩
      exact keep x hx'.2 (i1 x hx'.1)
    · intro x hx
      exact keep x.1 (hne x hx) (i2 x hx)

end MqttVerif.Conn
