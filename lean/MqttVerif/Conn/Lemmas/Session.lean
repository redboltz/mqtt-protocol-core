import MqttVerif.Conn.Lemmas.FootprintIdsStep
/-!
# Helper lemmas: functions that neither read nor write the session bookkeeping
(`pid_man`, the three publish wait sets, the store, `qos2_publish_handled`) commute with
replacing it.
-/
namespace MqttVerif.Conn
open MqttVerif

/-- same range (`lowest`, `highest`, `T::MAX`) — the allocator's construction-time part -/
def Bnd (a b : Alloc.A) : Prop := a.lowest = b.lowest ∧ a.highest = b.highest ∧ a.tmax = b.tmax

theorem Bnd.trans {a b c : Alloc.A} (h : Bnd a b) (g : Bnd b c) : Bnd a c :=
  ⟨h.1.trans g.1, h.2.1.trans g.2.1, h.2.2.trans g.2.2⟩

theorem clear_eq_of_bnd {a b : Alloc.A} (h : Bnd a b) : Alloc.clear a = Alloc.clear b := by
  obtain ⟨h1, h2, h3⟩ := h
  cases a; cases b; simp_all [Alloc.clear]

theorem step_bnd (cfg : Cfg) (s : St) (op : Op) : Bnd (step cfg s op).s.pidMan s.pidMan := Fp.step_bounds cfg s op

/-- the durable part of a session (without the `need_store` flag) -/
structure Sess where
  pidMan : Alloc.A
  puback : List Nat
  pubrec : List Nat
  pubcomp : List Nat
  store : List (Nat × Pkt)
  handled : List Nat

def St.sess (s : St) : Sess := ⟨s.pidMan, s.puback, s.pubrec, s.pubcomp, s.store, s.handled⟩

def setSess (a : St) (X : Sess) : St :=
  { a with pidMan := X.pidMan, puback := X.puback, pubrec := X.pubrec, pubcomp := X.pubcomp,
           store := X.store, handled := X.handled }

def C.mapS (c : C) (f : St → St) : C := { c with s := f c.s }

/-- `c` with its session bookkeeping replaced by `X` -/
def C.ws (c : C) (X : Sess) : C := { c with s := setSess c.s X }

@[simp] theorem setSess_sess (a : St) : setSess a a.sess = a := by cases a; rfl
@[simp] theorem setSess_setSess (a : St) (X Y : Sess) : setSess (setSess a X) Y = setSess a Y := rfl
@[simp] theorem sess_setSess (a : St) (X : Sess) : (setSess a X).sess = X := by cases X; rfl

/-- the PINGREQ send interval `send_post_process` arms -/
def ppMs (s : St) : Nat :=
  match s.userInterval with
  | some t => t
  | none => match s.serverKeepAliveMs with
    | some t => t
    | none => s.keepAliveMs

theorem sendPostProcess_def (c : C) : sendPostProcess c =
    if c.s.isClient then
      (if ppMs c.s > 0 then ({ c with s := { c.s with sendSet := true } }).push (.timerReset .pingreqSend (ppMs c.s)) else c)
    else c := rfl

/-- replacing the session bookkeeping goes into the branches of an `if`; the `_ws` lemmas below
    then hold by `rfl` at the leaves -/
theorem C.ws_ite (p : Prop) [Decidable p] (a b : C) (X : Sess) :
    (if p then a else b).ws X = if p then a.ws X else b.ws X := apply_ite (C.ws · X) _ _ _

theorem sendPostProcess_ws (c : C) (X : Sess) : sendPostProcess (c.ws X) = (sendPostProcess c).ws X := by
  simp only [sendPostProcess_def, C.ws_ite]
  rfl

theorem refreshPingreqRecv_ws (c : C) (X : Sess) :
    refreshPingreqRecv (c.ws X) = (refreshPingreqRecv c).ws X := by
  unfold refreshPingreqRecv
  rw [C.ws_ite]
  rfl

theorem connectSendProp_ws (c : C) (X : Sess) (id v : Nat) :
    connectSendProp (c.ws X) id v = (connectSendProp c id v).ws X := by
  unfold connectSendProp
  simp only [C.ws_ite]
  rfl

theorem connectRecvProp_ws (c : C) (X : Sess) (id v : Nat) :
    connectRecvProp (c.ws X) id v = (connectRecvProp c id v).ws X := by
  unfold connectRecvProp
  simp only [C.ws_ite]
  rfl

theorem propsFold_ws {f : C → Nat → Nat → C} (ps : List (Nat × Nat))
    (hf : ∀ e ∈ ps, ∀ c X, f (C.ws c X) e.1 e.2 = (f c e.1 e.2).ws X) (c : C) (X : Sess) :
    propsFold f (c.ws X) ps = (propsFold f c ps).ws X := by
  induction ps generalizing c with
  | nil => rfl
  | cons e rest ih =>
    rw [propsFold, propsFold, hf e (by simp)]
    exact ih (fun e he => hf e (by simp [he])) _

theorem push_ws (c : C) (X : Sess) (e : Ev) : (c.ws X).push e = (c.push e).ws X := rfl

theorem err_ws (c : C) (X : Sess) (e : Nat) : (c.ws X).err e = (c.err e).ws X := rfl

/-! ### a CONNECT without clean start carries the session bookkeeping through untouched -/

theorem guarded_ws (c : C) (X : Sess) {large refuse : Prop} [Decidable large] [Decidable refuse] {body body' : C}
    (h : body' = body.ws X) :
    Fp.guarded (c.ws X) large refuse none body' = (Fp.guarded c large refuse none body).ws X := by
  unfold Fp.guarded
  rw [C.ws_ite, C.ws_ite, h]
  rfl

theorem connectOut_ws (c : C) (X : Sess) (p : Pkt) {settle : C → C} (hs : ∀ c', settle (c'.ws X) = (settle c').ws X) :
    Fp.connectOut (c.ws X) p settle = (Fp.connectOut c p settle).ws X := by
  unfold Fp.connectOut
  rw [← sendPostProcess_ws, ← push_ws, ← hs]
  rfl

theorem psV3Connect_ws (c : C) (X : Sess) (p : Pkt) (hc : p.clean = false) :
    psV3Connect (c.ws X) p = (psV3Connect c p).ws X := by
  rw [Fp.psV3Connect_eq, Fp.psV3Connect_eq]
  exact guarded_ws c X (connectOut_ws c X p fun c' => by rw [hc]; rfl)

theorem psV5Connect_ws (c : C) (X : Sess) (p : Pkt) (hc : p.clean = false) :
    psV5Connect (c.ws X) p = (psV5Connect c p).ws X := by
  rw [Fp.psV5Connect_eq, Fp.psV5Connect_eq]
  refine guarded_ws c X (connectOut_ws c X p fun c' => ?_)
  simp only [hc, Bool.false_eq_true, ↓reduceIte]
  exact propsFold_ws p.props (fun e _ c X => connectSendProp_ws c X e.1 e.2) c' X

theorem accepting_ws (c : C) (X : Sess) (ka : Nat) : Fp.accepting (c.ws X) ka = (Fp.accepting c ka).ws X := rfl

/-- `busy` is compared only where the handler gets to it -/
theorem connectIn_ws {c : C} {X : Sess} {p : Pkt} {busy busy' : C} {nack : C → Nat → C} {settle : Pkt → C → C}
    (hb : c.s.status ≠ .disconnected → busy' = busy.ws X) (hs : ∀ c', settle p (c'.ws X) = (settle p c').ws X) :
    Fp.connectIn (c.ws X) (.ok p) busy' nack settle = (Fp.connectIn c (.ok p) busy nack settle).ws X := by
  unfold Fp.connectIn
  rw [C.ws_ite]
  refine ite_congr rfl hb fun _ => ?_
  rw [← push_ws, ← refreshPingreqRecv_ws, ← hs, ← accepting_ws]

theorem prV3Connect_ws (c : C) (X : Sess) (p : Pkt) (hc : p.clean = false) :
    prV3Connect (c.ws X) (.ok p) = (prV3Connect c (.ok p)).ws X := by
  rw [Fp.prV3Connect_eq, Fp.prV3Connect_eq]
  exact connectIn_ws (fun _ => rfl) fun c' => by rw [hc]; rfl

theorem prV5Connect_ws (c : C) (X : Sess) (p : Pkt) (hc : p.clean = false)
    (hd : c.s.status = .disconnected) :
    prV5Connect (c.ws X) (.ok p) = (prV5Connect c (.ok p)).ws X := by
  rw [Fp.prV5Connect_eq, Fp.prV5Connect_eq]
  refine connectIn_ws (fun h => absurd hd h) fun c' => ?_
  simp only [hc, Bool.false_eq_true, ↓reduceIte]
  exact propsFold_ws p.props (fun e _ c X => connectRecvProp_ws c X e.1 e.2) c' X

/-! ### a CONNACK "session not present" overwrites the session bookkeeping before reading it -/

def clearSess (X : Sess) : Sess := ⟨Alloc.clear X.pidMan, [], [], [], [], []⟩

/-- `c` with its session bookkeeping cleared (`clear_store_related`) -/
def C.cs (c : C) : C := c.ws (clearSess c.s.sess)

theorem clearStoreRelated_cs (c : C) : clearStoreRelated c.cs = clearStoreRelated c := by
  simp [clearStoreRelated, C.cs, C.ws, setSess, clearSess, St.sess, Alloc.clear]

/-- `clear_store_related` = clearing the session bookkeeping and (fix 9ba24a9) zeroing the
    Receive-Maximum counter -/
theorem clearStoreRelated_eq_cs (c : C) :
    clearStoreRelated c = { c.cs with s := { c.cs.s with sendCount := 0 } } := by
  simp [clearStoreRelated, C.cs, C.ws, setSess, clearSess, St.sess]

theorem cs_cs (c : C) : c.cs.cs = c.cs := by
  simp [C.cs, C.ws, setSess, clearSess, St.sess, Alloc.clear]

theorem C.cs_ite (p : Prop) [Decidable p] (a b : C) :
    (if p then a else b).cs = if p then a.cs else b.cs := apply_ite C.cs _ _ _

/-- the Session Expiry Interval 0 branch clears twice, the other branches do not touch the session -/
theorem connackRecvProp_cs (c : C) (id v : Nat) :
    connackRecvProp c.cs id v = (connackRecvProp c id v).cs := by
  unfold connackRecvProp
  by_cases hv : v = 0 <;>
  · simp only [hv, ↓reduceIte, C.cs_ite]
    rfl

theorem propsFold_connackRecvProp_cs (c : C) (ps : List (Nat × Nat)) :
    propsFold connackRecvProp c.cs ps = (propsFold connackRecvProp c ps).cs := by
  induction ps generalizing c with
  | nil => rfl
  | cons e rest ih => obtain ⟨id, v⟩ := e; simp only [propsFold, connackRecvProp_cs, ih]

theorem prV3Connack_new (c : C) (q : Pkt) (hst : c.s.status ≠ .connected) (hrc : q.rc = some 0)
    (hsp : q.sp = false) : prV3Connack c (.ok q) = prV3Connack c.cs (.ok q) := by
  have e : c.cs.s.status = c.s.status := rfl
  simp only [prV3Connack, e, hst, if_false, hrc, if_true, hsp, Bool.false_eq_true]
  have : ({ c.cs with s := { c.cs.s with status := .connected } } : C) =
      ({ c with s := { c.s with status := .connected } } : C).cs := rfl
  rw [this, clearStoreRelated_cs]

theorem prV5Connack_new (c : C) (q : Pkt) (hst : c.s.status ≠ .connected) (hrc : q.rc = some 0)
    (hsp : q.sp = false) : prV5Connack c (.ok q) = prV5Connack c.cs (.ok q) := by
  have e : c.cs.s.status = c.s.status := rfl
  simp only [prV5Connack, e, hst, if_false, hrc, if_true, hsp, Bool.false_eq_true]
  have : ({ c.cs with s := { c.cs.s with status := .connected } } : C) =
      ({ c with s := { c.s with status := .connected } } : C).cs := rfl
  rw [this, propsFold_connackRecvProp_cs, clearStoreRelated_cs]

end MqttVerif.Conn
