import MqttVerif.Conn.Lemmas.PairExchange2
/-!
# Helpers for `Props/C01L2c.lean`: acknowledgements for any identifier, the allocator side conditions

`ackN`, `ackRcN`: the acknowledgements the library builds (`mkAck`, `mkV5PubcompRc` with 2-byte identifiers).
`l2c_used`, `l2c_ok`, `l2c_free`: what the step lemmas `step_deliver_done` / `_pubrec` of `PairExchange.lean` ask of the
allocator, as decidable tests on the pool.  Then two exchanges in opposite directions, and the notifications after one
loss as tables.
-/
namespace MqttVerif.Conn.Pair
open MqttVerif MqttVerif.Conn

/-- the acknowledgement of kind `k` for identifier `id` (`ack v k = ackN v k 1`, `ack2 v k = ackN v k 2`) -/
def ackN (v : Nat) (k : Kind) (id : Nat) : Pkt := { ver := v, kind := k, size := 4, pid := some id }
/-- v5.0 PUBCOMP "Packet Identifier not found" for identifier `id` (`ackRc = ackRcN 1`) -/
def ackRcN (id : Nat) : Pkt := { ver := 5, kind := .pubcomp, size := 5, pid := some id, rc := some 0x92 }

@[simp] theorem ackN_ver (v : Nat) (k : Kind) (id : Nat) : (ackN v k id).ver = v := rfl
@[simp] theorem ackN_kind (v : Nat) (k : Kind) (id : Nat) : (ackN v k id).kind = k := rfl
@[simp] theorem ackN_qos (v : Nat) (k : Kind) (id : Nat) : (ackN v k id).qos = 0 := rfl
@[simp] theorem ackN_pid (v : Nat) (k : Kind) (id : Nat) : (ackN v k id).pid = some id := rfl
@[simp] theorem ackRcN_kind (id : Nat) : (ackRcN id).kind = .pubcomp := rfl
@[simp] theorem asDup_ver (P : Pkt) : P.asDup.ver = P.ver := rfl
@[simp] theorem asDup_kind (P : Pkt) : P.asDup.kind = P.kind := rfl
@[simp] theorem asDup_qos (P : Pkt) : P.asDup.qos = P.qos := rfl
@[simp] theorem asDup_pid (P : Pkt) : P.asDup.pid = P.pid := rfl

theorem ack_eq_ackN (v : Nat) (k : Kind) : ack v k = ackN v k 1 := rfl
theorem ack2_eq_ackN (v : Nat) (k : Kind) : ack2 v k = ackN v k 2 := rfl
theorem ackRc_eq_ackRcN : ackRc = ackRcN 1 := rfl

theorem mkAck_ackN (r : Role) (v : Nat) (k : Kind) (id : Nat) : mkAck ⟨r, 2⟩ v k id = ackN v k id := rfl
theorem mkV5PubcompRc_ackRcN (r : Role) (id : Nat) : mkV5PubcompRc ⟨r, 2⟩ id 0x92 = ackRcN id := rfl

def l2c_free (pool : List Alloc.Iv) (id : Nat) : List Alloc.Iv :=
  (Alloc.deallocate ⟨1, 65535, 65535, pool⟩ id).2.pool
def l2c_used (pool : List Alloc.Iv) (id : Nat) : Prop := Alloc.isUsed ⟨1, 65535, 65535, pool⟩ id = true
/-- `id` is in use and releasing it hits no panic site of the allocator -/
def l2c_ok (pool : List Alloc.Iv) (id : Nat) : Prop :=
  l2c_used pool id ∧ (Alloc.deallocate ⟨1, 65535, 65535, pool⟩ id).1 = none

instance (pool : List Alloc.Iv) (id : Nat) : Decidable (l2c_used pool id) := by unfold l2c_used; infer_instance
instance (pool : List Alloc.Iv) (id : Nat) : Decidable (l2c_ok pool id) := by unfold l2c_ok; infer_instance

theorem l2c_dealloc_eta (a : Alloc.A) (id : Nat) :
    (Alloc.deallocate a id).2 = { a with pool := (Alloc.deallocate a id).2.pool } := by
  unfold Alloc.deallocate
  split
  · rfl
  · split
    · rfl
    · split <;> rfl

theorem l2c_ok.dealloc {pool : List Alloc.Iv} {id : Nat} (h : l2c_ok pool id) :
    Alloc.deallocate ⟨1, 65535, 65535, pool⟩ id = (none, ⟨1, 65535, 65535, l2c_free pool id⟩) :=
  Prod.ext h.2 (l2c_dealloc_eta _ _)

theorem l2c_sz_ackN (v : Nat) (k : Kind) (id : Nat) (hk : k ≠ .publish) : (ackN v k id).sz 2 ≤ noLimit := by
  rw [sz_of_not_pub _ _ (by simpa [ackN] using hk)]; simp [ackN, noLimit]

theorem IsPubN.asDup {v q id : Nat} {P : Pkt} (h : IsPubN v q id P) : IsPubN v q id P.asDup :=
  ⟨h.ver, h.kind, h.qos, h.pid, h.alias, h.topic, h.nowild, h.fits⟩

theorem obs_of_obs2 {d : Bool} {tgt : Sys} {N : List Pkt} {R : List Nat} {z : Sys}
    (h : Obs2 tgt (if d then N else []) (if d then [] else N) (if d then R else []) (if d then [] else R) z) :
    Obs d tgt N R z :=
  h.obs

/-- the client application publishes `P1`, the server application publishes `P2`, each with the
    identifier its own allocator handed out, before anything is delivered -/
def startBoth (v : Nat) (P1 P2 : Pkt) : Sys := startFromS (startFromC (established v) P1) P2

theorem startBoth_comm (v : Nat) (P1 P2 : Pkt) :
    startBoth v P1 P2 = startFromC (startFromS (established v) P2) P1 := by
  simp [startBoth, startFromC, startFromS, appC, appS]

/-- T5 (`P1`, `P2` in flight in the same direction, loss after `k` deliveries of the loss-free
    schedule `drain`, resumption, everything delivered): the receiving application's notifications.
    The table depends on the direction because `drain` serves the client→server channel first:
    with the client as publisher (`d = true`) both PUBLISH packets are delivered before any
    acknowledgement, with the server as publisher each acknowledgement is delivered at once. -/
def t5notes (d : Bool) (q1 q2 k : Nat) (P1 P2 : Pkt) : List Pkt :=
  if k = 0 then [P1.asDup, P2.asDup]
  else if d then
    if q1 = 1 then
      if q2 = 1 then
        (if k = 1 then [P1, P1.asDup, P2.asDup] else if k = 2 then [P1, P2, P1.asDup, P2.asDup]
         else if k = 3 then [P1, P2, P2.asDup] else [P1, P2])
      else (if k = 1 then [P1, P1.asDup, P2.asDup] else if k = 2 then [P1, P2, P1.asDup] else [P1, P2])
    else
      if q2 = 1 then (if k = 1 then [P1, P2.asDup] else if k ≤ 4 then [P1, P2, P2.asDup] else [P1, P2])
      else (if k = 1 then [P1, P2.asDup] else [P1, P2])
  else
    if q1 = 1 then
      (if k = 1 then [P1, P1.asDup, P2.asDup] else if k = 2 then [P1, P2.asDup]
       else if q2 = 1 ∧ k = 3 then [P1, P2, P2.asDup] else [P1, P2])
    else
      (if k ≤ 2 then [P1, P2.asDup] else if q2 = 1 ∧ k = 3 then [P1, P2, P2.asDup] else [P1, P2])

/-- the order in which the publisher's two identifiers are released -/
def t5rel (q1 q2 : Nat) : List Nat := if q1 = 2 ∧ q2 = 1 then [2, 1] else [1, 2]

/-- T6 (`P1` client→server, `P2` server→client, loss after `k` deliveries): the server
    application's notifications -/
def t6notesS (q1 k : Nat) (P1 : Pkt) : List Pkt :=
  if k = 0 then [P1.asDup] else if q1 = 1 ∧ k ≤ 3 then [P1, P1.asDup] else [P1]

/-- ... the client application's -/
def t6notesC (q2 k : Nat) (P2 : Pkt) : List Pkt :=
  if k ≤ 1 then [P2.asDup] else if q2 = 1 ∧ k = 2 then [P2, P2.asDup] else [P2]

end MqttVerif.Conn.Pair
