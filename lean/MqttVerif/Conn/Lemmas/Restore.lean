import MqttVerif.Conn.Lemmas.FootprintIdsStep
/-!
# Helper lemmas: `restore_packets`, exact characterisation for EVERY packet list
-/
namespace MqttVerif.Conn
open MqttVerif

/-- representation invariant of `pid_man` (`1 ..= MAX`, sorted / disjoint / merged pool) -/
structure PidWf (cfg : Cfg) (a : Alloc.A) : Prop where
  lo : a.lowest = 1
  hi : a.highest = cfg.idMax
  ok : Alloc.Ok 1 a.pool
  le : ∀ v, Alloc.Free a.pool v → v ≤ cfg.idMax

theorem PidWf.iff {cfg : Cfg} {a : Alloc.A} :
    PidWf cfg a ↔ (a.lowest = 1 ∧ a.highest = cfg.idMax) ∧ Alloc.Wf a :=
  ⟨fun h => ⟨⟨h.lo, h.hi⟩, h.lo.symm ▸ h.ok, h.hi.symm ▸ Alloc.hi_le_of_free h.ok h.le⟩,
    fun ⟨⟨h1, h2⟩, w⟩ => ⟨h1, h2, h1 ▸ w.ok, fun _ hv => h2 ▸ (w.free_range hv).2⟩⟩

theorem PidWf.wf {cfg : Cfg} {a : Alloc.A} (h : PidWf cfg a) : Alloc.Wf a := (PidWf.iff.1 h).2

theorem PidWf.keep {cfg : Cfg} {a a' : Alloc.A} (h : PidWf cfg a)
    (hb : a'.lowest = a.lowest ∧ a'.highest = a.highest ∧ a'.tmax = a.tmax) (w : Alloc.Wf a') : PidWf cfg a' :=
  PidWf.iff.2 ⟨⟨hb.1.trans h.lo, hb.2.1.trans h.hi⟩, w⟩

theorem PidWf.init (cfg : Cfg) (h : 1 ≤ cfg.idMax) : PidWf cfg (Alloc.new 1 cfg.idMax cfg.idMax) :=
  PidWf.iff.2 ⟨⟨rfl, rfl⟩, Alloc.wf_new h _⟩

theorem useValue_spec {cfg : Cfg} {a : Alloc.A} (h : PidWf cfg a) (v : Nat) :
    PidWf cfg (Alloc.useValue a v).2 ∧
    ((Alloc.useValue a v).1 = true ↔ (1 ≤ v ∧ v ≤ cfg.idMax ∧ Alloc.isUsed a v = false)) ∧
    (∀ w, Alloc.isUsed (Alloc.useValue a v).2 w = true ↔
      (Alloc.isUsed a w = true ∨ ((Alloc.useValue a v).1 = true ∧ w = v))) := by
  refine ⟨h.keep (Alloc.useValue_bounds a v) (h.wf.useValue v).1, h.lo ▸ h.hi ▸ h.wf.useValue_iff v, fun w => ?_⟩
  rw [(h.wf.useValue v).2.2, Bool.or_eq_true, Bool.and_eq_true, beq_iff_eq]

/-- entries `restore_packets` ignores: QoS 0 PUBLISH -/
def restoreSkip (p : Pkt) : Bool := decide (p.kind = .publish ∧ p.qos = 0)
def rid (p : Pkt) : Nat := p.pid.getD 0

theorem register_fail (c : C) (id : Nat) (h : (register c id).1 = false) : (register c id).2 = c := by
  unfold register Alloc.useValue at *
  split at h
  · rfl
  · simp at h

theorem restoreSkip_false {p : Pkt} (h : restoreSkip p = false) : ¬(p.kind = .publish ∧ p.qos = 0) :=
  of_decide_eq_false h

theorem restoreOne_rejected (c : C) (p : Pkt)
    (h : restoreSkip p = true ∨ (register c (rid p)).1 = false) : restoreOne c p = c := by
  rw [Fp.restoreOne_eq, ← rid]
  rcases h with h | h
  · exact if_pos (of_decide_eq_true h)
  · rw [if_neg (Bool.eq_false_iff.1 h), register_fail c _ h]
    exact ite_self c

/-- session bookkeeping invariant used by `restore_packets`: well-formed allocator, the ids
    in use are exactly the keys of the store, no key twice -/
structure RI (cfg : Cfg) (s : St) : Prop where
  wf : PidWf cfg s.pidMan
  used : ∀ x, isUsed s x = true ↔ storeHas x s.store = true
  nodup : (s.store.map (·.1)).Nodup

/-- the wait sets are exactly the ids of the stored packets, by expected response -/
structure WI (s : St) : Prop where
  pa : ∀ x, x ∈ s.puback ↔ ∃ p, (x, p) ∈ s.store ∧ respOf p = .puback
  pr : ∀ x, x ∈ s.pubrec ↔ ∃ p, (x, p) ∈ s.store ∧ respOf p = .pubrec
  pc : ∀ x, x ∈ s.pubcomp ↔ ∃ p, (x, p) ∈ s.store ∧ respOf p = .pubcomp

theorem storeHas_iff_keys (x : Nat) (st : List (Nat × Pkt)) :
    storeHas x st = true ↔ x ∈ st.map (·.1) := by
  simp [storeHas]

theorem storeHas_append (x : Nat) (st : List (Nat × Pkt)) (y : Nat) (p : Pkt) :
    storeHas x (st ++ [(y, p)]) = true ↔ (storeHas x st = true ∨ y = x) := by
  simp [storeHas]

/-- an entry is accepted into a store `acc` (under `RI`: exactly when `register` succeeds) -/
def acceptedP (cfg : Cfg) (acc : List (Nat × Pkt)) (p : Pkt) : Prop :=
  restoreSkip p = false ∧ 1 ≤ rid p ∧ rid p ≤ cfg.idMax ∧ storeHas (rid p) acc = false

instance (cfg : Cfg) (acc : List (Nat × Pkt)) (p : Pkt) : Decidable (acceptedP cfg acc p) := by
  unfold acceptedP; infer_instance

def specStep (cfg : Cfg) (acc : List (Nat × Pkt)) (p : Pkt) : List (Nat × Pkt) :=
  if acceptedP cfg acc p then acc ++ [(rid p, p)] else acc

def RestoreFrame (a b : St) : Prop :=
  b = { a with pidMan := b.pidMan, store := b.store, puback := b.puback, pubrec := b.pubrec,
               pubcomp := b.pubcomp }

theorem awaitResp_spec (c : C) (p : Pkt) :
    (Fp.awaitResp c p (rid p)).s.pidMan = c.s.pidMan ∧ (Fp.awaitResp c p (rid p)).s.store = c.s.store ∧
    (∀ x, x ∈ (Fp.awaitResp c p (rid p)).s.puback ↔ (x ∈ c.s.puback ∨ (respOf p = .puback ∧ rid p = x))) ∧
    (∀ x, x ∈ (Fp.awaitResp c p (rid p)).s.pubrec ↔ (x ∈ c.s.pubrec ∨ (respOf p = .pubrec ∧ rid p = x))) ∧
    (∀ x, x ∈ (Fp.awaitResp c p (rid p)).s.pubcomp ↔ (x ∈ c.s.pubcomp ∨ (respOf p = .pubcomp ∧ rid p = x))) := by
  unfold Fp.awaitResp addWait respOf
  by_cases h1 : p.kind = .pubrel
  · simp only [h1, if_true, mem_ins, true_and]
    refine ⟨?_, ?_, ?_⟩ <;> (intro x; grind)
  · by_cases h2 : p.qos = 2
    · simp only [h1, h2, if_true, if_false, mem_ins, true_and]
      refine ⟨?_, ?_, ?_⟩ <;> (intro x; grind)
    · simp only [h1, h2, if_false, mem_ins, true_and]
      refine ⟨?_, ?_, ?_⟩ <;> (intro x; grind)

theorem register_iff {cfg : Cfg} {c : C} (h : RI cfg c.s) (p : Pkt) (hs : restoreSkip p = false) :
    (register c (rid p)).1 = true ↔ acceptedP cfg c.s.store p := by
  obtain ⟨_, u2, _⟩ := useValue_spec h.wf (rid p)
  have hus := h.used (rid p)
  simp only [isUsed] at hus
  show (Alloc.useValue c.s.pidMan (rid p)).1 = true ↔ _
  rw [u2]
  simp only [acceptedP, hs, true_and]
  constructor
  · rintro ⟨a1, a2, a3⟩
    refine ⟨a1, a2, ?_⟩
    cases hh : storeHas (rid p) c.s.store
    · rfl
    · rw [hus.2 hh] at a3; exact absurd a3 (by simp)
  · rintro ⟨a1, a2, a3⟩
    refine ⟨a1, a2, ?_⟩
    cases hh : Alloc.isUsed c.s.pidMan (rid p)
    · rfl
    · rw [hus.1 hh] at a3; exact absurd a3 (by simp)

theorem wait_append {k : Kind} {w w' : List Nat} {st : List (Nat × Pkt)} {p : Pkt}
    (hw : ∀ x, x ∈ w ↔ ∃ q, (x, q) ∈ st ∧ respOf q = k)
    (hw' : ∀ x, x ∈ w' ↔ (x ∈ w ∨ (respOf p = k ∧ rid p = x))) (x : Nat) :
    x ∈ w' ↔ ∃ q, (x, q) ∈ st ++ [(rid p, p)] ∧ respOf q = k := by
  rw [hw' x, hw x]
  simp only [List.mem_append, List.mem_singleton, Prod.mk.injEq]
  constructor
  · rintro (⟨q, a, b⟩ | ⟨a, b⟩)
    · exact ⟨q, Or.inl a, b⟩
    · exact ⟨p, Or.inr ⟨b.symm, rfl⟩, a⟩
  · rintro ⟨q, (a | ⟨a, b⟩), d⟩
    · exact Or.inl ⟨q, a, d⟩
    · subst b; exact Or.inr ⟨d, a.symm⟩

theorem restoreOne_spec {cfg : Cfg} {c : C} (h : RI cfg c.s) (hw : WI c.s) (p : Pkt) :
    RI cfg (restoreOne c p).s ∧ WI (restoreOne c p).s ∧
    (restoreOne c p).s.store = specStep cfg c.s.store p ∧
    (¬ acceptedP cfg c.s.store p → restoreOne c p = c) := by
  by_cases hacc : acceptedP cfg c.s.store p
  · -- accepted: registered, entered in the wait set of its kind, appended to the store
    have hs : restoreSkip p = false := hacc.1
    have hreg := (register_iff h p hs).2 hacc
    obtain ⟨u1, u2, u3⟩ := useValue_spec h.wf (rid p)
    have hns : storeHas (rid p) c.s.store = false := hacc.2.2.2
    obtain ⟨w3, w4, w6, w7, w8⟩ := awaitResp_spec (register c (rid p)).2 p
    have hst1 : (register c (rid p)).2.s.store = c.s.store := rfl
    have hpm1 : (register c (rid p)).2.s.pidMan = (Alloc.useValue c.s.pidMan (rid p)).2 := rfl
    have heq : restoreOne c p = { Fp.awaitResp (register c (rid p)).2 p (rid p) with
        s := { (Fp.awaitResp (register c (rid p)).2 p (rid p)).s with store := c.s.store ++ [(rid p, p)] } } := by
      rw [Fp.restoreOne_eq, ← rid, if_neg (restoreSkip_false hs), if_pos hreg, Fp.storeNew, w4, hst1,
        if_neg (Bool.eq_false_iff.1 hns)]
    have hreg' : (Alloc.useValue c.s.pidMan (rid p)).1 = true := hreg
    rw [heq]
    refine ⟨⟨?_, ?_, ?_⟩, ⟨?_, ?_, ?_⟩, ?_, fun hn => absurd hacc hn⟩
    · show PidWf cfg (Fp.awaitResp (register c (rid p)).2 p (rid p)).s.pidMan
      rw [w3, hpm1]; exact u1
    · intro x
      show Alloc.isUsed (Fp.awaitResp (register c (rid p)).2 p (rid p)).s.pidMan x = true ↔ _
      rw [w3, hpm1, u3 x, storeHas_append]
      have := h.used x
      simp only [isUsed] at this
      rw [this]
      simp only [hreg', true_and]
      constructor
      · rintro (a | a)
        · exact Or.inl a
        · exact Or.inr a.symm
      · rintro (a | a)
        · exact Or.inl a
        · exact Or.inr a.symm
    · show ((c.s.store ++ [(rid p, p)]).map (·.1)).Nodup
      simp only [List.map_append, List.map_cons, List.map_nil]
      refine List.nodup_append.2 ⟨h.nodup, by simp, ?_⟩
      intro a ha b hb
      show a ≠ b
      simp only [List.mem_singleton] at hb
      subst hb
      intro hab; rw [hab] at ha
      have := (storeHas_iff_keys (rid p) c.s.store).2 ha
      rw [hns] at this; exact absurd this (by simp)
    · exact wait_append (w := (register c (rid p)).2.s.puback) hw.pa w6
    · exact wait_append (w := (register c (rid p)).2.s.pubrec) hw.pr w7
    · exact wait_append (w := (register c (rid p)).2.s.pubcomp) hw.pc w8
    · simp only [specStep, hacc, if_true]
  · -- rejected: nothing changes
    have hrej : restoreOne c p = c := by
      apply restoreOne_rejected
      cases hs : restoreSkip p
      · right
        cases hr : (register c (rid p)).1
        · rfl
        · exact absurd ((register_iff h p hs).1 hr) hacc
      · left; rfl
    rw [hrej]
    refine ⟨h, hw, ?_, fun _ => rfl⟩
    simp only [specStep, hacc, if_false]

theorem restorePackets_spec {cfg : Cfg} (ps : List Pkt) {c : C} (h : RI cfg c.s) (hw : WI c.s) :
    RI cfg (restorePackets c ps).s ∧ WI (restorePackets c ps).s ∧
    (restorePackets c ps).s.store = ps.foldl (specStep cfg) c.s.store := by
  induction ps generalizing c with
  | nil => exact ⟨h, hw, rfl⟩
  | cons p rest ih =>
    obtain ⟨o3, o4, o5, _⟩ := restoreOne_spec h hw p
    obtain ⟨i3, i4, i5⟩ := ih o3 o4
    simp only [restorePackets, List.foldl_cons]
    exact ⟨i3, i4, by rw [i5, o5]⟩

end MqttVerif.Conn
