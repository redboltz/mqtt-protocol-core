import MqttVerif.Monitors
import MqttVerif.Conn.Lemmas.FootprintEmits
/-!
# C07 helper — which calls request an *error PUBREC* for sending

`nsOf l`: the `RequestSendPacket` events of `l` that carry a PUBREC with an error reason code
(≥ 0x80) — the only send events the driver's ghost of open inbound QoS 2 exchanges (`Mon.q2Step`)
reacts to.  No packet the library sends of its own accord is one (`quiet_base`), so by `Fp.step_emits` the
one call that pushes such an event is the `send` of an error PUBREC.
-/
namespace MqttVerif.Conn.EPn
open MqttVerif MqttVerif.Conn

def nsSend (p : Pkt) : Bool := decide (p.kind = .pubrec) && Mon.isErrorRc p.rc
def nsRecv (_ : Pkt) : Bool := false
def NSev : Ev → Bool
  | .send p _ => nsSend p
  | .recv p => nsRecv p
  | _ => false

def nsOf (l : List Ev) : List Ev := l.filter NSev

@[simp] theorem nsOf_nil : nsOf [] = [] := rfl
@[simp] theorem nsOf_cons (e : Ev) (l : List Ev) :
    nsOf (e :: l) = (if NSev e = true then [e] else []) ++ nsOf l := by
  cases h : NSev e <;> simp [nsOf, List.filter, h]
@[simp] theorem NSev_send (p : Pkt) (r : Option Nat) : NSev (.send p r) = nsSend p := rfl
@[simp] theorem NSev_recv (p : Pkt) : NSev (.recv p) = nsRecv p := rfl
@[simp] theorem NSev_error (e : Nat) : NSev (.error e) = false := rfl
@[simp] theorem NSev_close : NSev .close = false := rfl
@[simp] theorem NSev_released (id : Nat) : NSev (.released id) = false := rfl
@[simp] theorem NSev_tr (k : Timer) (ms : Nat) : NSev (.timerReset k ms) = false := rfl
@[simp] theorem NSev_tc (k : Timer) : NSev (.timerCancel k) = false := rfl

theorem nsSend_kind {p : Pkt} (h1 : p.kind ≠ .pubrec) : nsSend p = false := by
  simp [nsSend, h1]
theorem nsSend_rc {p : Pkt} (h1 : Mon.isErrorRc p.rc = false) : nsSend p = false := by
  simp [nsSend, h1]
@[simp] theorem nsRecv_all (p : Pkt) : nsRecv p = false := rfl

@[simp] theorem push_ev (c : C) (e : Ev) : (c.push e).ev = c.ev ++ [e] := rfl
@[simp] theorem push_s (c : C) (e : Ev) : (c.push e).s = c.s := rfl
@[simp] theorem err_ev (c : C) (e : Nat) : (c.err e).ev = c.ev ++ [.error e] := rfl
@[simp] theorem err_s (c : C) (e : Nat) : (c.err e).s = c.s := rfl
@[simp] theorem setPanic_ev (c : C) (x : String) : (c.setPanic x).ev = c.ev := rfl
@[simp] theorem ns_initConn (c : C) (b : Bool) : (initConn c b).ev = c.ev := rfl
@[simp] theorem ns_clearStoreRelated (c : C) : (clearStoreRelated c).ev = c.ev := rfl

/-- no event but a send request is an error PUBREC, and no packet the library builds itself is one:
    an acknowledgement it builds carries no reason code -/
theorem quiet_base : Emits.Base (fun e => NSev e = false) :=
  .of_class nsSend nsRecv fun _ h => by
    cases h with
    | ack => exact nsSend_rc rfl
    | _ => exact nsSend_kind nofun

theorem store_clear_sub (c : C) : ∀ x ∈ (clearStoreRelated c).s.store, x ∈ c.s.store := by
  intro x hx; simp [clearStoreRelated] at hx

/-- no stored packet is an error PUBREC (the store holds PUBLISH / PUBREL only) -/
def StoreNoPubrec (s : St) : Prop := ∀ x ∈ s.store, x.2.kind ≠ .pubrec

theorem ns_step (cfg : Cfg) (s : St) (op : Op) (hst : StoreNoPubrec s)
    (hop : ∀ p, op = .send p → nsSend p = false) : nsOf (step cfg s op).ev = [] :=
  (Fp.step_emits quiet_base (fun q _ h => by cases h <;> exact nsSend_kind nofun) cfg s op
    (fun p h q _ ha => by cases ha <;> exact hop p h) (fun _ _ _ _ _ _ _ _ _ _ => rfl)
    (fun y hy _ => nsSend_kind (hst y hy))).filter_eq NSev (fun _ h => h)

end MqttVerif.Conn.EPn
