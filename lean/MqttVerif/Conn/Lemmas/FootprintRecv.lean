import MqttVerif.Conn.Lemmas.FootprintSend
/-!
# What the receive-side functions may change

The footprint `f_fp` of `recv` and of everything below it, with the projections the lemma chains use, and the case
principles of the alias stage of a PUBLISH (`prV5PublishAlias_ind`), of `vErr`, `dispatchRecv`, `processRecvPacket` and
`recv` (`recv_cases`; `recv_frame` when all that matters is which frame reaches `dispatchRecv`): every arm comes with
what the model tested on the way to it.  A handler that runs several stages one after the other chains their
footprints with `Footprint.step`; the stages that only set fields are `Footprint.of_s` and `Footprint.set`.  The handler
of a v5.0 PUBLISH is first rewritten into named stages (`prV5Publish_eq`, by `rfl`).

The handlers of a received CONNECT and of a received CONNACK are one shape each for the two protocol versions,
`connectIn` and `connackIn`, whose arguments are the parts in which the versions differ (`prV3Connect_eq`,
`prV5Connect_eq`, `prV3Connack_eq`, `prV5Connack_eq`).  A fact about these handlers is stated once, about the shape, with
what it needs of the parts as hypotheses (`connectIn_fp`, `connackIn_fp`), and proved through the case principles
`connectIn_ind` and `connackIn_ind`, whose leaves carry the tests the model made.
-/
namespace MqttVerif.Conn
open MqttVerif

namespace Fp

/-! ## CONNECT, CONNACK -/

/-- the connection as a CONNECT with keep-alive `ka`, received while `disconnected`, initialises it.  The model sets
    the receive timeout only if `ka > 0`; for `ka = 0` the product is the 0 that `initConn` has set (`accepting_ite`) -/
def accepting (c : C) (ka : Nat) : C :=
  { c with s := { (initConn c false).s with status := .connecting, recvTimeoutMs := ka * 1000 * 3 / 2 } }

theorem accepting_ite (c : C) (ka : Nat) :
    (if ka > 0 then
      { initConn { c with s := { c.s with status := .connecting } } false with
        s := { (initConn { c with s := { c.s with status := .connecting } } false).s with
          recvTimeoutMs := ka * 1000 * 3 / 2 } }
    else initConn { c with s := { c.s with status := .connecting } } false) = accepting c ka := by
  refine ite_ind (Q := fun r => r = _) (fun _ => rfl) (fun h => ?_)
  obtain rfl : ka = 0 := Nat.eq_zero_of_not_pos h
  rfl

/-- `process_recv_*_connect`, both versions: a protocol error (`busy`) unless the connection is `disconnected`; a
    CONNECT that does not parse is answered from `connecting` by a refusing CONNACK (`nack`); a parsed one is delivered
    on the initialised connection once `settle p` has dealt with the session and the properties -/
def connectIn (c : C) (x : Except Nat Pkt) (busy : C) (nack : C → Nat → C) (settle : Pkt → C → C) : C :=
  if c.s.status ≠ .disconnected then busy
  else match x with
    | .ok p => (refreshPingreqRecv (settle p (accepting c p.keepAlive))).push (.recv p)
    | .error e => (nack { c with s := { c.s with status := .connecting } } e).err e

theorem connectIn_ind {Q : C → Prop} {c : C} {x : Except Nat Pkt} {busy : C} {nack : C → Nat → C} {settle : Pkt → C → C}
    (hbusy : c.s.status ≠ .disconnected → Q busy)
    (malformed : c.s.status = .disconnected → ∀ e, x = .error e →
      Q ((nack { c with s := { c.s with status := .connecting } } e).err e))
    (accepted : c.s.status = .disconnected → ∀ p, x = .ok p →
      Q ((refreshPingreqRecv (settle p (accepting c p.keepAlive))).push (.recv p))) :
    Q (connectIn c x busy nack settle) := by
  refine ite_ind hbusy fun hs => ?_
  cases x with
  | ok p => exact accepted (Decidable.of_not_not hs) p rfl
  | error e => exact malformed (Decidable.of_not_not hs) e rfl

/-- what `accepting` writes: the fields `initConn` resets, the receive timeout, the status -/
abbrev wAccepting (a x : St) : St :=
  { a with sendMax := x.sendMax, recvMax := x.recvMax, sendCount := x.sendCount, tas := x.tas, tar := x.tar,
           publishRecv := x.publishRecv, needStore := x.needStore, suback := x.suback,
           unsuback := x.unsuback, isClient := x.isClient, keepAliveMs := x.keepAliveMs,
           serverKeepAliveMs := x.serverKeepAliveMs, recvTimeoutMs := x.recvTimeoutMs, status := x.status }

theorem accepting_fp (c : C) (ka : Nat) : Footprint [] wAccepting c (accepting c ka) := .of_s rfl

/-- the footprint of a received CONNECT is that of its three parts, if it covers the report of the parser's error, the
    delivery and the timer that `refreshPingreqRecv` restarts (`hw` holds by `rfl` when `w` lists `recvSet`) -/
theorem connectIn_fp {T : List EvTag} {w : St → St → St} {c : C} {x : Except Nat Pkt} {busy : C} {nack : C → Nat → C}
    {settle : Pkt → C → C} (hbusy : Footprint T w c busy)
    (hnack : ∀ e, Footprint T w c (nack { c with s := { c.s with status := .connecting } } e))
    (hsettle : ∀ p, Footprint T w c (settle p (accepting c p.keepAlive)))
    (hT : [.error, .recv, .timerReset] ⊆ T := by decide)
    (hw : ∀ a b x, wRecvSet (w a b) x = w a (wRecvSet b x) := by exact fun _ _ _ => rfl) :
    Footprint T w c (connectIn c x busy nack settle) :=
  connectIn_ind (fun _ => hbusy) (fun _ e _ => (hnack e).err (hT List.mem_cons_self) e)
    (fun _ p _ => ((hsettle p).step (refreshPingreqRecv_fp _)
      (fun _ h => hT (List.mem_cons_of_mem _ (List.mem_cons_of_mem _ h))) hw).recv
      (hT (List.mem_cons_of_mem _ List.mem_cons_self)) p)

theorem prV3Connect_eq (c : C) (x : Except Nat Pkt) :
    prV3Connect c x = connectIn c x (handleV3Error c eProtocol) (fun c e => psV3Connack c (mkV3Connack (v3ConnectErrRc e)))
      (fun p c => if p.clean then clearStoreRelated c else { c with s := { c.s with needStore := true } }) := by
  cases x with
  | error e => rfl
  | ok p => unfold connectIn; dsimp only; rw [← accepting_ite]; rfl

theorem prV5Connect_eq (c : C) (x : Except Nat Pkt) :
    prV5Connect c x = connectIn c x (handleV5Error c eProtocol) (fun c e => psV5Connack c (mkV5Connack (v5ConnectErrRc e)))
      (fun p c => propsFold connectRecvProp (if p.clean then clearStoreRelated c else c) p.props) := by
  cases x with
  | error e => rfl
  | ok p => unfold connectIn; dsimp only; rw [← accepting_ite]; rfl

/-- `process_recv_*_connack`, both versions: a protocol error (`busy`) on an established connection; `bad e` for a
    CONNACK that does not parse; a parsed one is delivered, and one with reason code 0 first establishes the connection,
    applies the properties (`props`) and resumes or clears the session -/
def connackIn (c : C) (x : Except Nat Pkt) (busy : C) (bad : Nat → C) (props : Pkt → C → C) : C :=
  if c.s.status = .connected then busy
  else match x with
    | .ok p =>
      (if p.rc = some 0 then
        if p.sp then resendStored (props p { c with s := { c.s with status := .connected } })
        else clearStoreRelated (props p { c with s := { c.s with status := .connected } })
      else c).push (.recv p)
    | .error e => bad e

theorem connackIn_ind {Q : C → Prop} {c : C} {x : Except Nat Pkt} {busy : C} {bad : Nat → C} {props : Pkt → C → C}
    (hbusy : c.s.status = .connected → Q busy)
    (malformed : c.s.status ≠ .connected → ∀ e, x = .error e → Q (bad e))
    (declined : c.s.status ≠ .connected → ∀ p, x = .ok p → p.rc ≠ some 0 → Q (c.push (.recv p)))
    (resumed : c.s.status ≠ .connected → ∀ p, x = .ok p → p.rc = some 0 → p.sp = true →
      Q ((resendStored (props p { c with s := { c.s with status := .connected } })).push (.recv p)))
    (fresh : c.s.status ≠ .connected → ∀ p, x = .ok p → p.rc = some 0 → p.sp = false →
      Q ((clearStoreRelated (props p { c with s := { c.s with status := .connected } })).push (.recv p))) :
    Q (connackIn c x busy bad props) := by
  refine ite_ind hbusy fun hs => ?_
  cases x with
  | error e => exact malformed hs e rfl
  | ok p =>
    exact ite_ind (Q := fun r : C => Q (r.push (.recv p)))
      (fun hrc => ite_ind (Q := fun r : C => Q (r.push (.recv p))) (resumed hs p rfl hrc)
        (fun hsp => fresh hs p rfl hrc (Bool.eq_false_iff.2 hsp)))
      (declined hs p rfl)

/-- what `connackIn` writes besides `props`: the connection is established, the session resumed or cleared -/
abbrev wConnackIn (a x : St) : St :=
  { a with sendCount := x.sendCount, panic := x.panic, puback := x.puback, pubrec := x.pubrec,
           pubcomp := x.pubcomp, pidMan := x.pidMan, store := x.store, sendSet := x.sendSet,
           status := x.status, handled := x.handled }

/-- the footprint of a received CONNACK is that of its three parts, if it covers the delivery and what resuming or
    clearing the session writes (`hw` holds by `rfl` when `w` lists the fields of `wConnackIn`) -/
theorem connackIn_fp {T : List EvTag} {w : St → St → St} {c : C} {x : Except Nat Pkt} {busy : C} {bad : Nat → C}
    {props : Pkt → C → C} (hbusy : Footprint T w c busy) (hbad : ∀ e, Footprint T w c (bad e))
    (hprops : ∀ p, Footprint T w c (props p { c with s := { c.s with status := .connected } }))
    (hT : [.recv, .released, .send, .timerReset] ⊆ T := by decide)
    (hw0 : ∀ a, w a a = a := by exact fun _ => rfl)
    (hw : ∀ a b x, wConnackIn (w a b) x = w a (wConnackIn b x) := by exact fun _ _ _ => rfl) :
    Footprint T w c (connackIn c x busy bad props) :=
  have session : ∀ (p : Pkt) {r : C},
      Footprint [.released, .send, .timerReset] wConnackIn (props p { c with s := { c.s with status := .connected } }) r →
      Footprint T w c (r.push (.recv p)) :=
    fun p _ h => ((hprops p).step h (fun _ h => hT (List.mem_cons_of_mem _ h)) hw).recv (hT List.mem_cons_self) p
  connackIn_ind (fun _ => hbusy) (fun _ e _ => hbad e)
    (fun _ p _ _ => .recv ⟨rfl, .refl _ _, (hw0 _).symm⟩ (hT List.mem_cons_self) p)
    (fun _ p _ _ _ => session p (resendStored_fp _).widen) (fun _ p _ _ _ => session p (.of_s rfl))

theorem prV3Connack_eq (c : C) (x : Except Nat Pkt) :
    prV3Connack c x = connackIn c x (handleV3Error c eProtocol) (handleV3Error c) (fun _ c => c) := by
  cases x <;> rfl

/-- the model's second test of the status in the error arm has been decided by the first -/
theorem prV5Connack_eq (c : C) (x : Except Nat Pkt) :
    prV5Connack c x = connackIn c x (handleV5Error c eProtocol) c.err
      (fun p c => propsFold connackRecvProp c p.props) := by
  unfold prV5Connack connackIn
  by_cases hs : c.s.status = .connected
  · rw [if_pos hs, if_pos hs]
  · rw [if_neg hs, if_neg hs]
    cases x with
    | ok p => rfl
    | error e => exact if_neg hs

/-- what a received CONNECT may write: the connection is set up as when one is sent, or refused by a CONNACK -/
abbrev wPrV3Connect (a x : St) : St :=
  { a with sendMax := x.sendMax, recvMax := x.recvMax, sendCount := x.sendCount, tas := x.tas, tar := x.tar,
           publishRecv := x.publishRecv, needStore := x.needStore, suback := x.suback,
           unsuback := x.unsuback, isClient := x.isClient, keepAliveMs := x.keepAliveMs,
           serverKeepAliveMs := x.serverKeepAliveMs, recvTimeoutMs := x.recvTimeoutMs, status := x.status,
           pidMan := x.pidMan, puback := x.puback, pubrec := x.pubrec, pubcomp := x.pubcomp,
           store := x.store, handled := x.handled, sendSet := x.sendSet, recvSet := x.recvSet,
           respSet := x.respSet, panic := x.panic }

theorem prV3Connect_fp (c : C) (x : Except Nat Pkt) :
    Footprint [.error, .timerCancel, .send, .close, .recv, .released, .timerReset] wPrV3Connect c
      (prV3Connect c x) :=
  prV3Connect_eq c x ▸ connectIn_fp ⟨rfl, (handleV3Error_ev c _).mono (by decide), rfl⟩
    (fun _ => .step (.of_s rfl) (psV3Connack_fp _ _))
    (fun _ => ite_ind (fun _ => (accepting_fp c _).widen.set rfl) (fun _ => (accepting_fp c _).widen.set rfl))
theorem prV3Connect_s (c : C) (x : Except Nat Pkt) : (prV3Connect c x).s = wPrV3Connect c.s (prV3Connect c x).s :=
  (prV3Connect_fp c x).s

abbrev wConnectRecvProp (a x : St) : St :=
  { a with tas := x.tas, sendMax := x.sendMax, mpsSend := x.mpsSend, needStore := x.needStore }

theorem connectRecvProp_fp (c : C) (id v : Nat) : Footprint [] wConnectRecvProp c (connectRecvProp c id v) := by
  unfold connectRecvProp
  refine ite_ind (fun _ => ite_ind (fun _ => .of_s rfl) (fun _ => .of_s rfl)) (fun _ => ?_)
  refine ite_ind (fun _ => .of_s rfl) (fun _ => ?_)
  refine ite_ind (fun _ => .of_s rfl) (fun _ => ?_)
  exact ite_ind (fun _ => ite_ind (fun _ => .of_s rfl) (fun _ => .of_s rfl)) (fun _ => .of_s rfl)
theorem connectRecvProp_s (c : C) (id v : Nat) :
    (connectRecvProp c id v).s = wConnectRecvProp c.s (connectRecvProp c id v).s := (connectRecvProp_fp c id v).s
theorem connectRecvProp_ev (c : C) (id v : Nat) : (connectRecvProp c id v).ev = c.ev :=
  (connectRecvProp_fp c id v).ev_eq

theorem propsFold_connectRecvProp_fp (c : C) (l : List (Nat × Nat)) :
    Footprint [] wConnectRecvProp c (propsFold connectRecvProp c l) := propsFold_fp _ connectRecvProp_fp c l
theorem propsFold_connectRecvProp_cfg (c : C) (l : List (Nat × Nat)) : (propsFold connectRecvProp c l).cfg = c.cfg :=
  (propsFold_connectRecvProp_fp c l).cfg
theorem propsFold_connectRecvProp_s (c : C) (l : List (Nat × Nat)) :
    (propsFold connectRecvProp c l).s = wConnectRecvProp c.s (propsFold connectRecvProp c l).s :=
  (propsFold_connectRecvProp_fp c l).s
theorem propsFold_connectRecvProp_ev (c : C) (l : List (Nat × Nat)) : (propsFold connectRecvProp c l).ev = c.ev :=
  (propsFold_connectRecvProp_fp c l).ev_eq

/-- the properties of a received CONNACK: limits, keep-alive, and a session that the server does not keep -/
abbrev wConnackRecvProp (a x : St) : St :=
  { a with sendCount := x.sendCount, panic := x.panic, puback := x.puback, pubrec := x.pubrec,
           pubcomp := x.pubcomp, pidMan := x.pidMan, store := x.store, tas := x.tas, sendMax := x.sendMax,
           mpsSend := x.mpsSend, serverKeepAliveMs := x.serverKeepAliveMs, sendSet := x.sendSet,
           needStore := x.needStore, handled := x.handled }

theorem connackRecvProp_fp (c : C) (id v : Nat) :
    Footprint [.timerCancel, .timerReset] wConnackRecvProp c (connackRecvProp c id v) := by
  unfold connackRecvProp
  refine ite_ind (fun _ => ite_ind (fun _ => .of_s rfl) (fun _ => .of_s rfl)) (fun _ => ?_)
  refine ite_ind (fun _ => .set (panicIf_fp _ c _).widen rfl) (fun _ => ?_)
  refine ite_ind (fun _ => .set (panicIf_fp _ c _).widen rfl) (fun _ => ?_)
  refine ite_ind (fun _ => ?_) (fun _ => ?_)
  · dsimp only
    refine ite_ind (fun _ => ?_) (fun _ => .of_s rfl)
    refine ite_ind (fun _ => ?_) (fun _ => .timerReset (.of_s rfl) (by decide) _ _)
    exact ite_ind (fun _ => .timerCancel (.of_s rfl) (by decide) _) (fun _ => .of_s rfl)
  · exact ite_ind (fun _ => ite_ind (fun _ => .of_s rfl) (fun _ => .of_s rfl)) (fun _ => .of_s rfl)
theorem connackRecvProp_s (c : C) (id v : Nat) :
    (connackRecvProp c id v).s = wConnackRecvProp c.s (connackRecvProp c id v).s := (connackRecvProp_fp c id v).s
theorem connackRecvProp_ev (c : C) (id v : Nat) : Appends [.timerCancel, .timerReset] c (connackRecvProp c id v) :=
  (connackRecvProp_fp c id v).ev

theorem propsFold_connackRecvProp_fp (c : C) (l : List (Nat × Nat)) :
    Footprint [.timerCancel, .timerReset] wConnackRecvProp c (propsFold connackRecvProp c l) :=
  propsFold_fp _ connackRecvProp_fp c l
theorem propsFold_connackRecvProp_s (c : C) (l : List (Nat × Nat)) :
    (propsFold connackRecvProp c l).s = wConnackRecvProp c.s (propsFold connackRecvProp c l).s :=
  (propsFold_connackRecvProp_fp c l).s
theorem propsFold_connackRecvProp_ev (c : C) (l : List (Nat × Nat)) :
    Appends [.timerCancel, .timerReset] c (propsFold connackRecvProp c l) := (propsFold_connackRecvProp_fp c l).ev

abbrev wPrV5Connect (a x : St) : St :=
  { a with sendMax := x.sendMax, recvMax := x.recvMax, sendCount := x.sendCount, tas := x.tas, tar := x.tar,
           publishRecv := x.publishRecv, needStore := x.needStore, suback := x.suback,
           unsuback := x.unsuback, isClient := x.isClient, keepAliveMs := x.keepAliveMs,
           serverKeepAliveMs := x.serverKeepAliveMs, recvTimeoutMs := x.recvTimeoutMs, status := x.status,
           pidMan := x.pidMan, puback := x.puback, pubrec := x.pubrec, pubcomp := x.pubcomp,
           store := x.store, handled := x.handled, sendSet := x.sendSet, recvSet := x.recvSet,
           respSet := x.respSet, panic := x.panic, mpsSend := x.mpsSend, mpsRecv := x.mpsRecv }

theorem prV5Connect_fp (c : C) (x : Except Nat Pkt) :
    Footprint [.error, .timerCancel, .send, .close, .recv, .released, .timerReset] wPrV5Connect c
      (prV5Connect c x) :=
  prV5Connect_eq c x ▸ connectIn_fp (handleV5Error_fp c _).widen (fun _ => .step (.of_s rfl) (psV5Connack_fp _ _))
    (fun p => .step (ite_ind (fun _ => (accepting_fp c _).widen.set rfl) (fun _ => (accepting_fp c _).widen))
      (propsFold_connectRecvProp_fp _ p.props))
theorem prV5Connect_s (c : C) (x : Except Nat Pkt) : (prV5Connect c x).s = wPrV5Connect c.s (prV5Connect c x).s :=
  (prV5Connect_fp c x).s

theorem prV3Connack_fp (c : C) (x : Except Nat Pkt) :
    Footprint [.close, .error, .recv, .released, .send, .timerReset] wConnackIn c (prV3Connack c x) :=
  prV3Connack_eq c x ▸ connackIn_fp ⟨rfl, (handleV3Error_ev c _).mono (by decide), rfl⟩
    (fun _ => ⟨rfl, (handleV3Error_ev c _).mono (by decide), rfl⟩) (fun _ => .of_s rfl)
theorem prV3Connack_s (c : C) (x : Except Nat Pkt) : (prV3Connack c x).s = wConnackIn c.s (prV3Connack c x).s :=
  (prV3Connack_fp c x).s

abbrev wPrV5Connack (a x : St) : St :=
  { a with sendCount := x.sendCount, panic := x.panic, puback := x.puback, pubrec := x.pubrec,
           pubcomp := x.pubcomp, pidMan := x.pidMan, store := x.store, tas := x.tas, sendMax := x.sendMax,
           mpsSend := x.mpsSend, serverKeepAliveMs := x.serverKeepAliveMs, sendSet := x.sendSet,
           needStore := x.needStore, handled := x.handled, status := x.status, recvSet := x.recvSet,
           respSet := x.respSet }

theorem prV5Connack_fp (c : C) (x : Except Nat Pkt) :
    Footprint [.error, .timerCancel, .send, .close, .recv, .released, .timerReset] wPrV5Connack c
      (prV5Connack c x) :=
  prV5Connack_eq c x ▸ connackIn_fp (handleV5Error_fp c _).widen (fun e => .err (.of_s rfl) (by decide) e)
    (fun p => .step (.of_s rfl) (propsFold_connackRecvProp_fp _ p.props))

/-! ## PUBLISH -/

abbrev wPrV3Publish (a x : St) : St :=
  { a with panic := x.panic, sendSet := x.sendSet, recvSet := x.recvSet, handled := x.handled }

/-- an acknowledgement the library sends by itself when it is `due`: it is built first, which is the panic site `site`
    when the identifier is 0 (`build().unwrap()`), then handed to `send` -/
def autoAck (c : C) (due : Prop) [Decidable due] (site : String) (id : Nat) (send : C → C) : C :=
  if due then send (if id = 0 then c.setPanic site else c) else c

theorem autoAck_cases {Q : C → Prop} {c : C} {due : Prop} [Decidable due] {site : String} {id : Nat} {send : C → C}
    (idle : ¬due → Q c) (zero : due → id = 0 → Q (send (c.setPanic site))) (sent : due → id ≠ 0 → Q (send c)) :
    Q (autoAck c due site id send) :=
  ite_ind (fun h => ite_ind (Q := fun m => Q (send m)) (zero h) (sent h)) idle

/-- the two leaves that send, as one: `m` is `c` after the attempt to build the packet -/
theorem autoAck_ind {Q : C → Prop} {c : C} {due : Prop} [Decidable due] {site : String} {id : Nat} {send : C → C}
    (idle : ¬due → Q c) (sent : due → ∀ m, Footprint [] wPanic c m → (id ≠ 0 → m = c) → Q (send m)) :
    Q (autoAck c due site id send) :=
  autoAck_cases idle (fun h h0 => sent h _ (.of_s rfl) fun hn => absurd h0 hn) (fun h _ => sent h c (.of_s rfl) fun _ => rfl)

/-- the footprint of `send`, if it covers `panic` (`hp`, `hw` hold by `rfl` then) -/
theorem autoAck_fp {T : List EvTag} {w : St → St → St} {c : C} {due : Prop} [Decidable due] {site : String} {id : Nat}
    {send : C → C} (hs : ∀ m, Footprint T w m (send m))
    (hp : ∀ a x, w a (wPanic a x) = wPanic a x := by exact fun _ _ => rfl)
    (hw : ∀ a b x, w (w a b) x = w a (w b x) := by exact fun _ _ _ => rfl) :
    Footprint T w c (autoAck c due site id send) :=
  autoAck_ind (fun _ => ⟨rfl, .refl _ _, (hp c.s c.s).symm⟩)
    (fun _ m hm _ => (hm.widen (List.nil_subset _) hp).step (hs m) (fun _ h => h) hw)

/-- a v3.1.1 QoS 2 PUBLISH up to the delivery: its identifier is entered in `handled`, the PUBREC sent if
    `auto_pub_response` is set or the identifier was there already, the timer that watches the peer restarted -/
def prV3Qos2 (c : C) (id : Nat) : C :=
  refreshPingreqRecv (autoAck { c with s := { c.s with handled := ins id c.s.handled } }
    (c.s.status = .connected ∧ (c.s.autoPub ∨ id ∈ c.s.handled))
    "core.rs:process_recv_v3_1_1_publish:pubrec.build().unwrap()" id fun c => psV3Simple c (mkAck c.cfg 4 .pubrec id))

/-- the paths through `process_recv_v3_1_1_publish`.  The parser's error; a QoS 0 PUBLISH is delivered; one without an
    identifier is a panic; a QoS 1 PUBLISH is acknowledged if `auto_pub_response` is set, and delivered; a QoS 2 PUBLISH
    goes through `prV3Qos2`, and only the first copy (`first`) is delivered, not the duplicate of a handled one (`dup`). -/
theorem prV3Publish_paths {Q : C → Prop} {c : C} {x : Except Nat Pkt}
    (malformed : ∀ e, x = .error e → Q (handleV3Error c e))
    (qos0 : ∀ p, x = .ok p → p.qos = 0 → Q ((refreshPingreqRecv c).push (.recv p)))
    (panic : ∀ p, x = .ok p → p.qos ≠ 0 → p.pid = none →
      Q (c.setPanic "core.rs:process_recv_v3_1_1_publish:packet_id().unwrap()"))
    (qos1 : ∀ p id, x = .ok p → p.qos = 1 → p.pid = some id →
      Q ((refreshPingreqRecv (autoAck c (c.s.status = .connected ∧ c.s.autoPub)
        "core.rs:process_recv_v3_1_1_publish:puback.build().unwrap()" id
        fun c => psV3Simple c (mkAck c.cfg 4 .puback id))).push (.recv p)))
    (first : ∀ p id, x = .ok p → p.qos ≠ 0 → p.qos ≠ 1 → p.pid = some id → id ∉ c.s.handled →
      Q ((prV3Qos2 c id).push (.recv p)))
    (dup : ∀ p id, x = .ok p → p.qos ≠ 0 → p.qos ≠ 1 → p.pid = some id → id ∈ c.s.handled → Q (prV3Qos2 c id)) :
    Q (prV3Publish c x) := by
  unfold prV3Publish
  cases x with
  | error e => exact malformed e rfl
  | ok p =>
    refine ite_ind (qos0 p rfl) (fun h0 => ?_)
    cases hp : p.pid with
    | none => exact panic p rfl h0 hp
    | some id =>
      refine ite_ind (fun h1 => qos1 p id rfl h1 hp) (fun h1 => ?_)
      exact ite_ind (fun h => first p id rfl h0 h1 hp (by simpa using h)) (fun h => dup p id rfl h0 h1 hp (by simpa using h))

theorem prV3Qos2_fp (c : C) (id : Nat) : Footprint [.error, .send, .timerReset] wPrV3Publish c (prV3Qos2 c id) :=
  ((Footprint.of_s rfl).step (autoAck_fp (T := [.error, .send, .timerReset]) (w := wPrV3Publish) fun m =>
    (psV3Simple_fp m _).widen)).step (refreshPingreqRecv_fp _)

theorem prV3Publish_fp (c : C) (x : Except Nat Pkt) :
    Footprint [.close, .error, .timerReset, .recv, .send] wPrV3Publish c (prV3Publish c x) :=
  prV3Publish_paths (fun e _ => ⟨rfl, (handleV3Error_ev c _).mono (by decide), rfl⟩)
    (fun p _ _ => .recv (refreshPingreqRecv_fp c).widen (by decide) p) (fun _ _ _ _ => .of_s rfl)
    (fun p id _ _ _ => .recv ((autoAck_fp (T := [.error, .send, .timerReset]) (w := wPrV3Publish) fun m =>
      (psV3Simple_fp m _).widen).step (refreshPingreqRecv_fp _)).widen (by decide) p)
    (fun p id _ _ _ _ _ => (prV3Qos2_fp c id).widen.recv (by decide) p) (fun p id _ _ _ _ _ => (prV3Qos2_fp c id).widen)
theorem prV3Publish_s (c : C) (x : Except Nat Pkt) : (prV3Publish c x).s = wPrV3Publish c.s (prV3Publish c x).s :=
  (prV3Publish_fp c x).s

abbrev wPrV5PublishAlias (a x : St) : St :=
  { a with sendSet := x.sendSet, recvSet := x.recvSet, respSet := x.respSet, status := x.status,
           tar := x.tar }

/-- the alias stage of a received v5.0 PUBLISH, leaf by leaf, each with what was tested on the way.  `bad`, Topic Alias
    invalid: neither topic nor alias; an alias outside `1..=max`, or any alias when no table was agreed; no topic, and
    the alias is not bound or bound to a topic with a wildcard.  `same`: a topic and no alias.  `topic`: no topic, the
    alias stands for `topic`.  `bind`: topic and alias, the table gains the binding. -/
theorem prV5PublishAlias_ind {Q : C × Option Pkt → Prop} (c : C) (p : Pkt)
    (bad : p.topic = [] ∧ p.alias = none ∨
        (∃ a, p.alias = some a ∧ ∀ t, c.s.tar = some t → a = 0 ∨ a > t.max) ∨
        (∃ a t, p.topic = [] ∧ p.alias = some a ∧ c.s.tar = some t ∧
          ∀ topic, t.get a = some topic → hasWildcard topic = true) →
      Q (handleV5Error c eAliasInvalid, none))
    (same : p.topic ≠ [] → p.alias = none → Q (c, some p))
    (topic : ∀ a t topic, p.topic = [] → p.alias = some a → c.s.tar = some t → a ≠ 0 → a ≤ t.max →
      t.get a = some topic → hasWildcard topic = false → Q (c, some { p with topic := topic, extracted := true }))
    (bind : ∀ a t, p.topic ≠ [] → p.alias = some a → c.s.tar = some t → a ≠ 0 → a ≤ t.max →
      Q ({ c with s := { c.s with tar := some (t.insertOrUpdate p.topic a) } }, some p)) :
    Q (prV5PublishAlias c p) := by
  -- the range test, which both halves of the function make: it fails for every alias when no table was agreed
  have range : ∀ {a : Nat} {r : C × Option Pkt}, p.alias = some a →
      (∀ t, c.s.tar = some t → a ≠ 0 → a ≤ t.max → Q r) →
      Q (if (match c.s.tar with | none => true | some t => decide (a = 0 ∨ a > t.max)) = true
          then (handleV5Error c eAliasInvalid, none) else r) := by
    intro a r ha h
    cases ht : c.s.tar with
    | none => exact bad (.inr (.inl ⟨a, ha, fun t h => nomatch ht.symm.trans h⟩))
    | some t =>
      refine ite_ind (fun hb => bad (.inr (.inl ⟨a, ha, fun t' h => ?_⟩))) fun hb => ?_
      · cases ht.symm.trans h
        exact of_decide_eq_true hb
      · have hb : ¬ (a = 0 ∨ a > t.max) := fun h => hb (decide_eq_true h)
        exact h t ht (by omega) (by omega)
  unfold prV5PublishAlias
  refine ite_ind (fun he => ?_) fun he => ?_
  · have he := List.isEmpty_iff.1 he
    cases ha : p.alias with
    | none => exact bad (.inl ⟨he, ha⟩)
    | some a =>
      refine range ha fun t ht h0 hm => ?_
      rw [ht]
      dsimp only
      cases hg : t.get a with
      | none => exact bad (.inr (.inr ⟨a, t, he, ha, ht, fun tp h => nomatch hg.symm.trans h⟩))
      | some tp =>
        refine ite_ind (fun hw => bad (.inr (.inr ⟨a, t, he, ha, ht, fun tp' h => ?_⟩))) fun hw => ?_
        · cases hg.symm.trans h
          exact hw
        · exact ha ▸ topic a t tp he ha ht h0 hm hg (Bool.eq_false_iff.2 hw)
  · have he : p.topic ≠ [] := fun h => he (List.isEmpty_iff.2 h)
    cases ha : p.alias with
    | none => exact same he ha
    | some a =>
      refine range ha fun t ht h0 hm => ?_
      rw [ht]
      exact bind a t he ha ht h0 hm

theorem prV5PublishAlias_fp (c : C) (p : Pkt) :
    Footprint [.error, .timerCancel, .send, .close] wPrV5PublishAlias c (prV5PublishAlias c p).1 :=
  prV5PublishAlias_ind (Q := fun r => Footprint [.error, .timerCancel, .send, .close] wPrV5PublishAlias c r.1) c p
    (fun _ => (handleV5Error_fp c _).widen) (fun _ _ => .of_s rfl) (fun _ _ _ _ _ _ _ _ _ _ => .of_s rfl)
    (fun _ _ _ _ _ _ _ => .of_s rfl)
theorem prV5PublishAlias_s (c : C) (p : Pkt) :
    (prV5PublishAlias c p).1.s = wPrV5PublishAlias c.s (prV5PublishAlias c p).1.s := (prV5PublishAlias_fp c p).s
theorem prV5PublishAlias_ev (c : C) (p : Pkt) :
    Appends [.error, .timerCancel, .send, .close] c (prV5PublishAlias c p).1 := (prV5PublishAlias_fp c p).ev

/-- the packet delivered for a received PUBLISH `p`: `p`, or `p` with the topic its alias stands for -/
inductive Resolved (p : Pkt) : Pkt → Prop
  | same : Resolved p p
  | topic (t : List Nat) : Resolved p { p with topic := t, extracted := true }

theorem Resolved.kind {p q : Pkt} (h : Resolved p q) : q.kind = p.kind := by cases h <;> rfl
theorem Resolved.qos {p q : Pkt} (h : Resolved p q) : q.qos = p.qos := by cases h <;> rfl
theorem Resolved.pid {p q : Pkt} (h : Resolved p q) : q.pid = p.pid := by cases h <;> rfl

/-- the alias stage reports Topic Alias invalid, or passes a packet on and touches at most the receive-side alias table -/
theorem prV5PublishAlias_cases {Q : C × Option Pkt → Prop} (c : C) (p : Pkt)
    (bad : Q (handleV5Error c eAliasInvalid, none))
    (ok : ∀ (c' : C) (p' : Pkt), c'.cfg = c.cfg → c'.ev = c.ev → c'.s = { c.s with tar := c'.s.tar } →
      Q (c', some p')) :
    Q (prV5PublishAlias c p) :=
  prV5PublishAlias_ind c p (fun _ => bad) (fun _ _ => ok c p rfl rfl rfl)
    (fun _ _ _ _ _ _ _ _ _ _ => ok c _ rfl rfl rfl) (fun _ _ _ _ _ _ _ => ok _ p rfl rfl rfl)

theorem prV5PublishAlias_resolved (c : C) (p p' : Pkt) (h : (prV5PublishAlias c p).2 = some p') : Resolved p p' :=
  prV5PublishAlias_ind (Q := fun r => r.2 = some p' → Resolved p p') c p (fun _ h => nomatch h)
    (fun _ _ h => Option.some.inj h ▸ .same) (fun _ _ tp _ _ _ _ _ _ _ h => Option.some.inj h ▸ .topic tp)
    (fun _ _ _ _ _ _ _ h => Option.some.inj h ▸ .same) h

theorem prV5PublishAlias_kind {c : C} {p p' : Pkt} (h : (prV5PublishAlias c p).2 = some p') : p'.kind = p.kind :=
  (prV5PublishAlias_resolved c p p' h).kind

end Fp

/-! ### `process_recv_v5_0_publish` after the alias stage: the identifier is booked (`prvBook`), the acknowledgement
sent if one is due (`prvAck`), the packet delivered unless it is a duplicate -/

def prvBook (c : C) (qos id : Nat) : C :=
  let c := if qos > 0 then { c with s := { c.s with publishRecv := ins id c.s.publishRecv } } else c
  if qos = 2 then { c with s := { c.s with handled := ins id c.s.handled } } else c

/-- both tests are made in `c`, before the PUBACK is sent -/
def prvAck (c : C) (qos id : Nat) (already : Prop) [Decidable already] : C :=
  Fp.autoAck (Fp.autoAck c (qos = 1 ∧ c.s.autoPub ∧ c.s.status = .connected)
      "core.rs:process_recv_v5_0_publish:puback.build().unwrap()" id fun c => psV5Puback c (mkAck c.cfg 5 .puback id))
    (qos = 2 ∧ c.s.status = .connected ∧ (c.s.autoPub ∨ already))
    "core.rs:process_recv_v5_0_publish:pubrec.build().unwrap()" id fun c => psV5Pubrec c (mkAck c.cfg 5 .pubrec id)

def recvMaxReached (s : St) : Bool :=
  match s.recvMax with
  | some m => decide (s.publishRecv.length ≥ m)
  | none => false

theorem prV5Publish_eq (c : C) (p : Pkt) : prV5Publish c (.ok p) =
  match (prV5PublishAlias c p).2 with
  | none => (prV5PublishAlias c p).1
  | some p' =>
    let c1 := (prV5PublishAlias c p).1
    if p.qos > 0 ∧ p.pid.isNone then c1.setPanic "core.rs:process_recv_v5_0_publish:packet_id().unwrap()"
    else if p.qos > 0 ∧ recvMaxReached c1.s then handleV5Error c1 eRMExceeded
    else
      let id := p.pid.getD 0
      let already := p.qos = 2 ∧ id ∈ c1.s.handled
      let c4 := refreshPingreqRecv (prvAck (prvBook c1 p.qos id) p.qos id already)
      if !already then c4.push (.recv p') else c4 := by
  rfl

namespace Fp

abbrev wBook (a x : St) : St := { a with publishRecv := x.publishRecv, handled := x.handled }

theorem prvBook_fp (c : C) (qos id : Nat) : Footprint [] wBook c (prvBook c qos id) := by
  have h1 : Footprint [] wBook c
      (if qos > 0 then { c with s := { c.s with publishRecv := ins id c.s.publishRecv } } else c) :=
    ite_ind (fun _ => .of_s rfl) (fun _ => .of_s rfl)
  unfold prvBook
  generalize (if qos > 0 then { c with s := { c.s with publishRecv := ins id c.s.publishRecv } } else c) = c1 at h1
  exact ite_ind (fun _ => h1.set rfl) (fun _ => h1)
theorem prvBook_s (c : C) (qos id : Nat) : (prvBook c qos id).s = wBook c.s (prvBook c qos id).s := (prvBook_fp c qos id).s
theorem prvBook_ev (c : C) (qos id : Nat) : (prvBook c qos id).ev = c.ev := (prvBook_fp c qos id).ev_eq

abbrev wPrvAck (a x : St) : St :=
  { a with panic := x.panic, publishRecv := x.publishRecv, sendSet := x.sendSet, handled := x.handled }

/-- the acknowledgement stage does nothing, or sends the PUBACK of a QoS 1 PUBLISH, or the PUBREC of a QoS 2 PUBLISH;
    `m` is `c` after the attempt to build the packet -/
theorem prvAck_cases {Q : C → Prop} {c : C} {qos id : Nat} {already : Prop} [Decidable already]
    (idle : ¬(qos = 1 ∧ c.s.autoPub ∧ c.s.status = .connected) →
      ¬(qos = 2 ∧ c.s.status = .connected ∧ (c.s.autoPub ∨ already)) → Q c)
    (puback : qos = 1 → c.s.autoPub → c.s.status = .connected → ∀ m, Footprint [] wPanic c m → (id ≠ 0 → m = c) →
      Q (psV5Puback m (mkAck m.cfg 5 .puback id)))
    (pubrec : qos = 2 → c.s.status = .connected → c.s.autoPub ∨ already → ∀ m, Footprint [] wPanic c m →
      (id ≠ 0 → m = c) → Q (psV5Pubrec m (mkAck m.cfg 5 .pubrec id))) :
    Q (prvAck c qos id already) := by
  unfold prvAck
  refine autoAck_ind (Q := fun m => Q (autoAck m _ _ id _)) (fun h1 => ?_) (fun h1 m hm he => ?_)
  · exact autoAck_ind (idle h1) fun h2 => pubrec h2.1 h2.2.1 h2.2.2
  · rw [autoAck, if_neg fun h2 => absurd (h1.1.symm.trans h2.1) (by decide)]
    exact puback h1.1 h1.2.1 h1.2.2 m hm he

theorem prvAck_fp (c : C) (qos id : Nat) (already : Prop) [Decidable already] :
    Footprint [.error, .send, .timerReset] wPrvAck c (prvAck c qos id already) := by
  unfold prvAck
  exact (autoAck_fp fun m => (psV5Puback_fp m _).widen).step
    (autoAck_fp (T := [.error, .send, .timerReset]) (w := wPrvAck) fun m => (psV5Pubrec_fp m _).widen)
theorem prvAck_s (c : C) (qos id : Nat) (already : Prop) [Decidable already] :
    (prvAck c qos id already).s = wPrvAck c.s (prvAck c qos id already).s := (prvAck_fp c qos id already).s

abbrev wPrV5Publish (a x : St) : St :=
  { a with sendSet := x.sendSet, recvSet := x.recvSet, respSet := x.respSet, status := x.status,
           tar := x.tar, panic := x.panic, publishRecv := x.publishRecv, handled := x.handled }

theorem prV5Publish_fp (c : C) (x : Except Nat Pkt) :
    Footprint [.error, .timerCancel, .send, .close, .timerReset, .recv] wPrV5Publish c (prV5Publish c x) := by
  cases x with
  | error e =>
    unfold prV5Publish
    exact ite_ind (fun _ => (handleV5Error_fp c e).widen) (fun _ => .err (.of_s rfl) (by decide) e)
  | ok p =>
    rw [prV5Publish_eq]
    have h0 : Footprint [.error, .timerCancel, .send, .close, .timerReset, .recv] wPrV5Publish c
        (prV5PublishAlias c p).1 := (prV5PublishAlias_fp c p).widen
    cases (prV5PublishAlias c p).2 with
    | none => exact h0
    | some p' =>
      have h4 := ((h0.step (prvBook_fp _ p.qos (p.pid.getD 0))).step (prvAck_fp _ p.qos (p.pid.getD 0)
        (p.qos = 2 ∧ p.pid.getD 0 ∈ (prV5PublishAlias c p).1.s.handled))).step (refreshPingreqRecv_fp _)
      exact ite_ind (fun _ => h0.set rfl) (fun _ => ite_ind (fun _ => h0.step (handleV5Error_fp _ _))
        (fun _ => ite_ind (fun _ => h4.recv (by decide) p') (fun _ => h4)))
theorem prV5Publish_s (c : C) (x : Except Nat Pkt) : (prV5Publish c x).s = wPrV5Publish c.s (prV5Publish c x).s :=
  (prV5Publish_fp c x).s

/-! ## errors, acknowledgements, PUBREL -/

theorem vErr_cases {Q : C → Prop} (c : C) (e : Nat) (h3 : c.s.ver = 4 → Q (handleV3Error c e))
    (h5 : c.s.ver ≠ 4 → Q (handleV5Error c e)) : Q (vErr c e) := by
  unfold vErr
  split
  · exact h3 ‹_›
  · exact h5 ‹_›
theorem vErr_fp (c : C) (e : Nat) : Footprint [.close, .error, .timerCancel, .send] wClose c (vErr c e) :=
  vErr_cases c e (fun _ => ⟨rfl, (handleV3Error_ev c e).mono (by decide), rfl⟩) (fun _ => (handleV5Error_fp c e).widen)
theorem vErr_s (c : C) (e : Nat) : (vErr c e).s = wClose c.s (vErr c e).s := (vErr_fp c e).s

theorem decSendCountIf_fp (b : Prop) [Decidable b] (c : C) :
    Footprint [] wSendCount c (if b then decSendCount c else c) :=
  ite_ind (fun _ => decSendCount_fp c) (fun _ => .of_s rfl)

/-! The handlers of the five acknowledgements the library waits for (PUBACK, PUBREC, PUBCOMP, SUBACK, UNSUBACK) are one
shape, `ackIn c x set taken`: the parser's error is reported; an identifier that is not in the wait set `set` is a
protocol error; otherwise `taken p id` — the entry leaves its wait set and the store, and what the handler does
besides — and the packet is delivered.  `prPuback_eq` … `prSubUnsuback_eq` by `rfl`, the tests in `ackIn_ind`.  A fact
about these handlers is stated about the shape, with what it needs of `taken` as a hypothesis (`ackIn_fp`); PUBACK and
PUBCOMP end the exchange alike, `pubDone`; what a PUBREC does besides is `pubrecDone`. -/

def ackIn (c : C) (x : Except Nat Pkt) (set : List Nat) (taken : Pkt → Nat → C) : C :=
  match x with
  | .error e => vErr c e
  | .ok p =>
    if p.pid.getD 0 ∈ set then (refreshPingreqRecv (taken p (p.pid.getD 0))).push (.recv p) else vErr c eProtocol

theorem ackIn_ind {Q : C → Prop} {c : C} {x : Except Nat Pkt} {set : List Nat} {taken : Pkt → Nat → C}
    (malformed : ∀ e, x = .error e → Q (vErr c e))
    (unexpected : ∀ p, x = .ok p → p.pid.getD 0 ∉ set → Q (vErr c eProtocol))
    (awaited : ∀ p, x = .ok p → p.pid.getD 0 ∈ set → Q ((refreshPingreqRecv (taken p (p.pid.getD 0))).push (.recv p))) :
    Q (ackIn c x set taken) := by
  cases x with
  | error e => exact malformed e rfl
  | ok p => exact ite_ind (awaited p rfl) (unexpected p rfl)

theorem ackIn_awaited {c : C} {p : Pkt} {set : List Nat} (hm : p.pid.getD 0 ∈ set) (taken : Pkt → Nat → C) :
    ackIn c (.ok p) set taken = (refreshPingreqRecv (taken p (p.pid.getD 0))).push (.recv p) :=
  if_pos hm

/-- the end of a QoS 1 or QoS 2 exchange we started (PUBACK, PUBCOMP), from the context `c` without the entry: the
    identifier is released and, for v5.0, the send quota given back -/
def pubDone (c : C) (p : Pkt) (id : Nat) : C :=
  if p.ver = 5 then decSendCount (releaseIfUsed c id) else releaseIfUsed c id

theorem prPuback_eq (c : C) (x : Except Nat Pkt) : prPuback c x = ackIn c x c.s.puback fun p id =>
    pubDone { c with s := { c.s with puback := del id c.s.puback, store := storeErase p.ver .puback id c.s.store } } p id := by
  cases x <;> rfl

theorem prPubcomp_eq (c : C) (x : Except Nat Pkt) : prPubcomp c x = ackIn c x c.s.pubcomp fun p id =>
    pubDone { c with s := { c.s with pubcomp := del id c.s.pubcomp, store := storeErase p.ver .pubcomp id c.s.store } } p id := by
  cases x <;> rfl

/-- a PUBREC from the context `c` without the entry: one that reports success is answered with the PUBREL if
    `auto_pub_response` is set; one that reports a failure ends the exchange as `pubDone` does for v5.0 -/
def pubrecDone (c : C) (p : Pkt) (id : Nat) : C :=
  if p.ver = 4 ∨ p.rc = none ∨ p.rc = some 0 then
    (if c.s.autoPub ∧ c.s.status = .connected then psPubrel c (mkAck c.cfg p.ver .pubrel id) else c)
  else decSendCount (releaseIfUsed c id)

theorem pubrecDone_cases {Q : C → Prop} {c : C} {p : Pkt} {id : Nat}
    (answered : p.ver = 4 ∨ p.rc = none ∨ p.rc = some 0 → c.s.autoPub → c.s.status = .connected →
      Q (psPubrel c (mkAck c.cfg p.ver .pubrel id)))
    (kept : p.ver = 4 ∨ p.rc = none ∨ p.rc = some 0 → ¬(c.s.autoPub ∧ c.s.status = .connected) → Q c)
    (failed : ¬(p.ver = 4 ∨ p.rc = none ∨ p.rc = some 0) → Q (decSendCount (releaseIfUsed c id))) :
    Q (pubrecDone c p id) :=
  ite_ind (fun h => ite_ind (fun h' => answered h h'.1 h'.2) (kept h)) failed

theorem prPubrec_eq (c : C) (x : Except Nat Pkt) : prPubrec c x = ackIn c x c.s.pubrec fun p id =>
    pubrecDone { c with s := { c.s with pubrec := del id c.s.pubrec, store := storeErase p.ver .pubrec id c.s.store } } p id := by
  cases x <;> rfl

theorem prSubUnsuback_eq (c : C) (isSub : Bool) (x : Except Nat Pkt) :
    prSubUnsuback c isSub x = ackIn c x (if isSub then c.s.suback else c.s.unsuback) fun _ id =>
      releaseIfUsed (if isSub then { c with s := { c.s with suback := del id c.s.suback } }
        else { c with s := { c.s with unsuback := del id c.s.unsuback } }) id := by
  cases x <;> rfl

/-- the footprint of an awaited acknowledgement is that of `taken`, if it covers the error path, the delivery and the
    timer that `refreshPingreqRecv` restarts (`hv`, `hw` hold by `rfl` when `w` lists the fields of `wClose`) -/
theorem ackIn_fp {T : List EvTag} {w : St → St → St} {c : C} {x : Except Nat Pkt} {set : List Nat} {taken : Pkt → Nat → C}
    (htaken : ∀ p id, Footprint T w c (taken p id))
    (hE : [.close, .error, .timerCancel, .send] ⊆ T := by decide) (hR : [.recv, .timerReset] ⊆ T := by decide)
    (hv : ∀ a x, w a (wClose a x) = wClose a x := by exact fun _ _ => rfl)
    (hw : ∀ a b x, wRecvSet (w a b) x = w a (wRecvSet b x) := by exact fun _ _ _ => rfl) :
    Footprint T w c (ackIn c x set taken) :=
  ackIn_ind (fun e _ => (vErr_fp c e).widen hE hv) (fun _ _ _ => (vErr_fp c _).widen hE hv)
    (fun p _ _ => ((htaken p _).step (refreshPingreqRecv_fp _) (fun _ h => hR (List.mem_cons_of_mem _ h)) hw).recv
      (hR List.mem_cons_self) p)

abbrev wPubDone (a x : St) : St := { a with pidMan := x.pidMan, panic := x.panic, sendCount := x.sendCount }

theorem pubDone_fp (c : C) (p : Pkt) (id : Nat) : Footprint [.released] wPubDone c (pubDone c p id) :=
  (releaseIfUsed_fp c id).widen.step (decSendCountIf_fp (p.ver = 5) _)

/-- an acknowledged exchange ends: its wait-set entry and stored packet go, its identifier is released -/
abbrev wPrPuback (a x : St) : St :=
  { a with sendSet := x.sendSet, recvSet := x.recvSet, respSet := x.respSet, status := x.status,
           puback := x.puback, store := x.store, pidMan := x.pidMan, panic := x.panic,
           sendCount := x.sendCount }

theorem prPuback_fp (c : C) (x : Except Nat Pkt) : Footprint [.close, .error, .timerCancel, .send, .released, .timerReset, .recv] wPrPuback c (prPuback c x) :=
  prPuback_eq c x ▸ ackIn_fp fun p id => .step (.of_s rfl) (pubDone_fp _ p id)
theorem prPuback_s (c : C) (x : Except Nat Pkt) : (prPuback c x).s = wPrPuback c.s (prPuback c x).s :=
  (prPuback_fp c x).s

abbrev wPrPubrec (a x : St) : St :=
  { a with sendSet := x.sendSet, recvSet := x.recvSet, respSet := x.respSet, status := x.status,
           pubrec := x.pubrec, store := x.store, panic := x.panic, pubcomp := x.pubcomp, pidMan := x.pidMan,
           sendCount := x.sendCount }

abbrev wPubrecDone (a x : St) : St :=
  { a with sendSet := x.sendSet, store := x.store, panic := x.panic, pubcomp := x.pubcomp, pidMan := x.pidMan,
           sendCount := x.sendCount }

theorem pubrecDone_fp (c : C) (p : Pkt) (id : Nat) :
    Footprint [.error, .send, .released, .timerReset] wPubrecDone c (pubrecDone c p id) :=
  pubrecDone_cases (fun _ _ _ => (psPubrel_fp c _).widen) (fun _ _ => .of_s rfl)
    (fun _ => (releaseIfUsed_fp c id).widen.step (decSendCount_fp _))

theorem prPubrec_fp (c : C) (x : Except Nat Pkt) : Footprint [.close, .error, .timerCancel, .send, .released, .timerReset, .recv] wPrPubrec c (prPubrec c x) :=
  prPubrec_eq c x ▸ ackIn_fp fun p id => .step (.of_s rfl) (pubrecDone_fp _ p id)

abbrev wPrPubrel (a x : St) : St :=
  { a with sendSet := x.sendSet, recvSet := x.recvSet, respSet := x.respSet, status := x.status,
           handled := x.handled, publishRecv := x.publishRecv }

theorem prPubrel_fp (c : C) (x : Except Nat Pkt) : Footprint [.close, .error, .timerCancel, .send, .timerReset, .recv] wPrPubrel c (prPubrel c x) := by
  unfold prPubrel
  cases x with
  | error e => exact (vErr_fp c e).widen
  | ok p =>
    dsimp only
    refine .recv (.step ?_ (refreshPingreqRecv_fp _)) (by decide) p
    have h : Footprint [.close, .error, .timerCancel, .send, .timerReset, .recv] wPrPubrel c
        { c with s := { c.s with handled := del (p.pid.getD 0) c.s.handled } } := .of_s rfl
    refine ite_ind (fun _ => ?_) (fun _ => h)
    refine ite_ind (fun _ => h.step (psV3Simple_fp _ _)) (fun _ => ?_)
    exact ite_ind (fun _ => h.step (psV5Pubcomp_fp _ _)) (fun _ => h.step (psV5Pubcomp_fp _ _))
theorem prPubrel_s (c : C) (x : Except Nat Pkt) : (prPubrel c x).s = wPrPubrel c.s (prPubrel c x).s :=
  (prPubrel_fp c x).s

abbrev wPrPubcomp (a x : St) : St :=
  { a with sendSet := x.sendSet, recvSet := x.recvSet, respSet := x.respSet, status := x.status,
           pubcomp := x.pubcomp, store := x.store, pidMan := x.pidMan, panic := x.panic,
           sendCount := x.sendCount }

theorem prPubcomp_fp (c : C) (x : Except Nat Pkt) : Footprint [.close, .error, .timerCancel, .send, .released, .timerReset, .recv] wPrPubcomp c (prPubcomp c x) :=
  prPubcomp_eq c x ▸ ackIn_fp fun p id => .step (.of_s rfl) (pubDone_fp _ p id)
theorem prPubcomp_s (c : C) (x : Except Nat Pkt) : (prPubcomp c x).s = wPrPubcomp c.s (prPubcomp c x).s :=
  (prPubcomp_fp c x).s

/-! ## the other packets -/

theorem prPlain_fp (c : C) (x : Except Nat Pkt) : Footprint [.close, .error, .timerCancel, .send, .timerReset, .recv] wClose c (prPlain c x) := by
  unfold prPlain
  cases x with
  | error e => exact (vErr_fp c e).widen
  | ok p => exact .recv (refreshPingreqRecv_fp c).widen (by decide) p
theorem prPlain_s (c : C) (x : Except Nat Pkt) : (prPlain c x).s = wClose c.s (prPlain c x).s :=
  (prPlain_fp c x).s

abbrev wPrSubUnsuback (a x : St) : St :=
  { a with sendSet := x.sendSet, recvSet := x.recvSet, respSet := x.respSet, status := x.status,
           suback := x.suback, unsuback := x.unsuback, pidMan := x.pidMan, panic := x.panic }

theorem prSubUnsuback_fp (c : C) (isSub : Bool) (x : Except Nat Pkt) :
    Footprint [.close, .error, .timerCancel, .send, .released, .timerReset, .recv] wPrSubUnsuback c (prSubUnsuback c isSub x) :=
  prSubUnsuback_eq c isSub x ▸ ackIn_fp fun _ id =>
    .step (ite_ind (fun _ => .of_s rfl) (fun _ => .of_s rfl)) (releaseIfUsed_fp _ id)
theorem prSubUnsuback_s (c : C) (isSub : Bool) (x : Except Nat Pkt) :
    (prSubUnsuback c isSub x).s = wPrSubUnsuback c.s (prSubUnsuback c isSub x).s := (prSubUnsuback_fp c isSub x).s

theorem prPingreq_fp (c : C) (x : Except Nat Pkt) : Footprint [.close, .error, .timerCancel, .send, .timerReset, .recv] wClose c (prPingreq c x) := by
  unfold prPingreq
  cases x with
  | error e => exact (vErr_fp c e).widen
  | ok p =>
    dsimp only
    refine .recv (.step ?_ (refreshPingreqRecv_fp _)) (by decide) p
    refine ite_ind (fun _ => ?_) (fun _ => .of_s rfl)
    exact ite_ind (fun _ => (psV3Simple_fp c _).widen) (fun _ => (psV5Simple_fp c _).widen)
theorem prPingreq_s (c : C) (x : Except Nat Pkt) : (prPingreq c x).s = wClose c.s (prPingreq c x).s :=
  (prPingreq_fp c x).s

theorem prPingresp_fp (c : C) (x : Except Nat Pkt) : Footprint [.close, .error, .timerCancel, .send, .recv] wClose c (prPingresp c x) := by
  unfold prPingresp
  cases x with
  | error e => exact (vErr_fp c e).widen
  | ok p =>
    dsimp only
    exact .recv (ite_ind (fun _ => .timerCancel (.of_s rfl) (by decide) _) (fun _ => .of_s rfl)) (by decide) p
theorem prPingresp_s (c : C) (x : Except Nat Pkt) : (prPingresp c x).s = wClose c.s (prPingresp c x).s :=
  (prPingresp_fp c x).s
theorem prPingresp_ev (c : C) (x : Except Nat Pkt) :
    Appends [.close, .error, .timerCancel, .send, .recv] c (prPingresp c x) := (prPingresp_fp c x).ev

theorem prDisconnect_fp (c : C) (x : Except Nat Pkt) : Footprint [.close, .error, .timerCancel, .send, .recv] wClose c (prDisconnect c x) := by
  unfold prDisconnect
  cases x with
  | error e => exact (vErr_fp c e).widen
  | ok p => exact .recv (cancelTimers_fp c).widen (by decide) p
theorem prDisconnect_s (c : C) (x : Except Nat Pkt) : (prDisconnect c x).s = wClose c.s (prDisconnect c x).s :=
  (prDisconnect_fp c x).s

/-! ## the dispatchers: one hypothesis per handler, carrying what was tested -/

/-- an `if` on both sides of a relation, under the same test: for a function defined beside a model function, branch
    for branch -/
theorem ite_rel {α β : Sort _} {R : α → β → Prop} {p : Prop} [Decidable p] {a b : α} {a' b' : β}
    (ha : p → R a a') (hb : ¬p → R b b') : R (if p then a else b) (if p then a' else b') := by
  by_cases h : p
  · rw [if_pos h, if_pos h]
    exact ha h
  · rw [if_neg h, if_neg h]
    exact hb h

theorem dispatchRecv_cases {Q : C → Prop} (c : C) (t : Nat) (x : Except Nat Pkt)
    (hconnect3 : t = 1 → c.s.ver = 4 → Q (prV3Connect c x)) (hconnect5 : t = 1 → c.s.ver ≠ 4 → Q (prV5Connect c x))
    (hconnack3 : t = 2 → c.s.ver = 4 → Q (prV3Connack c x)) (hconnack5 : t = 2 → c.s.ver ≠ 4 → Q (prV5Connack c x))
    (hpublish3 : t = 3 → c.s.ver = 4 → Q (prV3Publish c x)) (hpublish5 : t = 3 → c.s.ver ≠ 4 → Q (prV5Publish c x))
    (hpuback : t = 4 → Q (prPuback c x)) (hpubrec : t = 5 → Q (prPubrec c x)) (hpubrel : t = 6 → Q (prPubrel c x))
    (hpubcomp : t = 7 → Q (prPubcomp c x))
    (hplain : t = 8 ∨ t = 10 ∨ (t = 15 ∧ c.s.ver = 5) → Q (prPlain c x))
    (hsuback : t = 9 → Q (prSubUnsuback c true x)) (hunsuback : t = 11 → Q (prSubUnsuback c false x))
    (hpingreq : t = 12 → Q (prPingreq c x)) (hpingresp : t = 13 → Q (prPingresp c x))
    (hdisconnect : t = 14 → Q (prDisconnect c x))
    (herr : (t = 0 ∨ 15 ≤ t) ∧ (t = 15 → c.s.ver ≠ 5) → Q (c.err eMalformed)) : Q (dispatchRecv c t x) := by
  unfold dispatchRecv
  split
  · split
    · exact hconnect3 rfl ‹_›
    · exact hconnect5 rfl ‹_›
  · split
    · exact hconnack3 rfl ‹_›
    · exact hconnack5 rfl ‹_›
  · split
    · exact hpublish3 rfl ‹_›
    · exact hpublish5 rfl ‹_›
  · exact hpuback rfl
  · exact hpubrec rfl
  · exact hpubrel rfl
  · exact hpubcomp rfl
  · exact hplain (.inl rfl)
  · exact hsuback rfl
  · exact hplain (.inr (.inl rfl))
  · exact hunsuback rfl
  · exact hpingreq rfl
  · exact hpingresp rfl
  · exact hdisconnect rfl
  · split
    · exact hplain (.inr (.inr ⟨rfl, ‹_›⟩))
    · exact herr ⟨.inr (Nat.le_refl 15), fun _ => ‹_›⟩
  · -- the arm of no literal knows `t = k → False` for each of them: `omega` does not read that form, `grind` does
    exact herr ⟨by grind, fun h => absurd h ‹_›⟩

/-- `hlarge`: the frame exceeds the local Maximum Packet Size.  `herr`: the role may not receive the type; or, the
    version being undetermined, the frame is no CONNECT long enough to name a protocol level, or names one that is not
    supported.  `hfirst3`, `hfirst5`: the CONNECT that determines the version. -/
theorem processRecvPacket_cases {Q : C → Prop} (c : C) (fh : Nat) (data : List Nat) (parse : Nat → Except Nat Pkt)
    (hlarge : totalSize data.length > c.s.mpsRecv →
      Q ((v5DisconnectOrClose c (mkV5Disconnect eTooLarge)).err eTooLarge))
    (herr : ∀ e, totalSize data.length ≤ c.s.mpsRecv →
      canReceive c.cfg c.s (fh / 16) = false ∧ e = eProtocol ∨
      canReceive c.cfg c.s (fh / 16) = true ∧ c.s.ver = 0 ∧
        (e = eMalformed ∧ (fh / 16 = 1 → data.length < 7) ∨
         e = eUnsupportedVersion ∧ fh / 16 = 1 ∧ 7 ≤ data.length ∧ data.getD 6 0 ≠ 4 ∧ data.getD 6 0 ≠ 5) →
      Q (c.err e))
    (hfirst3 : totalSize data.length ≤ c.s.mpsRecv → canReceive c.cfg c.s (fh / 16) = true → c.s.ver = 0 →
      fh / 16 = 1 → 7 ≤ data.length → data.getD 6 0 = 4 → Q (prV3Connect { c with s := { c.s with ver := 4 } } (parse 4)))
    (hfirst5 : totalSize data.length ≤ c.s.mpsRecv → canReceive c.cfg c.s (fh / 16) = true → c.s.ver = 0 →
      fh / 16 = 1 → 7 ≤ data.length → data.getD 6 0 = 5 → Q (prV5Connect { c with s := { c.s with ver := 5 } } (parse 5)))
    (hdispatch : totalSize data.length ≤ c.s.mpsRecv → canReceive c.cfg c.s (fh / 16) = true → c.s.ver ≠ 0 →
      Q (dispatchRecv c (fh / 16) (parse c.s.ver))) :
    Q (processRecvPacket c fh data parse) := by
  unfold processRecvPacket
  refine ite_ind hlarge (fun hsz => ?_)
  have hsz := Nat.not_lt.1 hsz
  dsimp only
  refine ite_ind (fun hcan => herr _ hsz (.inl ⟨by simpa using hcan, rfl⟩)) (fun hcan => ?_)
  have hcan : canReceive c.cfg c.s (fh / 16) = true := by simpa using hcan
  refine ite_ind (fun hv => ?_) (hdispatch hsz hcan)
  refine ite_ind (fun ht => ?_) (fun ht => herr _ hsz (.inr ⟨hcan, hv, .inl ⟨rfl, fun h => absurd h ht⟩⟩))
  refine ite_ind (fun hl => herr _ hsz (.inr ⟨hcan, hv, .inl ⟨rfl, fun _ => hl⟩⟩)) (fun hl => ?_)
  have hl := Nat.not_lt.1 hl
  refine ite_ind (hfirst3 hsz hcan hv ht hl) (fun h4 => ?_)
  exact ite_ind (hfirst5 hsz hcan hv ht hl) (fun h5 => herr _ hsz (.inr ⟨hcan, hv, .inr ⟨rfl, ht, hl, h4, h5⟩⟩))

theorem recv_cases {Q : C → Prop} (c : C) (inp : List Nat) (parse : Nat → Nat → List Nat → Except Nat Pkt)
    (hnone : ∀ pb rest, Framing.feed c.s.pb inp = (pb, none, rest) → Q { c with s := { c.s with pb := pb } })
    (hpacket : ∀ pb fh data rest, Framing.feed c.s.pb inp = (pb, some (.complete fh data), rest) →
      Q (processRecvPacket { c with s := { c.s with pb := pb } } fh data (fun v => parse v fh data)))
    (hbad : ∀ pb rest, Framing.feed c.s.pb inp = (pb, some .error, rest) →
      Q (((cancelTimers { c with s := { c.s with pb := pb } }).push .close).err eMalformed)) :
    Q (recv c inp parse).1 := by
  unfold recv
  generalize hf : Framing.feed c.s.pb inp = r
  obtain ⟨pb, out, rest⟩ := r
  cases out with
  | none => exact hnone pb rest hf
  | some o =>
    cases o with
    | complete fh data => exact hpacket pb fh data rest hf
    | error => exact hbad pb rest hf

/-- what a `recv` call writes that hands no frame to a handler: the bytes read, and what closing the connection
    writes -/
abbrev wNoFrame (a x : St) : St :=
  { a with sendSet := x.sendSet, recvSet := x.recvSet, respSet := x.respSet, status := x.status, pb := x.pb }

/-- A `recv` call reports an error at most, or it is `dispatchRecv` for one frame, on `c` with the bytes consumed and
    — for the CONNECT that opens an undetermined connection — the version that CONNECT names. -/
theorem recv_frame {Q : C → Prop} (c : C) (inp : List Nat) (parse : Nat → Nat → List Nat → Except Nat Pkt)
    (hnone : ∀ c', Footprint [.error, .timerCancel, .send, .close] wNoFrame c c' → Q c')
    (hframe : ∀ (c0 : C) (fh : Nat) (data : List Nat), c0.cfg = c.cfg → c0.ev = c.ev →
      { c0.s with pb := c.s.pb, ver := c.s.ver } = c.s → Q (dispatchRecv c0 (fh / 16) (parse c0.s.ver fh data))) :
    Q (recv c inp parse).1 := by
  refine recv_cases c inp parse (fun pb _ _ => hnone _ (.of_s rfl)) (fun pb fh data _ _ => ?_)
    (fun pb _ _ => hnone _ ?_)
  · have h0 : Footprint [.error, .timerCancel, .send, .close] wNoFrame c { c with s := { c.s with pb := pb } } :=
      .of_s rfl
    -- for a CONNECT `dispatchRecv` is the handler of the context's version; said with an `if`, since finding it out
    -- by unification on the record of the context is dear
    have first : ∀ v : Nat, fh / 16 = 1 →
        Q (if v = 4 then prV3Connect { c with s := { c.s with pb := pb, ver := v } } (parse v fh data)
          else prV5Connect { c with s := { c.s with pb := pb, ver := v } } (parse v fh data)) := by
      intro v ht
      have := hframe { c with s := { c.s with pb := pb, ver := v } } fh data rfl rfl rfl
      rwa [ht] at this
    refine processRecvPacket_cases (Q := Q) { c with s := { c.s with pb := pb } } fh data _
      (fun _ => hnone _ (.err (h0.step (v5DisconnectOrClose_fp _ _)) (by decide) _))
      (fun e _ _ => hnone _ (.err h0 (by decide) e)) (fun _ _ _ ht _ _ => ?_) (fun _ _ _ ht _ _ => ?_)
      (fun _ _ _ => hframe _ fh data rfl rfl rfl)
    · have := first 4 ht
      rwa [if_pos rfl] at this
    · have := first 5 ht
      rwa [if_neg (by decide)] at this
  · exact .err (.close (.step (c' := { c with s := { c.s with pb := pb } }) (.of_s rfl) (cancelTimers_fp _))
      (by decide)) (by decide) _

/-! ## what any received packet may change -/

/-- every field that some handler of a received packet writes; that of a v5.0 CONNECT writes them all -/
abbrev wDispatchRecv (a x : St) : St := wPrV5Connect a x

theorem dispatchRecv_fp (c : C) (t : Nat) (x : Except Nat Pkt) :
    Footprint [.send, .recv, .released, .timerReset, .timerCancel, .error, .close] wDispatchRecv c (dispatchRecv c t x) :=
  dispatchRecv_cases c t x
    (fun _ _ => (prV3Connect_fp c x).widen)
    (fun _ _ => (prV5Connect_fp c x).widen)
    (fun _ _ => (prV3Connack_fp c x).widen)
    (fun _ _ => (prV5Connack_fp c x).widen)
    (fun _ _ => (prV3Publish_fp c x).widen)
    (fun _ _ => (prV5Publish_fp c x).widen)
    (fun _ => (prPuback_fp c x).widen)
    (fun _ => (prPubrec_fp c x).widen)
    (fun _ => (prPubrel_fp c x).widen)
    (fun _ => (prPubcomp_fp c x).widen)
    (fun _ => (prPlain_fp c x).widen)
    (fun _ => (prSubUnsuback_fp c true x).widen)
    (fun _ => (prSubUnsuback_fp c false x).widen)
    (fun _ => (prPingreq_fp c x).widen)
    (fun _ => (prPingresp_fp c x).widen)
    (fun _ => (prDisconnect_fp c x).widen)
    (fun _ => .err (.of_s rfl) (by decide) _)
theorem dispatchRecv_s (c : C) (t : Nat) (x : Except Nat Pkt) :
    (dispatchRecv c t x).s = wDispatchRecv c.s (dispatchRecv c t x).s := (dispatchRecv_fp c t x).s

/-- besides what a handler writes, the first CONNECT fixes the protocol version -/
abbrev wRecvPacket (a x : St) : St :=
  { a with sendMax := x.sendMax, recvMax := x.recvMax, sendCount := x.sendCount, tas := x.tas, tar := x.tar,
           publishRecv := x.publishRecv, needStore := x.needStore, suback := x.suback,
           unsuback := x.unsuback, isClient := x.isClient, keepAliveMs := x.keepAliveMs,
           serverKeepAliveMs := x.serverKeepAliveMs, recvTimeoutMs := x.recvTimeoutMs, status := x.status,
           pidMan := x.pidMan, puback := x.puback, pubrec := x.pubrec, pubcomp := x.pubcomp,
           store := x.store, handled := x.handled, sendSet := x.sendSet, recvSet := x.recvSet,
           respSet := x.respSet, panic := x.panic, mpsSend := x.mpsSend, mpsRecv := x.mpsRecv, ver := x.ver }

theorem processRecvPacket_fp (c : C) (fh : Nat) (data : List Nat) (parse : Nat → Except Nat Pkt) :
    Footprint [.send, .recv, .released, .timerReset, .timerCancel, .error, .close] wRecvPacket c (processRecvPacket c fh data parse) :=
  processRecvPacket_cases c fh data parse
    (fun _ => .err (v5DisconnectOrClose_fp c _).widen (by decide) _) (fun _ _ _ => .err (.of_s rfl) (by decide) _)
    (fun _ _ _ _ _ _ => .step (c' := { c with s := { c.s with ver := 4 } }) (.of_s rfl) (prV3Connect_fp _ _))
    (fun _ _ _ _ _ _ => .step (c' := { c with s := { c.s with ver := 5 } }) (.of_s rfl) (prV5Connect_fp _ _))
    (fun _ _ _ => (dispatchRecv_fp c _ _).widen)
theorem processRecvPacket_s (c : C) (fh : Nat) (data : List Nat) (parse : Nat → Except Nat Pkt) :
    (processRecvPacket c fh data parse).s = wRecvPacket c.s (processRecvPacket c fh data parse).s :=
  (processRecvPacket_fp c fh data parse).s

/-- besides what the packet handler writes, the bytes read go into the packet builder -/
abbrev wRecv (a x : St) : St :=
  { a with sendMax := x.sendMax, recvMax := x.recvMax, sendCount := x.sendCount, tas := x.tas, tar := x.tar,
           publishRecv := x.publishRecv, needStore := x.needStore, suback := x.suback,
           unsuback := x.unsuback, isClient := x.isClient, keepAliveMs := x.keepAliveMs,
           serverKeepAliveMs := x.serverKeepAliveMs, recvTimeoutMs := x.recvTimeoutMs, status := x.status,
           pidMan := x.pidMan, puback := x.puback, pubrec := x.pubrec, pubcomp := x.pubcomp,
           store := x.store, handled := x.handled, sendSet := x.sendSet, recvSet := x.recvSet,
           respSet := x.respSet, panic := x.panic, mpsSend := x.mpsSend, mpsRecv := x.mpsRecv, ver := x.ver,
           pb := x.pb }

theorem recv_fp (c : C) (inp : List Nat) (parse : Nat → Nat → List Nat → Except Nat Pkt) :
    Footprint [.send, .recv, .released, .timerReset, .timerCancel, .error, .close] wRecv c (recv c inp parse).1 :=
  recv_cases c inp parse (fun _ _ _ => .of_s rfl)
    (fun pb _ _ _ _ => .step (c' := { c with s := { c.s with pb := pb } }) (.of_s rfl) (processRecvPacket_fp _ _ _ _))
    (fun pb _ _ => .err (.close (.step (c' := { c with s := { c.s with pb := pb } }) (.of_s rfl) (cancelTimers_fp _))
      (by decide)) (by decide) _)

end Fp

end MqttVerif.Conn
