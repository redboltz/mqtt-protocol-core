import MqttVerif.Conn.Lemmas.AliasPublish
import MqttVerif.Conn.Lemmas.Projections
/-!
C13, per call: every API call is `Quiet` (no new sender binding, only alias-free PUBLISH packets
out) except a `send` of a v5.0 PUBLISH, and that one keeps `AliasInv` against the ghost receiver
table (`step_alias`).
-/
set_option linter.unusedSimpArgs false
set_option linter.unusedVariables false
namespace MqttVerif.Conn
open MqttVerif

theorem quiet_processSend (c : C) (p : Pkt) (h : ¬ (p.ver ≠ 4 ∧ p.kind = .publish)) :
    Quiet c (processSend c p) := by
  have k : ∀ {K : Kind}, p.kind = K → K ≠ .publish → NotPub p := fun hk hne => notPub_of_kind (hk ▸ hne)
  have v : p.ver = 4 → NotPub p := fun hv => notPub_of_ver (by omega)
  exact Fp.processSend_cases (Q := Quiet c) c p
    (fun hv _ => quiet_psV3Connect c p (v hv)) (fun hv _ => quiet_psV3Connack c p (v hv))
    (fun hv _ => quiet_psV3Publish c p (v hv)) (fun hv _ => quiet_psV3Simple c p (v hv))
    (fun hv _ => quiet_psV3Disconnect c p (v hv)) (fun _ _ => .refl c)
    (fun hk => quiet_psPubrel c p (k hk (by decide)))
    (fun hk => quiet_psSubUnsub c p (hk.elim (k · (by decide)) (k · (by decide))))
    (fun hk => quiet_psPingreq c p (k hk (by decide)))
    (fun _ hk => quiet_psV5Connect c p (k hk (by decide))) (fun _ hk => quiet_psV5Connack c p (k hk (by decide)))
    (fun hv hk => absurd ⟨hv, hk⟩ h) (fun _ hk => quiet_psV5Puback c p (k hk (by decide)))
    (fun _ hk => quiet_psV5Pubrec c p (k hk (by decide))) (fun _ hk => quiet_psV5Pubcomp c p (k hk (by decide)))
    (fun _ hk => quiet_psV5Disconnect c p (k hk (by decide))) (fun _ hk => quiet_psV5Auth c p (k hk (by decide)))
    (fun _ hk => quiet_psV5Simple c p (notPub_of_kind (fun e => by rw [e] at hk; simp at hk)))

theorem quiet_dispatchRecv (c : C) (t : Nat) (x : Except Nat Pkt) : Quiet c (dispatchRecv c t x) :=
  Fp.dispatchRecv_cases (Q := Quiet c) c t x (fun _ _ => quiet_prV3Connect c x) (fun _ _ => quiet_prV5Connect c x)
    (fun _ _ => quiet_prV3Connack c x) (fun _ _ => quiet_prV5Connack c x) (fun _ _ => quiet_prV3Publish c x)
    (fun _ _ => quiet_prV5Publish c x) (fun _ => quiet_prPuback c x) (fun _ => quiet_prPubrec c x)
    (fun _ => quiet_prPubrel c x) (fun _ => quiet_prPubcomp c x) (fun _ => quiet_prPlain c x)
    (fun _ => quiet_prSubUnsuback c true x) (fun _ => quiet_prSubUnsuback c false x) (fun _ => quiet_prPingreq c x)
    (fun _ => quiet_prPingresp c x) (fun _ => quiet_prDisconnect c x) (fun _ => quiet_err c _)

theorem quiet_processRecvPacket (c : C) (fh : Nat) (data : List Nat) (parse : Nat → Except Nat Pkt) :
    Quiet c (processRecvPacket c fh data parse) :=
  Fp.processRecvPacket_cases (Q := Quiet c) c fh data parse
    (fun _ => (quiet_v5DisconnectOrClose c _ (notPub_mkV5Disconnect _)).trans (quiet_err _ _)) (fun e _ _ => quiet_err c e)
    (fun _ _ _ _ _ _ => (Quiet.upd (c := c) { c.s with ver := 4 } (.refl c) (.inl rfl) rfl).trans (quiet_prV3Connect _ _))
    (fun _ _ _ _ _ _ => (Quiet.upd (c := c) { c.s with ver := 5 } (.refl c) (.inl rfl) rfl).trans (quiet_prV5Connect _ _))
    (fun _ _ _ => quiet_dispatchRecv c _ _)

theorem quiet_recv (c : C) (inp : List Nat) (parse : Nat → Nat → List Nat → Except Nat Pkt) :
    Quiet c (recv c inp parse).1 := by
  have h0 : ∀ pb, Quiet c { c with s := { c.s with pb := pb } } := fun pb => .upd _ (.refl c) (.inl rfl) rfl
  exact Fp.recv_cases (Q := Quiet c) c inp parse (fun pb _ _ => h0 pb)
    (fun pb _ _ _ _ => (h0 pb).trans (quiet_processRecvPacket _ _ _ _))
    (fun pb _ _ => (h0 pb).trans (((quiet_cancelTimers _).trans (quiet_push_other _ _ rfl)).trans (quiet_err _ _)))

theorem connectSendProp_tas (c : C) (id v : Nat) : (connectSendProp c id v).s.tas = c.s.tas := by
  rw [Fp.connectSendProp_s]
theorem connackSendProp_tas (c : C) (id v : Nat) : (connackSendProp c id v).s.tas = c.s.tas := by
  rw [Fp.connackSendProp_s]
theorem propsFold_tas (f : C → Nat → Nat → C) (hf : ∀ c id v, (f c id v).s.tas = c.s.tas) (c : C)
    (l : List (Nat × Nat)) : (propsFold f c l).s.tas = c.s.tas :=
  Fp.propsFold_keeps (fun c => c.s.tas) f hf c l

theorem processRecvPacket_ver (c : C) (fh : Nat) (data : List Nat) (parse : Nat → Except Nat Pkt)
    (h : c.s.ver ≠ 0) : (processRecvPacket c fh data parse).s.ver = c.s.ver :=
  Fp.processRecvPacket_cases (Q := fun r => r.s.ver = c.s.ver) c fh data parse
    (fun _ => by rw [err_s, Fp.v5DisconnectOrClose_s]) (fun _ _ _ => rfl) (fun _ _ h0 => absurd h0 h)
    (fun _ _ h0 => absurd h0 h) (fun _ _ _ => by rw [Fp.dispatchRecv_s])

theorem recv_ver (c : C) (inp : List Nat) (parse : Nat → Nat → List Nat → Except Nat Pkt) (h : c.s.ver ≠ 0) :
    (recv c inp parse).1.s.ver = c.s.ver :=
  Fp.recv_cases (Q := fun r => r.s.ver = c.s.ver) c inp parse (fun _ _ _ => rfl)
    (fun pb _ _ _ _ => processRecvPacket_ver { c with s := { c.s with pb := pb } } _ _ _ h)
    (fun _ _ _ => by rw [err_s, push_s, Fp.cancelTimers_s])

theorem step_ver (cfg : Cfg) (s : St) (op : Op) (h : s.ver ≠ 0) : (step cfg s op).s.ver = s.ver :=
  Fp.step_cases (Q := fun r => r.s.ver = s.ver) cfg s op (fun p => by rw [Fp.send_s]) (fun _ _ => recv_ver _ _ _ h)
    (fun k => by rw [Fp.notifyTimerFired_s]) (by rw [Fp.notifyClosed_s]) (fun d => by rw [Fp.setPingreqSendInterval_s])
    (fun f b => by cases f <;> rfl) (fun _ => rfl) rfl (fun _ => rfl) (fun id => by rw [Fp.releasePacketId_s])
    (fun id => by rw [Fp.eraseStoredPublish_s]) (fun _ => rfl) (fun ps => by rw [Fp.restorePackets_s])

/-- `restore_packets` is given packets obtained from `get_stored_packets`: alias-free -/
def RestoreLegal : Op → Prop
  | .restorePackets ps => ∀ p ∈ ps, PktQuiet p
  | _ => True

theorem peerMaxOf_spec (s : St) : ∀ t, s.tas = some t → t.max = peerMaxOf s := by
  intro t ht; simp [peerMaxOf, ht]

theorem quiet_result {c c' : C} {peer : Mon.PeerTable} (pm : Nat) (hq : Quiet c c') (hev : c.ev = [])
    (hinv : AliasInv c.s peer) :
    peerPubs pm peer (pubs c'.ev) = some peer ∧ AliasInv c'.s peer := by
  obtain ⟨l, h1, h2⟩ := hq.evs
  rw [hev] at h1
  simp only [pubs_nil, List.nil_append] at h1
  refine ⟨by rw [h1]; exact peerPubs_quiet pm peer l (h2 hinv.store), hq.tasOk hinv.tasOk, hq.store hinv.store, ?_⟩
  intro a tp hl; exact hinv.agree a tp (hq.look a tp hl)

theorem step_quiet (cfg : Cfg) (s : St) (op : Op) (hl : RestoreLegal op)
    (hnp : ∀ p, op = .send p → ¬ (p.ver ≠ 4 ∧ p.kind = .publish)) :
    Quiet { cfg := cfg, s := s } (step cfg s op) := by
  have hs : ∀ s', s'.tas = s.tas → s'.store = s.store → Quiet { cfg := cfg, s := s } { cfg := cfg, s := s' } :=
    fun s' h1 h2 => Quiet.upd (c := { cfg := cfg, s := s }) s' (.refl _) (.inl h1) h2
  cases op with
  | send p =>
    exact Fp.send_cases (Q := Quiet _) _ p (fun _ => quiet_refuseSend _ _ _) (fun _ _ => quiet_refuseSend _ _ _)
      (fun _ _ => quiet_processSend _ _ (hnp p rfl))
  | recv inp parse => exact quiet_recv _ _ _
  | timer k => exact quiet_notifyTimerFired _ _
  | closed => exact quiet_notifyClosed _
  | setInterval d => exact quiet_setInterval _ _
  | setFlag f b => exact hs _ (by cases f <;> rfl) (by cases f <;> rfl)
  | setRespTimeout ms => exact hs _ rfl rfl
  | acquire => exact quiet_acquire _
  | register id => exact quiet_register _ _
  | release id => exact quiet_release _ _
  | erase id => exact quiet_erase _ _
  | restoreHandled ids => exact hs _ rfl rfl
  | restorePackets ps => exact quiet_restorePackets _ _ hl

/-- what a call adds to the store has no alias and a topic: the stored form of the packet sent, the library's own
    PUBREL, a restored packet -/
theorem step_storeInv (cfg : Cfg) (s : St) (op : Op) (hl : RestoreLegal op) (ht : TasOkS s) (hs : StoreInv s) :
    StoreInv (step cfg s op).s := by
  intro x hx
  rcases Fp.step_store_gains hx with h | ⟨p, q, -, hq, rfl⟩ | ⟨_, _, v, id, -, rfl⟩ | ⟨ps, p, rfl, hp, rfl⟩
  · exact hs x h
  · exact hq.pktQuiet ht
  · exact notPub_quiet (notPub_mkAck _ _ _ _ (by decide))
  · exact hl p hp

theorem step_alias (cfg : Cfg) (s : St) (op : Op) (peer : Mon.PeerTable) (hv : s.ver = 5)
    (hinv : AliasInv s peer) (hl : RestoreLegal op) :
    ∃ peer', peerPubs (peerMaxOf s) peer (pubs (step cfg s op).ev) = some peer' ∧
      AliasInv (step cfg s op).s peer' := by
  by_cases hp : ∃ p, op = .send p ∧ p.ver ≠ 4 ∧ p.kind = .publish
  · obtain ⟨p, rfl, hp4, hk⟩ := hp
    refine Fp.send_cases (Q := fun r => StoreInv r.s →
        ∃ peer', peerPubs (peerMaxOf s) peer (pubs r.ev) = some peer' ∧ AliasInv r.s peer') { cfg := cfg, s := s } p
      (fun _ _ => ⟨peer, quiet_result _ (quiet_refuseSend _ _ _) rfl hinv⟩)
      (fun _ _ _ => ⟨peer, quiet_result _ (quiet_refuseSend _ _ _) rfl hinv⟩) (fun hver _ hst => ?_)
      (step_storeInv cfg s (.send p) hl hinv.tasOk hinv.store)
    have : processSend { cfg := cfg, s := s } p = psV5Publish { cfg := cfg, s := s } p := by
      rw [Fp.processSend_publish _ hk, if_neg hp4]
    rw [this] at hst ⊢
    obtain ⟨l, peer', h1, h2, h3⟩ := psV5Publish_inv (pm := peerMaxOf s) (c := { cfg := cfg, s := s }) hk
      ⟨hinv.tasOk, hinv.agree, peerMaxOf_spec s⟩ (Or.inl (hver.symm.trans hv))
    simp only [pubs_nil, List.nil_append] at h1
    exact ⟨peer', by rw [h1]; exact h2, h3.tasOk, hst, h3.agree⟩
  · have hq := step_quiet cfg s op hl (by
      intro p hop hc; exact hp ⟨p, hop, hc⟩)
    obtain ⟨h1, h2⟩ := quiet_result (peerMaxOf s) hq rfl hinv
    exact ⟨peer, h1, h2⟩

theorem AliasInv.init (cfg : Cfg) (ver : Nat) : AliasInv (St.init cfg ver) [] :=
  ⟨by intro t ht; simp [St.init] at ht, by intro e he; simp [St.init] at he,
   by intro a tp h; simp [slookup, St.init] at h⟩

theorem aliasInv_run (cfg : Cfg) (ops : List Op) : ∀ (s : St) (peer : Mon.PeerTable), s.ver = 5 →
    AliasInv s peer → (∀ op ∈ ops, RestoreLegal op) → ∃ peer', AliasInv (run cfg s ops) peer' := by
  induction ops with
  | nil => intro s peer _ h _; exact ⟨peer, h⟩
  | cons op ops ih =>
    intro s peer hv hinv hl
    obtain ⟨peer', _, h2⟩ := step_alias cfg s op peer hv hinv (hl op (by simp))
    have hv' : (step cfg s op).s.ver = 5 := by rw [step_ver cfg s op (by omega)]; exact hv
    exact ih _ peer' hv' h2 (fun o ho => hl o (by simp [ho]))

attribute [simp] recvs_append

@[simp] theorem handleV5Error_recvs (c : C) (e : Nat) : recvs (handleV5Error c e).ev = recvs c.ev :=
  (Fp.handleV5Error_fp c e).ev.recvs_eq
@[simp] theorem prV5PublishAlias_recvs (c : C) (p : Pkt) : recvs (prV5PublishAlias c p).1.ev = recvs c.ev :=
  (Fp.prV5PublishAlias_ev c p).recvs_eq

theorem prV5Publish_recvs (c : C) (p : Pkt) :
    recvs (prV5Publish c (.ok p)).ev = recvs c.ev ∨
    ∃ q, (prV5PublishAlias c p).2 = some q ∧ recvs (prV5Publish c (.ok p)).ev = recvs c.ev ++ [q] := by
  have h1 := prV5PublishAlias_recvs c p
  rw [prV5Publish_eq]
  cases (prV5PublishAlias c p).2 with
  | none => exact .inl h1
  | some q =>
    have key := @Fp.ite_ind C (fun r => recvs r.ev = recvs c.ev ∨
      ∃ q', some q = some q' ∧ recvs r.ev = recvs c.ev ++ [q'])
    have h4 : recvs (refreshPingreqRecv (prvAck (prvBook (prV5PublishAlias c p).1 p.qos (p.pid.getD 0)) p.qos
        (p.pid.getD 0) (p.qos = 2 ∧ p.pid.getD 0 ∈ (prV5PublishAlias c p).1.s.handled))).ev = recvs c.ev :=
      (Fp.refreshPingreqRecv_ev _).recvs_eq.trans ((Fp.prvAck_fp _ p.qos (p.pid.getD 0) _).ev.recvs_eq.trans
        ((congrArg recvs (Fp.prvBook_ev ..)).trans h1))
    have h5 : ∀ c4 : C, recvs c4.ev = recvs c.ev → recvs (c4.push (.recv q)).ev = recvs c.ev ++ [q] :=
      fun c4 h => by rw [push_ev, recvs_append, h]; rfl
    exact key (fun _ => .inl h1) (fun _ => key (fun _ => .inl ((handleV5Error_recvs _ _).trans h1))
      (fun _ => key (fun _ => .inr ⟨q, rfl, h5 _ h4⟩) (fun _ => .inl h4)))

end MqttVerif.Conn
