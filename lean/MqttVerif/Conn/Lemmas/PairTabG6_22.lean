import MqttVerif.Conn.Lemmas.PairAbs
/-!
# Generated phase table (helper for `Props/C01L2c.lean`)

Two OPPOSITE exchanges in flight: `startBoth v P1 P2`, `P1` QoS 2 client→server, `P2` QoS 2 server→client.
`Ph`: the 68 phases that ANY schedule of `Act4` actions passes through (found by a breadth-first search on concrete
packets; a phase is a shape of the pair together with how often each message has been notified and each identifier
released so far, so a shape may occur in several phases).
`sysOf`: the shape; `next`: the successor; `nS nC rC rS`: the PUBLISH notifications at the server / client application and
the identifiers released by the client / server in that step.  `tab` collects them; `ok`, `counts`, `loss` (`PairAbs.lean`):
the kernel reads the table in tokens, runs the machine `astep` on every phase and action and finds the table's successor
and outputs - so the table is right for arbitrary packets and both versions (`closure`) - and checks that the outputs
follow the progress of the two exchanges as the shapes show it (`Counted`), and the runs with one loss.
-/
set_option linter.unusedVariables false
namespace MqttVerif.Conn.Pair.G6_22
open MqttVerif MqttVerif.Conn MqttVerif.Conn.Pair

inductive Ph
  | p0
  | p1
  | p2
  | p3
  | p4
  | p5
  | p6
  | p7
  | p8
  | p9
  | p10
  | p11
  | p12
  | p13
  | p14
  | p15
  | p16
  | p17
  | p18
  | p19
  | p20
  | p21
  | p22
  | p23
  | p24
  | p25
  | p26
  | p27
  | p28
  | p29
  | p30
  | p31
  | p32
  | p33
  | p34
  | p35
  | p36
  | p37
  | p38
  | p39
  | p40
  | p41
  | p42
  | p43
  | p44
  | p45
  | p46
  | p47
  | p48
  | p49
  | p50
  | p51
  | p52
  | p53
  | p54
  | p55
  | p56
  | p57
  | p58
  | p59
  | p60
  | p61
  | p62
  | p63
  | p64
  | p65
  | p66
  | p67
deriving DecidableEq, Repr

def sysOf (v : Nat) (P1 P2 : Pkt) : Ph → Sys
  | .p0 =>
    { c := mkSt v true .connected [⟨2, 65535⟩] [(1, P1.asDup)] [] [1] [] [] [],
      s := mkSt v false .connected [⟨2, 65535⟩] [(1, P2.asDup)] [] [1] [] [] [],
      c2s := [P1], s2c := [P2] }
  | .p1 =>
    { c := mkSt v true .connected [⟨2, 65535⟩] [(1, P1.asDup)] [] [1] [] [] [],
      s := mkSt v false .connected [⟨2, 65535⟩] [(1, P2.asDup)] [] [1] [] [1] (prl v [1]),
      c2s := [], s2c := [P2, (ackN v .pubrec 1)] }
  | .p2 =>
    { c := mkSt v true .connected [⟨2, 65535⟩] [(1, P1.asDup)] [] [1] [] [1] (prl v [1]),
      s := mkSt v false .connected [⟨2, 65535⟩] [(1, P2.asDup)] [] [1] [] [] [],
      c2s := [P1, (ackN v .pubrec 1)], s2c := [] }
  | .p3 =>
    { c := mkSt v true .connected [⟨2, 65535⟩] [(1, P1.asDup)] [] [1] [] [] [],
      s := mkSt v false .connected [⟨2, 65535⟩] [(1, P2.asDup)] [] [1] [] [] [],
      c2s := [P1.asDup], s2c := [P2.asDup] }
  | .p4 =>
    { c := mkSt v true .connected [⟨2, 65535⟩] [(1, P1.asDup)] [] [1] [] [1] (prl v [1]),
      s := mkSt v false .connected [⟨2, 65535⟩] [(1, P2.asDup)] [] [1] [] [1] (prl v [1]),
      c2s := [(ackN v .pubrec 1)], s2c := [(ackN v .pubrec 1)] }
  | .p5 =>
    { c := mkSt v true .connected [⟨2, 65535⟩] [(1, P1.asDup)] [] [1] [] [] [],
      s := mkSt v false .connected [⟨2, 65535⟩] [(1, P2.asDup)] [] [1] [] [1] [],
      c2s := [P1.asDup], s2c := [P2.asDup] }
  | .p6 =>
    { c := mkSt v true .connected [⟨2, 65535⟩] [(1, P1.asDup)] [] [1] [] [1] [],
      s := mkSt v false .connected [⟨2, 65535⟩] [(1, P2.asDup)] [] [1] [] [] [],
      c2s := [P1.asDup], s2c := [P2.asDup] }
  | .p7 =>
    { c := mkSt v true .connected [⟨2, 65535⟩] [(1, P1.asDup)] [] [1] [] [] [],
      s := mkSt v false .connected [⟨2, 65535⟩] [(1, P2.asDup)] [] [1] [] [1] (prl v [1]),
      c2s := [], s2c := [P2.asDup, (ackN v .pubrec 1)] }
  | .p8 =>
    { c := mkSt v true .connected [⟨2, 65535⟩] [(1, P1.asDup)] [] [1] [] [1] (prl v [1]),
      s := mkSt v false .connected [⟨2, 65535⟩] [(1, P2.asDup)] [] [1] [] [] [],
      c2s := [P1.asDup, (ackN v .pubrec 1)], s2c := [] }
  | .p9 =>
    { c := mkSt v true .connected [⟨2, 65535⟩] [(1, P1.asDup)] [] [1] [] [1] (prl v [1]),
      s := mkSt v false .connected [⟨2, 65535⟩] [(1, (ackN v .pubrel 1))] [] [] [1] [1] (prl v [1]),
      c2s := [], s2c := [(ackN v .pubrec 1), (ackN v .pubrel 1)] }
  | .p10 =>
    { c := mkSt v true .connected [⟨2, 65535⟩] [(1, (ackN v .pubrel 1))] [] [] [1] [1] (prl v [1]),
      s := mkSt v false .connected [⟨2, 65535⟩] [(1, P2.asDup)] [] [1] [] [1] (prl v [1]),
      c2s := [(ackN v .pubrec 1), (ackN v .pubrel 1)], s2c := [] }
  | .p11 =>
    { c := mkSt v true .connected [⟨2, 65535⟩] [(1, P1.asDup)] [] [1] [] [1] [],
      s := mkSt v false .connected [⟨2, 65535⟩] [(1, P2.asDup)] [] [1] [] [1] [],
      c2s := [P1.asDup], s2c := [P2.asDup] }
  | .p12 =>
    { c := mkSt v true .connected [⟨2, 65535⟩] [(1, P1.asDup)] [] [1] [] [1] (prl v [1]),
      s := mkSt v false .connected [⟨2, 65535⟩] [(1, P2.asDup)] [] [1] [] [1] [],
      c2s := [P1.asDup, (ackN v .pubrec 1)], s2c := [] }
  | .p13 =>
    { c := mkSt v true .connected [⟨2, 65535⟩] [(1, P1.asDup)] [] [1] [] [1] [],
      s := mkSt v false .connected [⟨2, 65535⟩] [(1, P2.asDup)] [] [1] [] [1] (prl v [1]),
      c2s := [], s2c := [P2.asDup, (ackN v .pubrec 1)] }
  | .p14 =>
    { c := mkSt v true .connected [⟨2, 65535⟩] [(1, (ackN v .pubrel 1))] [] [] [1] [1] (prl v [1]),
      s := mkSt v false .connected [⟨2, 65535⟩] [(1, (ackN v .pubrel 1))] [] [] [1] [1] (prl v [1]),
      c2s := [(ackN v .pubrel 1)], s2c := [(ackN v .pubrel 1)] }
  | .p15 =>
    { c := mkSt v true .connected [⟨2, 65535⟩] [(1, P1.asDup)] [] [1] [] [1] [],
      s := mkSt v false .connected [⟨2, 65535⟩] [(1, (ackN v .pubrel 1))] [] [] [1] [1] [],
      c2s := [P1.asDup], s2c := [(ackN v .pubrel 1)] }
  | .p16 =>
    { c := mkSt v true .connected [⟨2, 65535⟩] [(1, (ackN v .pubrel 1))] [] [] [1] [1] [],
      s := mkSt v false .connected [⟨2, 65535⟩] [(1, P2.asDup)] [] [1] [] [1] [],
      c2s := [(ackN v .pubrel 1)], s2c := [P2.asDup] }
  | .p17 =>
    { c := mkSt v true .connected [⟨2, 65535⟩] [(1, (ackN v .pubrel 1))] [] [] [1] [1] (prl v [1]),
      s := mkSt v false .connected [⟨2, 65535⟩] [(1, (ackN v .pubrel 1))] [] [] [1] [] [],
      c2s := [], s2c := [(ackN v .pubrel 1), (ackN v .pubcomp 1)] }
  | .p18 =>
    { c := mkSt v true .connected [⟨2, 65535⟩] [(1, (ackN v .pubrel 1))] [] [] [1] [] [],
      s := mkSt v false .connected [⟨2, 65535⟩] [(1, (ackN v .pubrel 1))] [] [] [1] [1] (prl v [1]),
      c2s := [(ackN v .pubrel 1), (ackN v .pubcomp 1)], s2c := [] }
  | .p19 =>
    { c := mkSt v true .connected [⟨2, 65535⟩] [(1, (ackN v .pubrel 1))] [] [] [1] [1] [],
      s := mkSt v false .connected [⟨2, 65535⟩] [(1, (ackN v .pubrel 1))] [] [] [1] [1] [],
      c2s := [(ackN v .pubrel 1)], s2c := [(ackN v .pubrel 1)] }
  | .p20 =>
    { c := mkSt v true .connected [⟨2, 65535⟩] [(1, P1.asDup)] [] [1] [] [1] [],
      s := mkSt v false .connected [⟨2, 65535⟩] [(1, (ackN v .pubrel 1))] [] [] [1] [1] (prl v [1]),
      c2s := [], s2c := [(ackN v .pubrel 1), (ackN v .pubrec 1)] }
  | .p21 =>
    { c := mkSt v true .connected [⟨2, 65535⟩] [(1, P1.asDup)] [] [1] [] [] [],
      s := mkSt v false .connected [⟨2, 65535⟩] [(1, (ackN v .pubrel 1))] [] [] [1] [1] [],
      c2s := [P1.asDup, (ackN v .pubcomp 1)], s2c := [] }
  | .p22 =>
    { c := mkSt v true .connected [⟨2, 65535⟩] [(1, (ackN v .pubrel 1))] [] [] [1] [1] [],
      s := mkSt v false .connected [⟨2, 65535⟩] [(1, P2.asDup)] [] [1] [] [] [],
      c2s := [], s2c := [P2.asDup, (ackN v .pubcomp 1)] }
  | .p23 =>
    { c := mkSt v true .connected [⟨2, 65535⟩] [(1, (ackN v .pubrel 1))] [] [] [1] [1] (prl v [1]),
      s := mkSt v false .connected [⟨2, 65535⟩] [(1, P2.asDup)] [] [1] [] [1] [],
      c2s := [(ackN v .pubrel 1), (ackN v .pubrec 1)], s2c := [] }
  | .p24 =>
    { c := mkSt v true .connected [⟨2, 65535⟩] [(1, (ackN v .pubrel 1))] [] [] [1] [] [],
      s := mkSt v false .connected [⟨2, 65535⟩] [(1, (ackN v .pubrel 1))] [] [] [1] [] [],
      c2s := [(ackN v .pubcomp 1)], s2c := [(ackN v .pubcomp 1)] }
  | .p25 =>
    { c := mkSt v true .connected [⟨2, 65535⟩] [(1, (ackN v .pubrel 1))] [] [] [1] [1] [],
      s := mkSt v false .connected [⟨2, 65535⟩] [(1, (ackN v .pubrel 1))] [] [] [1] [] [],
      c2s := [(ackN v .pubrel 1)], s2c := [(ackN v .pubrel 1)] }
  | .p26 =>
    { c := mkSt v true .connected [⟨2, 65535⟩] [(1, (ackN v .pubrel 1))] [] [] [1] [] [],
      s := mkSt v false .connected [⟨2, 65535⟩] [(1, (ackN v .pubrel 1))] [] [] [1] [1] [],
      c2s := [(ackN v .pubrel 1)], s2c := [(ackN v .pubrel 1)] }
  | .p27 =>
    { c := mkSt v true .connected [⟨2, 65535⟩] [(1, (ackN v .pubrel 1))] [] [] [1] [1] [],
      s := mkSt v false .connected [⟨2, 65535⟩] [(1, (ackN v .pubrel 1))] [] [] [1] [] [],
      c2s := [], s2c := [(ackN v .pubrel 1), (ackN v .pubcomp 1)] }
  | .p28 =>
    { c := mkSt v true .connected [⟨2, 65535⟩] [(1, (ackN v .pubrel 1))] [] [] [1] [] [],
      s := mkSt v false .connected [⟨2, 65535⟩] [(1, (ackN v .pubrel 1))] [] [] [1] [1] [],
      c2s := [(ackN v .pubrel 1), (ackN v .pubcomp 1)], s2c := [] }
  | .p29 =>
    { c := mkSt v true .connected [⟨2, 65535⟩] [(1, P1.asDup)] [] [1] [] [] [],
      s := mkSt v false .connected [⟨2, 65535⟩] [(1, (ackN v .pubrel 1))] [] [] [1] [1] (prl v [1]),
      c2s := [(ackN v .pubcomp 1)], s2c := [(ackN v .pubrec 1)] }
  | .p30 =>
    { c := mkSt v true .connected [⟨2, 65535⟩] [(1, P1.asDup)] [] [1] [] [] [],
      s := mkSt v false .connected [⟨2, 65535⟩] [(1, (ackN v .pubrel 1))] [] [] [1] [1] [],
      c2s := [P1.asDup], s2c := [(ackN v .pubrel 1)] }
  | .p31 =>
    { c := mkSt v true .connected [⟨2, 65535⟩] [(1, (ackN v .pubrel 1))] [] [] [1] [1] (prl v [1]),
      s := mkSt v false .connected [⟨2, 65535⟩] [(1, P2.asDup)] [] [1] [] [] [],
      c2s := [(ackN v .pubrec 1)], s2c := [(ackN v .pubcomp 1)] }
  | .p32 =>
    { c := mkSt v true .connected [⟨2, 65535⟩] [(1, (ackN v .pubrel 1))] [] [] [1] [1] [],
      s := mkSt v false .connected [⟨2, 65535⟩] [(1, P2.asDup)] [] [1] [] [] [],
      c2s := [(ackN v .pubrel 1)], s2c := [P2.asDup] }
  | .p33 =>
    { c := mkSt v true .connected [⟨2, 65535⟩] [(1, (ackN v .pubrel 1))] [] [] [1] [] [],
      s := mkSt v false .connected [⟨1, 65535⟩] [] [] [] [] [] [],
      c2s := [], s2c := [(ackN v .pubcomp 1)] }
  | .p34 =>
    { c := mkSt v true .connected [⟨1, 65535⟩] [] [] [] [] [] [],
      s := mkSt v false .connected [⟨2, 65535⟩] [(1, (ackN v .pubrel 1))] [] [] [1] [] [],
      c2s := [(ackN v .pubcomp 1)], s2c := [] }
  | .p35 =>
    { c := mkSt v true .connected [⟨2, 65535⟩] [(1, (ackN v .pubrel 1))] [] [] [1] [] [],
      s := mkSt v false .connected [⟨2, 65535⟩] [(1, (ackN v .pubrel 1))] [] [] [1] [] [],
      c2s := [(ackN v .pubrel 1)], s2c := [(ackN v .pubrel 1)] }
  | .p36 =>
    { c := mkSt v true .connected [⟨2, 65535⟩] [(1, (ackN v .pubrel 1))] [] [] [1] [1] [],
      s := mkSt v false .connected [⟨2, 65535⟩] [(1, (ackN v .pubrel 1))] [] [] [1] [] [],
      c2s := [], s2c := [(ackN v .pubrel 1), (pcA v 1)] }
  | .p37 =>
    { c := mkSt v true .connected [⟨2, 65535⟩] [(1, (ackN v .pubrel 1))] [] [] [1] [] [],
      s := mkSt v false .connected [⟨2, 65535⟩] [(1, (ackN v .pubrel 1))] [] [] [1] [] [],
      c2s := [(ackN v .pubrel 1), (ackN v .pubcomp 1)], s2c := [] }
  | .p38 =>
    { c := mkSt v true .connected [⟨2, 65535⟩] [(1, (ackN v .pubrel 1))] [] [] [1] [] [],
      s := mkSt v false .connected [⟨2, 65535⟩] [(1, (ackN v .pubrel 1))] [] [] [1] [] [],
      c2s := [], s2c := [(ackN v .pubrel 1), (ackN v .pubcomp 1)] }
  | .p39 =>
    { c := mkSt v true .connected [⟨2, 65535⟩] [(1, (ackN v .pubrel 1))] [] [] [1] [] [],
      s := mkSt v false .connected [⟨2, 65535⟩] [(1, (ackN v .pubrel 1))] [] [] [1] [1] [],
      c2s := [(ackN v .pubrel 1), (pcA v 1)], s2c := [] }
  | .p40 =>
    { c := mkSt v true .connected [⟨2, 65535⟩] [(1, P1.asDup)] [] [1] [] [] [],
      s := mkSt v false .connected [⟨1, 65535⟩] [] [] [] [] [1] (prl v [1]),
      c2s := [], s2c := [(ackN v .pubrec 1)] }
  | .p41 =>
    { c := mkSt v true .connected [⟨2, 65535⟩] [(1, (ackN v .pubrel 1))] [] [] [1] [] [],
      s := mkSt v false .connected [⟨2, 65535⟩] [(1, (ackN v .pubrel 1))] [] [] [1] [1] (prl v [1]),
      c2s := [(ackN v .pubcomp 1), (ackN v .pubrel 1)], s2c := [] }
  | .p42 =>
    { c := mkSt v true .connected [⟨2, 65535⟩] [(1, P1.asDup)] [] [1] [] [] [],
      s := mkSt v false .connected [⟨2, 65535⟩] [(1, (ackN v .pubrel 1))] [] [] [1] [1] (prl v [1]),
      c2s := [], s2c := [(ackN v .pubrel 1), (ackN v .pubrec 1)] }
  | .p43 =>
    { c := mkSt v true .connected [⟨2, 65535⟩] [(1, P1.asDup)] [] [1] [] [] [],
      s := mkSt v false .connected [⟨2, 65535⟩] [(1, (ackN v .pubrel 1))] [] [] [1] [1] [],
      c2s := [P1.asDup, (pcA v 1)], s2c := [] }
  | .p44 =>
    { c := mkSt v true .connected [⟨2, 65535⟩] [(1, (ackN v .pubrel 1))] [] [] [1] [1] (prl v [1]),
      s := mkSt v false .connected [⟨2, 65535⟩] [(1, (ackN v .pubrel 1))] [] [] [1] [] [],
      c2s := [], s2c := [(ackN v .pubcomp 1), (ackN v .pubrel 1)] }
  | .p45 =>
    { c := mkSt v true .connected [⟨1, 65535⟩] [] [] [] [] [1] (prl v [1]),
      s := mkSt v false .connected [⟨2, 65535⟩] [(1, P2.asDup)] [] [1] [] [] [],
      c2s := [(ackN v .pubrec 1)], s2c := [] }
  | .p46 =>
    { c := mkSt v true .connected [⟨2, 65535⟩] [(1, (ackN v .pubrel 1))] [] [] [1] [1] [],
      s := mkSt v false .connected [⟨2, 65535⟩] [(1, P2.asDup)] [] [1] [] [] [],
      c2s := [], s2c := [P2.asDup, (pcA v 1)] }
  | .p47 =>
    { c := mkSt v true .connected [⟨2, 65535⟩] [(1, (ackN v .pubrel 1))] [] [] [1] [1] (prl v [1]),
      s := mkSt v false .connected [⟨2, 65535⟩] [(1, P2.asDup)] [] [1] [] [] [],
      c2s := [(ackN v .pubrel 1), (ackN v .pubrec 1)], s2c := [] }
  | .p48 =>
    { c := mkSt v true .connected [⟨1, 65535⟩] [] [] [] [] [] [],
      s := mkSt v false .connected [⟨1, 65535⟩] [] [] [] [] [] [],
      c2s := [], s2c := [] }
  | .p49 =>
    { c := mkSt v true .connected [⟨2, 65535⟩] [(1, (ackN v .pubrel 1))] [] [] [1] [] [],
      s := mkSt v false .connected [⟨1, 65535⟩] [] [] [] [] [] [],
      c2s := [(ackN v .pubrel 1)], s2c := [] }
  | .p50 =>
    { c := mkSt v true .connected [⟨1, 65535⟩] [] [] [] [] [] [],
      s := mkSt v false .connected [⟨2, 65535⟩] [(1, (ackN v .pubrel 1))] [] [] [1] [] [],
      c2s := [], s2c := [(ackN v .pubrel 1)] }
  | .p51 =>
    { c := mkSt v true .connected [⟨2, 65535⟩] [(1, (ackN v .pubrel 1))] [] [] [1] [] [],
      s := mkSt v false .connected [⟨2, 65535⟩] [(1, (ackN v .pubrel 1))] [] [] [1] [] [],
      c2s := [], s2c := [(ackN v .pubrel 1), (pcA v 1)] }
  | .p52 =>
    { c := mkSt v true .connected [⟨2, 65535⟩] [(1, (ackN v .pubrel 1))] [] [] [1] [] [],
      s := mkSt v false .connected [⟨2, 65535⟩] [(1, (ackN v .pubrel 1))] [] [] [1] [] [],
      c2s := [(ackN v .pubrel 1), (pcA v 1)], s2c := [] }
  | .p53 =>
    { c := mkSt v true .connected [⟨2, 65535⟩] [(1, (ackN v .pubrel 1))] [] [] [1] [] [],
      s := mkSt v false .connected [⟨2, 65535⟩] [(1, (ackN v .pubrel 1))] [] [] [1] [] [],
      c2s := [(ackN v .pubcomp 1)], s2c := [(pcA v 1)] }
  | .p54 =>
    { c := mkSt v true .connected [⟨2, 65535⟩] [(1, (ackN v .pubrel 1))] [] [] [1] [] [],
      s := mkSt v false .connected [⟨2, 65535⟩] [(1, (ackN v .pubrel 1))] [] [] [1] [] [],
      c2s := [(pcA v 1)], s2c := [(ackN v .pubcomp 1)] }
  | .p55 =>
    { c := mkSt v true .connected [⟨2, 65535⟩] [(1, (ackN v .pubrel 1))] [] [] [1] [] [],
      s := mkSt v false .connected [⟨1, 65535⟩] [] [] [] [] [1] (prl v [1]),
      c2s := [(ackN v .pubrel 1)], s2c := [] }
  | .p56 =>
    { c := mkSt v true .connected [⟨2, 65535⟩] [(1, P1.asDup)] [] [1] [] [] [],
      s := mkSt v false .connected [⟨1, 65535⟩] [] [] [] [] [1] [],
      c2s := [P1.asDup], s2c := [] }
  | .p57 =>
    { c := mkSt v true .connected [⟨2, 65535⟩] [(1, P1.asDup)] [] [1] [] [] [],
      s := mkSt v false .connected [⟨2, 65535⟩] [(1, (ackN v .pubrel 1))] [] [] [1] [1] (prl v [1]),
      c2s := [(pcA v 1)], s2c := [(ackN v .pubrec 1)] }
  | .p58 =>
    { c := mkSt v true .connected [⟨1, 65535⟩] [] [] [] [] [1] (prl v [1]),
      s := mkSt v false .connected [⟨2, 65535⟩] [(1, (ackN v .pubrel 1))] [] [] [1] [] [],
      c2s := [], s2c := [(ackN v .pubrel 1)] }
  | .p59 =>
    { c := mkSt v true .connected [⟨1, 65535⟩] [] [] [] [] [1] [],
      s := mkSt v false .connected [⟨2, 65535⟩] [(1, P2.asDup)] [] [1] [] [] [],
      c2s := [], s2c := [P2.asDup] }
  | .p60 =>
    { c := mkSt v true .connected [⟨2, 65535⟩] [(1, (ackN v .pubrel 1))] [] [] [1] [1] (prl v [1]),
      s := mkSt v false .connected [⟨2, 65535⟩] [(1, P2.asDup)] [] [1] [] [] [],
      c2s := [(ackN v .pubrec 1)], s2c := [(pcA v 1)] }
  | .p61 =>
    { c := mkSt v true .connected [⟨2, 65535⟩] [(1, (ackN v .pubrel 1))] [] [] [1] [] [],
      s := mkSt v false .connected [⟨1, 65535⟩] [] [] [] [] [] [],
      c2s := [], s2c := [(pcA v 1)] }
  | .p62 =>
    { c := mkSt v true .connected [⟨1, 65535⟩] [] [] [] [] [] [],
      s := mkSt v false .connected [⟨2, 65535⟩] [(1, (ackN v .pubrel 1))] [] [] [1] [] [],
      c2s := [(pcA v 1)], s2c := [] }
  | .p63 =>
    { c := mkSt v true .connected [⟨2, 65535⟩] [(1, (ackN v .pubrel 1))] [] [] [1] [] [],
      s := mkSt v false .connected [⟨2, 65535⟩] [(1, (ackN v .pubrel 1))] [] [] [1] [] [],
      c2s := [(pcA v 1)], s2c := [(pcA v 1)] }
  | .p64 =>
    { c := mkSt v true .connected [⟨2, 65535⟩] [(1, (ackN v .pubrel 1))] [] [] [1] [] [],
      s := mkSt v false .connected [⟨1, 65535⟩] [] [] [] [] [1] [],
      c2s := [(ackN v .pubrel 1)], s2c := [] }
  | .p65 =>
    { c := mkSt v true .connected [⟨2, 65535⟩] [(1, (ackN v .pubrel 1))] [] [] [1] [] [],
      s := mkSt v false .connected [⟨2, 65535⟩] [(1, (ackN v .pubrel 1))] [] [] [1] [1] (prl v [1]),
      c2s := [(pcA v 1), (ackN v .pubrel 1)], s2c := [] }
  | .p66 =>
    { c := mkSt v true .connected [⟨1, 65535⟩] [] [] [] [] [1] [],
      s := mkSt v false .connected [⟨2, 65535⟩] [(1, (ackN v .pubrel 1))] [] [] [1] [] [],
      c2s := [], s2c := [(ackN v .pubrel 1)] }
  | .p67 =>
    { c := mkSt v true .connected [⟨2, 65535⟩] [(1, (ackN v .pubrel 1))] [] [] [1] [1] (prl v [1]),
      s := mkSt v false .connected [⟨2, 65535⟩] [(1, (ackN v .pubrel 1))] [] [] [1] [] [],
      c2s := [], s2c := [(pcA v 1), (ackN v .pubrel 1)] }

def next (ph : Ph) (a : Act4) : Ph :=
  match ph with
  | .p0 => sel a .p1 .p2 .p1 .p3
  | .p1 => sel a .p1 .p4 .p4 .p5
  | .p2 => sel a .p4 .p2 .p4 .p6
  | .p3 => sel a .p7 .p8 .p7 .p3
  | .p4 => sel a .p9 .p10 .p9 .p11
  | .p5 => sel a .p7 .p12 .p7 .p5
  | .p6 => sel a .p13 .p8 .p13 .p6
  | .p7 => sel a .p7 .p4 .p4 .p5
  | .p8 => sel a .p4 .p8 .p4 .p6
  | .p9 => sel a .p9 .p14 .p14 .p15
  | .p10 => sel a .p14 .p10 .p14 .p16
  | .p11 => sel a .p13 .p12 .p13 .p11
  | .p12 => sel a .p4 .p12 .p4 .p11
  | .p13 => sel a .p13 .p4 .p4 .p11
  | .p14 => sel a .p17 .p18 .p17 .p19
  | .p15 => sel a .p20 .p21 .p20 .p15
  | .p16 => sel a .p22 .p23 .p22 .p16
  | .p17 => sel a .p17 .p24 .p24 .p25
  | .p18 => sel a .p24 .p18 .p24 .p26
  | .p19 => sel a .p27 .p28 .p27 .p19
  | .p20 => sel a .p20 .p29 .p29 .p15
  | .p21 => sel a .p29 .p21 .p29 .p30
  | .p22 => sel a .p22 .p31 .p31 .p32
  | .p23 => sel a .p31 .p23 .p31 .p16
  | .p24 => sel a .p33 .p34 .p33 .p35
  | .p25 => sel a .p36 .p37 .p36 .p25
  | .p26 => sel a .p38 .p39 .p38 .p26
  | .p27 => sel a .p27 .p24 .p24 .p25
  | .p28 => sel a .p24 .p28 .p24 .p26
  | .p29 => sel a .p40 .p41 .p40 .p30
  | .p30 => sel a .p42 .p43 .p42 .p30
  | .p31 => sel a .p44 .p45 .p44 .p32
  | .p32 => sel a .p46 .p47 .p46 .p32
  | .p33 => sel a .p33 .p48 .p48 .p49
  | .p34 => sel a .p48 .p34 .p48 .p50
  | .p35 => sel a .p51 .p52 .p51 .p35
  | .p36 => sel a .p36 .p53 .p53 .p25
  | .p37 => sel a .p53 .p37 .p53 .p35
  | .p38 => sel a .p38 .p54 .p54 .p35
  | .p39 => sel a .p54 .p39 .p54 .p26
  | .p40 => sel a .p40 .p55 .p55 .p56
  | .p41 => sel a .p55 .p41 .p55 .p26
  | .p42 => sel a .p42 .p57 .p57 .p30
  | .p43 => sel a .p57 .p43 .p57 .p30
  | .p44 => sel a .p44 .p58 .p58 .p25
  | .p45 => sel a .p58 .p45 .p58 .p59
  | .p46 => sel a .p46 .p60 .p60 .p32
  | .p47 => sel a .p60 .p47 .p60 .p32
  | .p48 => sel a .p48 .p48 .p48 .p48
  | .p49 => sel a .p61 .p49 .p61 .p49
  | .p50 => sel a .p50 .p62 .p62 .p50
  | .p51 => sel a .p51 .p63 .p63 .p35
  | .p52 => sel a .p63 .p52 .p63 .p35
  | .p53 => sel a .p61 .p34 .p61 .p35
  | .p54 => sel a .p33 .p62 .p33 .p35
  | .p55 => sel a .p33 .p55 .p33 .p64
  | .p56 => sel a .p40 .p56 .p40 .p56
  | .p57 => sel a .p40 .p65 .p40 .p30
  | .p58 => sel a .p58 .p34 .p34 .p66
  | .p59 => sel a .p59 .p45 .p45 .p59
  | .p60 => sel a .p67 .p45 .p67 .p32
  | .p61 => sel a .p61 .p48 .p48 .p49
  | .p62 => sel a .p48 .p62 .p48 .p50
  | .p63 => sel a .p61 .p62 .p61 .p35
  | .p64 => sel a .p33 .p64 .p33 .p64
  | .p65 => sel a .p55 .p65 .p55 .p26
  | .p66 => sel a .p66 .p34 .p34 .p66
  | .p67 => sel a .p67 .p58 .p58 .p25

def nS (P1 P2 : Pkt) (ph : Ph) (a : Act4) : List Pkt :=
  match ph with
  | .p0 => sel a [P1] [] [P1] []
  | .p2 => sel a [P1] [] [P1] []
  | .p3 => sel a [P1.asDup] [] [P1.asDup] []
  | .p6 => sel a [P1.asDup] [] [P1.asDup] []
  | .p8 => sel a [P1.asDup] [] [P1.asDup] []
  | _ => []

def nC (P1 P2 : Pkt) (ph : Ph) (a : Act4) : List Pkt :=
  match ph with
  | .p0 => sel a [] [P2] [] []
  | .p1 => sel a [] [P2] [P2] []
  | .p3 => sel a [] [P2.asDup] [] []
  | .p5 => sel a [] [P2.asDup] [] []
  | .p7 => sel a [] [P2.asDup] [P2.asDup] []
  | _ => []

def rC (ph : Ph) (a : Act4) : List Nat :=
  match ph with
  | .p24 => sel a [] [1] [] []
  | .p31 => sel a [] [1] [] []
  | .p33 => sel a [] [1] [1] []
  | .p44 => sel a [] [1] [1] []
  | .p53 => sel a [] [1] [] []
  | .p54 => sel a [] [1] [] []
  | .p60 => sel a [] [1] [] []
  | .p61 => sel a [] [1] [1] []
  | .p63 => sel a [] [1] [] []
  | .p67 => sel a [] [1] [1] []
  | _ => []

def rS (ph : Ph) (a : Act4) : List Nat :=
  match ph with
  | .p24 => sel a [1] [] [1] []
  | .p29 => sel a [1] [] [1] []
  | .p34 => sel a [1] [] [1] []
  | .p41 => sel a [1] [] [1] []
  | .p53 => sel a [1] [] [1] []
  | .p54 => sel a [1] [] [1] []
  | .p57 => sel a [1] [] [1] []
  | .p62 => sel a [1] [] [1] []
  | .p63 => sel a [1] [] [1] []
  | .p65 => sel a [1] [] [1] []
  | _ => []

abbrev tab : PhaseData := ⟨Ph, sysOf, next, nS, nC, rC, rS, .p0, .p48⟩

instance (p : Ph → Prop) [DecidablePred p] : Decidable (∀ ph, p ph) :=
  decidableForallEnum Ph.ofNat Ph.ctorIdx Ph.ofNat_ctorIdx 68 (by intro ph; cases ph <;> decide) p

theorem ok : tab.Ok 2 2 1 (astartBoth 2 2) where
  sys_abs v P1 P2 ph := by cases ph <;> rfl
  nS_abs v P1 P2 ph a := by cases ph <;> exact row_abs rfl a
  nC_abs v P1 P2 ph a := by cases ph <;> exact row_abs rfl a
  steps := by decide +kernel

theorem counts : tab.Counts6 2 2 := by
  decide +kernel

theorem loss : tab.Loss6 2 2 := by
  decide +kernel

section
variable {v : Nat} {P1 P2 : Pkt} (hv : v = 4 ∨ v = 5) (hA : IsPub v 2 P1) (hB : IsPub v 2 P2)
include hv hA hB

theorem closure (ph : Ph) (a : Act4) :
    Obs2 (sysOf v P1 P2 (next ph a)) (nS P1 P2 ph a) (nC P1 P2 ph a) (rC ph a) (rS ph a) (act4 v (sysOf v P1 P2 ph) a) :=
  ok.closure hv hA hB.isPubN ph a
end

end MqttVerif.Conn.Pair.G6_22
