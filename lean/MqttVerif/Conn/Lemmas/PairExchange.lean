import MqttVerif.Conn.Step
/-!
# Packet-level two-endpoint system (for `Props/C01L2.lean`)

A client model and a server model joined by two FIFO channels of packets, with event logs.  Delivering a packet is one
`recv` call with a two-byte frame and a parser parameter that answers that packet, which is the handler of the packet's
kind (`deliver_eq`).  `mkSt` gives the states an endpoint of an established persistent session passes through during
an exchange; on them the packet handlers of an exchange (`step_deliver_*`), the application's PUBLISH (`step_send_pub`) and
the calls of a loss and of a resumption have an exact successor state and event list, for both protocol versions, any
identifier and arbitrary lists in the fields the call does not look at, by unfolding the model once.
-/
set_option linter.unusedSimpArgs false
set_option linter.unusedVariables false
namespace MqttVerif.Conn.Pair
open MqttVerif MqttVerif.Conn

/-- a byte list the framing accepts as exactly one complete frame of `p`'s type with an empty
    body: fixed header (type nibble, flags 0), remaining length 0 -/
def frameOf (p : Pkt) : List Nat := [p.kind.nibble * 16, 0]

/-- the parser parameter of the delivery: whatever the body, the frame "is" `p` -/
def parseAs (p : Pkt) : Nat → Nat → List Nat → Except Nat Pkt := fun _ _ _ => .ok p

def deliverOp (p : Pkt) : Op := .recv (frameOf p) (parseAs p)

theorem nibble_div (k : Kind) : k.nibble * 16 / 16 = k.nibble := by omega

theorem feed_frameOf (p : Pkt) :
    Framing.feed {} (frameOf p) = (Framing.PB.reset, some (.complete (p.kind.nibble * 16) []), []) := by
  simp [Framing.feed, frameOf, Framing.feedLoop]

theorem deliver_eq (cfg : Cfg) (s : St) (p : Pkt) (hpb : s.pb = {}) (hv : s.ver ≠ 0)
    (hcan : canReceive cfg s p.kind.nibble = true) (hsz : 2 ≤ s.mpsRecv) :
    step cfg s (deliverOp p) = dispatchRecv { cfg := cfg, s := s } p.kind.nibble (.ok p) := by
  have hs : { s with pb := Framing.PB.reset } = s := by
    cases s; simp only [Framing.PB.reset] at *; simp [hpb]
  have hsz' : ¬ totalSize 0 > s.mpsRecv := by simp [totalSize, vbiLen]; omega
  simp only [step, deliverOp, recv, hpb, feed_frameOf, processRecvPacket, List.length_nil, parseAs]
  rw [hs]
  simp only [nibble_div]
  simp [hsz', hv, hcan]

def cfgC : Cfg := ⟨.client, 2⟩
def cfgS : Cfg := ⟨.server, 2⟩

def sends : List Ev → List Pkt
  | [] => []
  | .send p _ :: rest => p :: sends rest
  | _ :: rest => sends rest

structure Sys where
  c : St
  s : St
  c2s : List Pkt := []
  s2c : List Pkt := []
  logC : List Ev := []
  logS : List Ev := []
deriving DecidableEq

def appC (y : Sys) (op : Op) : Sys :=
  let r := step cfgC y.c op
  { y with c := r.s, c2s := y.c2s ++ sends r.ev, logC := y.logC ++ r.ev }

def appS (y : Sys) (op : Op) : Sys :=
  let r := step cfgS y.s op
  { y with s := r.s, s2c := y.s2c ++ sends r.ev, logS := y.logS ++ r.ev }

def deliverS (y : Sys) : Sys :=
  match y.c2s with
  | [] => y
  | p :: rest =>
    let r := step cfgS y.s (deliverOp p)
    { y with s := r.s, c2s := rest, s2c := y.s2c ++ sends r.ev, logS := y.logS ++ r.ev }

def deliverC (y : Sys) : Sys :=
  match y.s2c with
  | [] => y
  | p :: rest =>
    let r := step cfgC y.c (deliverOp p)
    { y with c := r.s, s2c := rest, c2s := y.c2s ++ sends r.ev, logC := y.logC ++ r.ev }

/-- transport loss: in-flight packets are gone, both endpoints are told -/
def lose (y : Sys) : Sys :=
  let rc := step cfgC y.c .closed
  let rs := step cfgS y.s .closed
  { y with c := rc.s, s := rs.s, c2s := [], s2c := [], logC := y.logC ++ rc.ev, logS := y.logS ++ rs.ev }

def deliver1 (y : Sys) : Sys :=
  if y.c2s ≠ [] then deliverS y else deliverC y

def drain : Nat → Sys → Sys
  | 0, y => y
  | n + 1, y => drain n (deliver1 y)

def connectPkt (ver : Nat) (clean : Bool) : Pkt :=
  if ver = 5 then { ver := 5, kind := .connect, clean := clean, props := [(pSEI, 4294967295)], size := 18 }
  else { ver := 4, kind := .connect, clean := clean, size := 14 }

def connackPkt (ver : Nat) (sp : Bool) : Pkt :=
  if ver = 5 then { ver := 5, kind := .connack, rc := some 0, sp := sp, size := 5 }
  else { ver := 4, kind := .connack, rc := some 0, sp := sp, size := 4 }

def handshake (ver : Nat) (clean sp : Bool) (y : Sys) : Sys :=
  deliverC (appS (deliverS (appC y (.send (connectPkt ver clean)))) (.send (connackPkt ver sp)))

def fresh (ver : Nat) : Sys := { c := St.init cfgC ver, s := St.init cfgS ver }

def established (ver : Nat) : Sys :=
  let y := handshake ver false false (appS (appC (fresh ver) (.setFlag .autoPub true)) (.setFlag .autoPub true))
  { y with logC := [], logS := [] }

/-- resumption of the persistent session: CONNECT(clean = false) → server,
    CONNACK(rc = 0, session present) → client -/
def resume (v : Nat) (y : Sys) : Sys := handshake v false true y

def startC (v : Nat) (P : Pkt) : Sys := appC (appC (established v) .acquire) (.send P)
def startS (v : Nat) (P : Pkt) : Sys := appS (appS (established v) .acquire) (.send P)

theorem drain_add (a b : Nat) (y : Sys) : drain (a + b) y = drain b (drain a y) := by
  induction a generalizing y with
  | zero => simp [drain]
  | succ a ih => rw [Nat.add_right_comm]; simp only [drain]; exact ih _

theorem deliver1_quiet (z : Sys) (h1 : z.c2s = []) (h2 : z.s2c = []) : deliver1 z = z := by
  simp [deliver1, h1, deliverC, h2]

theorem drain_empty (n : Nat) (y : Sys) (h1 : y.c2s = []) (h2 : y.s2c = []) : drain n y = y := by
  induction n with
  | zero => rfl
  | succ n ih => rw [drain, deliver1_quiet y h1 h2]; exact ih

theorem drain_stable {a : Nat} {y : Sys} (h1 : (drain a y).c2s = []) (h2 : (drain a y).s2c = []) (n : Nat) (hn : a ≤ n) :
    drain n y = drain a y := by
  obtain ⟨m, rfl⟩ := Nat.exists_eq_add_of_le hn
  rw [drain_add, drain_empty _ _ h1 h2]

theorem sends_append (a b : List Ev) : sends (a ++ b) = sends a ++ sends b := by
  induction a with
  | nil => rfl
  | cons e a ih => cases e <;> simp [sends, ih]


/-- every state an endpoint of an established persistent session (no limits negotiated,
    automatic responses on) passes through during one exchange: all other fields are those
    of a fresh object -/
def mkSt (v : Nat) (isC : Bool) (status : Status) (pool : List Alloc.Iv) (store : List (Nat × Pkt))
    (puback pubrec pubcomp handled publishRecv : List Nat) : St :=
  { ver := v, pidMan := ⟨1, 65535, 65535, pool⟩, needStore := true, autoPub := true, status := status,
    isClient := isC, store := store, puback := puback, pubrec := pubrec, pubcomp := pubcomp,
    handled := handled, publishRecv := publishRecv }

abbrev idle (v : Nat) (isC : Bool) : St := mkSt v isC .connected [⟨1, 65535⟩] [] [] [] [] [] []

theorem established_eq (v : Nat) (hv : v = 4 ∨ v = 5) :
    established v = { c := idle v true, s := idle v false } := by
  rcases hv with rfl | rfl <;> decide

theorem established_quiet (v : Nat) (hv : v = 4 ∨ v = 5) :
    (established v).c2s = [] ∧ (established v).s2c = [] := by
  rw [established_eq v hv]; exact ⟨rfl, rfl⟩

theorem acquire_gives_1 (v : Nat) (hv : v = 4 ∨ v = 5) :
    (acquire { cfg := cfgC, s := (established v).c }).1 = some 1 ∧
    (acquire { cfg := cfgS, s := (established v).s }).1 = some 1 := by
  rcases hv with rfl | rfl <;> decide

structure IsPub (v q : Nat) (P : Pkt) : Prop where
  ver : P.ver = v
  kind : P.kind = .publish
  qos : P.qos = q
  pid : P.pid = some 1
  alias : P.alias = none
  topic : P.topic ≠ []
  nowild : hasWildcard P.topic = false
  fits : P.sz 2 ≤ noLimit

def exPub (v q : Nat) : Pkt :=
  { ver := v, kind := .publish, qos := q, pid := some 1, topic := [97, 47, 98], payloadLen := 5, tag := 77, size := 14 }

example : IsPub 4 2 (exPub 4 2) := ⟨rfl, rfl, rfl, rfl, rfl, by decide, by decide, by decide⟩
example : IsPub 5 2 (exPub 5 2) := ⟨rfl, rfl, rfl, rfl, rfl, by decide, by decide, by decide⟩
example : IsPub 4 1 (exPub 4 1) := ⟨rfl, rfl, rfl, rfl, rfl, by decide, by decide, by decide⟩
example : IsPub 5 1 (exPub 5 1) := ⟨rfl, rfl, rfl, rfl, rfl, by decide, by decide, by decide⟩

/-- an application PUBLISH with identifier `id` (`IsPub` = `IsPubN _ _ 1`) -/
structure IsPubN (v q id : Nat) (P : Pkt) : Prop where
  ver : P.ver = v
  kind : P.kind = .publish
  qos : P.qos = q
  pid : P.pid = some id
  alias : P.alias = none
  topic : P.topic ≠ []
  nowild : hasWildcard P.topic = false
  fits : P.sz 2 ≤ noLimit

theorem IsPub.isPubN {v q : Nat} {P : Pkt} (h : IsPub v q P) : IsPubN v q 1 P :=
  ⟨h.ver, h.kind, h.qos, h.pid, h.alias, h.topic, h.nowild, h.fits⟩

/-- an acknowledgement of kind `k` for identifier `id`, as far as the handlers look at it -/
structure IsAck (v : Nat) (k : Kind) (id : Nat) (A : Pkt) : Prop where
  ver : A.ver = v
  kind : A.kind = k
  pid : A.pid = some id

/-- the copy kept in the store / retransmitted: DUP set -/
def _root_.MqttVerif.Conn.Pkt.asDup (P : Pkt) : Pkt := { P with dup := true }

theorem sz_asDup (P : Pkt) : P.asDup.sz 2 = P.sz 2 := rfl

/-- the acknowledgements the library builds for identifier 1 (2-byte identifiers) -/
def ack (v : Nat) (k : Kind) : Pkt := { ver := v, kind := k, size := 4, pid := some 1 }
/-- v5.0 PUBCOMP "Packet Identifier not found" -/
def ackRc : Pkt := { ver := 5, kind := .pubcomp, size := 5, pid := some 1, rc := some 0x92 }

/-- the PUBCOMP answering a PUBREL whose identifier is not (any longer) handled -/
def pubcompAgain (v : Nat) : Pkt := if v = 5 then ackRc else ack v .pubcomp

/-- `publish_recv` of a v5.0 receiver holding identifier 1 (v3.1.1 has no such set) -/
def pr5 (v : Nat) : List Nat := if v = 5 then [1] else []

theorem sz_of_not_pub (pw : Nat) (p : Pkt) (h : p.kind ≠ .publish) : p.sz pw = p.size := by
  simp [Pkt.sz, h]

theorem deliver_mkSt {v : Nat} (r : Role) (b : Bool) (X : Pkt) (hv : v = 4 ∨ v = 5) (st : Status) (pool : List Alloc.Iv)
    (store : List (Nat × Pkt)) (pa pr pc h prv : List Nat) (hk : X.kind.nibble ∈ [3, 4, 5, 6, 7]) :
    step ⟨r, 2⟩ (mkSt v b st pool store pa pr pc h prv) (deliverOp X) =
      dispatchRecv { cfg := ⟨r, 2⟩, s := mkSt v b st pool store pa pr pc h prv } X.kind.nibble (.ok X) := by
  apply deliver_eq
  · rfl
  · rcases hv with rfl | rfl <;> simp [mkSt]
  · simp at hk
    rcases hk with e | e | e | e | e <;> simp [canReceive, e]
  · simp [mkSt, noLimit]

/-! ## exact steps of an endpoint in a state `mkSt`: any identifier, any lists in the fields the call does not look at -/

section steps
variable {v : Nat} (r : Role) (b : Bool) (st : Status) (pool : List Alloc.Iv) (store : List (Nat × Pkt))
  (pa pr pc h prv : List Nat)

/- what an API call unfolds to: the send side, the CONNECT handlers and `notifyClosed`; the receive handlers of PUBLISH and
   its acknowledgements.  The allocator and the store are not unfolded: the lemmas take what is asked of them as hypotheses. -/
attribute [local simp] step send roleMaySend processSend psV3Publish psV5Publish psV5PublishAlias psV5PublishTail autoAlias
  pubNotAllowed willStore isUsed storeAdd ins sendPostProcess C.push C.err sizeOk dispatchRecv refreshPingreqRecv
  notifyClosed releaseAll cancelTimers psV3Connect psV5Connect initConn propsFold connectSendProp prV3Connect prV5Connect
  connectRecvProp canReceive Kind.nibble mkSt connectPkt Pkt.asDup sz_of_not_pub noLimit pSEI pTAM pRM pMPS
  prV3Publish prV5Publish prV5PublishAlias psV3Simple psV5Puback psV5Pubrec psV5Pubcomp psPubrel mkAck mkV5PubcompRc
  prPuback prPubrec prPubrel prPubcomp releaseIfUsed releaseId decSendCount

theorem step_deliver_pub (hv : v = 4 ∨ v = 5) {q id : Nat} {P : Pkt} (hq : q = 1 ∨ q = 2) (hP : IsPubN v q id P) (hid : id ≠ 0) :
    step ⟨r, 2⟩ (mkSt v b .connected pool store pa pr pc h prv) (deliverOp P) =
      { cfg := ⟨r, 2⟩,
        s := mkSt v b .connected pool store pa pr pc (if q = 2 then ins id h else h)
          (if v = 5 then (if q = 2 then ins id prv else del id (ins id prv)) else prv),
        ev := .send (mkAck ⟨r, 2⟩ v (if q = 2 then .pubrec else .puback) id) none ::
          (if q = 2 ∧ id ∈ h then [] else [.recv P]) } := by
  rw [deliver_mkSt r b _ hv _ _ _ _ _ _ _ _ (by simp [hP.kind, Kind.nibble])]
  obtain ⟨h1, h2, h3, h4, h5, h6, h7, h8⟩ := hP
  by_cases hh : id ∈ h <;> rcases hq with rfl | rfl <;> rcases hv with rfl | rfl <;>
    simp [h1, h2, h3, h4, h5, h6, h7, hid, hh]

theorem step_deliver_pubrel (hv : v = 4 ∨ v = 5) {id : Nat} {A : Pkt} (hA : IsAck v .pubrel id A) :
    step ⟨r, 2⟩ (mkSt v b .connected pool store pa pr pc h prv) (deliverOp A) =
      { cfg := ⟨r, 2⟩, s := mkSt v b .connected pool store pa pr pc (del id h) (if v = 5 then del id prv else prv),
        ev := [.send (if v = 5 ∧ id ∉ h then mkV5PubcompRc ⟨r, 2⟩ id 0x92 else mkAck ⟨r, 2⟩ v .pubcomp id) none, .recv A] } := by
  rw [deliver_mkSt r b _ hv _ _ _ _ _ _ _ _ (by simp [hA.kind, Kind.nibble])]
  obtain ⟨a1, a2, a3⟩ := hA
  by_cases hh : id ∈ h <;> rcases hv with rfl | rfl <;> simp [a1, a2, a3, hh]

/-- PUBACK (`k = .puback`, wait set `pa`) or PUBCOMP (wait set `pc`): the exchange is complete -/
theorem step_deliver_done (hv : v = 4 ∨ v = 5) {k : Kind} (hk : k = .puback ∨ k = .pubcomp) {id : Nat} {A : Pkt}
    (hA : IsAck v k id A) (hin : id ∈ (if k = .puback then pa else pc)) {pool' : List Alloc.Iv}
    (hu : Alloc.isUsed ⟨1, 65535, 65535, pool⟩ id = true)
    (hd : Alloc.deallocate ⟨1, 65535, 65535, pool⟩ id = (none, ⟨1, 65535, 65535, pool'⟩)) :
    step ⟨r, 2⟩ (mkSt v b .connected pool store pa pr pc h prv) (deliverOp A) =
      { cfg := ⟨r, 2⟩,
        s := mkSt v b .connected pool' (storeErase v k id store) (if k = .puback then del id pa else pa) pr
          (if k = .puback then pc else del id pc) h prv,
        ev := [.released id, .recv A] } := by
  rw [deliver_mkSt r b _ hv _ _ _ _ _ _ _ _ (by rcases hk with rfl | rfl <;> simp [hA.kind, Kind.nibble])]
  obtain ⟨a1, a2, a3⟩ := hA
  rcases hk with rfl | rfl <;> rcases hv with rfl | rfl <;> simp at hin <;> simp [a1, a2, a3, hin, hu, hd]

theorem step_deliver_pubrec (hv : v = 4 ∨ v = 5) {id : Nat} {A : Pkt} (hA : IsAck v .pubrec id A) (hrc : A.rc = none)
    (hin : id ∈ pr) (hu : Alloc.isUsed ⟨1, 65535, 65535, pool⟩ id = true)
    (hst : storeHas id (storeErase v .pubrec id store) = false) :
    step ⟨r, 2⟩ (mkSt v b .connected pool store pa pr pc h prv) (deliverOp A) =
      { cfg := ⟨r, 2⟩,
        s := mkSt v b .connected pool (storeErase v .pubrec id store ++ [(id, mkAck ⟨r, 2⟩ v .pubrel id)]) pa (del id pr)
          (ins id pc) h prv,
        ev := [.send (mkAck ⟨r, 2⟩ v .pubrel id) none, .recv A] } := by
  rw [deliver_mkSt r b _ hv _ _ _ _ _ _ _ _ (by simp [hA.kind, Kind.nibble])]
  obtain ⟨a1, a2, a3⟩ := hA
  rcases hv with rfl | rfl <;> simp [a1, a2, a3, hrc, hin, hu, hst]

theorem step_send_pub (hv : v = 4 ∨ v = 5) {q id : Nat} {P : Pkt} (hq : q = 1 ∨ q = 2) (hP : IsPubN v q id P)
    (hu : Alloc.isUsed ⟨1, 65535, 65535, pool⟩ id = true) (hst : storeHas id store = false) :
    step ⟨r, 2⟩ (mkSt v b .connected pool store pa pr pc h prv) (.send P) =
      { cfg := ⟨r, 2⟩,
        s := mkSt v b .connected pool (store ++ [(id, P.asDup)]) (if q = 1 then ins id pa else pa)
          (if q = 2 then ins id pr else pr) pc h prv,
        ev := [.send P none] } := by
  have hf : ¬ (268435461 < Pkt.sz 2 P) := by have := hP.fits; unfold noLimit at this; omega
  obtain ⟨h1, h2, h3, h4, h5, h6, h7, h8⟩ := hP
  rcases hv with rfl | rfl <;> rcases hq with rfl | rfl <;> simp [h1, h2, h3, h4, h5, h6, h7, hf, hu, hst]

theorem step_acquire :
    step ⟨r, 2⟩ (mkSt v b st pool store pa pr pc h prv) .acquire =
      { cfg := ⟨r, 2⟩, s := mkSt v b st (Alloc.allocate ⟨1, 65535, 65535, pool⟩).2.pool store pa pr pc h prv, ev := [] } := by
  have e : (Alloc.allocate ⟨1, 65535, 65535, pool⟩).2 = ⟨1, 65535, 65535, (Alloc.allocate ⟨1, 65535, 65535, pool⟩).2.pool⟩ := by
    unfold Alloc.allocate; split <;> rfl
  simp only [step, acquire, mkSt]
  rw [e]

/-! ### transport loss and resumption (any exchange state) -/

theorem step_closed :
    step ⟨r, 2⟩ (mkSt v b st pool store pa pr pc h prv) .closed =
      { cfg := ⟨r, 2⟩, s := mkSt v b .disconnected pool store pa pr pc h prv, ev := [] } := by
  simp [Framing.PB.reset]

theorem step_send_connect (hv : v = 4 ∨ v = 5) :
    step ⟨.client, 2⟩ (mkSt v true .disconnected pool store pa pr pc h prv) (.send (connectPkt v false)) =
      { cfg := ⟨.client, 2⟩, s := mkSt v true .connecting pool store pa pr pc h [],
        ev := [.send (connectPkt v false) none] } := by
  rcases hv with rfl | rfl <;> simp

theorem step_recv_connect (hv : v = 4 ∨ v = 5) :
    step ⟨.server, 2⟩ (mkSt v false .disconnected pool store pa pr pc h prv) (deliverOp (connectPkt v false)) =
      { cfg := ⟨.server, 2⟩, s := mkSt v false .connecting pool store pa pr pc h [],
        ev := [.recv (connectPkt v false)] } := by
  rw [deliver_eq _ _ _ rfl (by rcases hv with rfl | rfl <;> simp [mkSt])
    (by rcases hv with rfl | rfl <;> simp [canReceive, connectPkt, Kind.nibble]) (by simp [mkSt, noLimit])]
  rcases hv with rfl | rfl <;> simp

end steps

section resume
variable {v : Nat} (pool : List Alloc.Iv) (store : List (Nat × Pkt)) (pa pr pc h prv : List Nat)

theorem sendStoredLoop_all (l : List (Nat × Pkt)) : ∀ (c : C), c.s.sendMax = none → c.cfg.pw = 2 →
    c.s.mpsSend = noLimit → (∀ e ∈ l, e.2.sz 2 ≤ noLimit) →
    sendStoredLoop c l = ({ c with ev := c.ev ++ l.map (fun e => Ev.send e.2 none) }, l) := by
  induction l with
  | nil => intro c _ _ _ _; simp [sendStoredLoop]
  | cons e l ih =>
    intro c hs hpw hm hf
    obtain ⟨id, p⟩ := e
    have h1 : ¬ (p.sz c.cfg.pw > c.s.mpsSend) := by
      rw [hpw, hm]; exact Nat.not_lt.2 (hf _ (List.mem_cons_self ..))
    have := ih (c.push (.send p none)) hs hpw hm (fun e he => hf e (List.mem_cons_of_mem _ he))
    rw [sendStoredLoop, if_neg h1]
    simp only [hs, Option.isSome_none, Bool.false_eq_true, if_false, this]
    simp [C.push, List.append_assoc]

theorem sendStored_all (c : C) (hs : c.s.sendMax = none) (hpw : c.cfg.pw = 2) (hm : c.s.mpsSend = noLimit)
    (hf : ∀ e ∈ c.s.store, e.2.sz 2 ≤ noLimit) :
    sendStored c = { c with ev := c.ev ++ c.s.store.map (fun e => Ev.send e.2 none) } := by
  unfold sendStored
  simp only [hs, Option.isSome_none, Bool.false_eq_true, if_false]
  rw [sendStoredLoop_all _ c hs hpw hm hf]

abbrev resent (st : List (Nat × Pkt)) : List Ev := st.map (fun e => Ev.send e.2 none)

theorem sends_resent (st : List (Nat × Pkt)) : sends (resent st) = st.map (·.2) := by
  induction st with
  | nil => rfl
  | cons e st ih => simpa [resent, sends] using ih

-- `sendStored` is rewritten, not unfolded: `simp` cannot discharge the quantified `hfit` by itself
theorem step_send_connack (hv : v = 4 ∨ v = 5) (hfit : ∀ e ∈ store, e.2.sz 2 ≤ noLimit) :
    step ⟨.server, 2⟩ (mkSt v false .connecting pool store pa pr pc h prv) (.send (connackPkt v true)) =
      { cfg := ⟨.server, 2⟩, s := mkSt v false .connected pool store pa pr pc h prv,
        ev := .send (connackPkt v true) none :: resent store } := by
  rcases hv with rfl | rfl <;>
    simp [step, send, roleMaySend, processSend, psV3Connack, psV5Connack, sizeOk, connackPkt, sz_of_not_pub, mkSt,
      C.push, C.err, propsFold, noLimit] <;>
    (rw [sendStored_all _ rfl rfl rfl hfit]; simp [sendPostProcess])

theorem step_recv_connack (hv : v = 4 ∨ v = 5) (hfit : ∀ e ∈ store, e.2.sz 2 ≤ noLimit) :
    step ⟨.client, 2⟩ (mkSt v true .connecting pool store pa pr pc h prv) (deliverOp (connackPkt v true)) =
      { cfg := ⟨.client, 2⟩, s := mkSt v true .connected pool store pa pr pc h prv,
        ev := resent store ++ [.recv (connackPkt v true)] } := by
  rw [deliver_eq _ _ _ rfl (by rcases hv with rfl | rfl <;> simp [mkSt])
    (by rcases hv with rfl | rfl <;> simp [canReceive, connackPkt, Kind.nibble]) (by simp [mkSt, noLimit])]
  rcases hv with rfl | rfl <;>
    simp [dispatchRecv, prV3Connack, prV5Connack, connackPkt, Kind.nibble, mkSt, resendStored,
      C.push, C.err, propsFold] <;>
    (rw [sendStored_all _ rfl rfl rfl hfit]; simp [sendPostProcess])

theorem resume_lose (hv : v = 4 ∨ v = 5) {poolC poolS : List Alloc.Iv} {stC stS : List (Nat × Pkt)}
    {paC prC pcC hC prvC paS prS pcS hS prvS : List Nat} {c2s s2c : List Pkt} {lC lS : List Ev}
    (fC : ∀ e ∈ stC, e.2.sz 2 ≤ noLimit) (fS : ∀ e ∈ stS, e.2.sz 2 ≤ noLimit) :
    resume v (lose { c := mkSt v true .connected poolC stC paC prC pcC hC prvC,
                     s := mkSt v false .connected poolS stS paS prS pcS hS prvS,
                     c2s := c2s, s2c := s2c, logC := lC, logS := lS }) =
      { c := mkSt v true .connected poolC stC paC prC pcC hC [],
        s := mkSt v false .connected poolS stS paS prS pcS hS [],
        c2s := stC.map (·.2), s2c := stS.map (·.2),
        logC := lC ++ .send (connectPkt v false) none :: (resent stC ++ [.recv (connackPkt v true)]),
        logS := lS ++ .recv (connectPkt v false) :: .send (connackPkt v true) none :: resent stS } := by
  simp only [resume, handshake, lose, appC, appS, deliverS, deliverC, cfgC, cfgS, step_closed,
    step_send_connect _ _ _ _ _ _ _ hv, sends, List.nil_append, step_recv_connect _ _ _ _ _ _ _ hv,
    step_send_connack _ _ _ _ _ _ _ hv fS, step_recv_connack _ _ _ _ _ _ _ hv fC]
  simp [sends, sends_append, sends_resent]

theorem connectPkt_kind (c : Bool) : (connectPkt v c).kind = .connect := by
  unfold connectPkt; split <;> rfl
theorem connackPkt_kind (c : Bool) : (connackPkt v c).kind = .connack := by
  unfold connackPkt; split <;> rfl

end resume

end MqttVerif.Conn.Pair
