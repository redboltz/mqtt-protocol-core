import MqttVerif.Conn.Lemmas.TimersSpec
/-!
# Helper lemmas for C15: after every packet a connected client requests for sending — in
# **every** call, not only `send` — the PINGREQ timer is re-armed (fix 999e935)

`Cover ms l`: every `RequestSendPacket` of `l` is followed, later in `l`, by
`RequestTimerReset(PingreqSend, ms)`.  `RS c`: if the endpoint is a client, not disconnected and
its interval (by priority) is non-zero, the events pushed so far are covered with that interval.

`RS` holds of everything that ends in `send_post_process` (unconditionally), of everything that
has not sent anything, of every disconnected or non-client endpoint, and is kept by the steps
that push no `RequestSendPacket` and leave `is_client` / the interval sources / the status alone
(`Cont`).  So it is kept by every step of shape `Sent`, hence by every receive handler of shape `Recvd`.
-/
set_option linter.unusedSimpArgs false
namespace MqttVerif.Conn
open MqttVerif Mon

def Cover (ms : Nat) (l : List Ev) : Prop :=
  ∀ pre post q rel, l = pre ++ .send q rel :: post → .timerReset .pingreqSend ms ∈ post

theorem Cover.of_ns {ms : Nat} {l : List Ev} (h : sends l = []) : Cover ms l := by
  intro pre post q rel e
  subst e
  simp at h

theorem Cover.append_reset (ms : Nat) (l : List Ev) : Cover ms (l ++ [.timerReset .pingreqSend ms]) := by
  intro pre post q rel e
  rcases List.eq_nil_or_concat post with hp | ⟨post', x, hp⟩
  · subst hp
    have := List.append_inj_right' (t₁ := [Ev.timerReset .pingreqSend ms]) (t₂ := [Ev.send q rel]) e rfl
    simp at this
  · subst hp
    have h' : l ++ [.timerReset .pingreqSend ms] = (pre ++ .send q rel :: post') ++ [x] := by
      simpa using e
    have := List.append_inj_right' h' rfl
    simp only [List.cons.injEq, and_true] at this
    simp [← this]

theorem Cover.append_nosend {ms : Nat} {l t : List Ev} (h : Cover ms l) (ht : sends t = []) :
    Cover ms (l ++ t) := by
  intro pre post q rel e
  rcases List.append_eq_append_iff.1 e with ⟨a', h1, h2⟩ | ⟨c', h1, h2⟩
  · subst h2; simp at ht
  · cases c' with
    | nil =>
      simp only [List.nil_append] at h2
      subst h2; simp at ht
    | cons x c'' =>
      simp only [List.cons_append, List.cons.injEq] at h2
      obtain ⟨hx, hp⟩ := h2
      subst hx
      have := h pre c'' q rel h1
      rw [hp]; exact List.mem_append_left _ this

/-- rearm-sound -/
def RS (c : C) : Prop :=
  c.s.isClient = true → c.s.status ≠ .disconnected → pingInterval c.s > 0 →
    Cover (pingInterval c.s) c.ev

theorem RS.of_ns {c : C} (h : sends c.ev = []) : RS c := fun _ _ _ => Cover.of_ns h
theorem RS.disc {c : C} (h : c.s.status = .disconnected) : RS c := fun _ hs _ => absurd h hs
theorem RS.notClient {c : C} (h : c.s.isClient = false) : RS c := fun hc _ _ => by simp [h] at hc

/-- whatever came before: after `send_post_process` every send is covered -/
theorem RS.spp (c : C) : RS (sendPostProcess c) := by
  intro hc hs hi
  rw [pingInterval_spp] at hi ⊢
  rw [isClient_spp] at hc
  rw [sendPostProcess_ev]
  simp only [rearmSend, hc, hi, and_self, if_true]
  exact Cover.append_reset _ _

/-! ## continuation steps: more events, none a send; `is_client`, interval, status kept -/

structure Cont (c c' : C) : Prop where
  ev : ∃ t, c'.ev = c.ev ++ t ∧ sends t = []
  cl : c'.s.isClient = c.s.isClient
  pi : pingInterval c'.s = pingInterval c.s
  st : c'.s.status = c.s.status

theorem Cont.refl (c : C) : Cont c c := ⟨⟨[], by simp, rfl⟩, rfl, rfl, rfl⟩

theorem RS.cont {c c' : C} (h : RS c) (k : Cont c c') : RS c' := by
  obtain ⟨t, e, n⟩ := k.ev
  intro hc hs hi
  rw [k.cl] at hc; rw [k.st] at hs; rw [k.pi] at hi ⊢
  rw [e]
  exact (h hc hs hi).append_nosend n

theorem Cont.sends {c c' : C} (k : Cont c c') : sends c'.ev = sends c.ev := by
  obtain ⟨t, e, n⟩ := k.ev
  rw [e]; simp [n]

theorem Appends.nosend {T : List EvTag} {c c' : C} (h : Appends T c c') (hT : EvTag.send ∉ T := by decide) :
    ∃ t, c'.ev = c.ev ++ t ∧ sends t = [] := by
  obtain ⟨l, e, hl⟩ := h
  refine ⟨l, e, List.filter_eq_nil_iff.2 (fun x hx => ?_)⟩
  cases x with
  | send => exact absurd (hl _ hx) hT
  | _ => exact Bool.false_ne_true

theorem Cont.of_fr {T : List EvTag} {c c' : C} (k : TFr T c c') (hT : EvTag.send ∉ T := by decide) : Cont c c' :=
  ⟨k.ev.nosend hT, k.isClient, k.pingInterval, k.status⟩

theorem push_cont (c : C) (e : Ev) (he : isSendEv e = false) : Cont c (c.push e) :=
  ⟨⟨[e], rfl, by simp [he]⟩, rfl, rfl, rfl⟩

theorem refresh_cont (c : C) : Cont c (refreshPingreqRecv c) :=
  ⟨(Fp.refreshPingreqRecv_ev c).nosend, isClient_refresh c, by unfold pingInterval; rw [Fp.refreshPingreqRecv_s],
    status_refresh c⟩

theorem releaseAll_cont (c : C) (l : List Nat) : Cont c (releaseAll c l) :=
  Cont.of_fr ((TFr.refl [.released] c).fp (Fp.releaseAll_fp c l))

theorem disarm_cont (c : C) (k : Timer) : Cont c (disarm c k) := by
  unfold disarm; split
  · exact ⟨⟨[.timerCancel k], rfl, rfl⟩, by cases k <;> rfl, by cases k <;> rfl, by cases k <;> rfl⟩
  · exact .refl c

theorem cancelTimers_cont (c : C) : Cont c (cancelTimers c) :=
  ⟨(Fp.cancelTimers_ev c).nosend, by rw [Fp.cancelTimers_s], by unfold pingInterval; rw [Fp.cancelTimers_s],
    cancelTimers_status c⟩

theorem RS.fr {T : List EvTag} {c c' : C} (h : RS c) (k : TFr T c c') (hT : EvTag.send ∉ T := by decide) : RS c' :=
  h.cont (.of_fr k hT)

theorem RS.push {c : C} (h : RS c) (e : Ev) (he : isSendEv e = false) : RS (c.push e) := h.cont (push_cont c e he)
theorem RS.err {c : C} (h : RS c) (e : Nat) : RS (c.err e) := h.push _ rfl
theorem RS.refresh {c : C} (h : RS c) : RS (refreshPingreqRecv c) := h.cont (refresh_cont c)
theorem RS.setTar {c : C} (h : RS c) (t : Option TAR) :
    RS { c with s := { c.s with tar := t } } := h.fr (T := []) (TFr.refl _ c).upd

theorem RS.sent {c r : C} (h : RS c) (k : Sent c r) : RS r := by
  cases k with
  | quiet k => exact h.fr k
  | spp k _ => exact RS.spp _

theorem RS.auto {c r : C} (h : RS c) (k : Auto c r) : RS r := by
  induction k with
  | refl => exact h
  | step _ s ih => exact ih.sent s

@[simp] theorem refresh_sends (c : C) : sends (refreshPingreqRecv c).ev = sends c.ev := (refresh_cont c).sends
@[simp] theorem spp_sends (c : C) : sends (sendPostProcess c).ev = sends c.ev := (Fp.sendPostProcess_ev c).sends_eq
@[simp] theorem handleV3Error_sends (c : C) (e : Nat) : sends (handleV3Error c e).ev = sends c.ev :=
  (Fp.handleV3Error_ev c e).sends_eq
@[simp] theorem connectRecvProp_sends (c : C) (id v : Nat) : sends (connectRecvProp c id v).ev = sends c.ev := by
  rw [Fp.connectRecvProp_ev]
@[simp] theorem propsFold_connectRecvProp_sends (c : C) (l : List (Nat × Nat)) :
    sends (propsFold connectRecvProp c l).ev = sends c.ev := by rw [Fp.propsFold_connectRecvProp_ev]
@[simp] theorem releaseAll_sends (c : C) (l : List Nat) : sends (releaseAll c l).ev = sends c.ev :=
  (releaseAll_cont c l).sends
@[simp] theorem initConn_ev' (c : C) (b : Bool) : (initConn c b).ev = c.ev := rfl

/-! ## the closing functions send only when they end `disconnected` -/

theorem RS.ended {c r : C} (h : RS c) (k : Ended c r) : RS r := by
  cases k with
  | kept k => exact h.fr k
  | shut k => exact RS.disc (k.status.trans (cancelTimers_status _))

theorem Recvd.rs {c r : C} (h : RS c) (k : Recvd c r) : RS r := by
  cases k with
  | refused k x e => exact ((h.fr k).ended x).err e
  | panic m site k => exact h.fr (k.setPanic site)
  | accepted m p k => exact (h.auto k).refresh.push _ rfl
  | duplicate m k => exact (h.auto k).refresh

theorem RS.of_sendok {c c' : C} (h : SendOK c c') (hn : sends c.ev = []) : RS c' := by
  rcases h with ⟨a, _⟩ | h | ⟨m, hm, _⟩
  · exact RS.of_ns (a.trans hn)
  · exact RS.disc h
  · rw [hm]; exact RS.spp m

theorem Welcomed.rs {c r : C} {pp : Except Nat Pkt} (hn : sends c.ev = []) (k : Welcomed c pp r) : RS r := by
  cases k with
  | refused3 e =>
    exact (RS.of_sendok (c := { c with s := { c.s with status := .connecting } }) (psV3Connack_sendok _ _) hn).err e
  | refused5 e =>
    exact (RS.of_sendok (c := { c with s := { c.s with status := .connecting } }) (psV5Connack_sendok _ _) hn).err e
  | accepted p m k => exact RS.notClient ((isClient_refresh m).trans k.isClient)

/-- fix 999e935: after the retransmission on a received CONNACK the keep-alive timer is re-armed -/
theorem resendStored_rs {c : C} (hn : sends c.ev = []) : RS (resendStored c) := by
  rcases resendStored_eq_cond c with ⟨_, e⟩ | ⟨hc, e⟩
  · rw [e]; exact RS.spp _
  · rw [e]
    obtain ⟨t, ht, _⟩ := Fp.sendStored_ev c
    rw [ht, List.drop_left] at hc
    refine RS.of_ns ?_
    rw [ht, sends_append, hn, List.nil_append]
    exact List.filter_eq_nil_iff.2 (fun x hx => by simpa using List.any_eq_false.1 hc x hx)

theorem Greeted.rs {c r : C} (hn : sends c.ev = []) (k : Greeted c r) : RS r := by
  cases k with
  | declined p => exact (RS.of_ns hn).push _ rfl
  | established p l =>
    have hm := (Fp.propsFold_connackRecvProp_ev { c with s := { c.s with status := .connected } } l).sends_eq.trans hn
    refine RS.push ?_ _ rfl
    exact Fp.ite_ind (fun _ => resendStored_rs hm) (fun _ => RS.of_ns hm)

theorem recv_rs {c : C} (hn : sends c.ev = []) (inp : List Nat)
    (parse : Nat → Nat → List Nat → Except Nat Pkt) : RS (recv c inp parse).1 :=
  have ns : ∀ {c'}, TFr [] c c' → sends c'.ev = [] := fun k => k.ev.sends_eq.trans hn
  recv_walk c inp parse (fun _ k => RS.of_ns (ns k)) (fun _ _ k _ _ w => w.rs (ns k)) (fun _ k _ _ g => g.rs (ns k))
    (fun _ k _ => ((RS.of_ns (ns k)).cont (disarm_cont _ .pingrespRecv)).push _ rfl)
    (fun _ k _ s => ((RS.of_ns (ns k)).cont (cancelTimers_cont _)).fr s) (fun _ k _ x => x.rs (RS.of_ns (ns k)))

theorem notifyTimerFired_rs {c : C} (hn : sends c.ev = []) (k : Timer) : RS (notifyTimerFired c k) :=
  have hn : sends (Fp.unsetTimer c k).ev = [] := Fp.unsetTimer_ev c k ▸ hn
  Fp.notifyTimerFired_cases c k (fun _ _ _ _ _ => RS.of_sendok (psPingreq_sendok _ _) hn)
    (fun _ _ => RS.of_ns (by rw [push_ev, sends_append, hn]; rfl))
    (fun _ _ _ => (RS.of_ns hn).ended (v5DisconnectOrClose_ended _ _)) (fun _ _ => RS.of_ns hn)
    (fun _ _ _ => RS.of_ns hn)

theorem step_rs (cfg : Cfg) (s : St) (op : Op) : RS (step cfg s op) :=
  Fp.step_cases cfg s op (fun p => RS.of_sendok (send_sendok _ p) rfl) (fun inp parse => recv_rs rfl inp parse)
    (fun k => notifyTimerFired_rs rfl k) (RS.disc (by rw [Fp.notifyClosed_s_eq]))
    (fun d => RS.of_ns (Fp.setPingreqSendInterval_ev _ d).sends_eq) (fun _ _ => RS.of_ns rfl)
    (fun _ => RS.of_ns rfl) (RS.of_ns rfl) (fun _ => RS.of_ns rfl)
    (fun id => RS.of_ns (Fp.releasePacketId_ev _ id).sends_eq)
    (fun id => RS.of_ns (Fp.eraseStoredPublish_ev _ id).sends_eq) (fun _ => RS.of_ns rfl)
    (fun ps => RS.of_ns (congrArg sends (Fp.restorePackets_ev _ ps)))

end MqttVerif.Conn
