import MqttVerif.Conn.Step
import MqttVerif.Conn.Lemmas.Containers
/-!
# What a model function may change

Every lemma chain needs, for every function `f` of `Conn/Model.lean`, the fact that `f` leaves alone
the fields and event kinds its invariant reads.  These facts are proved once, in the `Footprint…` files, three per function:

* `f_cfg : (f c …).cfg = c.cfg`;
* `f_s : (f c …).s = w c.s (f c …).s`, where the write set `w a x := { a with y := x.y, … }` is a reducible
  definition (`wPid`, `wClose`, `wSend`, …): the fields it does not list keep their value.  Use it with `rw`:
  afterwards every projection to an unlisted field reduces to the projection of `c.s` by `rfl`;
* `f_ev : Appends T c (f c …)` — the events of `c` stay and only events whose tag is in `T` are added.

The three are the projections of one lemma `f_fp : Footprint T w c (f c …)`, proved by walking the control flow
of `f` in the last argument (`Fp.ite_ind` for an `if`, `cases` for a `match`) and closing every leaf from the
footprints of the callees (`Footprint.step`, `Footprint.widen`).  A projection is stated under its own name
where a lemma chain uses it; the others are `(f_fp c …).cfg`, `.s`, `.ev`.  Everything is in the namespace
`Fp`, so that `Fp.push_ev` (an `Appends` fact) and the chains' own `push_ev` (an equation) do not meet.
-/
namespace MqttVerif.Conn
open MqttVerif

/-- Case distinction on an `if` in the last argument of the goal, without `split`, which is very slow on goals
    that contain the 35-field state record: `refine Fp.ite_ind (fun h => ?_) (fun h => ?_)`. -/
theorem Fp.ite_ind {α : Sort _} {Q : α → Prop} {p : Prop} [Decidable p] {a b : α}
    (ha : p → Q a) (hb : ¬p → Q b) : Q (if p then a else b) := by
  by_cases h : p
  · rw [if_pos h]; exact ha h
  · rw [if_neg h]; exact hb h

theorem Fp.ite_both {α : Sort _} {Q : α → Prop} {p : Prop} [Decidable p] {a b : α} (ha : Q a) (hb : Q b) :
    Q (if p then a else b) :=
  Fp.ite_ind (fun _ => ha) (fun _ => hb)

inductive EvTag | send | recv | released | timerReset | timerCancel | error | close
deriving DecidableEq

def Ev.tag : Ev → EvTag
  | .send _ _ => .send
  | .recv _ => .recv
  | .released _ => .released
  | .timerReset _ _ => .timerReset
  | .timerCancel _ => .timerCancel
  | .error _ => .error
  | .close => .close

def Appends (T : List EvTag) (c c' : C) : Prop := ∃ l, c'.ev = c.ev ++ l ∧ ∀ e ∈ l, e.tag ∈ T

namespace Appends
variable {T T' : List EvTag} {c c' c'' : C}

theorem refl (T : List EvTag) (c : C) : Appends T c c := ⟨[], by simp, by simp⟩

theorem of_ev_eq (h : c'.ev = c.ev) : Appends T c c' := ⟨[], by simp [h], by simp⟩

theorem trans (h : Appends T c c') (h' : Appends T c' c'') : Appends T c c'' := by
  obtain ⟨l, e, hl⟩ := h
  obtain ⟨l', e', hl'⟩ := h'
  refine ⟨l ++ l', by rw [e', e, List.append_assoc], ?_⟩
  intro x hx
  rcases List.mem_append.1 hx with hx | hx
  · exact hl x hx
  · exact hl' x hx

theorem mono (h : Appends T c c') (hT : T ⊆ T') : Appends T' c c' := by
  obtain ⟨l, e, hl⟩ := h
  exact ⟨l, e, fun x hx => hT (hl x hx)⟩

theorem push (h : Appends T c c') {e : Ev} (he : e.tag ∈ T) : Appends T c (c'.push e) := by
  obtain ⟨l, e', hl⟩ := h
  refine ⟨l ++ [e], by simp [C.push, e'], ?_⟩
  intro x hx
  rcases List.mem_append.1 hx with hx | hx
  · exact hl x hx
  · rw [List.mem_singleton.1 hx]; exact he

theorem err (h : Appends T c c') (he : EvTag.error ∈ T) (e : Nat) : Appends T c (c'.err e) := h.push he

theorem congr_ev (h : Appends T c c') (he : c''.ev = c'.ev) : Appends T c c'' := by
  obtain ⟨l, e, hl⟩ := h
  exact ⟨l, he.trans e, hl⟩

theorem filter_eq (h : Appends T c c') (q : Ev → Bool) (hq : ∀ e, e.tag ∈ T → q e = false) :
    c'.ev.filter q = c.ev.filter q := by
  obtain ⟨l, e, hl⟩ := h
  have : l.filter q = [] := List.filter_eq_nil_iff.2 (fun x hx => by simp [hq x (hl x hx)])
  rw [e, List.filter_append, this, List.append_nil]

theorem any_eq (h : Appends T c c') (q : Ev → Bool) (hq : ∀ e, e.tag ∈ T → q e = false) :
    c'.ev.any q = c.ev.any q := by
  obtain ⟨l, e, hl⟩ := h
  have : l.any q = false := List.any_eq_false.2 (fun x hx => by simp [hq x (hl x hx)])
  rw [e, List.any_append, this, Bool.or_false]

theorem prefix_ev (h : Appends T c c') : c.ev <+: c'.ev := by
  obtain ⟨l, e, _⟩ := h
  exact ⟨l, e.symm⟩

theorem mem (h : Appends T c c') {e : Ev} (hm : e ∈ c.ev) : e ∈ c'.ev := h.prefix_ev.subset hm

theorem step (h : Appends T c c') (h' : Appends T' c' c'')
    (hT : T' ⊆ T) : Appends T c c'' := h.trans (h'.mono hT)

theorem congr_left (h : Appends T c' c'') (he : c'.ev = c.ev) :
    Appends T c c'' := by
  obtain ⟨l, e, hl⟩ := h
  exact ⟨l, he ▸ e, hl⟩

theorem send (h : Appends T c c') (he : EvTag.send ∈ T) (p : Pkt)
    (rel : Option Nat) : Appends T c (c'.push (.send p rel)) := h.push he

theorem close (h : Appends T c c') (he : EvTag.close ∈ T) :
    Appends T c (c'.push .close) := h.push he

theorem ev_eq_of_nil (h : Appends [] c c') : c'.ev = c.ev := by
  obtain ⟨l, e, hl⟩ := h
  rw [e, List.eq_nil_iff_forall_not_mem.2 (fun x hx => List.not_mem_nil (hl x hx)), List.append_nil]

end Appends

namespace Fp

structure Footprint (T : List EvTag) (w : St → St → St) (c r : C) : Prop where
  cfg : r.cfg = c.cfg
  ev : Appends T c r
  s : r.s = w c.s r.s

namespace Footprint
variable {T T' : List EvTag} {w w' : St → St → St} {c c' r : C}

/-- more event tags, more written fields; `hw` holds by `rfl` when `w'` writes every field `w` writes -/
theorem widen (h : Footprint T w c r) (hT : T ⊆ T' := by decide)
    (hw : ∀ a x, w' a (w a x) = w a x := by exact fun _ _ => rfl) : Footprint T' w' c r :=
  ⟨h.cfg, h.ev.mono hT, h.s.trans ((hw _ _).symm.trans (congrArg (w' c.s) h.s.symm))⟩

/-- One call after another: a footprint `w'` after a footprint `w` that covers it is `w`; `hw` holds by `rfl`
    exactly when every field that `w'` writes is written by `w`. -/
theorem step (h : Footprint T w c c') (h' : Footprint T' w' c' r) (hT : T' ⊆ T := by decide)
    (hw : ∀ a b x, w' (w a b) x = w a (w' b x) := by exact fun _ _ _ => rfl) : Footprint T w c r :=
  ⟨h'.cfg.trans h.cfg, h.ev.step h'.ev hT,
    h'.s.trans ((congrArg (fun b => w' b r.s) h.s).trans ((hw _ _ _).trans (congrArg (w c.s) h'.s.symm)))⟩

/-- `h` is `rfl` when only fields of `w` are set -/
theorem of_s {s : St} (h : s = w c.s s) : Footprint T w c { c with s := s } := ⟨rfl, .refl _ _, h⟩

theorem set (h : Footprint T w c c') {s : St} (hs : s = w c'.s s)
    (hw : ∀ a b x, w (w a b) x = w a (w b x) := by exact fun _ _ _ => rfl) : Footprint T w c { c' with s := s } :=
  h.step (of_s hs) (List.nil_subset _) hw

theorem ev_eq (h : Footprint [] w c r) : r.ev = c.ev := h.ev.ev_eq_of_nil

theorem view {α : Sort _} (V : St → α) (k : Footprint T w c r)
    (hw : ∀ a x, V (w a x) = V a := by exact fun _ _ => rfl) : V r.s = V c.s :=
  (congrArg V k.s).trans (hw _ _)

theorem push (h : Footprint T w c r) {e : Ev} (he : e.tag ∈ T) : Footprint T w c (r.push e) :=
  ⟨h.cfg, h.ev.push he, h.s⟩

theorem err (h : Footprint T w c r) (he : EvTag.error ∈ T) (e : Nat) : Footprint T w c (r.err e) := h.push he

theorem send (h : Footprint T w c r) (he : EvTag.send ∈ T) (p : Pkt) (rel : Option Nat) :
    Footprint T w c (r.push (.send p rel)) := h.push he

theorem close (h : Footprint T w c r) (he : EvTag.close ∈ T) : Footprint T w c (r.push .close) := h.push he

theorem recv (h : Footprint T w c r) (he : EvTag.recv ∈ T) (p : Pkt) : Footprint T w c (r.push (.recv p)) :=
  h.push he

theorem released (h : Footprint T w c r) (he : EvTag.released ∈ T) (id : Nat) :
    Footprint T w c (r.push (.released id)) := h.push he

theorem timerReset (h : Footprint T w c r) (he : EvTag.timerReset ∈ T) (k : Timer) (ms : Nat) :
    Footprint T w c (r.push (.timerReset k ms)) := h.push he

theorem timerCancel (h : Footprint T w c r) (he : EvTag.timerCancel ∈ T) (k : Timer) :
    Footprint T w c (r.push (.timerCancel k)) := h.push he

end Footprint

/-! ## the write sets that several functions share: `w a x` is `x` on the fields named, `a` on the others -/

abbrev wPanic (a x : St) : St := { a with panic := x.panic }
abbrev wPidMan (a x : St) : St := { a with pidMan := x.pidMan }
abbrev wPid (a x : St) : St := { a with pidMan := x.pidMan, panic := x.panic }
abbrev wStore (a x : St) : St := { a with store := x.store, panic := x.panic }
abbrev wSendCount (a x : St) : St := { a with sendCount := x.sendCount }
abbrev wCount (a x : St) : St := { a with sendCount := x.sendCount, panic := x.panic }
abbrev wTas (a x : St) : St := { a with tas := x.tas }
abbrev wAlias (a x : St) : St := { a with tas := x.tas, panic := x.panic }
abbrev wSendSet (a x : St) : St := { a with sendSet := x.sendSet }
abbrev wRecvSet (a x : St) : St := { a with recvSet := x.recvSet }
abbrev wTimers (a x : St) : St := { a with sendSet := x.sendSet, recvSet := x.recvSet, respSet := x.respSet }
abbrev wClose (a x : St) : St :=
  { a with sendSet := x.sendSet, recvSet := x.recvSet, respSet := x.respSet, status := x.status }

theorem push_ev (c : C) (e : Ev) : Appends [e.tag] c (c.push e) :=
  (Appends.refl _ c).push (List.mem_singleton.2 rfl)
theorem push_s (c : C) (e : Ev) : (c.push e).s = c.s := rfl
theorem err_s (c : C) (e : Nat) : (c.err e).s = c.s := rfl
theorem err_ev (c : C) (e : Nat) : Appends [.error] c (c.err e) := push_ev c (.error e)

theorem releaseId_fp (c : C) (id : Nat) : Footprint [] wPid c (releaseId c id) := by
  unfold releaseId
  extract_lets r c1
  split
  · exact .of_s rfl
  · exact .of_s rfl
theorem releaseId_cfg (c : C) (id : Nat) : (releaseId c id).cfg = c.cfg := (releaseId_fp c id).cfg
theorem releaseId_s (c : C) (id : Nat) : (releaseId c id).s = wPid c.s (releaseId c id).s := (releaseId_fp c id).s
theorem releaseId_ev (c : C) (id : Nat) : (releaseId c id).ev = c.ev := (releaseId_fp c id).ev_eq

theorem releaseIfUsed_fp (c : C) (id : Nat) : Footprint [.released] wPid c (releaseIfUsed c id) := by
  unfold releaseIfUsed
  exact ite_ind (fun _ => (releaseId_fp c id).widen.released (by decide) id) (fun _ => .of_s rfl)
theorem releaseIfUsed_cfg (c : C) (id : Nat) : (releaseIfUsed c id).cfg = c.cfg := (releaseIfUsed_fp c id).cfg
theorem releaseIfUsed_s (c : C) (id : Nat) : (releaseIfUsed c id).s = wPid c.s (releaseIfUsed c id).s :=
  (releaseIfUsed_fp c id).s
theorem releaseIfUsed_ev (c : C) (id : Nat) : Appends [.released] c (releaseIfUsed c id) :=
  (releaseIfUsed_fp c id).ev

theorem cancelTimers_fp (c : C) : Footprint [.timerCancel] wTimers c (cancelTimers c) := by
  have step : ∀ (b : Bool) (k : Timer) (c' c'' : C), Footprint [.timerCancel] wTimers c c' →
      Footprint [] wTimers c' c'' → Footprint [.timerCancel] wTimers c (if b then c''.push (.timerCancel k) else c') :=
    fun b k c' c'' h h' => ite_ind (fun _ => (h.step h').timerCancel (by decide) k) (fun _ => h)
  exact step _ _ _ _ (step _ _ _ _ (step _ _ _ _ (.of_s rfl) (.of_s rfl)) (.of_s rfl)) (.of_s rfl)
theorem cancelTimers_cfg (c : C) : (cancelTimers c).cfg = c.cfg := (cancelTimers_fp c).cfg
theorem cancelTimers_s (c : C) :
    (cancelTimers c).s = { c.s with sendSet := false, recvSet := false, respSet := false } := by
  obtain ⟨cfg, s, ev⟩ := c
  unfold cancelTimers
  cases h1 : s.sendSet <;> cases h2 : s.recvSet <;> cases h3 : s.respSet <;> simp [C.push, h1, h2, h3] <;>
    (cases s; simp_all)
theorem cancelTimers_ev (c : C) : Appends [.timerCancel] c (cancelTimers c) := (cancelTimers_fp c).ev

theorem sendPostProcess_fp (c : C) : Footprint [.timerReset] wSendSet c (sendPostProcess c) := by
  unfold sendPostProcess
  refine ite_ind (fun _ => ?_) (fun _ => .of_s rfl)
  dsimp only
  exact ite_ind (fun _ => .timerReset (.of_s rfl) (by decide) _ _) (fun _ => .of_s rfl)
theorem sendPostProcess_cfg (c : C) : (sendPostProcess c).cfg = c.cfg := (sendPostProcess_fp c).cfg
theorem sendPostProcess_s (c : C) : (sendPostProcess c).s = wSendSet c.s (sendPostProcess c).s :=
  (sendPostProcess_fp c).s
theorem sendPostProcess_ev (c : C) : Appends [.timerReset] c (sendPostProcess c) := (sendPostProcess_fp c).ev

namespace Footprint

/-- the packet goes out and the keep-alive timer restarts; `hw` holds by `rfl` when `w` lists `sendSet` -/
theorem sendNow {T : List EvTag} {w : St → St → St} {c c1 : C} (h : Footprint T w c c1) (p : Pkt)
    (rel : Option Nat) (hT : [.send, .timerReset] ⊆ T := by decide)
    (hw : ∀ a b x, wSendSet (w a b) x = w a (wSendSet b x) := by exact fun _ _ _ => rfl) :
    Footprint T w c (sendPostProcess (c1.push (.send p rel))) :=
  (h.send (hT List.mem_cons_self) p rel).step (sendPostProcess_fp _) (fun _ hx => hT (List.mem_cons_of_mem _ hx)) hw

end Footprint

theorem refreshPingreqRecv_fp (c : C) : Footprint [.timerReset] wRecvSet c (refreshPingreqRecv c) := by
  unfold refreshPingreqRecv
  exact ite_ind (fun _ => .timerReset (.of_s rfl) (by decide) _ _) (fun _ => .of_s rfl)
theorem refreshPingreqRecv_cfg (c : C) : (refreshPingreqRecv c).cfg = c.cfg := (refreshPingreqRecv_fp c).cfg
theorem refreshPingreqRecv_s (c : C) : (refreshPingreqRecv c).s = wRecvSet c.s (refreshPingreqRecv c).s :=
  (refreshPingreqRecv_fp c).s
theorem refreshPingreqRecv_ev (c : C) : Appends [.timerReset] c (refreshPingreqRecv c) :=
  (refreshPingreqRecv_fp c).ev

theorem storeAdd_fp (c : C) (id : Nat) (p : Pkt) (x : String) : Footprint [] wStore c (storeAdd c id p x) := by
  unfold storeAdd
  exact ite_ind (fun _ => .of_s rfl) (fun _ => .of_s rfl)
theorem storeAdd_s (c : C) (id : Nat) (p : Pkt) (x : String) :
    (storeAdd c id p x).s = wStore c.s (storeAdd c id p x).s := (storeAdd_fp c id p x).s
theorem storeAdd_ev (c : C) (id : Nat) (p : Pkt) (x : String) : (storeAdd c id p x).ev = c.ev :=
  (storeAdd_fp c id p x).ev_eq
theorem storeAdd_mem (c : C) (id : Nat) (q : Pkt) (site : String) :
    ∀ x ∈ (storeAdd c id q site).s.store, x ∈ c.s.store ∨ x.2 = q := by
  intro x hx
  unfold storeAdd at hx
  by_cases h : storeHas id c.s.store = true
  · rw [if_pos h] at hx; exact .inl hx
  · rw [if_neg h] at hx
    rcases List.mem_append.1 hx with hx | hx
    · exact .inl hx
    · exact .inr (by rw [List.mem_singleton.1 hx])

theorem decSendCount_fp (c : C) : Footprint [] wSendCount c (decSendCount c) := by
  unfold decSendCount
  exact ite_ind (fun _ => .of_s rfl) (fun _ => .of_s rfl)
theorem decSendCount_s (c : C) : (decSendCount c).s = wSendCount c.s (decSendCount c).s := (decSendCount_fp c).s
theorem decSendCount_ev (c : C) : (decSendCount c).ev = c.ev := (decSendCount_fp c).ev_eq

theorem validateTopicAlias_fp (c : C) (ao : Option Nat) : Footprint [] wTas c (validateTopicAlias c ao).2 := by
  unfold validateTopicAlias
  cases ao with
  | none => exact .of_s rfl
  | some a =>
    dsimp only
    -- the projection `.2` is outside the `if`
    by_cases h : (!validateTopicAliasRange c.s a) = true
    · rw [if_pos h]
      exact .of_s rfl
    · rw [if_neg h]
      cases c.s.tas with
      | none => exact .of_s rfl
      | some t => exact .of_s rfl
theorem validateTopicAlias_s (c : C) (ao : Option Nat) :
    (validateTopicAlias c ao).2.s = wTas c.s (validateTopicAlias c ao).2.s := (validateTopicAlias_fp c ao).s
theorem validateTopicAlias_ev (c : C) (ao : Option Nat) : (validateTopicAlias c ao).2.ev = c.ev :=
  (validateTopicAlias_fp c ao).ev_eq

theorem tasInsert_fp (c : C) (t : List Nat) (a : Nat) (x : String) : Footprint [] wAlias c (tasInsert c t a x) := by
  unfold tasInsert
  cases c.s.tas with
  | none => exact .of_s rfl
  | some t' => exact ite_ind (fun _ => .of_s rfl) (fun _ => .of_s rfl)
theorem tasInsert_s (c : C) (t : List Nat) (a : Nat) (x : String) :
    (tasInsert c t a x).s = wAlias c.s (tasInsert c t a x).s := (tasInsert_fp c t a x).s
theorem tasInsert_ev (c : C) (t : List Nat) (a : Nat) (x : String) : (tasInsert c t a x).ev = c.ev :=
  (tasInsert_fp c t a x).ev_eq

theorem propsFold_rel {R : C → C → Prop} (f : C → Nat → Nat → C) (hr : ∀ c, R c c)
    (ht : ∀ a b c, R a b → R b c → R a c) (hf : ∀ c id v, R c (f c id v)) (c : C) (l : List (Nat × Nat)) :
    R c (propsFold f c l) := by
  induction l generalizing c with
  | nil => exact hr c
  | cons x rest ih => exact ht _ _ _ (hf c x.1 x.2) (ih _)

theorem propsFold_keeps {α : Type} (g : C → α) (f : C → Nat → Nat → C) (hf : ∀ c id v, g (f c id v) = g c) (c : C)
    (l : List (Nat × Nat)) : g (propsFold f c l) = g c :=
  propsFold_rel (R := fun a b => g b = g a) f (fun _ => rfl) (fun _ _ _ h h' => h'.trans h) hf c l

theorem propsFold_ev {T : List EvTag} (f : C → Nat → Nat → C) (hf : ∀ c id v, Appends T c (f c id v)) (c : C)
    (l : List (Nat × Nat)) : Appends T c (propsFold f c l) :=
  propsFold_rel f (Appends.refl T) (fun _ _ _ => Appends.trans) hf c l

/-- `hw0` and `hw` hold by `rfl` for every write set -/
theorem propsFold_fp {T : List EvTag} {w : St → St → St} (f : C → Nat → Nat → C)
    (hf : ∀ c id v, Footprint T w c (f c id v)) (c : C) (l : List (Nat × Nat))
    (hw0 : ∀ a, w a a = a := by exact fun _ => rfl)
    (hw : ∀ a b x, w (w a b) x = w a (w b x) := by exact fun _ _ _ => rfl) :
    Footprint T w c (propsFold f c l) :=
  propsFold_rel f (fun _ => ⟨rfl, .refl _ _, (hw0 _).symm⟩)
    (fun _ _ _ h h' => h.step h' (List.Subset.refl _) hw) hf c l

end Fp

end MqttVerif.Conn
