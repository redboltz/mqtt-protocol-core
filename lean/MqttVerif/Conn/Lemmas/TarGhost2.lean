import MqttVerif.Conn.Lemmas.TarGhost
import MqttVerif.Conn.Lemmas.FootprintIdsStep
/-!
# C13 helper — the CONNECT / CONNACK handlers, `notify_closed`, and the `step` level

`Out sp rcv c c'`: the possible effects of one call on the receive alias table, on "status =
connecting", on `isClient` and on the events the receiver-side ghost reads (`tg`).
-/
namespace MqttVerif.Conn.TarGhost
open MqttVerif MqttVerif.Conn

/-! `StoreTG s` (no stored packet is one the ghost `ownTam` would read when `send_stored` resends it) is
preserved by every call, provided `restore_packets` is given no such packet (`RestoreTG`): what a call adds
to the store is a PUBLISH or a PUBREL (`Fp.step_store_gains`), or a restored packet. -/

/-- every stored packet afterwards was stored before, or is harmless -/
def Sub (c c' : C) : Prop := ∀ x ∈ c'.s.store, x ∈ c.s.store ∨ tgSend x.2 = false

theorem Sub.storeTG {c c' : C} (h : Sub c c') (hs : StoreTG c.s) : StoreTG c'.s := fun x hx => by
  rcases h x hx with h | h
  · exact hs x h
  · exact h

theorem sub_ite (q : Prop) [Decidable q] {c a b : C} (ha : Sub c a) (hb : Sub c b) : Sub c (if q then a else b) := by
  split
  · exact ha
  · exact hb

@[simp] theorem store_err (c : C) (e : Nat) : (c.err e).s.store = c.s.store := rfl
@[simp] theorem store_handleV3Error (c : C) (e : Nat) : (handleV3Error c e).s.store = c.s.store := rfl

theorem tgSend_upd (p q : Pkt) (h1 : q.ver = p.ver) (h2 : q.kind = p.kind) (h3 : q.rc = p.rc) :
    tgSend q = tgSend p := by simp [tgSend, h1, h2, h3]

theorem tgSend_stored {q : Pkt} (h : q.kind = .publish ∨ q.kind = .pubrel) : tgSend q = false := by
  rcases h with h | h
  · exact tgSend_kind (by rw [h]; decide) (by rw [h]; decide)
  · exact tgSend_kind (by rw [h]; decide) (by rw [h]; decide)

/-- `restore_packets` is given no v5.0 CONNECT / CONNACK (real exports hold PUBLISH / PUBREL only) -/
def RestoreTG : Op → Prop
  | .restorePackets ps => ∀ p ∈ ps, tgSend p = false
  | _ => True

theorem sub_step (cfg : Cfg) (s : St) (op : Op) (hr : RestoreTG op) : Sub { cfg := cfg, s := s } (step cfg s op) := by
  intro x hx
  rcases Fp.step_store_gains hx with h | ⟨p, q, -, hq, rfl⟩ | ⟨_, _, v, id, -, rfl⟩ | ⟨ps, p, rfl, hp, rfl⟩
  · exact .inl h
  · exact .inr (tgSend_stored hq.storeKind)
  · exact .inr (tgSend_stored (.inr rfl))
  · exact .inr (hr p hp)

theorem storeTG_step (cfg : Cfg) (s : St) (op : Op) (hr : RestoreTG op) (hs : StoreTG s) :
    StoreTG (step cfg s op).s :=
  (sub_step cfg s op hr).storeTG hs

theorem storeTG_init (cfg : Cfg) (ver : Nat) : StoreTG (St.init cfg ver) := by
  intro x hx; simp [St.init] at hx

/-- the properties of a received CONNACK keep the store or clear it -/
theorem storeTG_connackRecvProps (c : C) (props : List (Nat × Nat)) (h : StoreTG c.s) :
    StoreTG (propsFold connackRecvProp c props).s := by
  obtain ⟨cleared, -, hr⟩ := Fp.propsFold_connackRecvProp_ids c props
  exact hr.store_all h (by cases cleared <;> simp) (by cases cleared <;> simp)

/-- `K` without the protocol version (which `process_recv_packet` determines on the first CONNECT) -/
abbrev KtT := Option TAR × Prop × Bool × List Ev
def Kt (c : C) : KtT := (c.s.tar, c.s.status = .connecting, c.s.isClient, tg c.ev)

theorem Kt_inj {c : C} {t : Option TAR} {q : Prop} {i : Bool} {l : List Ev} (h : Kt c = (t, q, i, l)) :
    c.s.tar = t ∧ (c.s.status = .connecting) = q ∧ c.s.isClient = i ∧ tg c.ev = l := by
  simp only [Kt, Prod.mk.injEq] at h
  exact h

theorem Kt_of_K {c c' : C} (h : K c' = K c) : Kt c' = Kt c :=
  congrArg (fun k : KT => (k.1, k.2.2)) h
theorem ver_of_K {c c' : C} (h : K c' = K c) : c'.s.ver = c.s.ver := (K_inj h).2.1

/-- the receive table a property list leaves: the LAST non-zero Topic Alias Maximum creates the
    (empty) table; a zero value and every other property leave it alone -/
def tamFold (o : Option TAR) (l : List (Nat × Nat)) : Option TAR :=
  l.foldl (fun o kv => if kv.1 = pTAM ∧ kv.2 ≠ 0 then some { max := kv.2 } else o) o

/-- both property handlers start with the Topic Alias Maximum; `rest` is what they do with any other property -/
theorem tamProp_tar (c rest : C) (id v : Nat) (hr : rest.s.tar = c.s.tar) :
    (if id = pTAM then (if v ≠ 0 then { c with s := { c.s with tar := some { max := v } } } else c) else rest).s.tar =
      tamFold c.s.tar [(id, v)] := by
  show _ = if id = pTAM ∧ v ≠ 0 then _ else _
  by_cases h1 : id = pTAM
  · by_cases h2 : v ≠ 0
    · rw [if_pos h1, if_pos h2, if_pos ⟨h1, h2⟩]
    · rw [if_pos h1, if_neg h2, if_neg (fun h => h2 h.2)]
  · rw [if_neg h1, if_neg (fun h => h1 h.1)]
    exact hr

theorem k_connectSendProp (c : C) (id v : Nat) :
    K (connectSendProp c id v) = (tamFold c.s.tar [(id, v)], (K c).2) := by
  have key := @Fp.ite_ind C (fun r => r.s.tar = c.s.tar)
  rw [K_tar (by rw [Fp.connectSendProp_s]) (.inl (by rw [Fp.connectSendProp_s])) ((Emits.refl c).upd (Fp.connectSendProp_ev c id v))]
  unfold connectSendProp
  rw [tamProp_tar]
  exact key (fun _ => rfl) (fun _ => key (fun _ => rfl) (fun _ => key (fun _ => key (fun _ => rfl) (fun _ => rfl))
    (fun _ => rfl)))
theorem k_connackSendProp (c : C) (id v : Nat) :
    K (connackSendProp c id v) = (tamFold c.s.tar [(id, v)], (K c).2) := by
  have key := @Fp.ite_ind C (fun r => r.s.tar = c.s.tar)
  rw [K_tar (by rw [Fp.connackSendProp_s]) (.inl (by rw [Fp.connackSendProp_s])) ((Fp.connackSendProp_ev c id v).emits tgBase (by decide))]
  unfold connackSendProp
  rw [tamProp_tar]
  refine key (fun _ => rfl) (fun _ => key (fun _ => rfl) (fun _ => key (fun _ => key (fun _ => ?_) (fun _ => rfl))
    (fun _ => rfl)))
  cases c.s.recvSet <;> rfl

theorem k_fold_send (f : C → Nat → Nat → C)
    (hf : ∀ c id v, K (f c id v) = (tamFold c.s.tar [(id, v)], (K c).2)) (l : List (Nat × Nat)) :
    ∀ c : C, K (propsFold f c l) = (tamFold c.s.tar l, (K c).2) := by
  induction l with
  | nil => intro c; rfl
  | cons x rest ih =>
    intro c
    have h := hf c x.1 x.2
    rw [propsFold, ih, congrArg Prod.snd h, show (f c x.1 x.2).s.tar = _ from congrArg Prod.fst h]
    rfl

theorem k_fold_connectSendProp (c : C) (l : List (Nat × Nat)) :
    K (propsFold connectSendProp c l) = (tamFold c.s.tar l, (K c).2) := k_fold_send _ k_connectSendProp l c
theorem k_fold_connackSendProp (c : C) (l : List (Nat × Nat)) :
    K (propsFold connackSendProp c l) = (tamFold c.s.tar l, (K c).2) := k_fold_send _ k_connackSendProp l c

/-- a transition: receive table, status, `isClient` afterwards and the ghost-relevant events added -/
structure Tr (c c' : C) (tar' : Option TAR) (st' : Status) (ic' : Bool) (evs : List Ev) : Prop where
  tar : c'.s.tar = tar'
  st : c'.s.status = st'
  ic : c'.s.isClient = ic'
  ev : tg c'.ev = tg c.ev ++ evs

theorem not_sizeOk_false {c : C} {p : Pkt} (h : ¬ (!sizeOk c p) = true) : sizeOk c p = true := by
  simpa using h

/-! ## CONNECT / CONNACK sent -/

/-- a CONNECT handed to `send` is refused, or sent from `disconnected`: settling the session then decides the receive
    table (`f`, of none) and keeps the rest -/
theorem connectSend_out {c r : C} {p : Pkt} {large : Prop} [Decidable large] {settle : C → C} {f : Option TAR → Option TAR}
    (hr : r = Fp.guarded c large (c.s.status ≠ .disconnected) none (Fp.connectOut c p settle))
    (hs : ∀ c', K (settle c') = (f c'.s.tar, (K c').2) ∧ (settle c').s.status = c'.s.status) :
    K r = K c ∨
    (c.s.status = .disconnected ∧ r.s.ver = c.s.ver ∧ Tr c r (f none) .connecting true (tg [.send p none])) := by
  subst hr
  refine Fp.guarded_ind (Q := fun r => K r = K c ∨ (c.s.status = .disconnected ∧ r.s.ver = c.s.ver ∧
    Tr c r (f none) .connecting true (tg [.send p none]))) (fun _ => .inl (k_err c _)) (fun _ _ => .inl (k_err c _))
    fun _ hd => .inr ⟨Decidable.not_not.mp hd, ?_⟩
  unfold Fp.connectOut
  obtain ⟨hk, hst⟩ := hs { initConn c true with
    s := { (initConn c true).s with status := .connecting, keepAliveMs := p.keepAlive * 1000 } }
  obtain ⟨k1, k2, -, k4, k5⟩ := K_inj hk
  obtain ⟨j1, j2, -, j4, j5⟩ := K_inj (k_sendPostProcess ((settle _).push (.send p none)))
  exact ⟨j2.trans k2, j1.trans k1, (sendPostProcess_status _).trans hst, j4.trans k4,
    by rw [j5, push_ev, tg_append, k5]; rfl⟩

theorem psV3Connect_out (c : C) (p : Pkt) :
    K (psV3Connect c p) = K c ∨
    (c.s.status = .disconnected ∧ (psV3Connect c p).s.ver = c.s.ver ∧
      Tr c (psV3Connect c p) none .connecting true (tg [.send p none])) :=
  connectSend_out (f := fun t => t) (Fp.psV3Connect_eq c p) fun c' =>
    Fp.ite_both (Q := fun r : C => K r = K c' ∧ r.s.status = c'.s.status) ⟨rfl, rfl⟩ ⟨rfl, rfl⟩

theorem psV5Connect_out (c : C) (p : Pkt) :
    K (psV5Connect c p) = K c ∨
    (c.s.status = .disconnected ∧ (psV5Connect c p).s.ver = c.s.ver ∧
      Tr c (psV5Connect c p) (tamFold none p.props) .connecting true (tg [.send p none])) := by
  refine connectSend_out (f := fun t => tamFold t p.props) (Fp.psV5Connect_eq c p) fun c' => ?_
  rw [k_fold_connectSendProp, connectSendProp_status]
  exact Fp.ite_both (Q := fun r : C => (tamFold r.s.tar p.props, (K r).2) = (tamFold c'.s.tar p.props, (K c').2) ∧
    r.s.status = c'.s.status) ⟨rfl, rfl⟩ ⟨rfl, rfl⟩

theorem connackTail_refuse (c : C) (p : Pkt) (hrc : p.rc ≠ some 0) :
    ((Fp.connackTail c p).s.tar, (Fp.connackTail c p).s.ver, (Fp.connackTail c p).s.status,
      (Fp.connackTail c p).s.isClient) = (c.s.tar, c.s.ver, Status.disconnected, c.s.isClient) := by
  unfold Fp.connackTail
  rw [if_pos hrc, push_s, Fp.cancelTimers_s]

/-- the part of `process_send_*_connack` after the CONNACK was pushed with reason code 0 -/
theorem connackTail (c : C) (sp : Bool) (hst : StoreTG c.s) :
    K (sendPostProcess (if sp = true then sendStored c else clearStoreRelated c)) = K c ∧
    (sendPostProcess (if sp = true then sendStored c else clearStoreRelated c)).s.status = c.s.status := by
  cases sp
  · exact ⟨k_sendPostProcess _, sendPostProcess_status _⟩
  · exact ⟨(k_sendPostProcess _).trans (k_sendStored c hst), (sendPostProcess_status _).trans (sendStored_status c)⟩

theorem connackTail_tr (c : C) (p : Pkt) (hst : StoreTG c.s) :
    (Fp.connackTail c p).s.ver = c.s.ver ∧ ∃ st', st' ≠ .connecting ∧ (Fp.connackTail c p).s.tar = c.s.tar ∧
      (Fp.connackTail c p).s.status = st' ∧ (Fp.connackTail c p).s.isClient = c.s.isClient ∧
      tg (Fp.connackTail c p).ev = tg c.ev := by
  have he := tg_emits ((Fp.connackTail_orCloses tgBase.quiet c p fun y hy _ => hst y hy).emits' tgBase)
  by_cases hrc : p.rc ≠ some 0
  · have h := connackTail_refuse c p hrc
    simp only [Prod.mk.injEq] at h
    obtain ⟨h1, h2, h3, h4⟩ := h
    exact ⟨h2, .disconnected, by decide, h1, h3, h4, he⟩
  · have h := connackTail { c with s := { c.s with status := .connected } } p.sp hst
    unfold Fp.connackTail
    rw [if_neg hrc]
    obtain ⟨hk, hs⟩ := h
    obtain ⟨k1, k2, -, k4, -⟩ := K_inj hk
    exact ⟨k2, .connected, by decide, k1, hs, k4, by rw [← he]; unfold Fp.connackTail; rw [if_neg hrc]⟩

/-- a CONNACK handed to `send` is refused, or sent from `connecting`, `c1` being the connection after its properties -/
theorem connackSend_out {c c1 r : C} {p : Pkt} {large : Prop} [Decidable large] {t : Option TAR}
    (hr : r = Fp.guarded c large (c.s.status ≠ .connecting) none (Fp.connackTail (c1.push (.send p none)) p))
    (hk : K c1 = (t, (K c).2)) (hst : StoreTG c1.s) :
    K r = K c ∨
    (c.s.status = .connecting ∧ r.s.ver = c.s.ver ∧
      ∃ st', st' ≠ .connecting ∧ Tr c r t st' c.s.isClient (tg [.send p none])) := by
  subst hr
  refine Fp.guarded_ind (large := large) (rel := none) (Q := fun r => K r = K c ∨ (c.s.status = .connecting ∧
    r.s.ver = c.s.ver ∧ ∃ st', st' ≠ .connecting ∧ Tr c r t st' c.s.isClient (tg [.send p none])))
    (fun _ => .inl (k_err c _)) (fun _ _ => .inl (k_err c _)) fun _ hs => .inr ⟨Decidable.not_not.mp hs, ?_⟩
  obtain ⟨hv, st', hst', h1, h2, h3, h4⟩ := connackTail_tr (c1.push (.send p none)) p hst
  obtain ⟨k1, k2, -, k4, k5⟩ := K_inj hk
  exact ⟨hv.trans k2, st', hst', h1.trans k1, h2, h3.trans k4, by rw [h4, push_ev, tg_append, k5]⟩

theorem psV3Connack_out (c : C) (p : Pkt) (hst : StoreTG c.s) :
    K (psV3Connack c p) = K c ∨
    (c.s.status = .connecting ∧ (psV3Connack c p).s.ver = c.s.ver ∧
      ∃ st', st' ≠ .connecting ∧ Tr c (psV3Connack c p) c.s.tar st' c.s.isClient (tg [.send p none])) :=
  connackSend_out (Fp.psV3Connack_guarded c p) rfl hst

theorem psV5Connack_out (c : C) (p : Pkt) (hst : StoreTG c.s) :
    K (psV5Connack c p) = K c ∨
    (c.s.status = .connecting ∧ (psV5Connack c p).s.ver = c.s.ver ∧
      ∃ st', st' ≠ .connecting ∧
        Tr c (psV5Connack c p) (if p.rc = some 0 then tamFold c.s.tar p.props else c.s.tar) st' c.s.isClient
          (tg [.send p none])) := by
  refine connackSend_out (Fp.psV5Connack_guarded c p) ?_ ?_
  · exact Fp.ite_ind (Q := fun r : C => K r = (if p.rc = some 0 then tamFold c.s.tar p.props else c.s.tar, (K c).2))
      (fun h => by rw [if_pos h]; exact k_fold_connackSendProp c _) (fun h => by rw [if_neg h]; rfl)
  · exact Fp.ite_ind (Q := fun r : C => StoreTG r.s) (fun _ => by rw [Fp.propsFold_connackSendProp_s]; exact hst)
      (fun _ => hst)

theorem notifyClosed_out (c : C) :
    (notifyClosed c).s.ver = c.s.ver ∧ Tr c (notifyClosed c) none .disconnected c.s.isClient [] := by
  have he : tg (notifyClosed c).ev = tg c.ev ++ [] :=
    (tg_emits ((Fp.notifyClosed_ev c).emits tgBase (by decide))).trans (List.append_nil _).symm
  refine ⟨?_, ?_, ?_, ?_, he⟩ <;> rw [Fp.notifyClosed_s_eq]

/-- the effect of a call that does not run the v5.0 PUBLISH receive handler on a parsed packet;
    `sp`: the packet handed to `send`, if the call is a `send`; `rcv`: the call is a `recv` -/
inductive Out (sp : Option Pkt) (rcv : Bool) (c c' : C) : Prop
  /-- nothing the invariants read changes, no ghost-relevant event -/
  | keep (h : Kt c' = Kt c)
  /-- `notify_closed` -/
  | closed (h : Tr c c' none .disconnected c.s.isClient [])
  /-- a CONNECT is accepted for sending: the table is created afresh from its properties -/
  | connectSent (p : Pkt) (hsp : sp = some p) (hk : p.kind = .connect) (hv : c.s.ver = p.ver) (hs : c.s.status = .disconnected)
      (h : Tr c c' (if p.ver = 4 then none else tamFold none p.props) .connecting true (tg [.send p none]))
  /-- a CONNACK is accepted for sending -/
  | connackSent (p : Pkt) (st' : Status) (hsp : sp = some p) (hk : p.kind = .connack) (hv : c.s.ver = p.ver)
      (hs : c.s.status = .connecting) (hst' : st' ≠ .connecting)
      (h : Tr c c' (if p.ver ≠ 4 ∧ p.rc = some 0 then tamFold c.s.tar p.props else c.s.tar) st' c.s.isClient
        (tg [.send p none]))
  /-- a CONNECT is delivered -/
  | connectRecv (p : Pkt) (hr : rcv = true) (hk : p.kind = .connect) (hs : c.s.status = .disconnected)
      (h : Tr c c' none .connecting false [.recv p])
  /-- a CONNECT that does not parse arrives while the peer's Maximum Packet Size (still in force:
      no `notify_closed` since) does not admit the 5-byte error CONNACK: the status stays
      `connecting`, nothing else is reset -/
  | connectErr (hr : rcv = true) (hs : c.s.status = .disconnected) (hm : c.s.mpsSend < 5)
      (h : Tr c c' c.s.tar .connecting c.s.isClient [])
  /-- a successful CONNACK is delivered: the receive table is NOT touched -/
  | connackRecv (p : Pkt) (hr : rcv = true) (hk : p.kind = .connack) (hrc : p.rc = some 0) (hs : c.s.status ≠ .connected)
      (h : Tr c c' c.s.tar .connected c.s.isClient [.recv p])

theorem Out.of_K {sp : Option Pkt} {rcv : Bool} {c c' : C} (h : K c' = K c) : Out sp rcv c c' := .keep (Kt_of_K h)

theorem tg_send_pos {p : Pkt} {r : Option Nat} (h : tgSend p = true) : tg [.send p r] = [.send p r] := by simp [h]
theorem tg_send_neg {p : Pkt} {r : Option Nat} (h : tgSend p = false) : tg [.send p r] = [] := by simp [h]
theorem tg_recv_connect {p : Pkt} (hk : p.kind = .connect) : tg [.recv p] = [.recv p] := by
  simp [tgRecv, hk]
theorem tg_recv_connack {p : Pkt} (hk : p.kind = .connack) (hrc : p.rc = some 0) : tg [.recv p] = [.recv p] := by
  simp [tgRecv, hk, hrc]

theorem Out.congr {sp : Option Pkt} {rcv : Bool} {c1 c c' : C} (h : Out sp rcv c1 c') (h1 : c1.s.tar = c.s.tar)
    (h2 : c1.s.status = c.s.status) (h3 : c1.s.isClient = c.s.isClient) (h4 : c1.s.mpsSend = c.s.mpsSend)
    (h5 : ∀ p, sp = some p → c1.s.ver = c.s.ver) (h6 : c1.ev = c.ev) : Out sp rcv c c' := by
  have hk : Kt c1 = Kt c := by simp [Kt, h1, h2, h3, h6]
  cases h with
  | keep h => exact .keep (h.trans hk)
  | closed h => exact .closed ⟨h.tar, h.st, h3 ▸ h.ic, h6 ▸ h.ev⟩
  | connectSent p hsp hk hv hs h => exact .connectSent p hsp hk (h5 p hsp ▸ hv) (h2 ▸ hs) ⟨h.tar, h.st, h.ic, h6 ▸ h.ev⟩
  | connackSent p st' hsp hk hv hs hst' h =>
    exact .connackSent p st' hsp hk (h5 p hsp ▸ hv) (h2 ▸ hs) hst' ⟨h1 ▸ h.tar, h.st, h3 ▸ h.ic, h6 ▸ h.ev⟩
  | connectRecv p hr hk hs h => exact .connectRecv p hr hk (h2 ▸ hs) ⟨h.tar, h.st, h.ic, h6 ▸ h.ev⟩
  | connectErr hr hs hm h => exact .connectErr hr (h2 ▸ hs) (h4 ▸ hm) ⟨h1 ▸ h.tar, h.st, h3 ▸ h.ic, h6 ▸ h.ev⟩
  | connackRecv p hr hk hrc hs h => exact .connackRecv p hr hk hrc (h2 ▸ hs) ⟨h1 ▸ h.tar, h.st, h3 ▸ h.ic, h6 ▸ h.ev⟩

/-! ## CONNECT / CONNACK received -/

theorem tg_v5ConnectErr (e : Nat) : tgSend (mkV5Connack (v5ConnectErrRc e)) = false := by
  simp [tgSend, mkV5Connack, v5ConnectErrRc_ne_zero]

/-- the end of a received CONNECT, `c2` being the connection set up afresh, the session settled -/
theorem connectAccepted {c c2 : C} (p : Pkt)
    (h : (c2.s.tar, c2.s.status, c2.s.isClient) = (none, Status.connecting, false)) (he : tg c2.ev = tg c.ev) :
    Tr c ((refreshPingreqRecv c2).push (.recv p)) none .connecting false (tg [.recv p]) := by
  simp only [Prod.mk.injEq] at h
  obtain ⟨h1, h2, h3⟩ := h
  refine ⟨?_, ?_, ?_, ?_⟩
  · rw [push_s, Fp.refreshPingreqRecv_s]; exact h1
  · rw [push_s, Fp.refreshPingreqRecv_s]; exact h2
  · rw [push_s, Fp.refreshPingreqRecv_s]; exact h3
  · rw [push_ev, tg_append, tg_emits ((Fp.refreshPingreqRecv_ev c2).emits tgBase (by decide)), he]

theorem tgRecv_refusal {p : Pkt} (hk : p.kind = .connack) (hrc : p.rc ≠ some 0) : tgRecv p = false := by
  simp [tgRecv, hk, hrc]

theorem accepting_tr (c : C) (ka : Nat) :
    ((Fp.accepting c ka).s.tar, (Fp.accepting c ka).s.ver, (Fp.accepting c ka).s.status, (Fp.accepting c ka).s.isClient) =
      (none, c.s.ver, Status.connecting, false) ∧ (Fp.accepting c ka).ev = c.ev :=
  ⟨rfl, rfl⟩

/-- A CONNECT that is received.  Settling the session keeps `K` and the status.  The refusing CONNACK, sent from
    `connecting`, does as much as setting the status to `disconnected` — or only reports that the peer's Maximum Packet
    Size does not admit it, and the status stays `connecting`. -/
theorem connectIn_res {c : C} {x : Except Nat Pkt} {busy : C} {nack : C → Nat → C} {settle : Pkt → C → C}
    (hx : ∀ p, x = .ok p → p.kind = .connect) (hb : K busy = K c)
    (hn : ∀ c' e, c'.s.status = .connecting →
      K (nack c' e) = K { c' with s := { c'.s with status := .disconnected } } ∨
        (c'.s.mpsSend < 5 ∧ nack c' e = c'.err eTooLarge))
    (hs : ∀ p c', K (settle p c') = K c' ∧ (settle p c').s.status = c'.s.status) :
    (Fp.connectIn c x busy nack settle).s.ver = c.s.ver ∧ Out none true c (Fp.connectIn c x busy nack settle) := by
  have keep : ∀ {r : C}, K r = K c → r.s.ver = c.s.ver ∧ Out none true c r := fun h => ⟨ver_of_K h, .of_K h⟩
  refine Fp.connectIn_ind (Q := fun r => r.s.ver = c.s.ver ∧ Out none true c r) (fun _ => keep hb)
    (fun hd e _ => ?_) (fun hd p hp => ?_)
  · rcases hn { c with s := { c.s with status := .connecting } } e rfl with hk | ⟨hm, hq⟩
    · refine keep ((k_err _ e).trans (hk.trans ?_))
      unfold K
      rw [hd]
    · rw [hq]
      exact ⟨rfl, .connectErr rfl hd hm
        ⟨rfl, rfl, rfl, (tg_emits (((Emits.refl c).err tgBase _).err tgBase e)).trans (List.append_nil _).symm⟩⟩
  · obtain ⟨hk, hst⟩ := hs p (Fp.accepting c p.keepAlive)
    obtain ⟨k1, k2, -, k4, k5⟩ := K_inj hk
    obtain ⟨ha, hae⟩ := accepting_tr c p.keepAlive
    simp only [Prod.mk.injEq] at ha
    obtain ⟨a1, a2, a3, a4⟩ := ha
    have hkc := hx p hp
    refine ⟨?_, .connectRecv p rfl hkc hd ?_⟩
    · rw [push_s, Fp.refreshPingreqRecv_s]
      exact k2.trans a2
    · rw [← tg_recv_connect hkc]
      exact connectAccepted p (by rw [k1, hst, k4, a1, a3, a4]) (by rw [k5, hae])

theorem prV3Connect_res (c : C) (x : Except Nat Pkt) (hx : ∀ p, x = .ok p → p.kind = .connect) :
    (prV3Connect c x).s.ver = c.s.ver ∧ Out none true c (prV3Connect c x) := by
  rw [Fp.prV3Connect_eq]
  refine connectIn_res hx (k_handleV3Error c _) (fun c' e hc => .inl ?_)
    fun _ c' => Fp.ite_both (Q := fun r : C => K r = K c' ∧ r.s.status = c'.s.status) ⟨rfl, rfl⟩ ⟨rfl, rfl⟩
  have hrc : (mkV3Connack (v3ConnectErrRc e)).rc ≠ some 0 := by simp [mkV3Connack, v3ConnectErrRc_ne_zero]
  refine K_emits ?_ ((Fp.psV3Connack_orCloses tgBase.quiet c' _ (fun _ => tg_mkV3Connack _) (fun _ => tg_mkV3Connack _)
    fun h => absurd h hrc).emits' tgBase).congr_left
  rw [Fp.psV3Connack_eq, if_neg (not_not_intro hc)]
  exact connackTail_refuse _ _ hrc

theorem prV5Connect_res (c : C) (x : Except Nat Pkt) (hx : ∀ p, x = .ok p → p.kind = .connect) :
    (prV5Connect c x).s.ver = c.s.ver ∧ Out none true c (prV5Connect c x) := by
  rw [Fp.prV5Connect_eq]
  refine connectIn_res hx (k_handleV5Error c _) (fun c' e hc => ?_) fun p c' =>
    ⟨(k_fold_connectRecvProp _ _).trans ?_, ?_⟩
  · by_cases hsz : c'.s.mpsSend < 5
    · have : (!sizeOk c' (mkV5Connack (v5ConnectErrRc e))) = true := by
        simp [sizeOk, Pkt.sz, mkV5Connack]; omega
      exact .inr ⟨hsz, by rw [Fp.psV5Connack_eq, if_pos this]⟩
    · have : ¬ (!sizeOk c' (mkV5Connack (v5ConnectErrRc e))) = true := by
        simp [sizeOk, Pkt.sz, mkV5Connack]; omega
      have hrc : (mkV5Connack (v5ConnectErrRc e)).rc ≠ some 0 := by simp [mkV5Connack, v5ConnectErrRc_ne_zero]
      refine .inl (K_emits ?_ ((Fp.psV5Connack_orCloses tgBase.quiet c' _ (fun _ _ => tg_v5ConnectErr e)
        (fun _ _ => tg_v5ConnectErr e) fun h => absurd h hrc).emits' tgBase).congr_left)
      rw [Fp.psV5Connack_eq, if_neg this, if_neg (not_not_intro hc), if_neg hrc]
      exact connackTail_refuse _ _ hrc
  · exact Fp.ite_both (Q := fun r : C => K r = K c') rfl rfl
  · rw [Fp.propsFold_connectRecvProp_s]
    exact Fp.ite_both (Q := fun r : C => r.s.status = c'.s.status) rfl rfl

/-- A CONNACK that is received: applying the properties keeps `K`, the status and `StoreTG`; a successful CONNACK
    establishes the connection and leaves the receive table alone. -/
theorem connackIn_res {c : C} {x : Except Nat Pkt} {busy : C} {bad : Nat → C} {props : Pkt → C → C}
    (hx : ∀ p, x = .ok p → p.kind = .connack) (hst : StoreTG c.s) (hb : K busy = K c) (he : ∀ e, K (bad e) = K c)
    (hp : ∀ p c', K (props p c') = K c' ∧ (props p c').s.status = c'.s.status ∧ (StoreTG c'.s → StoreTG (props p c').s)) :
    (Fp.connackIn c x busy bad props).s.ver = c.s.ver ∧ Out none true c (Fp.connackIn c x busy bad props) := by
  have keep : ∀ {r : C}, K r = K c → r.s.ver = c.s.ver ∧ Out none true c r := fun h => ⟨ver_of_K h, .of_K h⟩
  have acc : ∀ {r : C} p, x = .ok p → p.rc = some 0 → c.s.status ≠ .connected →
      K r = K ({ c with s := { c.s with status := .connected } } : C) → r.s.status = .connected →
      (r.push (.recv p)).s.ver = c.s.ver ∧ Out none true c (r.push (.recv p)) := by
    intro r p hpx hrc hs hk hr
    obtain ⟨k1, k2, -, k4, k5⟩ := K_inj hk
    refine ⟨k2, .connackRecv p rfl (hx p hpx) hrc hs ?_⟩
    rw [← tg_recv_connack (hx p hpx) hrc]
    exact ⟨k1, hr, k4, by rw [push_ev, tg_append, k5]⟩
  refine Fp.connackIn_ind (Q := fun r => r.s.ver = c.s.ver ∧ Out none true c r) (fun _ => keep hb) (fun _ e _ => keep (he e))
    (fun _ p hpx hrc => keep (k_push c _ (tgRecv_refusal (hx p hpx) hrc)))
    (fun hs p hpx hrc _ => ?_) (fun hs p hpx hrc _ => ?_)
  · obtain ⟨h1, h2, h3⟩ := hp p { c with s := { c.s with status := .connected } }
    exact acc p hpx hrc hs ((k_resendStored _ (h3 hst)).trans h1) ((resendStored_status _).trans h2)
  · obtain ⟨h1, h2, -⟩ := hp p { c with s := { c.s with status := .connected } }
    exact acc p hpx hrc hs h1 h2

theorem prV3Connack_res (c : C) (x : Except Nat Pkt) (hx : ∀ p, x = .ok p → p.kind = .connack) (hst : StoreTG c.s) :
    (prV3Connack c x).s.ver = c.s.ver ∧ Out none true c (prV3Connack c x) :=
  Fp.prV3Connack_eq c x ▸ connackIn_res hx hst (k_handleV3Error c _) (k_handleV3Error c) fun _ _ => ⟨rfl, rfl, id⟩

theorem prV5Connack_res (c : C) (x : Except Nat Pkt) (hx : ∀ p, x = .ok p → p.kind = .connack) (hst : StoreTG c.s) :
    (prV5Connack c x).s.ver = c.s.ver ∧ Out none true c (prV5Connack c x) :=
  Fp.prV5Connack_eq c x ▸ connackIn_res hx hst (k_handleV5Error c _) (k_err c) fun _ _ =>
    ⟨k_fold_connackRecvProp _ _, connackRecvProp_status _ _, storeTG_connackRecvProps _ _⟩

/-! ## `send` -/

theorem send_out (c : C) (p : Pkt) (hst : StoreTG c.s) :
    (send c p).s.ver = c.s.ver ∧ Out (some p) false c (send c p) := by
  have keep : ∀ {c' : C}, K c' = K c → c'.s.ver = c.s.ver ∧ Out (some p) false c c' :=
    fun h => ⟨ver_of_K h, .of_K h⟩
  have key := @Fp.ite_ind C (fun c' => c'.s.ver = c.s.ver ∧ Out (some p) false c c')
  refine Fp.send_cases (Q := fun c' => c'.s.ver = c.s.ver ∧ Out (some p) false c c') c p
    (fun _ => keep (k_refuseSend _ _ _)) (fun _ _ => keep (k_refuseSend _ _ _)) (fun hv _ => ?_)
  by_cases h1 : p.kind = .connect
  · rw [Fp.processSend_connect c h1]
    refine key (fun h4 => ?_) (fun h4 => ?_)
    · rcases psV3Connect_out c p with h | ⟨hs, hver, h⟩
      · exact keep h
      · exact ⟨hver, .connectSent p rfl h1 hv hs (by rw [if_pos h4]; exact h)⟩
    · rcases psV5Connect_out c p with h | ⟨hs, hver, h⟩
      · exact keep h
      · exact ⟨hver, .connectSent p rfl h1 hv hs (by rw [if_neg h4]; exact h)⟩
  by_cases h2 : p.kind = .connack
  · rw [Fp.processSend_connack c h2]
    refine key (fun h4 => ?_) (fun h4 => ?_)
    · rcases psV3Connack_out c p hst with h | ⟨hs, hver, st', hst', h⟩
      · exact keep h
      · exact ⟨hver, .connackSent p st' rfl h2 hv hs hst' (by rw [if_neg (fun h => h.1 h4)]; exact h)⟩
    · rcases psV5Connack_out c p hst with h | ⟨hs, hver, st', hst', h⟩
      · exact keep h
      · refine ⟨hver, .connackSent p st' rfl h2 hv hs hst' ?_⟩
        by_cases hrc : p.rc = some 0
        · rw [if_pos ⟨h4, hrc⟩]; rw [if_pos hrc] at h; exact h
        · rw [if_neg (fun h => hrc h.2)]; rw [if_neg hrc] at h; exact h
  exact keep (k_processSend_other c p h1 h2)

/-! ## `recv` -/

def okOf : Except Nat Pkt → Option Pkt
  | .ok p => some p
  | .error _ => none

/-- the result of the packet handlers: `pi` — the parsed PUBLISH handed to the v5.0 PUBLISH handler -/
def Res (pi : Option Pkt) (sp : Option Pkt) (rcv : Bool) (c c' : C) : Prop :=
  match pi with
  | some p => Kt c' = (aliasTar c.s.tar p, (Kt c).2)
  | none => Out sp rcv c c'

theorem dispatchRecv_out (c : C) (t : Nat) (x : Except Nat Pkt)
    (hx : ∀ p, x = .ok p → p.kind.nibble = t) (hst : StoreTG c.s) :
    (dispatchRecv c t x).s.ver = c.s.ver ∧
    Res (if t = 3 ∧ c.s.ver ≠ 4 then okOf x else none) none true c (dispatchRecv c t x) := by
  have hk : t ≠ 1 → t ≠ 2 → ∀ p, x = .ok p → tgRecv p = false := fun h1 h2 p hp =>
    tgRecv_kind ((kind_of_nibble (hx p hp)).2.2.2.1 h1) ((kind_of_nibble (hx p hp)).2.2.2.2 h2)
  have out : ∀ {c' : C}, ¬ (t = 3 ∧ c.s.ver ≠ 4) → c'.s.ver = c.s.ver → Out none true c c' →
      c'.s.ver = c.s.ver ∧ Res (if t = 3 ∧ c.s.ver ≠ 4 then okOf x else none) none true c c' :=
    fun h3 hv ho => ⟨hv, by rw [if_neg h3]; exact ho⟩
  have keep : ∀ {c' : C}, ¬ (t = 3 ∧ c.s.ver ≠ 4) → K c' = K c →
      c'.s.ver = c.s.ver ∧ Res (if t = 3 ∧ c.s.ver ≠ 4 then okOf x else none) none true c c' :=
    fun h3 h => out h3 (ver_of_K h) (.of_K h)
  by_cases h3 : t = 3
  · -- PUBLISH: the v5.0 handler is the one call that changes the receive table
    subst h3
    show (if c.s.ver = 4 then prV3Publish c x else prV5Publish c x).s.ver = _ ∧
      Res _ none true c (if c.s.ver = 4 then prV3Publish c x else prV5Publish c x)
    by_cases h4 : c.s.ver = 4
    · rw [if_pos h4]
      exact keep (fun h => h.2 h4) (k_prV3Publish c x (hk (by decide) (by decide)))
    · rw [if_neg h4, if_pos ⟨rfl, h4⟩]
      cases x with
      | error e => exact ⟨ver_of_K (k_prV5Publish_err c e), .of_K (k_prV5Publish_err c e)⟩
      | ok p =>
        have h := k_prV5Publish c p ((kind_of_nibble (hx p rfl)).2.2.1 rfl)
        simp only [K, Prod.mk.injEq] at h
        obtain ⟨k1, k2, k3, k4, k5⟩ := h
        exact ⟨k2, by simp only [okOf, Res, Kt, Prod.mk.injEq]; exact ⟨k1, k3, k4, k5⟩⟩
  have n3 : ¬ (t = 3 ∧ c.s.ver ≠ 4) := fun h => h3 h.1
  have hkk : t = 2 → ∀ p, x = .ok p → p.kind = .connack := fun ht p hp => (kind_of_nibble (hx p hp)).2.1 ht
  refine Fp.dispatchRecv_cases (Q := fun c' => c'.s.ver = c.s.ver ∧
      Res (if t = 3 ∧ c.s.ver ≠ 4 then okOf x else none) none true c c') c t x
    (fun ht _ => ?_) (fun ht _ => ?_) (fun ht _ => ?_) (fun ht _ => ?_) (fun ht => absurd ht h3) (fun ht => absurd ht h3)
    (fun ht => keep n3 (k_prPuback c x (hk (by omega) (by omega))))
    (fun ht => keep n3 (k_prPubrec c x (hk (by omega) (by omega))))
    (fun ht => keep n3 (k_prPubrel c x (hk (by omega) (by omega))))
    (fun ht => keep n3 (k_prPubcomp c x (hk (by omega) (by omega))))
    (fun ht => keep n3 (k_prPlain c x (hk (by omega) (by omega))))
    (fun ht => keep n3 (k_prSubUnsuback c true x (hk (by omega) (by omega))))
    (fun ht => keep n3 (k_prSubUnsuback c false x (hk (by omega) (by omega))))
    (fun ht => keep n3 (k_prPingreq c x (hk (by omega) (by omega))))
    (fun ht => keep n3 (k_prPingresp c x (hk (by omega) (by omega))))
    (fun ht => keep n3 (k_prDisconnect c x (hk (by omega) (by omega)))) (fun _ => keep n3 (k_err c _))
  · exact (prV3Connect_res c x fun p hp => (kind_of_nibble (hx p hp)).1 ht).elim (out n3)
  · exact (prV5Connect_res c x fun p hp => (kind_of_nibble (hx p hp)).1 ht).elim (out n3)
  · exact (prV3Connack_res c x (hkk ht) hst).elim (out n3)
  · exact (prV5Connack_res c x (hkk ht) hst).elim (out n3)

/-- the protocol version never changes once determined; the first CONNECT determines it -/
def VerStep (a b : Nat) : Prop := b = a ∨ (a = 0 ∧ (b = 4 ∨ b = 5))

theorem VerStep.known {a b : Nat} (h : VerStep a b) (ha : a = 0 ∨ a = 4 ∨ a = 5) : b = 0 ∨ b = 4 ∨ b = 5 := by
  rcases h with h | ⟨-, h | h⟩
  · exact h ▸ ha
  · exact .inr (.inl h)
  · exact .inr (.inr h)

theorem VerStep.five {a b : Nat} (h : VerStep a b) (ha : a = 5) : b = 5 :=
  h.elim (· ▸ ha) fun h => nomatch ha.symm.trans h.1

/-- the parsed packet `process_recv_packet` hands to the v5.0 PUBLISH handler, if any: the frame is
    within the Maximum Packet Size we announced, the version is determined and not v3.1.1, the type
    nibble says PUBLISH, and the parser succeeds -/
def pubInFrame (s : St) (fh : Nat) (data : List Nat) (parse : Nat → Except Nat Pkt) : Option Pkt :=
  if totalSize data.length ≤ s.mpsRecv ∧ s.ver ≠ 0 ∧ fh / 16 = 3 ∧ s.ver ≠ 4 then okOf (parse s.ver) else none

theorem processRecvPacket_out (c : C) (fh : Nat) (data : List Nat) (parse : Nat → Except Nat Pkt)
    (hx : ∀ v p, parse v = .ok p → p.kind.nibble = fh / 16) (hst : StoreTG c.s) :
    VerStep c.s.ver (processRecvPacket c fh data parse).s.ver ∧
    Res (pubInFrame c.s fh data parse) none true c (processRecvPacket c fh data parse) := by
  have keep : ∀ {c' : C}, K c' = K c → pubInFrame c.s fh data parse = none →
      VerStep c.s.ver c'.s.ver ∧ Res (pubInFrame c.s fh data parse) none true c c' := by
    intro c' h hn
    rw [hn]
    exact ⟨.inl (ver_of_K h), .of_K h⟩
  have first : c.s.ver = 0 → ∀ {c' : C}, VerStep c.s.ver c'.s.ver ∧ Out none true c c' →
      VerStep c.s.ver c'.s.ver ∧ Res (pubInFrame c.s fh data parse) none true c c' := by
    intro h0 c' h
    rw [show pubInFrame c.s fh data parse = none from if_neg (fun h => h.2.1 h0)]
    exact h
  refine Fp.processRecvPacket_cases
    (Q := fun c' => VerStep c.s.ver c'.s.ver ∧ Res (pubInFrame c.s fh data parse) none true c c') c fh data parse
    (fun hsz => keep ((k_err _ _).trans (k_v5DisconnectOrClose c _ (tg_mkV5Disconnect _)))
      (if_neg (fun h => absurd h.1 (Nat.not_le.mpr hsz))))
    (fun e _ hr => keep (k_err c e) (if_neg fun h => hr.elim (fun hc => ?_) (fun h0 => h.2.1 h0.2.1)))
    (fun _ _ h0 h1 _ _ => first h0 ?_) (fun _ _ h0 h1 _ _ => first h0 ?_) (fun hsz _ h0 => ?_)
  · simp [canReceive, h.2.2.1] at hc
  · obtain ⟨hver, h⟩ := prV3Connect_res { c with s := { c.s with ver := 4 } } (parse 4)
      fun p hp => (kind_of_nibble (hx 4 p hp)).1 h1
    exact ⟨.inr ⟨h0, .inl hver⟩, h.congr rfl rfl rfl rfl (fun _ k => nomatch k) rfl⟩
  · obtain ⟨hver, h⟩ := prV5Connect_res { c with s := { c.s with ver := 5 } } (parse 5)
      fun p hp => (kind_of_nibble (hx 5 p hp)).1 h1
    exact ⟨.inr ⟨h0, .inr hver⟩, h.congr rfl rfl rfl rfl (fun _ k => nomatch k) rfl⟩
  · have h := dispatchRecv_out c (fh / 16) (parse c.s.ver) (fun p hp => hx _ p hp) hst
    refine ⟨.inl h.1, ?_⟩
    have e : pubInFrame c.s fh data parse = if fh / 16 = 3 ∧ c.s.ver ≠ 4 then okOf (parse c.s.ver) else none :=
      ite_congr (propext ⟨fun h => h.2.2, fun h => ⟨hsz, h0, h⟩⟩) (fun _ => rfl) fun _ => rfl
    rw [e]
    exact h.2

/-- the parser answers with the packet type of the frame it was given -/
def ParseK (parse : Nat → Nat → List Nat → Except Nat Pkt) : Prop :=
  ∀ v fh d p, parse v fh d = .ok p → p.kind.nibble = fh / 16

/-- the parsed packet a `recv` call hands to the v5.0 PUBLISH handler, if any -/
def pubIn (s : St) : Op → Option Pkt
  | .recv inp parse =>
    match (Framing.feed s.pb inp).2.1 with
    | some (.complete fh data) => pubInFrame s fh data (fun v => parse v fh data)
    | _ => none
  | _ => none

theorem pubIn_feed {s : St} {inp : List Nat} {parse : Nat → Nat → List Nat → Except Nat Pkt}
    {r : Framing.PB × Option Framing.Out × List Nat} (h : Framing.feed s.pb inp = r) :
    pubIn s (.recv inp parse) = match r.2.1 with
      | some (.complete fh data) => pubInFrame s fh data (fun v => parse v fh data)
      | _ => none := h ▸ rfl

theorem recv_out (c : C) (inp : List Nat) (parse : Nat → Nat → List Nat → Except Nat Pkt) (hp : ParseK parse)
    (hst : StoreTG c.s) :
    VerStep c.s.ver (recv c inp parse).1.s.ver ∧ Res (pubIn c.s (.recv inp parse)) none true c (recv c inp parse).1 := by
  refine Fp.recv_cases (Q := fun c' => VerStep c.s.ver c'.s.ver ∧ Res (pubIn c.s (.recv inp parse)) none true c c')
    c inp parse (fun pb rest hf => ?_) (fun pb fh data rest hf => ?_) (fun pb rest hf => ?_)
  · rw [pubIn_feed hf]; exact ⟨.inl rfl, Out.keep rfl⟩
  · rw [pubIn_feed hf]
    have h := processRecvPacket_out { c with s := { c.s with pb := pb } } fh data (fun v => parse v fh data)
      (fun v p h => hp v fh data p h) hst
    refine ⟨h.1, ?_⟩
    have h2 : Res (pubInFrame c.s fh data (fun v => parse v fh data)) none true { c with s := { c.s with pb := pb } } _ :=
      h.2
    revert h2
    dsimp only
    cases pubInFrame c.s fh data (fun v => parse v fh data) with
    | none => exact fun h2 => h2.congr rfl rfl rfl rfl (fun _ _ => rfl) rfl
    | some p => exact fun h2 => h2
  · rw [pubIn_feed hf]
    exact ⟨.inl (by rw [err_s, push_s, Fp.cancelTimers_s]),
      Out.of_K ((k_err _ _).trans ((k_push _ _ rfl).trans (k_cancelTimers _)))⟩

def sentOf : Op → Option Pkt
  | .send p => some p
  | _ => none

def isRecvOp : Op → Bool
  | .recv _ _ => true
  | _ => false

theorem sentOf_eq {op : Op} {p : Pkt} (h : sentOf op = some p) : op = .send p := by
  cases op with
  | send q => exact congrArg Op.send (Option.some.inj h)
  | _ => cases h

theorem isRecvOp_eq {op : Op} (h : isRecvOp op = true) : ∃ inp parse, op = .recv inp parse := by
  cases op with
  | recv inp parse => exact ⟨inp, parse, rfl⟩
  | _ => cases h

/-- **every call**: either the v5.0 PUBLISH handler ran on the parsed packet `pubIn s op` and only the
    receive table changed, exactly as the alias stage says; or one of the effects of `Out` -/
theorem step_out (cfg : Cfg) (s : St) (op : Op) (hp : ∀ inp parse, op = .recv inp parse → ParseK parse)
    (hst : StoreTG s) :
    VerStep s.ver (step cfg s op).s.ver ∧ Res (pubIn s op) (sentOf op) (isRecvOp op) { cfg := cfg, s := s } (step cfg s op) := by
  cases op with
  | send p => have h := send_out { cfg := cfg, s := s } p hst; exact ⟨.inl h.1, h.2⟩
  | recv inp parse => exact recv_out { cfg := cfg, s := s } inp parse (hp inp parse rfl) hst
  | timer k => exact ⟨.inl (ver_of_K (k_notifyTimerFired _ k)), .of_K (k_notifyTimerFired _ k)⟩
  | closed => have h := notifyClosed_out { cfg := cfg, s := s }; exact ⟨.inl h.1, .closed h.2⟩
  | setInterval d => exact ⟨.inl (ver_of_K (k_setPingreqSendInterval _ d)), .of_K (k_setPingreqSendInterval _ d)⟩
  | setFlag f b => exact ⟨.inl (by cases f <;> rfl), .keep (by cases f <;> rfl)⟩
  | setRespTimeout ms => exact ⟨.inl rfl, .keep rfl⟩
  | acquire => exact ⟨.inl rfl, .keep rfl⟩
  | register id => exact ⟨.inl rfl, .keep rfl⟩
  | release id => exact ⟨.inl (ver_of_K (k_releasePacketId _ id)), .of_K (k_releasePacketId _ id)⟩
  | erase id => exact ⟨.inl (ver_of_K (k_eraseStoredPublish _ id)), .of_K (k_eraseStoredPublish _ id)⟩
  | restoreHandled ids => exact ⟨.inl rfl, .keep rfl⟩
  | restorePackets ps => exact ⟨.inl (ver_of_K (k_restorePackets ps _)), .of_K (k_restorePackets ps _)⟩

theorem processRecvPacket_pub (c : C) (fh : Nat) (data : List Nat) (parse : Nat → Except Nat Pkt)
    (h : totalSize data.length ≤ c.s.mpsRecv ∧ c.s.ver ≠ 0 ∧ fh / 16 = 3 ∧ c.s.ver ≠ 4) :
    processRecvPacket c fh data parse = prV5Publish c (parse c.s.ver) := by
  obtain ⟨h1, h2, h3, h4⟩ := h
  have hcr : (!canReceive c.cfg c.s (fh / 16)) = false := by simp [canReceive, h3]
  unfold processRecvPacket
  rw [if_neg (Nat.not_lt.2 h1)]
  dsimp only
  rw [hcr, if_neg Bool.false_ne_true, if_neg h2, h3]
  exact if_neg h4

/-- when `pubIn s op = some p` the call IS the v5.0 PUBLISH receive handler on `p` (on the state with
    the advanced frame assembler) -/
theorem step_pubIn_eq (cfg : Cfg) (s : St) (op : Op) (p : Pkt) (h : pubIn s op = some p) :
    ∃ pb, step cfg s op = prV5Publish { cfg := cfg, s := { s with pb := pb } } (.ok p) := by
  cases op with
  | recv inp parse =>
    refine Fp.recv_cases (Q := fun c' => ∃ pb, c' = prV5Publish { cfg := cfg, s := { s with pb := pb } } (.ok p))
      { cfg := cfg, s := s } inp parse (fun pb rest hf => ?_) (fun pb fh data rest hf => ?_) (fun pb rest hf => ?_)
    · rw [pubIn_feed hf] at h; cases h
    · rw [pubIn_feed hf] at h
      refine ⟨pb, ?_⟩
      by_cases hc : totalSize data.length ≤ s.mpsRecv ∧ s.ver ≠ 0 ∧ fh / 16 = 3 ∧ s.ver ≠ 4
      · rw [processRecvPacket_pub _ _ _ _ hc]
        have h : okOf (parse s.ver fh data) = some p := (if_pos hc).symm.trans h
        cases hx : parse s.ver fh data with
        | error e => rw [hx] at h; cases h
        | ok q => rw [hx] at h; rw [Option.some.inj h]
      · exact nomatch (if_neg hc).symm.trans h
    · rw [pubIn_feed hf] at h; cases h
  | _ => simp [pubIn] at h

end MqttVerif.Conn.TarGhost
