import MqttVerif.Monitors
import MqttVerif.Alloc.Lemmas
import MqttVerif.Conn.Lemmas.FootprintSites
import MqttVerif.Conn.Lemmas.Projections
/-!
# What C12 and C13 observe of a call

`St.core` collects the fields the Receive-Maximum and Topic-Alias properties depend on; of `panic` it keeps `cpOf`,
whether one of the two `publish_send_count += 1` sites was reached.  No other site changes that flag
(`Fp.Raises.cp`, with `dealloc_site` for the sites of the identifier allocator).  `pubs` are the v5.0 PUBLISH packets
among the events of a call; a call that emits none of them keeps it (`Emits.pubs_eq`, `Appends.pubs_eq`).
-/
set_option linter.unusedSimpArgs false
set_option linter.unusedVariables false
namespace MqttVerif.Conn
open MqttVerif

def siteStored : String := "core.rs:send_stored:publish_send_count+=1"
def sitePublish : String := "core.rs:process_send_v5_0_publish:publish_send_count+=1"

/-- the sticky panic was raised at one of the two `publish_send_count += 1` sites -/
def cpOf (o : Option String) : Bool := o = some siteStored ∨ o = some sitePublish

structure Core where
  ver : Nat
  tas : Option TAS
  tar : Option TAR
  store : List (Nat × Pkt)
  sendMax : Option Nat
  sendCount : Nat
  puback : List Nat
  pubrec : List Nat
  pubcomp : List Nat
  publishRecv : List Nat
  recvMax : Option Nat
  status : Status
  needStore : Bool
  cp : Bool

def St.core (s : St) : Core :=
  { ver := s.ver, tas := s.tas, tar := s.tar, store := s.store, sendMax := s.sendMax,
    sendCount := s.sendCount, puback := s.puback, pubrec := s.pubrec, pubcomp := s.pubcomp,
    publishRecv := s.publishRecv, recvMax := s.recvMax, status := s.status,
    needStore := s.needStore, cp := cpOf s.panic }

open Lean in
/-- `core_fields thm binders : lhs ~ rhs skip [f₁ …] := proof` where
    `proof : lhs.core = rhs.core`: one `@[simp]` lemma `thm_f : lhs.f = rhs.f` per core field
    not listed after `skip`. -/
macro "core_fields " thm:ident bs:bracketedBinder* " : " lhs:term " ~ " rhs:term
    " skip " "[" sk:ident,* "]" " := " prf:term : command => do
  let flds := #["ver", "tas", "tar", "store", "sendMax", "sendCount", "puback", "pubrec", "pubcomp",
    "publishRecv", "recvMax", "status", "needStore", "cp"]
  let skipped := sk.getElems.map (·.getId.toString)
  let mut cmds : Array Syntax := #[]
  for fld in flds do
    if skipped.contains fld then continue
    let nm := mkIdent (thm.getId.appendAfter ("_" ++ fld))
    let stp := mkIdent (`MqttVerif.Conn.St ++ Name.mkSimple fld)
    let cpj := mkIdent (`MqttVerif.Conn.Core ++ Name.mkSimple fld)
    let cmd ← if fld == "cp" then
        `(@[simp] theorem $nm $bs* : cpOf (St.panic $lhs) = cpOf (St.panic $rhs) := by
          have h := $prf
          exact congrArg $cpj h)
      else
        `(@[simp] theorem $nm $bs* : $stp $lhs = $stp $rhs := by
          have h := $prf
          exact congrArg $cpj h)
    cmds := cmds.push cmd
  return ⟨mkNullNode cmds⟩

def pubsOf : Ev → List Pkt
  | .send p _ => if p.ver = 5 ∧ p.kind = .publish then [p] else []
  | _ => []

def pubs : List Ev → List Pkt
  | [] => []
  | e :: rest => pubsOf e ++ pubs rest

@[simp] theorem pubsOf_recv (p : Pkt) : pubsOf (.recv p) = [] := rfl
@[simp] theorem pubsOf_released (i : Nat) : pubsOf (.released i) = [] := rfl
@[simp] theorem pubsOf_timerReset (k : Timer) (ms : Nat) : pubsOf (.timerReset k ms) = [] := rfl
@[simp] theorem pubsOf_timerCancel (k : Timer) : pubsOf (.timerCancel k) = [] := rfl
@[simp] theorem pubsOf_error (e : Nat) : pubsOf (.error e) = [] := rfl
@[simp] theorem pubsOf_close : pubsOf .close = [] := rfl
theorem pubsOf_send (p : Pkt) (r : Option Nat) :
    pubsOf (.send p r) = if p.ver = 5 ∧ p.kind = .publish then [p] else [] := rfl
@[simp] theorem pubs_nil : pubs [] = [] := rfl
@[simp] theorem pubs_append (a b : List Ev) : pubs (a ++ b) = pubs a ++ pubs b := by
  induction a with
  | nil => rfl
  | cons e r ih => simp [pubs, ih]
@[simp] theorem pubs_cons (e : Ev) (r : List Ev) : pubs (e :: r) = pubsOf e ++ pubs r := rfl
@[simp] theorem pubs_single (e : Ev) : pubs [e] = pubsOf e := by simp [pubs]

attribute [simp] push_s push_cfg push_ev err_s err_cfg err_ev setPanic_cfg setPanic_ev

abbrev OtherSite (x : String) : Prop := x ≠ siteStored ∧ x ≠ sitePublish
instance (x : String) : Decidable (OtherSite x) := by unfold OtherSite; infer_instance

theorem cpOf_getD (o : Option String) (x : String) (h : OtherSite x) :
    cpOf (some (o.getD x)) = cpOf o := by
  cases o with
  | none => simp [cpOf, h.1, h.2]
  | some y => simp [cpOf]


/-! ## allocator panic sites are not counter sites -/

theorem deallocLR_site (tmax v : Nat) (l : Option Alloc.Iv) (r : Alloc.Iv) (rest : List Alloc.Iv) (x : String)
    (h : Alloc.deallocLR tmax v l r rest = .panic x) : OtherSite x := by
  unfold Alloc.deallocLR at h
  (repeat' split at h) <;> simp at h <;> (subst h; simp [OtherSite, siteStored, sitePublish])

theorem deallocRaw_site (tmax v : Nat) (p : List Alloc.Iv) (x : String)
    (h : Alloc.deallocRaw tmax v p = .panic x) : OtherSite x := by
  induction p with
  | nil => simp [Alloc.deallocRaw] at h
  | cons a rest ih =>
    unfold Alloc.deallocRaw at h
    split at h
    · split at h
      · split at h <;> simp at h
      · split at h
        · rename_i b rest' hb
          cases hq : Alloc.deallocRaw tmax v (b :: rest') with
          | ok q => simp [hq, Alloc.DRes.map] at h
          | panic y =>
            simp [hq, Alloc.DRes.map] at h
            subst h; exact ih hq
        · exact deallocLR_site _ _ _ _ _ _ h
    · exact deallocLR_site _ _ _ _ _ _ h

theorem dealloc_site (a : Alloc.A) (v : Nat) (x : String) (h : (Alloc.deallocate a v).1 = some x) :
    OtherSite x := by
  unfold Alloc.deallocate at h
  split at h
  · simp at h; subst h; simp [OtherSite, siteStored, sitePublish]
  · split at h
    · simp at h
    · split at h
      · simp at h
      · rename_i s hs
        simp at h; subst h
        exact deallocRaw_site _ _ _ _ hs

theorem Fp.Raises.cp {c c' : C} (h : Fp.Raises OtherSite c c') : cpOf c'.s.panic = cpOf c.s.panic :=
  h.keeps cpOf fun x o hx => cpOf_getD o x hx

def NotPub (p : Pkt) : Prop := ¬ (p.ver = 5 ∧ p.kind = .publish)
instance (p : Pkt) : Decidable (NotPub p) := by unfold NotPub; infer_instance
theorem pubsOf_notPub {p : Pkt} (h : NotPub p) (r : Option Nat) : pubsOf (.send p r) = [] := by
  unfold NotPub at h; simp [pubsOf, h]

@[simp] theorem notPub_mkV5Disconnect (rc : Nat) : NotPub (mkV5Disconnect rc) := by simp [NotPub, mkV5Disconnect]
@[simp] theorem notPub_mkV3Connack (rc : Nat) : NotPub (mkV3Connack rc) := by simp [NotPub, mkV3Connack]
@[simp] theorem notPub_mkV5Connack (rc : Nat) : NotPub (mkV5Connack rc) := by simp [NotPub, mkV5Connack]
theorem notPub_mkAck (cfg : Cfg) (v : Nat) (k : Kind) (id : Nat) (h : k ≠ .publish) : NotPub (mkAck cfg v k id) := by
  simp [NotPub, mkAck, h]
theorem notPub_of_kind {p : Pkt} (h : p.kind ≠ .publish) : NotPub p := by simp [NotPub, h]
theorem notPub_of_ver {p : Pkt} (h : p.ver ≠ 5) : NotPub p := by simp [NotPub, h]

abbrev NoPub (e : Ev) : Prop := pubsOf e = []

theorem noPub_base : Emits.Base NoPub where
  silent e h _ := by cases e <;> first | rfl | exact absurd rfl h
  reply q r h := pubsOf_notPub (notPub_of_kind h.kind_ne) r

theorem pubs_eq_nil {l : List Ev} (hl : ∀ e ∈ l, NoPub e) : pubs l = [] := by
  induction l with
  | nil => rfl
  | cons x r ih => rw [pubs_cons, hl x (by simp), ih (fun y hy => hl y (by simp [hy]))]; rfl

theorem Emits.pubs_eq {c c' : C} (h : Emits NoPub c c') : pubs c'.ev = pubs c.ev := by
  obtain ⟨l, e, hl⟩ := h
  rw [e, pubs_append, pubs_eq_nil hl, List.append_nil]

theorem noPub_send {p : Pkt} (h : NotPub p) : ∀ r, NoPub (.send p r) := pubsOf_notPub h

theorem Appends.pubs_eq {T : List EvTag} {c c' : C} (h : Appends T c c')
    (hT : ∀ t ∈ T, t ≠ .send ∧ t ≠ .recv := by decide) : pubs c'.ev = pubs c.ev :=
  (h.emits noPub_base hT).pubs_eq

@[simp] theorem cancelTimers_pubs (c : C) : pubs (cancelTimers c).ev = pubs c.ev := (Fp.cancelTimers_ev c).pubs_eq
@[simp] theorem sendPostProcess_pubs (c : C) : pubs (sendPostProcess c).ev = pubs c.ev :=
  (Fp.sendPostProcess_ev c).pubs_eq
@[simp] theorem refreshPingreqRecv_pubs (c : C) : pubs (refreshPingreqRecv c).ev = pubs c.ev :=
  (Fp.refreshPingreqRecv_ev c).pubs_eq
@[simp] theorem handleV3Error_pubs (c : C) (e : Nat) : pubs (handleV3Error c e).ev = pubs c.ev :=
  (Fp.handleV3Error_ev c e).pubs_eq
@[simp] theorem handleV5Error_pubs (c : C) (e : Nat) : pubs (handleV5Error c e).ev = pubs c.ev :=
  ((Fp.handleV5Error_orCloses noPub_base.quiet (noPub_base.closing c) e).emits' noPub_base).pubs_eq

theorem psV3Disconnect_status (c : C) (p : Pkt) :
    (psV3Disconnect c p).s.status = c.s.status ∨ (psV3Disconnect c p).s.status = .disconnected :=
  (Fp.psV3Disconnect_mild c p).closes.status
theorem handleV3Error_status (c : C) (e : Nat) :
    (handleV3Error c e).s.status = c.s.status ∨ (handleV3Error c e).s.status = .disconnected := .inl rfl
theorem vErr_status (c : C) (e : Nat) :
    (vErr c e).s.status = c.s.status ∨ (vErr c e).s.status = .disconnected :=
  (Fp.vErr_mild c e).closes.status

/-- fix ba1a812: of the core fields only `puback`, `pubrec` (the identifier leaves them) and `sendCount` (the credit of
    an abandoned PUBLISH comes back) change -/
theorem releasePacketId_puback (c : C) (id : Nat) :
    (releasePacketId c id).s.puback = if isUsed c.s id = true then del id c.s.puback else c.s.puback := by
  have hr : (releaseIfUsed c id).s.puback = c.s.puback := by rw [Fp.releaseIfUsed_s]
  rcases releasePacketId_eq c id with ⟨hu, e⟩ | ⟨hu, _, e⟩ | ⟨hu, _, e⟩ <;> rw [e]
  · rw [if_neg (hu ▸ Bool.false_ne_true), hr]
  · rw [if_pos hu]; exact congrArg (del id) hr
  · rw [if_pos hu, Fp.decSendCount_s]; exact congrArg (del id) hr
theorem releasePacketId_pubrec (c : C) (id : Nat) :
    (releasePacketId c id).s.pubrec = if isUsed c.s id = true then del id c.s.pubrec else c.s.pubrec := by
  have hr : (releaseIfUsed c id).s.pubrec = c.s.pubrec := by rw [Fp.releaseIfUsed_s]
  rcases releasePacketId_eq c id with ⟨hu, e⟩ | ⟨hu, _, e⟩ | ⟨hu, _, e⟩ <;> rw [e]
  · rw [if_neg (hu ▸ Bool.false_ne_true), hr]
  · rw [if_pos hu]; exact congrArg (del id) hr
  · rw [if_pos hu, Fp.decSendCount_s]; exact congrArg (del id) hr
theorem releasePacketId_sendCount (c : C) (id : Nat) :
    (releasePacketId c id).s.sendCount =
      if isUsed c.s id = true ∧ (id ∈ c.s.puback ∨ id ∈ c.s.pubrec) ∧ c.s.sendMax.isSome = true ∧ c.s.sendCount > 0
      then c.s.sendCount - 1 else c.s.sendCount := by
  have hr := Fp.releaseIfUsed_s c id
  rcases releasePacketId_eq c id with ⟨hu, e⟩ | ⟨hu, hna, e⟩ | ⟨hu, ha, e⟩
  · rw [e, hr, if_neg (fun h => Bool.false_ne_true (hu ▸ h.1))]
  · rw [hr] at hna
    rw [e, if_neg (fun h => hna h.2.1)]
    exact congrArg St.sendCount hr |>.trans rfl
  · rw [hr] at ha
    have hd : (dropWaits (releaseIfUsed c id) id).s.sendMax = c.s.sendMax ∧
        (dropWaits (releaseIfUsed c id) id).s.sendCount = c.s.sendCount :=
      ⟨(congrArg St.sendMax hr).trans rfl, (congrArg St.sendCount hr).trans rfl⟩
    rw [e]
    unfold decSendCount
    rw [hd.1, hd.2]
    by_cases h : c.s.sendMax.isSome = true ∧ c.s.sendCount > 0
    · rw [if_pos h, if_pos ⟨hu, ha, h⟩]
    · rw [if_neg h, if_neg (fun h' => h h'.2.2)]
      exact hd.2

end MqttVerif.Conn
