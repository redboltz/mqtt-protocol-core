import MqttVerif.Monitors
import MqttVerif.Conn.Lemmas.FootprintEmits
import MqttVerif.Conn.Lemmas.Projections
/-!
# Helper lemmas for C15 — the keep-alive timer flags and timer events

`flagsOf s` = the model's three `*_set` flags as a `Mon.Armed`.  `tev` = the timer events of an
event list.  `Inv a P c` (`a` = ghost flags at the start of the call, `P` = "the
disconnected-means-unarmed invariant held at the start of the call"):

* `g` — folding the timer events pushed so far over `a` (`Mon.timersStep`) never meets a cancel
  of an unarmed timer and yields exactly the flags of the current state;
* `d` — if `P`, then `status = disconnected → all three flags clear`;
* `n` — if a `RequestTimerReset` has been pushed, the status is not `disconnected`.

`Inv0` = `Inv` while no `RequestTimerReset` has been pushed (needed in front of the functions
that set `status := disconnected`).

The model touches the timers in two ways only, `arm` and `disarm`.  Everything else is a frame
(`TFr`): it leaves the fields the keep-alive logic reads (`tview`) alone and pushes no timer event.
Every function below `send` is walked once, into a statement of how it ends in these terms: the
`process_send_*` functions that neither open nor end a connection have the shape `Sent` (frames, then
possibly `send_post_process` on a connection that is not `disconnected`), those that may end it `Ended`,
CONNECT `Opened`; CONNACK and PINGREQ have case principles (`connackSendProp_cases`, `connackTail_cases`,
`psPingreq_cases`).  `send_walk` puts them together.  The invariant is read off these; so are, in their own
files, `SendOK`, `RS`, `r5_K` and the state half of the server's ghost relation.
-/
set_option linter.unusedVariables false
namespace MqttVerif.Conn
open MqttVerif Mon

def flagsOf (s : St) : Armed := ⟨s.sendSet, s.recvSet, s.respSet⟩

def unarmed : Armed := ⟨false, false, false⟩

def isTimerEv : Ev → Bool
  | .timerReset _ _ => true
  | .timerCancel _ => true
  | _ => false

@[simp] theorem isTimerEv_reset (k ms) : isTimerEv (.timerReset k ms) = true := rfl
@[simp] theorem isTimerEv_cancel (k) : isTimerEv (.timerCancel k) = true := rfl
@[simp] theorem isTimerEv_send (p r) : isTimerEv (.send p r) = false := rfl
@[simp] theorem isTimerEv_recv (p) : isTimerEv (.recv p) = false := rfl
@[simp] theorem isTimerEv_released (i) : isTimerEv (.released i) = false := rfl
@[simp] theorem isTimerEv_error (e) : isTimerEv (.error e) = false := rfl
@[simp] theorem isTimerEv_close : isTimerEv .close = false := rfl

def tev (l : List Ev) : List Ev := l.filter isTimerEv

@[simp] theorem tev_nil : tev [] = [] := rfl
@[simp] theorem tev_append (l₁ l₂ : List Ev) : tev (l₁ ++ l₂) = tev l₁ ++ tev l₂ := by
  simp [tev]
@[simp] theorem tev_cons (e : Ev) (l : List Ev) :
    tev (e :: l) = if isTimerEv e then e :: tev l else tev l := by
  simp [tev, List.filter_cons]
theorem tev_idem (l : List Ev) : tev (tev l) = tev l := by simp [tev]

theorem timersStep_tev (a : Armed) (l : List Ev) : timersStep a (tev l) = timersStep a l := by
  induction l generalizing a with
  | nil => rfl
  | cons e l ih =>
    cases e <;> simp [timersStep, ih]

theorem anyReset_tev (l : List Ev) : anyReset (tev l) = anyReset l := by
  induction l with
  | nil => rfl
  | cons e l ih =>
    cases e <;> simp_all [anyReset]

theorem timersStep_append (a : Armed) (l₁ l₂ : List Ev) :
    timersStep a (l₁ ++ l₂) = (timersStep a l₁).bind (fun b => timersStep b l₂) := by
  induction l₁ generalizing a with
  | nil => simp [timersStep]
  | cons e l ih =>
    cases e <;> simp [timersStep, ih]
    split <;> simp

@[simp] theorem anyReset_append (l₁ l₂ : List Ev) :
    anyReset (l₁ ++ l₂) = (anyReset l₁ || anyReset l₂) := by
  simp [anyReset]

@[simp] theorem anyReset_nil : anyReset [] = false := rfl

attribute [simp] push_s push_cfg push_ev err_s err_cfg err_ev setPanic_cfg setPanic_ev

/-! ## frames -/

/-- the interval `send_post_process` uses: override, then Server Keep Alive, then keep-alive -/
def pingInterval (s : St) : Nat :=
  match s.userInterval with
  | some t => t
  | none => match s.serverKeepAliveMs with
    | some t => t
    | none => s.keepAliveMs

/-- the fields of the state that the keep-alive logic reads or writes -/
structure TView where
  flags : Armed
  status : Status
  isClient : Bool
  pingInterval : Nat
  recvTimeoutMs : Nat

def tview (s : St) : TView := ⟨flagsOf s, s.status, s.isClient, pingInterval s, s.recvTimeoutMs⟩

/-- `c'` is `c` with more events, all with a tag in `T`, and possibly other values in fields outside
    the view -/
structure TFr (T : List EvTag) (c c' : C) : Prop where
  cfg : c'.cfg = c.cfg
  tv : tview c'.s = tview c.s
  ev : Appends T c c'

/-- errors and released identifiers: what a refused or deferred send leaves behind -/
abbrev quietT : List EvTag := [.error, .released]
/-- … and packets requested for sending -/
abbrev sendT : List EvTag := [.error, .released, .send]

theorem Appends.tev_eq {T : List EvTag} {c c' : C} (h : Appends T c c')
    (hT : EvTag.timerReset ∉ T ∧ EvTag.timerCancel ∉ T := by decide) : tev c'.ev = tev c.ev :=
  h.filter_eq isTimerEv (fun e he => by
    cases e with
    | timerReset => exact absurd he hT.1
    | timerCancel => exact absurd he hT.2
    | _ => rfl)

namespace TFr
variable {T T' : List EvTag} {c m m' : C}

theorem refl (T : List EvTag) (c : C) : TFr T c c := ⟨rfl, rfl, .refl T c⟩

theorem step (h : TFr T c m) (hc : m'.cfg = m.cfg) (hv : tview m'.s = tview m.s) (he : Appends T m m') :
    TFr T c m' :=
  ⟨hc.trans h.cfg, hv.trans h.tv, h.ev.trans he⟩

theorem mono (h : TFr T c m) (hT : T ⊆ T') : TFr T' c m := ⟨h.cfg, h.tv, h.ev.mono hT⟩

theorem toSend (h : TFr quietT c m) : TFr sendT c m := h.mono (by decide)

theorem upd (h : TFr T c m) (hc : m'.cfg = m.cfg := by rfl) (hv : tview m'.s = tview m.s := by rfl)
    (he : m'.ev = m.ev := by rfl) : TFr T c m' :=
  h.step hc hv (.of_ev_eq he)

theorem push (h : TFr T c m) (e : Ev) (he : e.tag ∈ T) : TFr T c (m.push e) :=
  h.step rfl rfl ((Appends.refl T m).push he)

theorem err (h : TFr T c m) (e : Nat) (he : EvTag.error ∈ T := by decide) : TFr T c (m.err e) := h.push _ he

theorem send (h : TFr T c m) (p : Pkt) (rel : Option Nat) (he : EvTag.send ∈ T := by decide) :
    TFr T c (m.push (.send p rel)) := h.push _ he

theorem setPanic (h : TFr T c m) (x : String) : TFr T c (m.setPanic x) := h.upd

theorem ite {p : Prop} [Decidable p] {a b : C} (ha : TFr T c a) (hb : TFr T c b) : TFr T c (if p then a else b) := by
  split <;> assumption

/-- closure under any model function whose footprint writes no field of the view (`hw` holds by `rfl`) -/
theorem fp {w : St → St → St} (h : TFr T c m) (k : Fp.Footprint T' w m m')
    (hw : ∀ a x, tview (w a x) = tview a := by exact fun _ _ => rfl) (hT : T' ⊆ T := by decide) : TFr T c m' :=
  h.step k.cfg (k.view tview hw) (k.ev.mono hT)

theorem of_eqs (hc : m.cfg = c.cfg) (he : m.ev = c.ev) (hv : tview m.s = tview c.s) : TFr T c m :=
  ⟨hc, hv, .of_ev_eq he⟩

theorem ev_nil (h : TFr [] c m) : m.ev = c.ev := h.ev.ev_eq_of_nil

theorem status (h : TFr T c m) : m.s.status = c.s.status := congrArg TView.status h.tv
theorem flags (h : TFr T c m) : flagsOf m.s = flagsOf c.s := congrArg TView.flags h.tv
theorem isClient (h : TFr T c m) : m.s.isClient = c.s.isClient := congrArg TView.isClient h.tv
theorem recvTimeoutMs (h : TFr T c m) : m.s.recvTimeoutMs = c.s.recvTimeoutMs := congrArg TView.recvTimeoutMs h.tv
theorem pingInterval (h : TFr T c m) : pingInterval m.s = pingInterval c.s := congrArg TView.pingInterval h.tv

theorem tev (h : TFr T c m) (hT : EvTag.timerReset ∉ T ∧ EvTag.timerCancel ∉ T := by decide) :
    tev m.ev = tev c.ev := h.ev.tev_eq hT

end TFr

/-! ## the invariant carried through one API call -/

structure Inv (a : Armed) (P : Prop) (c : C) : Prop where
  g : timersStep a (tev c.ev) = some (flagsOf c.s)
  d : P → c.s.status = .disconnected → flagsOf c.s = unarmed
  n : anyReset (tev c.ev) = true → c.s.status ≠ .disconnected

structure Inv0 (a : Armed) (P : Prop) (c : C) : Prop where
  inv : Inv a P c
  n0 : anyReset (tev c.ev) = false

theorem Inv0.of {a P c} (g : timersStep a (tev c.ev) = some (flagsOf c.s))
    (d : P → c.s.status = .disconnected → flagsOf c.s = unarmed) (n0 : anyReset (tev c.ev) = false) : Inv0 a P c :=
  ⟨⟨g, d, by simp [n0]⟩, n0⟩

theorem Inv.frame {a P c c'} (h : Inv a P c) (he : tev c'.ev = tev c.ev)
    (hf : flagsOf c'.s = flagsOf c.s)
    (hs : c'.s.status = .disconnected → c.s.status = .disconnected) : Inv a P c' := by
  refine ⟨by rw [he, hf]; exact h.g, fun p q => by rw [hf]; exact h.d p (hs q), fun r q => ?_⟩
  rw [he] at r; exact h.n r (hs q)

theorem Inv.fr {a P c c'} {T : List EvTag} (h : Inv a P c) (k : TFr T c c')
    (hT : EvTag.timerReset ∉ T ∧ EvTag.timerCancel ∉ T := by decide) : Inv a P c' :=
  h.frame (k.tev hT) k.flags (fun q => k.status ▸ q)

theorem Inv0.fr {a P c c'} {T : List EvTag} (h : Inv0 a P c) (k : TFr T c c')
    (hT : EvTag.timerReset ∉ T ∧ EvTag.timerCancel ∉ T := by decide) : Inv0 a P c' :=
  ⟨h.inv.fr k hT, (congrArg anyReset (k.tev hT)).trans h.n0⟩

theorem Inv.setStatus {a P c} (h : Inv a P c) (st : Status) (hs : st ≠ .disconnected) :
    Inv a P { c with s := { c.s with status := st } } :=
  h.frame rfl rfl (fun q => absurd q hs)

theorem Inv0.setStatus {a P c} (h : Inv0 a P c) (st : Status) (hs : st ≠ .disconnected) :
    Inv0 a P { c with s := { c.s with status := st } } :=
  ⟨h.inv.setStatus st hs, h.n0⟩

theorem Inv.push {a P c} (h : Inv a P c) (e : Ev) (he : isTimerEv e = false) : Inv a P (c.push e) :=
  h.frame (by simp [he]) rfl (by simp)
theorem Inv.err {a P c} (h : Inv a P c) (e : Nat) : Inv a P (c.err e) := h.push _ rfl

/-! ## the two ways the model touches a timer -/

def _root_.MqttVerif.Conn.St.setArmed (s : St) (k : Timer) (b : Bool) : St :=
  match k with
  | .pingreqSend => { s with sendSet := b }
  | .pingreqRecv => { s with recvSet := b }
  | .pingrespRecv => { s with respSet := b }

theorem flagsOf_setArmed (s : St) (k : Timer) (b : Bool) : flagsOf (s.setArmed k b) = (flagsOf s).set k b := by
  cases k <;> rfl
theorem status_setArmed (s : St) (k : Timer) (b : Bool) : (s.setArmed k b).status = s.status := by
  cases k <;> rfl

def arm (c : C) (k : Timer) (ms : Nat) : C := ({ c with s := c.s.setArmed k true } : C).push (.timerReset k ms)

def disarm (c : C) (k : Timer) : C :=
  if (flagsOf c.s).get k then ({ c with s := c.s.setArmed k false } : C).push (.timerCancel k) else c

theorem cancelTimers_eq (c : C) :
    cancelTimers c = disarm (disarm (disarm c .pingreqSend) .pingreqRecv) .pingrespRecv := rfl

theorem sendPostProcess_eq (c : C) : sendPostProcess c =
    if c.s.isClient ∧ pingInterval c.s > 0 then arm c .pingreqSend (pingInterval c.s) else c := by
  have e : sendPostProcess c = if c.s.isClient then
      (if pingInterval c.s > 0 then arm c .pingreqSend (pingInterval c.s) else c) else c := rfl
  rw [e]
  by_cases h : c.s.isClient = true
  · by_cases h2 : pingInterval c.s > 0
    · rw [if_pos h, if_pos h2, if_pos ⟨h, h2⟩]
    · rw [if_pos h, if_neg h2, if_neg (fun x => h2 x.2)]
  · rw [if_neg h, if_neg (fun x => h x.1)]

theorem refreshPingreqRecv_eq (c : C) : refreshPingreqRecv c =
    if c.s.recvTimeoutMs ≠ 0 ∧ c.s.status ≠ .disconnected then arm c .pingreqRecv c.s.recvTimeoutMs else c := rfl

theorem Inv.arm {a P c} (h : Inv a P c) (hs : c.s.status ≠ .disconnected) (k : Timer) (ms : Nat) :
    Inv a P (Conn.arm c k ms) := by
  have hst : (Conn.arm c k ms).s.status ≠ .disconnected := by
    show (c.s.setArmed k true).status ≠ _
    rw [status_setArmed]; exact hs
  refine ⟨?_, fun _ q => absurd q hst, fun _ => hst⟩
  show timersStep a (tev (c.ev ++ [.timerReset k ms])) = some (flagsOf (c.s.setArmed k true))
  rw [tev_append, timersStep_append, h.g, flagsOf_setArmed]
  rfl

theorem arm_status (c : C) (k : Timer) (ms : Nat) : (arm c k ms).s.status = c.s.status := status_setArmed _ _ _

theorem disarm_status (c : C) (k : Timer) : (disarm c k).s.status = c.s.status := by
  unfold disarm; split
  · exact status_setArmed _ _ _
  · rfl

theorem Armed.set_of_get_false {f : Armed} {k : Timer} (h : ¬ f.get k = true) : f.set k false = f := by
  cases f; cases k <;> simp_all [Armed.get, Armed.set]

theorem flagsOf_disarm (c : C) (k : Timer) : flagsOf (disarm c k).s = (flagsOf c.s).set k false := by
  unfold disarm; split
  · exact flagsOf_setArmed _ _ _
  · rename_i hk; exact (Armed.set_of_get_false hk).symm

theorem disarm_spec {a c} (hg : timersStep a (tev c.ev) = some (flagsOf c.s)) (k : Timer) :
    timersStep a (tev (disarm c k).ev) = some (flagsOf (disarm c k).s) ∧
    flagsOf (disarm c k).s = (flagsOf c.s).set k false ∧
    anyReset (tev (disarm c k).ev) = anyReset (tev c.ev) := by
  unfold disarm
  split
  · rename_i hk
    refine ⟨?_, flagsOf_setArmed _ _ _, ?_⟩
    · show timersStep a (tev (c.ev ++ [.timerCancel k])) = some (flagsOf (c.s.setArmed k false))
      rw [tev_append, timersStep_append, hg, flagsOf_setArmed]
      show (if (flagsOf c.s).get k = true then some ((flagsOf c.s).set k false) else none) = _
      rw [if_pos hk]
    · show anyReset (tev (c.ev ++ [.timerCancel k])) = _
      rw [tev_append, anyReset_append]
      exact Bool.or_false _
  · rename_i hk
    exact ⟨hg, (Armed.set_of_get_false hk).symm, rfl⟩

theorem Inv.disarm {a P c} (h : Inv a P c) (k : Timer) : Inv a P (Conn.disarm c k) := by
  obtain ⟨g, f, n⟩ := disarm_spec h.g k
  have s := disarm_status c k
  refine ⟨g, fun p q => ?_, fun r q => h.n (by rw [← n]; exact r) (by rw [← s]; exact q)⟩
  rw [f, h.d p (by rw [← s]; exact q)]
  cases k <;> rfl

/-- `cancel_timers` needs no hypothesis on the status: afterwards nothing is armed -/
theorem cancelTimers_inv0 {a P c} (hg : timersStep a (tev c.ev) = some (flagsOf c.s))
    (hn : anyReset (tev c.ev) = false) : Inv0 a P (cancelTimers c) := by
  rw [cancelTimers_eq]
  obtain ⟨g1, f1, n1⟩ := disarm_spec hg .pingreqSend
  obtain ⟨g2, f2, n2⟩ := disarm_spec g1 .pingreqRecv
  obtain ⟨g3, f3, n3⟩ := disarm_spec g2 .pingrespRecv
  refine .of g3 (fun _ _ => ?_) (((n3.trans n2).trans n1).trans hn)
  rw [f3, f2, f1]
  rfl

theorem Inv0.shut {a P c} (h : Inv0 a P c) :
    Inv0 a P (cancelTimers { c with s := { c.s with status := .disconnected } }) :=
  cancelTimers_inv0 h.inv.g h.n0

theorem spp_inv {a P c} (h : Inv a P c) (hs : c.s.status ≠ .disconnected) :
    Inv a P (sendPostProcess c) := by
  rw [sendPostProcess_eq]; split
  · exact h.arm hs _ _
  · exact h

theorem refresh_inv {a P c} (h : Inv a P c) : Inv a P (refreshPingreqRecv c) := by
  rw [refreshPingreqRecv_eq]; split
  · rename_i hc; exact h.arm hc.2 _ _
  · exact h

/-! ## the shape of the sending functions that neither open nor end a connection -/

inductive Sent (c : C) : C → Prop
  | quiet {r : C} (h : TFr quietT c r) : Sent c r
  | spp {m : C} (h : TFr sendT c m) (hs : m.s.status ≠ .disconnected) : Sent c (sendPostProcess m)

theorem Sent.err (c : C) (e : Nat) : Sent c (c.err e) := .quiet ((TFr.refl _ c).err e)

theorem Sent.errRelease (c : C) (e id : Nat) : Sent c (releaseIfUsed (c.err e) id) :=
  .quiet (((TFr.refl _ c).err e).fp (Fp.releaseIfUsed_fp _ id))

theorem Inv.sent {a P c r} (h : Inv a P c) (k : Sent c r) : Inv a P r := by
  cases k with
  | quiet k => exact h.fr k
  | spp k hs => exact spp_inv (h.fr k) hs

theorem connected_ne {st : Status} (h : ¬ st ≠ .connected) : st ≠ .disconnected := by
  intro q; exact h (by rw [q]; exact Status.noConfusion)

theorem Sent.send {c m : C} (h : TFr sendT c m) (p : Pkt) (rel : Option Nat) (hs : m.s.status ≠ .disconnected) :
    Sent c (sendPostProcess (m.push (.send p rel))) := .spp (h.send p rel) hs

theorem Sent.guarded {c m : C} (h : TFr quietT c m) (p : Pkt) (rel : Option Nat) (e : Nat) :
    Sent c (if m.s.status ≠ .connected then m.err e else sendPostProcess (m.push (.send p rel))) := by
  split
  · exact .quiet (h.err e)
  · rename_i hs; exact Sent.send h.toSend _ _ (connected_ne hs)

theorem psV3Simple_sent (c : C) (p : Pkt) : Sent c (psV3Simple c p) := Sent.guarded (.refl _ c) p none _

theorem psV5Simple_sent (c : C) (p : Pkt) : Sent c (psV5Simple c p) :=
  Fp.ite_ind (fun _ => .err c _) (fun _ => Sent.guarded (.refl _ c) p none _)

theorem psV5Puback_sent (c : C) (p : Pkt) : Sent c (psV5Puback c p) := by
  unfold psV5Puback
  refine Fp.ite_ind (fun _ => .err c _) (fun _ => Fp.ite_ind (fun _ => .err c _) (fun hs => ?_))
  exact Sent.send (TFr.refl _ c).upd _ _ (connected_ne hs)

theorem psV5Pubrec_sent (c : C) (p : Pkt) : Sent c (psV5Pubrec c p) :=
  Fp.psV5Pubrec_paths c p (fun _ => .err c _) (fun _ _ => .err c _)
    (fun _ hs _ _ _ => Sent.send (TFr.refl _ c).upd p none (connected_ne (not_not_intro hs)))
    (fun _ hs _ => Sent.send (.refl _ c) p none (connected_ne (not_not_intro hs)))

theorem psV5Auth_sent (c : C) (p : Pkt) : Sent c (psV5Auth c p) :=
  Fp.ite_ind (fun _ => .err c _)
    (fun _ => Fp.ite_ind (fun _ => .err c _) (fun hs => Sent.send (.refl _ c) _ _ hs))

theorem psSubUnsub_sent (c : C) (p : Pkt) : Sent c (psSubUnsub c p) := by
  unfold psSubUnsub
  extract_lets id src c1
  have h1 : TFr sendT c c1 := TFr.ite ((TFr.refl _ c).upd) ((TFr.refl _ c).upd)
  refine Fp.ite_ind (fun _ => .errRelease c _ _) (fun _ => Fp.ite_ind
    (fun _ => .errRelease c _ _) (fun hs => Fp.ite_ind
    (fun _ => .err c _) (fun _ => ?_)))
  exact Sent.send h1 _ _ (by rw [h1.status]; exact connected_ne hs)

theorem Sent.ifConnected {c m : C} (h : TFr quietT c m) (p : Pkt) (rel : Option Nat) :
    Sent c (Fp.sendIfConnected m p rel) :=
  Fp.sendIfConnected_cases m p rel (fun hs => Sent.send h.toSend _ _ (by rw [hs]; exact Status.noConfusion))
    (fun _ => .quiet h)

theorem psPubrel_sent (c : C) (p : Pkt) : Sent c (psPubrel c p) := by
  unfold psPubrel
  extract_lets id c1 src c2
  have h2 : TFr quietT c c2 := (TFr.ite ((TFr.refl _ c).fp (Fp.storeAdd_fp ..)) (.refl _ c)).upd
  exact Fp.ite_ind (fun _ => .err c _) (fun _ => Fp.ite_ind
    (fun _ => .err c _) (fun _ => Fp.ite_ind
    (fun _ => .err c _) (fun _ => Sent.ifConnected h2 p none)))

theorem psV3Publish_sent (c : C) (p : Pkt) : Sent c (psV3Publish c p) :=
  Fp.psV3Publish_paths c p (fun _ _ => .quiet ((TFr.refl _ c).setPanic _)) (fun _ _ _ _ => .errRelease c _ _)
    (fun _ _ _ _ _ => .err c _)
    (fun id _ _ => Sent.ifConnected (((TFr.refl _ c).fp (Fp.storeAdd_fp ..)).fp (Fp.addWait_fp _ p.qos id)) p _)
    (fun id _ _ => Sent.ifConnected ((TFr.refl _ c).fp (Fp.addWait_fp c p.qos id)) p _) (fun _ _ => .err c _)
    (fun _ hs => Sent.send (.refl _ c) p none (by rw [hs]; exact Status.noConfusion))

theorem psV5PublishTail_sent {c m : C} (h : TFr quietT c m) (p : Pkt) (rel : Option Nat) :
    Sent c (psV5PublishTail m p rel) :=
  Fp.psV5PublishTail_eq m p rel ▸ Sent.ifConnected (h.fp (Fp.countSend_fp m p)) p rel

theorem psV5PublishAlias_sent {c m : C} (h : TFr quietT c m) (p : Pkt) (rel : Option Nat) (v : Bool) :
    Sent c (psV5PublishAlias m p rel v) :=
  Fp.psV5PublishAlias_cases m p rel v (fun _ e k => .quiet (((h.fp k).err e).fp (Fp.pubRefuseCleanup_fp ..)))
    (fun _ q k _ _ => psV5PublishTail_sent (h.fp k) q rel)

theorem psV5Publish_sent (c : C) (p : Pkt) : Sent c (psV5Publish c p) :=
  Fp.psV5Publish_cases c p (fun _ e k => .quiet (((TFr.refl _ c).fp k).err e))
    (fun _ e id k => .quiet ((((TFr.refl _ c).fp k).err e).fp (Fp.releaseIfUsed_fp _ id)))
    (.quiet ((TFr.refl _ c).setPanic _)) (fun _ _ rel v k => psV5PublishAlias_sent ((TFr.refl _ c).fp k) p rel v)

theorem refuseSend_fr (c : C) (e : Nat) (p : Pkt) : TFr quietT c (refuseSend c e p) :=
  (TFr.refl _ c).fp (Fp.refuseSend_fp c e p)

/-! ## the functions that may end the connection -/

/-- how they end: status and timers are left alone (a refusal; `handleV3Error`, which only asks for the close), or the
    status is `disconnected`, every timer is cancelled and what follows is a frame -/
inductive Ended (c : C) : C → Prop
  | kept {r : C} (k : TFr [.error, .close] c r) : Ended c r
  | shut {r : C} (k : TFr [.send, .close, .error] (cancelTimers { c with s := { c.s with status := .disconnected } }) r) :
      Ended c r

theorem psV3Disconnect_ended (c : C) (p : Pkt) : Ended c (psV3Disconnect c p) :=
  Fp.ite_ind (fun _ => .kept ((TFr.refl _ c).err _))
    (fun _ => .shut (((TFr.refl _ _).send p none).push .close (by decide)))

theorem psV5Disconnect_ended (c : C) (p : Pkt) : Ended c (psV5Disconnect c p) :=
  Fp.ite_ind (fun _ => .kept ((TFr.refl _ c).err _)) (fun _ => Fp.ite_ind (fun _ => .kept ((TFr.refl _ c).err _))
    (fun _ => .shut (((TFr.refl _ _).send p none).push .close (by decide))))

theorem v5DisconnectOrClose_ended (c : C) (d : Pkt) : Ended c (v5DisconnectOrClose c d) :=
  Fp.ite_ind (fun _ => .shut ((TFr.refl _ _).push .close (by decide))) (fun _ => psV5Disconnect_ended c d)

theorem Inv0.ended {a P c r} (h : Inv0 a P c) (k : Ended c r) : Inv0 a P r := by
  cases k with
  | kept k => exact h.fr k
  | shut k => exact h.shut.fr k

/-! ## CONNECT, CONNACK, PINGREQ -/

theorem connecting_ne : Status.connecting ≠ .disconnected := by decide
theorem connected_ne' : Status.connected ≠ .disconnected := by decide

/-- how `psV…Connect` ends: refused; or the session is initialised (events and flags as before, status
    `connecting`), the packet requested and the PINGREQ timer re-armed -/
inductive Opened (c : C) (p : Pkt) : C → Prop
  | refused (e : Nat) : Opened c p (c.err e)
  | opened (m : C) (he : m.ev = c.ev) (hf : flagsOf m.s = flagsOf c.s) (hs : m.s.status = .connecting)
      (hc : m.s.isClient = true) : Opened c p (sendPostProcess (m.push (.send p none)))

theorem connectOut_opened (c : C) (p : Pkt) {settle : C → C} (hs : ∀ m, TFr [] m (settle m)) :
    Opened c p (Fp.connectOut c p settle) :=
  have k := hs { initConn c true with
    s := { (initConn c true).s with status := .connecting, keepAliveMs := p.keepAlive * 1000 } }
  .opened _ k.ev_nil k.flags k.status k.isClient

theorem psV3Connect_opened (c : C) (p : Pkt) : Opened c p (psV3Connect c p) := by
  rw [Fp.psV3Connect_eq]
  refine Fp.guarded_ind (fun _ => .refused _) (fun _ _ => .refused _) fun _ _ => connectOut_opened c p fun m => ?_
  have k : TFr [] m (if p.clean then clearStoreRelated m else { m with s := { m.s with needStore := true } }) :=
    TFr.ite (TFr.refl _ m).upd (TFr.refl _ m).upd
  exact k.upd

theorem psV5Connect_opened (c : C) (p : Pkt) : Opened c p (psV5Connect c p) := by
  rw [Fp.psV5Connect_eq]
  exact Fp.guarded_ind (fun _ => .refused _) (fun _ _ => .refused _) fun _ _ =>
    connectOut_opened c p fun m => (TFr.ite (TFr.refl _ m).upd (.refl _ m)).fp (Fp.propsFold_connectSendProp_fp ..)

theorem Inv.opened {a P c p r} (h : Inv a P c) (k : Opened c p r) : Inv a P r := by
  cases k with
  | refused e => exact h.err e
  | opened m he hf hs _ =>
    have hs' : m.s.status ≠ .disconnected := fun q => absurd (hs.symm.trans q) connecting_ne
    exact spp_inv ((h.frame (by rw [he]) hf (fun q => absurd q hs')).push _ rfl) hs'

/-- `c'` has the status of `c`, and its invariant while that status is not `disconnected`: what arming and disarming do -/
def Keeps (a : Armed) (P : Prop) (c c' : C) : Prop :=
  c'.s.status = c.s.status ∧ (c.s.status ≠ .disconnected → Inv a P c → Inv a P c')

namespace Keeps
variable {a : Armed} {P : Prop} {c m r : C}

theorem refl (c : C) : Keeps a P c c := ⟨rfl, fun _ h => h⟩

theorem trans (p : Keeps a P c m) (q : Keeps a P m r) : Keeps a P c r :=
  ⟨q.1.trans p.1, fun hs hx => q.2 (p.1 ▸ hs) (p.2 hs hx)⟩

theorem upd (he : r.ev = c.ev := by rfl) (hf : flagsOf r.s = flagsOf c.s := by rfl)
    (hs : r.s.status = c.s.status := by rfl) : Keeps a P c r :=
  ⟨hs, fun _ h => h.frame (by rw [he]) hf (fun q => hs ▸ q)⟩

theorem fr (k : TFr [] c r) : Keeps a P c r := upd k.ev_nil k.flags k.status

theorem arm (c : C) (k : Timer) (ms : Nat) : Keeps a P c (arm c k ms) := ⟨arm_status c k ms, fun hs h => h.arm hs k ms⟩

theorem disarm (c : C) (k : Timer) : Keeps a P c (disarm c k) := ⟨disarm_status c k, fun _ h => h.disarm k⟩

theorem fold {f : C → Nat → Nat → C} (hf : ∀ c id v, Keeps a P c (f c id v)) (c : C) (l : List (Nat × Nat)) :
    Keeps a P c (propsFold f c l) :=
  Fp.propsFold_rel f refl (fun _ _ _ => trans) hf c l

end Keeps

/-! ## CONNACK sent -/

/-- Server Keep Alive `v` in a sent CONNACK: the receive timeout becomes 1.5 × `v`; 0 disarms the receive timer, any
    other value arms it -/
def serverKeepAlive (c : C) (v : Nat) : C :=
  if v = 0 then { disarm c .pingreqRecv with s := { (disarm c .pingreqRecv).s with recvTimeoutMs := 0 } }
  else arm { c with s := { c.s with recvTimeoutMs := v * 1000 * 3 / 2 } } .pingreqRecv (v * 1000 * 3 / 2)

theorem connackSendProp_cases {Q : C → Prop} (c : C) (id v : Nat) (ska : id = pSKA → Q (serverKeepAlive c v))
    (other : id ≠ pSKA → ∀ m, TFr [] c m → Q m) : Q (connackSendProp c id v) := by
  unfold connackSendProp
  exact Fp.ite_ind (fun h => other (by rw [h]; decide) _ (TFr.ite (TFr.refl _ c).upd (.refl _ c))) (fun _ =>
    Fp.ite_ind (fun h => other (by rw [h]; decide) _ (TFr.refl _ c).upd) (fun _ =>
    Fp.ite_ind (fun h => other (by rw [h]; decide) _ (TFr.refl _ c).upd) (fun _ =>
    Fp.ite_ind ska (fun h => other h c (.refl _ c)))))

theorem connackSendProp_keeps {a P} (c : C) (id v : Nat) : Keeps a P c (connackSendProp c id v) :=
  connackSendProp_cases c id v
    (fun _ => Fp.ite_both (Q := Keeps a P c) ((Keeps.disarm c _).trans .upd) (Keeps.trans .upd (.arm _ _ _)))
    (fun _ _ => .fr)

theorem connackSendProp_rt (c : C) (id v : Nat) :
    (connackSendProp c id v).s.recvTimeoutMs = if id = pSKA then v * 1000 * 3 / 2 else c.s.recvTimeoutMs :=
  connackSendProp_cases (Q := fun r => r.s.recvTimeoutMs = _) c id v
    (fun h => (if_pos h).symm ▸ Fp.ite_ind (Q := fun r : C => r.s.recvTimeoutMs = _) (fun hv => by rw [hv]) (fun _ => rfl))
    (fun h _ k => (if_neg h).symm ▸ k.recvTimeoutMs)

/-- once the CONNACK is requested: a reason code other than 0 ends the connection; 0 establishes it, the session is
    resumed or cleared (a frame that may send) and `send_post_process` runs -/
theorem connackTail_cases {Q : C → Prop} (m : C) (p : Pkt)
    (closed : p.rc ≠ some 0 → Q ((cancelTimers { m with s := { m.s with status := .disconnected } }).push .close))
    (opened : ∀ x, TFr sendT { m with s := { m.s with status := .connected } } x → Q (sendPostProcess x)) :
    Q (Fp.connackTail m p) :=
  Fp.ite_ind closed (fun _ => opened _ (TFr.ite ((TFr.refl _ _).fp (Fp.sendStored_fp _)) (TFr.refl _ _).upd))

theorem connackTail_inv {a P m} (p : Pkt) (h : Inv a P m) (h0 : p.rc ≠ some 0 → anyReset (tev m.ev) = false) :
    Inv a P (Fp.connackTail m p) :=
  connackTail_cases m p (fun hr => (Inv0.shut ⟨h, h0 hr⟩).inv.push _ rfl) (fun _ k =>
    spp_inv ((h.setStatus .connected connected_ne').fr k) (fun q => absurd (k.status.symm.trans q) connected_ne'))

theorem psV3Connack_inv {a P c} (h : Inv0 a P c) (p : Pkt) : Inv a P (psV3Connack c p) := by
  have h1 := h.fr ((TFr.refl sendT c).send p none)
  rw [Fp.psV3Connack_eq]
  exact Fp.ite_ind (fun _ => h.inv.err _) (fun _ => connackTail_inv p h1.inv (fun _ => h1.n0))

theorem psV5Connack_inv {a P c} (h : Inv0 a P c) (p : Pkt) : Inv a P (psV5Connack c p) := by
  rw [Fp.psV5Connack_eq]
  refine Fp.ite_ind (fun _ => h.inv.err _) (fun _ => Fp.ite_ind (fun _ => h.inv.err _) (fun hs => ?_))
  have hs' : c.s.status ≠ .disconnected := fun q => hs (by rw [q]; decide)
  refine connackTail_inv p (Inv.push ?_ _ rfl) (fun hr => ?_)
  · exact Fp.ite_ind (fun _ => (Keeps.fold connackSendProp_keeps c p.props).2 hs' h.inv) (fun _ => h.inv)
  · rw [if_neg hr]; exact (h.fr ((TFr.refl sendT c).send p none)).n0

/-- the response-timer arm of a sent PINGREQ: none while no PINGRESP timeout is configured -/
def awaitResp (c : C) : C := if c.s.respTimeoutMs ≠ 0 then arm c .pingrespRecv c.s.respTimeoutMs else c

/-- a PINGREQ is refused, or requested for sending, awaited, and `send_post_process` runs -/
theorem psPingreq_cases {Q : C → Prop} (c : C) (p : Pkt)
    (refused : (p.ver = 5 ∧ sizeOk c p = false) ∨ c.s.status ≠ .connected → ∀ e, Q (c.err e))
    (sent : (p.ver = 5 → sizeOk c p = true) → c.s.status = .connected →
      Q (sendPostProcess (awaitResp (c.push (.send p none))))) : Q (psPingreq c p) := by
  unfold psPingreq
  refine Fp.ite_ind (fun h => refused (.inl ⟨h.1, by simpa using h.2⟩) _) (fun h => Fp.ite_ind (fun hs => refused (.inr hs) _)
    (fun hs => sent (fun hv => ?_) (Decidable.of_not_not hs)))
  cases hz : sizeOk c p with
  | true => rfl
  | false => exact absurd ⟨hv, by rw [hz]; rfl⟩ h

theorem psPingreq_inv {a P c} (h : Inv a P c) (p : Pkt) : Inv a P (psPingreq c p) := by
  refine psPingreq_cases c p (fun _ e => h.err e) (fun _ hs => ?_)
  have hs1 : (c.push (.send p none)).s.status ≠ .disconnected := fun q => Status.noConfusion (hs.symm.trans q)
  have h1 : Inv a P (c.push (.send p none)) := h.push _ rfl
  refine Fp.ite_ind (Q := fun x => Inv a P (sendPostProcess x)) (fun _ => ?_) (fun _ => spp_inv h1 hs1)
  exact spp_inv (h1.arm hs1 .pingrespRecv _) (fun q => hs1 ((arm_status _ .pingrespRecv _).symm.trans q))

/-! ## `send` -/

/-- the walk through `send`: CONNECT, CONNACK, DISCONNECT and PINGREQ have shapes of their own; every other handler,
    and every refusal, has the shape `Sent` -/
theorem send_walk {Q : C → Prop} (c : C) (p : Pkt) (connect : ∀ r, Opened c p r → Q r)
    (connack : p.kind = .connack → Q (psV3Connack c p) ∧ Q (psV5Connack c p))
    (disconnect : ∀ r, Ended c r → Q r) (pingreq : Q (psPingreq c p)) (sent : ∀ r, Sent c r → Q r) : Q (send c p) :=
  Fp.send_cases c p (fun _ => sent _ (.quiet (refuseSend_fr c _ p))) (fun _ _ => sent _ (.quiet (refuseSend_fr c _ p)))
    (fun _ _ => Fp.processSend_cases c p
      (fun _ _ => connect _ (psV3Connect_opened c p)) (fun _ h => (connack h).1)
      (fun _ _ => sent _ (psV3Publish_sent c p)) (fun _ _ => sent _ (psV3Simple_sent c p))
      (fun _ _ => disconnect _ (psV3Disconnect_ended c p)) (fun _ _ => sent c (.quiet (.refl _ c)))
      (fun _ => sent _ (psPubrel_sent c p)) (fun _ => sent _ (psSubUnsub_sent c p)) (fun _ => pingreq)
      (fun _ _ => connect _ (psV5Connect_opened c p)) (fun _ h => (connack h).2)
      (fun _ _ => sent _ (psV5Publish_sent c p)) (fun _ _ => sent _ (psV5Puback_sent c p))
      (fun _ _ => sent _ (psV5Pubrec_sent c p)) (fun _ _ => sent _ (psV5Puback_sent c p))
      (fun _ _ => disconnect _ (psV5Disconnect_ended c p)) (fun _ _ => sent _ (psV5Auth_sent c p))
      (fun _ _ => sent _ (psV5Simple_sent c p)))

theorem send_inv {a P c} (h : Inv0 a P c) (p : Pkt) : Inv a P (send c p) :=
  send_walk c p (fun _ k => h.inv.opened k) (fun _ => ⟨psV3Connack_inv h p, psV5Connack_inv h p⟩)
    (fun _ k => (h.ended k).inv) (psPingreq_inv h.inv p) (fun _ k => h.inv.sent k)

end MqttVerif.Conn
