import MqttVerif.Conn.Lemmas.Restore
import MqttVerif.Conn.Lemmas.Session
/-!
# Helper lemmas: `send_stored` on two objects that hold the same store

Two facts about `send_stored`, and about the session-blind work the four CONNACK handlers do around it:
* what it leaves of the session bookkeeping, read off the identifier layer (`Fp.sendStored_ids`): the entries too large
  for the peer leave the store, their identifiers the wait sets and the allocator (`sendStored_sess`, `resume_sess`);
* on two objects that differ in the session bookkeeping only, hold the same store and whose allocators agree on its
  identifiers, the loop takes the same decisions: the same events, the same state outside the session bookkeeping
  (`sendStoredLoop_ws`, `sendStored_ws`).

`resume_core` puts the two together.
-/
namespace MqttVerif.Conn
open MqttVerif

/-- well-formed allocator including `highest ≤ T::MAX` -/
def PidWfT (cfg : Cfg) (a : Alloc.A) : Prop := PidWf cfg a ∧ a.highest ≤ a.tmax

theorem deallocate_spec {cfg : Cfg} {a : Alloc.A} (h : PidWf cfg a) (ht : a.highest ≤ a.tmax) {v : Nat}
    (hv : Alloc.isUsed a v = true) :
    (Alloc.deallocate a v).1 = none ∧ PidWf cfg (Alloc.deallocate a v).2 ∧
    (Alloc.deallocate a v).2.highest ≤ (Alloc.deallocate a v).2.tmax ∧
    (∀ w, Alloc.isUsed (Alloc.deallocate a v).2 w = true ↔ (Alloc.isUsed a w = true ∧ w ≠ v)) := by
  have d := h.wf.deallocate ht v
  have hb := Alloc.deallocate_bounds a v
  refine ⟨d.2.1 (Alloc.isUsed_range hv), h.keep hb d.1, hb.2.1 ▸ hb.2.2 ▸ ht, fun w => ?_⟩
  rw [d.2.2, Bool.and_eq_true, bne_iff_ne]

/-- `releaseIfUsed`, on the allocator -/
def relId (a : Alloc.A) (id : Nat) : Alloc.A := if Alloc.isUsed a id then (Alloc.deallocate a id).2 else a

/-- the allocator after the identifiers `D` were released, those in use -/
def relAll (D : List Nat) (a : Alloc.A) : Alloc.A := D.foldl relId a

theorem PidWfT.rel {cfg : Cfg} {a : Alloc.A} (h : PidWfT cfg a) (id : Nat) :
    PidWfT cfg (relId a id) ∧ ∀ w, Alloc.isUsed (relId a id) w = true ↔ (Alloc.isUsed a w = true ∧ w ≠ id) := by
  unfold relId
  by_cases hu : Alloc.isUsed a id = true
  · obtain ⟨-, d2, d3, d4⟩ := deallocate_spec h.1 h.2 hu
    rw [if_pos hu]
    exact ⟨⟨d2, d3⟩, d4⟩
  · rw [if_neg hu]
    exact ⟨h, fun w => ⟨fun hw => ⟨hw, fun e => hu (e ▸ hw)⟩, And.left⟩⟩

theorem PidWfT.rels {cfg : Cfg} {a : Alloc.A} (h : PidWfT cfg a) (D : List Nat) :
    PidWfT cfg (relAll D a) ∧ ∀ w, Alloc.isUsed (relAll D a) w = true ↔ (Alloc.isUsed a w = true ∧ w ∉ D) := by
  induction D generalizing a with
  | nil => exact ⟨h, fun w => ⟨fun hw => ⟨hw, List.not_mem_nil⟩, And.left⟩⟩
  | cons d D ih =>
    obtain ⟨h1, u1⟩ := h.rel d
    obtain ⟨h2, u2⟩ := ih h1
    refine ⟨h2, fun w => (u2 w).trans ?_⟩
    rw [u1 w, List.mem_cons, not_or, and_assoc]

theorem releaseIfUsed_eq {cfg : Cfg} (c : C) (id : Nat) (h : PidWfT cfg c.s.pidMan) :
    releaseIfUsed c id =
      ⟨c.cfg, { c.s with pidMan := relId c.s.pidMan id }, if isUsed c.s id then c.ev ++ [.released id] else c.ev⟩ := by
  unfold releaseIfUsed relId
  by_cases hu : isUsed c.s id = true
  · rw [if_pos hu, if_pos hu, if_pos (show Alloc.isUsed c.s.pidMan id = true from hu)]
    simp only [releaseId, (deallocate_spec h.1 h.2 hu).1, C.push]
  · rw [if_neg hu, if_neg hu, if_neg (show ¬Alloc.isUsed c.s.pidMan id = true from hu)]

def delAll (D : List Nat) (l : List Nat) : List Nat := D.foldl (fun l d => del d l) l

/-- session bookkeeping `X` after `send_stored` dropped the (oversize) ids `D`: allocator `pm`,
    store `st`, the dropped ids deleted from the three wait sets, handled untouched -/
def dropSess (D : List Nat) (X : Sess) (pm : Alloc.A) (st : List (Nat × Pkt)) : Sess :=
  ⟨pm, delAll D X.puback, delAll D X.pubrec, delAll D X.pubcomp, st, X.handled⟩

/-- the identifiers of the stored packets too large for the peer -/
def overKeys (pw mps : Nat) (st : List (Nat × Pkt)) : List Nat := (st.filter (oversize pw mps)).map (·.1)

theorem overKeys_sub {pw mps : Nat} {st : List (Nat × Pkt)} {d : Nat} (h : d ∈ overKeys pw mps st) : d ∈ st.map (·.1) :=
  (List.filter_sublist.map _).subset h

theorem IdPrim.drops_run (D : List Nat) (x : Ids) :
    (IdPrim.runAll (D.flatMap IdPrim.drop) x).1 =
      { x with pidMan := relAll D x.pidMan, puback := delAll D x.puback, pubrec := delAll D x.pubrec,
               pubcomp := delAll D x.pubcomp } := by
  induction D generalizing x with
  | nil => rfl
  | cons d D ih =>
    have hd : (IdPrim.runAll (IdPrim.drop d) x).1 =
        { x with pidMan := relId x.pidMan d, puback := del d x.puback, pubrec := del d x.pubrec,
                 pubcomp := del d x.pubcomp } := by
      rw [show IdPrim.drop d = [.unwait .puback d, .unwait .pubrec d, .unwait .pubcomp d] ++ [.release d] from rfl,
        IdPrim.runAll_append, IdPrim.runAll_singleton,
        show IdPrim.runAll [.unwait .puback d, .unwait .pubrec d, .unwait .pubcomp d] x =
          ({ x with puback := del d x.puback, pubrec := del d x.pubrec, pubcomp := del d x.pubcomp }, []) from rfl,
        IdPrim.release_run]
      unfold relId
      show Prod.fst (if Alloc.isUsed x.pidMan d = true then _ else _) = _
      exact Fp.ite_ind (Q := fun r : Ids × List Nat => r.1 = _) (fun h => by rw [if_pos h]) (fun h => by rw [if_neg h])
    rw [List.flatMap_cons, IdPrim.runAll_append, hd, ih]
    rfl

theorem IdPrim.resend_ids (pw mps : Nat) (x : Ids) :
    (IdPrim.runAll (IdPrim.resend pw mps x.store) x).1 =
      { x with pidMan := relAll (overKeys pw mps x.store) x.pidMan, puback := delAll (overKeys pw mps x.store) x.puback,
               pubrec := delAll (overKeys pw mps x.store) x.pubrec, pubcomp := delAll (overKeys pw mps x.store) x.pubcomp,
               store := x.store.filter fun e => !oversize pw mps e } := by
  rw [IdPrim.resend, IdPrim.runAll_append, IdPrim.runAll_singleton,
    ← List.flatMap_map (fun e : Nat × Pkt => e.1) IdPrim.drop, IdPrim.drops_run]
  rfl

theorem sess_ids (s : St) : s.sess = ⟨s.ids.pidMan, s.ids.puback, s.ids.pubrec, s.ids.pubcomp, s.ids.store, s.handled⟩ := rfl

theorem sendStored_sess (c : C) :
    (sendStored c).s.sess =
      dropSess (overKeys c.cfg.pw c.s.mpsSend c.s.store) c.s.sess
        (relAll (overKeys c.cfg.pw c.s.mpsSend c.s.store) c.s.pidMan)
        (c.s.store.filter fun e => !oversize c.cfg.pw c.s.mpsSend e) := by
  rw [sess_ids, (Fp.sendStored_ids c).ids, show (sendStored c).s.handled = c.s.handled by rw [Fp.sendStored_s]]
  exact congrArg (fun x : Ids => (⟨x.pidMan, x.puback, x.pubrec, x.pubcomp, x.store, c.s.handled⟩ : Sess))
    (IdPrim.resend_ids c.cfg.pw c.s.mpsSend c.s.ids)

/-! ## `send_stored` on two objects that differ in the session bookkeeping only -/

/-- the non-oversize arm of the `send_stored` loop: count the exchange, request the send -/
def bump (c : C) (p : Pkt) : C :=
  let c := if c.s.sendMax.isSome then
      (if c.s.sendCount ≥ 4294967295 then c.setPanic "core.rs:send_stored:publish_send_count+=1" else c)
      |> fun c => { c with s := { c.s with sendCount := (c.s.sendCount + 1) % 4294967296 } }
    else c
  c.push (.send p none)

/-- the oversize arm first deletes the id from the three wait sets -/
theorem sendStoredLoop_cons (c : C) (id : Nat) (p : Pkt) (rest : List (Nat × Pkt)) :
    sendStoredLoop c ((id, p) :: rest) =
      if p.sz c.cfg.pw > c.s.mpsSend then sendStoredLoop (releaseIfUsed (dropWait c id) id) rest
      else ((sendStoredLoop (bump c p) rest).1, (id, p) :: (sendStoredLoop (bump c p) rest).2) := rfl

theorem ws_self (c : C) : c.ws c.s.sess = c := by
  obtain ⟨cfg, s, ev⟩ := c
  simp [C.ws]

/-- `g` neither reads nor writes the session bookkeeping -/
def Blind (g : C → C) : Prop := ∀ (c : C) (X : Sess), g (c.ws X) = (g c).ws X

theorem Blind.sess {g : C → C} (hg : Blind g) (c : C) : (g c).s.sess = c.s.sess := by
  have h := hg c c.s.sess
  rw [ws_self] at h
  have := congrArg (fun c : C => c.s.sess) h
  simp only [C.ws, sess_setSess] at this
  exact this

theorem Blind.comp {g h : C → C} (hg : Blind g) (hh : Blind h) : Blind (fun c => g (h c)) := by
  intro c X; simp only [hh c X]; exact hg (h c) X

theorem bump_ws (c : C) (X : Sess) (p : Pkt) : bump (c.ws X) p = (bump c p).ws X := by
  unfold bump
  have e : (c.ws X).s.sendCount = c.s.sendCount := rfl
  by_cases h : c.s.sendCount ≥ 4294967295 <;>
  · simp only [e, h, ↓reduceIte, ← push_ws, C.ws_ite]
    rfl

theorem bump_sess (c : C) (p : Pkt) : (bump c p).s.sess = c.s.sess :=
  Blind.sess (g := (bump · p)) (fun c X => bump_ws c X p) c

theorem releaseIfUsed_ws {cfg : Cfg} (c : C) (X : Sess) (id : Nat) (w1 : PidWfT cfg c.s.pidMan) (w2 : PidWfT cfg X.pidMan)
    (h : isUsed c.s id = Alloc.isUsed X.pidMan id) :
    releaseIfUsed (c.ws X) id = (releaseIfUsed c id).ws { X with pidMan := relId X.pidMan id } := by
  rw [releaseIfUsed_eq c id w1, releaseIfUsed_eq (c.ws X) id w2, show isUsed (c.ws X).s id = isUsed c.s id from h.symm]
  rfl

theorem sendStoredLoop_ws {cfg : Cfg} (l : List (Nat × Pkt)) (c : C) (X : Sess)
    (w1 : PidWfT cfg c.s.pidMan) (w2 : PidWfT cfg X.pidMan)
    (hag : ∀ e ∈ l, isUsed c.s e.1 = Alloc.isUsed X.pidMan e.1) :
    ∃ Y, (sendStoredLoop (c.ws X) l).1 = (sendStoredLoop c l).1.ws Y := by
  induction l generalizing c X with
  | nil => exact ⟨X, rfl⟩
  | cons e rest ih =>
    obtain ⟨id, p⟩ := e
    rw [sendStoredLoop_cons, sendStoredLoop_cons, show (c.ws X).cfg = c.cfg from rfl,
      show (c.ws X).s.mpsSend = c.s.mpsSend from rfl]
    by_cases hov : p.sz c.cfg.pw > c.s.mpsSend
    · rw [if_pos hov, if_pos hov]
      obtain ⟨X1, hX, hd⟩ : ∃ X1 : Sess, X1.pidMan = X.pidMan ∧ dropWait (c.ws X) id = (dropWait c id).ws X1 :=
        ⟨⟨X.pidMan, del id X.puback, del id X.pubrec, del id X.pubcomp, X.store, X.handled⟩, rfl, rfl⟩
      rw [← hX] at w2 hag
      have w1' : PidWfT cfg (dropWait c id).s.pidMan := w1
      obtain ⟨v1, u1⟩ := w1.rel id
      obtain ⟨v2, u2⟩ := w2.rel id
      have hp : (releaseIfUsed (dropWait c id) id).s.pidMan = relId c.s.pidMan id :=
        congrArg (·.s.pidMan) (releaseIfUsed_eq _ id w1')
      rw [hd, releaseIfUsed_ws (dropWait c id) X1 id w1' w2 (hag _ (.head _))]
      refine ih _ _ (hp ▸ v1) v2 fun e he => ?_
      have := hag e (.tail _ he)
      unfold isUsed at this ⊢
      rw [hp]
      exact Bool.eq_iff_iff.2 ((u1 _).trans ((and_congr_left' (Bool.eq_iff_iff.1 this)).trans (u2 _).symm))
    · rw [if_neg hov, if_neg hov, bump_ws]
      have hp : (bump c p).s.pidMan = c.s.pidMan := congrArg Sess.pidMan (bump_sess c p)
      exact ih (bump c p) X (hp ▸ w1) w2 fun e he => by
        unfold isUsed
        rw [hp]
        exact hag e (.tail _ he)

/-- `send_stored` after the counter reset -/
def sendStoredCore (c : C) : C :=
  let r := sendStoredLoop c c.s.store
  { r.1 with s := { r.1.s with store := r.2 } }

theorem sendStored_eq (c : C) : sendStored c = sendStoredCore (resetCount c) := rfl

theorem resetCount_ws (c : C) (X : Sess) : resetCount (c.ws X) = (resetCount c).ws X := by
  unfold resetCount
  rw [C.ws_ite]
  rfl

theorem sendStored_ws {cfg : Cfg} (c : C) (X : Sess) (hst : X.store = c.s.store)
    (w1 : PidWfT cfg c.s.pidMan) (w2 : PidWfT cfg X.pidMan)
    (hag : ∀ e ∈ c.s.store, isUsed c.s e.1 = Alloc.isUsed X.pidMan e.1) :
    ∃ Y, sendStored (c.ws X) = (sendStored c).ws Y := by
  have hr : (resetCount c).s.sess = c.s.sess := Blind.sess resetCount_ws c
  have hp : (resetCount c).s.pidMan = c.s.pidMan := congrArg Sess.pidMan hr
  have hs : (resetCount c).s.store = c.s.store := congrArg Sess.store hr
  obtain ⟨Y, h⟩ := sendStoredLoop_ws c.s.store (resetCount c) X (hp ▸ w1) w2 fun e he => by
    unfold isUsed
    rw [hp]
    exact hag e he
  refine ⟨{ Y with store := (sendStoredLoop (resetCount c) c.s.store).2 }, ?_⟩
  rw [sendStored_eq, sendStored_eq, resetCount_ws]
  dsimp only [sendStoredCore]
  rw [show ((resetCount c).ws X).s.store = c.s.store from hst, hs, h, Fp.sendStoredLoop_snd, Fp.sendStoredLoop_snd]
  rfl

theorem blind_push (e : Ev) : Blind (fun c => c.push e) := fun _ _ => rfl
theorem blind_sendPostProcess : Blind sendPostProcess := sendPostProcess_ws
theorem blind_setConnected : Blind (fun c => { c with s := { c.s with status := .connected } }) :=
  fun _ _ => rfl
theorem blind_propsFold {f : C → Nat → Nat → C} (ps : List (Nat × Nat))
    (hf : ∀ e ∈ ps, ∀ c X, f (C.ws c X) e.1 e.2 = (f c e.1 e.2).ws X) :
    Blind (fun c => propsFold f c ps) := propsFold_ws ps hf

/-! ### `resendStored` (fix 999e935): `send_stored`, then the keep-alive re-arm iff something was resent -/

/-- "at least one stored packet was requested for sending again" -/
def resendCond (c : C) : Bool := ((sendStored c).ev.drop c.ev.length).any isSendEv

def rearmIf (b : Bool) (c : C) : C := if b then sendPostProcess c else c

theorem resendStored_eq_rearm (c : C) : resendStored c = rearmIf (resendCond c) (sendStored c) := by
  unfold resendStored rearmIf resendCond
  rfl

theorem blind_rearmIf (b : Bool) : Blind (rearmIf b) := by
  intro c X
  unfold rearmIf
  cases b
  · rfl
  · exact sendPostProcess_ws c X

theorem resendStored_sess (c : C) : (resendStored c).s.sess = (sendStored c).s.sess := by
  rw [resendStored_eq_rearm]
  exact (blind_rearmIf _).sess _

theorem resendStored_ws {cfg : Cfg} (c : C) (X : Sess) (hst : X.store = c.s.store)
    (w1 : PidWfT cfg c.s.pidMan) (w2 : PidWfT cfg X.pidMan)
    (hag : ∀ e ∈ c.s.store, isUsed c.s e.1 = Alloc.isUsed X.pidMan e.1) :
    ∃ Y, resendStored (c.ws X) = (resendStored c).ws Y := by
  obtain ⟨Y, h⟩ := sendStored_ws c X hst w1 w2 hag
  have hb : resendCond (c.ws X) = resendCond c := by
    unfold resendCond
    rw [h]
    rfl
  exact ⟨Y, by rw [resendStored_eq_rearm, resendStored_eq_rearm, hb, h, blind_rearmIf]⟩

section
variable {m : C → C} (hm : m = sendStored ∨ m = resendStored) (pre post : C → C) (hpre : Blind pre) (hpost : Blind post)
include hm hpre hpost

theorem resume_sess (c : C) :
    (post (m (pre c))).s.sess =
      dropSess (overKeys (pre c).cfg.pw (pre c).s.mpsSend c.s.store) c.s.sess
        (relAll (overKeys (pre c).cfg.pw (pre c).s.mpsSend c.s.store) c.s.pidMan)
        (c.s.store.filter fun e => !oversize (pre c).cfg.pw (pre c).s.mpsSend e) := by
  have hs : (m (pre c)).s.sess = (sendStored (pre c)).s.sess := by
    rcases hm with rfl | rfl
    · rfl
    · exact resendStored_sess _
  have p1 := hpre.sess c
  rw [hpost.sess, hs, sendStored_sess, p1, show (pre c).s.store = c.s.store from congrArg Sess.store p1,
    show (pre c).s.pidMan = c.s.pidMan from congrArg Sess.pidMan p1]

/-- **the resume tail on two objects that differ only in the session bookkeeping** and hold the same store, `f` being
    `pre`, then `m`, then `post`, whatever the session bookkeeping is: the same events, the same state outside the session
    bookkeeping; on both sides the same (oversize) ids `D` leave the store, the wait sets and the allocator -/
theorem resume_core {cfg : Cfg} (f : C → C) (c : C) (X : Sess) (hf : ∀ Y, f (c.ws Y) = post (m (pre (c.ws Y))))
    (hst : X.store = c.s.store) (w1 : PidWfT cfg c.s.pidMan) (w2 : PidWfT cfg X.pidMan)
    (hag : ∀ e ∈ c.s.store, isUsed c.s e.1 = Alloc.isUsed X.pidMan e.1) :
    ∃ D, (∀ d ∈ D, d ∈ c.s.store.map (·.1)) ∧
      f (c.ws X) = (f c).ws (dropSess D X (relAll D X.pidMan) (f c).s.store) ∧
      (f c).s.sess = dropSess D c.s.sess (relAll D c.s.pidMan) (f c).s.store := by
  have hf1 := hf c.s.sess
  rw [ws_self] at hf1
  rw [hf X, hf1]
  generalize hr : post (m (pre c)) = r
  have p1 := hpre.sess c
  have hs : (pre c).s.store = c.s.store := congrArg Sess.store p1
  have hp : (pre c).s.pidMan = c.s.pidMan := congrArg Sess.pidMan p1
  obtain ⟨Y, h⟩ : ∃ Y, m ((pre c).ws X) = (m (pre c)).ws Y := by
    have hag' : ∀ e ∈ (pre c).s.store, isUsed (pre c).s e.1 = Alloc.isUsed X.pidMan e.1 := fun e he => by
      unfold isUsed
      rw [hp]
      exact hag e (hs ▸ he)
    rcases hm with rfl | rfl
    · exact sendStored_ws _ X (hst.trans hs.symm) (hp ▸ w1) w2 hag'
    · exact resendStored_ws _ X (hst.trans hs.symm) (hp ▸ w1) w2 hag'
  have e : post (m (pre (c.ws X))) = r.ws Y := by rw [hpre c X, h, hpost, hr]
  have g1 := hr ▸ resume_sess hm pre post hpre hpost c
  have g2 := resume_sess hm pre post hpre hpost (c.ws X)
  rw [e, show (r.ws Y).s.sess = Y from sess_setSess _ _, hpre c X] at g2
  have hst' : r.s.store = c.s.store.filter fun e => !oversize (pre c).cfg.pw (pre c).s.mpsSend e := congrArg Sess.store g1
  refine ⟨overKeys (pre c).cfg.pw (pre c).s.mpsSend c.s.store, fun d => overKeys_sub, ?_, ?_⟩
  · rw [e, g2, hst', ← hst]
    rfl
  · rw [hst']
    exact g1

end

theorem connackSendProp_ws (c : C) (X : Sess) (id v : Nat) :
    connackSendProp (c.ws X) id v = (connackSendProp c id v).ws X := by
  unfold connackSendProp
  have e : (c.ws X).s.recvSet = c.s.recvSet := rfl
  cases h : c.s.recvSet <;>
  · simp only [e, h, Bool.false_eq_true, ↓reduceIte, C.ws_ite]
    rfl

theorem connackRecvProp_ws (c : C) (X : Sess) (id v : Nat) (h : ¬ (id = pSEI ∧ v = 0)) :
    connackRecvProp (c.ws X) id v = (connackRecvProp c id v).ws X := by
  unfold connackRecvProp
  by_cases hv : v = 0
  · have hs : ¬ id = pSEI := fun hs => h ⟨hs, hv⟩
    simp only [hv, hs, ↓reduceIte, C.ws_ite]
    rfl
  · simp only [hv, ↓reduceIte, C.ws_ite]
    rfl

end MqttVerif.Conn
