import MqttVerif.Monitors
import MqttVerif.Conn.Lemmas.FootprintRecv
import MqttVerif.Conn.Lemmas.FootprintEmits
/-!
# C11 helper — `need_store` is the persistence of the session as the packets exchanged define it

The driver monitor `C11 persistence_flag` keeps a ghost Boolean, updated from the events of every
call (`nsStep`): a CONNECT sent or delivered sets it (v3.1.1: `!clean`; v5.0: Session Expiry
Interval > 0), a delivered successful v5.0 CONNACK carrying a Session Expiry Interval overrides it.
`K c` = (`needStore`, `ver`, the relevant events of `c`).  `K (f c) = K c` for every model function
that neither touches `needStore` nor pushes a relevant event: from the write set of `f` and the
packets it sends and delivers (`K_emits`; `K_frame`, `K_fp` where it sends and delivers nothing); the
CONNECT / CONNACK handlers are analysed in `PersistFlag2`.
-/
namespace MqttVerif.Conn.PF
open MqttVerif MqttVerif.Conn

def connectNs (q : Pkt) : Bool :=
  if q.ver = 4 then !q.clean else decide ((Mon.findProp q pSEI).getD 0 > 0)

/-- the driver's update of its ghost flag by one event -/
def nsEv (acc : Bool) : Ev → Bool
  | .send q _ => if q.kind = .connect then connectNs q else acc
  | .recv q =>
    if q.kind = .connect then connectNs q
    else if q.kind = .connack ∧ q.rc = some 0 ∧ q.ver = 5 then
      (match Mon.findProp q pSEI with | some v => decide (v > 0) | none => acc)
    else acc
  | _ => acc

def nsStep (ns : Bool) (evs : List Ev) : Bool := evs.foldl nsEv ns

def relRecv (p : Pkt) : Bool :=
  decide (p.kind = .connect) || (decide (p.kind = .connack) && decide (p.rc = some 0) && decide (p.ver = 5))

/-- the events the ghost looks at -/
def rel : Ev → Bool
  | .send p _ => decide (p.kind = .connect)
  | .recv p => relRecv p
  | _ => false

def relOf (l : List Ev) : List Ev := l.filter rel

theorem nsEv_irrel (acc : Bool) (e : Ev) (h : rel e = false) : nsEv acc e = acc := by
  cases e <;> simp_all [rel, nsEv, relRecv]

theorem nsStep_relOf (l : List Ev) : ∀ b, nsStep b l = nsStep b (relOf l) := by
  induction l with
  | nil => intro b; rfl
  | cons e rest ih =>
    intro b
    cases h : rel e
    · have : relOf (e :: rest) = relOf rest := by simp [relOf, List.filter, h]
      rw [this, ← ih]
      show nsStep (nsEv b e) rest = _
      rw [nsEv_irrel b e h]
    · have : relOf (e :: rest) = e :: relOf rest := by simp [relOf, List.filter, h]
      rw [this]
      show nsStep (nsEv b e) rest = nsStep (nsEv b e) (relOf rest)
      exact ih _

theorem nsStep_append (b : Bool) (l : List Ev) (e : Ev) : nsStep b (l ++ [e]) = nsEv (nsStep b l) e := by
  simp [nsStep, List.foldl_append]

@[simp] theorem relOf_nil : relOf [] = [] := rfl
theorem relOf_append (a b : List Ev) : relOf (a ++ b) = relOf a ++ relOf b := by simp [relOf]

def K (c : C) : Bool × Nat × List Ev := (c.s.needStore, c.s.ver, relOf c.ev)

/-- the invariant inside a call: the flag equals the ghost started at `b0` and run over the events
    pushed so far -/
def GK (b0 : Bool) (k : Bool × Nat × List Ev) : Prop := k.1 = nsStep b0 k.2.2

theorem GK_iff (b0 : Bool) (c : C) : GK b0 (K c) ↔ c.s.needStore = nsStep b0 c.ev := by
  simp only [GK, K]; rw [← nsStep_relOf]

theorem K_mk (cfg : Cfg) (s : St) (ev : List Ev) : K ⟨cfg, s, ev⟩ = (s.needStore, s.ver, relOf ev) := rfl
theorem K_eta (x : C) : (x.s.needStore, x.s.ver, relOf x.ev) = K x := rfl

theorem ver_of_K {c c' : C} (h : K c' = K c) : c'.s.ver = c.s.ver := congrArg (·.2.1) h
theorem gk_congr {b0 : Bool} {c c' : C} (h : K c' = K c) (g : GK b0 (K c)) : GK b0 (K c') := by rw [h]; exact g

theorem K_push_irrel (c : C) (e : Ev) (h : rel e = false) : K (c.push e) = K c := by
  simp [K, C.push, relOf, List.filter, h]

theorem K_push_recv (c : C) (p : Pkt) (h : relRecv p = false) : K (c.push (.recv p)) = K c :=
  K_push_irrel c _ h
theorem K_err (c : C) (e : Nat) : K (c.err e) = K c := K_push_irrel c _ rfl
@[simp] theorem K_setPanic (c : C) (x : String) : K (c.setPanic x) = K c := rfl
@[simp] theorem K_clearStoreRelated (c : C) : K (clearStoreRelated c) = K c := rfl

theorem K_push_rel (c : C) (e : Ev) (h : rel e = true) :
    K (c.push e) = (c.s.needStore, c.s.ver, relOf c.ev ++ [e]) := by
  simp [K, C.push, relOf, List.filter, h]

theorem K_ite {p : Prop} [Decidable p] {a b c : C} (ha : p → K a = K c) (hb : ¬p → K b = K c) :
    K (if p then a else b) = K c := Fp.ite_ind (Q := fun x => K x = K c) ha hb

theorem rel_base : Emits.Base (rel · = false) :=
  .of_class (fun p => decide (p.kind = .connect)) relRecv fun _ h => decide_eq_false h.kind_ne

theorem rel_send {p : Pkt} (h : p.kind ≠ .connect) (r : Option Nat) : rel (.send p r) = false := by simp [rel, h]

theorem K_emits {c c' : C} (he : Emits (rel · = false) c c')
    (hs : (c'.s.needStore, c'.s.ver) = (c.s.needStore, c.s.ver)) : K c' = K c := by
  unfold K
  rw [show relOf c'.ev = relOf c.ev from he.filter_eq rel (fun _ h => h), (Prod.mk.inj hs).1, (Prod.mk.inj hs).2]

theorem K_frame {T : List EvTag} {c c' : C} (he : Appends T c c')
    (hs : (c'.s.needStore, c'.s.ver) = (c.s.needStore, c.s.ver))
    (hT : ∀ t ∈ T, t ≠ .send ∧ t ≠ .recv := by decide) : K c' = K c := K_emits (he.emits rel_base hT) hs

theorem K_fp {T : List EvTag} {w : St → St → St} {c c' : C} (h : Fp.Footprint T w c c')
    (hT : ∀ t ∈ T, t ≠ .send ∧ t ≠ .recv := by decide)
    (hw : ∀ a x, ((w a x).needStore, (w a x).ver) = (a.needStore, a.ver) := by exact fun _ _ => rfl) : K c' = K c :=
  K_frame h.ev (h.view (fun s => (s.needStore, s.ver)) hw) hT

theorem K_cancelTimers (c : C) : K (cancelTimers c) = K c := K_fp (Fp.cancelTimers_fp c)
theorem K_sendPostProcess (c : C) : K (sendPostProcess c) = K c := K_fp (Fp.sendPostProcess_fp c)
theorem K_refuseSend (c : C) (e : Nat) (p : Pkt) : K (refuseSend c e p) = K c := K_fp (Fp.refuseSend_fp c e p)

theorem K_handleV3Error (c : C) (e : Nat) : K (handleV3Error c e) = K c :=
  K_frame (Fp.handleV3Error_ev c e) (by rw [Fp.handleV3Error_s])
theorem K_v5DisconnectOrClose (c : C) (p : Pkt) (h : p.kind ≠ .connect) : K (v5DisconnectOrClose c p) = K c :=
  K_emits ((Fp.v5DisconnectOrClose_orCloses rel_base.quiet c p fun _ => rel_send h none).emits' rel_base)
    (by rw [Fp.v5DisconnectOrClose_s])
theorem K_handleV5Error (c : C) (e : Nat) : K (handleV5Error c e) = K c :=
  K_emits ((Fp.handleV5Error_orCloses rel_base.quiet (rel_base.closing c) e).emits' rel_base)
    (by rw [Fp.handleV5Error_s])

theorem rel_stored {c : C} (hl : ∀ x ∈ c.s.store, x.2.kind ≠ .connect) :
    ∀ y ∈ c.s.store, sizeOk c y.2 = true → rel (.send y.2 none) = false := fun y hy _ => rel_send (hl y hy) none

theorem K_resendStored (c : C) (hl : ∀ x ∈ c.s.store, x.2.kind ≠ .connect) : K (resendStored c) = K c :=
  K_emits (Fp.resendStored_adds rel_base.quiet c (rel_stored hl)) (by rw [Fp.resendStored_s])

theorem K_psV3Connack (c : C) (p : Pkt) (h : p.kind ≠ .connect) (hl : ∀ x ∈ c.s.store, x.2.kind ≠ .connect) :
    K (psV3Connack c p) = K c :=
  K_emits ((Fp.psV3Connack_orCloses rel_base.quiet c p (fun _ => rel_send h none) (fun _ => rel_send h none)
    fun _ => rel_stored hl).emits' rel_base) (by rw [(Fp.psV3Connack_fp c p).s])

theorem K_psV5Connack (c : C) (p : Pkt) (h : p.kind ≠ .connect) (hl : ∀ x ∈ c.s.store, x.2.kind ≠ .connect) :
    K (psV5Connack c p) = K c :=
  K_emits ((Fp.psV5Connack_orCloses rel_base.quiet c p (fun _ _ => rel_send h none) (fun _ _ => rel_send h none)
    fun _ => rel_stored hl).emits' rel_base) (by rw [Fp.psV5Connack_s])

theorem K_processSend_other (c : C) (p : Pkt) (h : p.kind ≠ .connect)
    (hl : ∀ x ∈ c.s.store, x.2.kind ≠ .connect) : K (processSend c p) = K c :=
  have hp := rel_send h
  Fp.processSend_cases (Q := fun r => K r = K c) c p (fun _ hk => absurd hk h) (fun _ _ => K_psV3Connack c p h hl)
    (fun _ _ => K_emits (Fp.psV3Publish_adds rel_base.quiet c p hp) (by rw [Fp.psV3Publish_s]))
    (fun _ _ => K_emits (Fp.psV3Simple_adds rel_base.quiet c p (hp none)) (by rw [Fp.psV3Simple_s]))
    (fun _ _ => K_emits ((Fp.psV3Disconnect_orCloses rel_base.quiet c p (hp none)).emits' rel_base)
      (by rw [Fp.psV3Disconnect_s]))
    (fun _ _ => rfl)
    (fun _ => K_emits (Fp.psPubrel_adds rel_base.quiet c p fun _ => hp none) (by rw [Fp.psPubrel_s]))
    (fun _ => K_emits (Fp.psSubUnsub_adds rel_base.quiet c p fun _ => hp) (by rw [Fp.psSubUnsub_s]))
    (fun _ => K_emits (Fp.psPingreq_adds rel_base.quiet c p fun _ => hp none) (by rw [Fp.psPingreq_s]))
    (fun _ hk => absurd hk h) (fun _ _ => K_psV5Connack c p h hl)
    (fun _ _ => K_emits (Fp.psV5Publish_adds rel_base.quiet c p fun q r ha _ => rel_send (ha.kind ▸ h) r)
      (by rw [Fp.psV5Publish_s]))
    (fun _ _ => K_emits (Fp.psV5Puback_adds rel_base.quiet c p fun _ => hp none) (by rw [Fp.psV5Puback_s]))
    (fun _ _ => K_emits (Fp.psV5Pubrec_adds rel_base.quiet c p fun _ => hp none) (by rw [Fp.psV5Pubrec_s]))
    (fun _ _ => K_emits (Fp.psV5Pubcomp_adds rel_base.quiet c p fun _ => hp none) (by rw [Fp.psV5Pubcomp_s]))
    (fun _ _ => K_emits ((Fp.psV5Disconnect_orCloses rel_base.quiet c p fun _ => hp none).emits' rel_base)
      (by rw [Fp.psV5Disconnect_s]))
    (fun _ _ => K_emits (Fp.psV5Auth_adds rel_base.quiet c p fun _ => hp none) (by rw [Fp.psV5Auth_s]))
    (fun _ _ => K_emits (Fp.psV5Simple_adds rel_base.quiet c p fun _ => hp none) (by rw [Fp.psV5Simple_s]))

/-- the ok-branch of a receive handler: `hp` — the parsed packet is not looked at by the ghost -/
macro "k_recv_tac" f:ident hp:ident : tactic =>
  `(tactic| (unfold $f; simp only []
             (repeat' (first | split | (simp only []; split))) <;>
               first | rfl | (simp [ite_K, K_mk, K_eta, $hp:ident]; done) | (simp [ite_K, K_mk, K_eta, $hp:ident]; rfl)))

/-! ## the receive side (everything but CONNECT and the v5.0 CONNACK)

`x` is the parser's answer; `hx`: a packet it yields is none the ghost looks at. -/

theorem K_prV3Connack (c : C) (x : Except Nat Pkt) (hx : ∀ p, x = .ok p → relRecv p = false)
    (hl : ∀ x ∈ c.s.store, x.2.kind ≠ .connect) : K (prV3Connack c x) = K c :=
  K_emits ((Fp.prV3Connack_orCloses rel_base.quiet c x hx (rel_stored hl)).emits' rel_base) (by rw [Fp.prV3Connack_s])

theorem K_prV5Publish (c : C) (x : Except Nat Pkt) (hx : ∀ p, x = .ok p → p.kind = .publish) :
    K (prV5Publish c x) = K c := by
  refine K_emits ((Fp.prV5Publish_orCloses (rel_base.own c) (rel_base.closing c) x fun p p' hp h => ?_).emits' rel_base)
    (by rw [Fp.prV5Publish_s])
  simp [rel, relRecv, Fp.prV5PublishAlias_kind h, hx p hp]

theorem K_processed {c r : C} {x : Except Nat Pkt} (k : Fp.Processed (rel · = false) c x r)
    (hx : ∀ p, x = .ok p → relRecv p = false) : K r = K c := by
  refine K_emits (k.emits rel_base hx) ?_
  cases k with
  | refused e => rw [Fp.vErr_s]
  | delivered p m _ _ hs => show (m.s.needStore, m.s.ver) = _; rw [hs]

theorem K_notifyTimerFired (c : C) (k : Timer) : K (notifyTimerFired c k) = K c :=
  K_emits (Fp.notifyTimerFired_emits rel_base c k) (by rw [Fp.notifyTimerFired_s])

end MqttVerif.Conn.PF
