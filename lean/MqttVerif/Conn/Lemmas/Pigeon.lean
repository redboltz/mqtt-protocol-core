/-!
# Pigeonhole for identifier lists (core Lean only)

A duplicate-free list of naturals all lying in `[1, m]` has at most `m` elements.  Used to bound
the number of stored packets by the size of the packet-identifier type (`Cfg.idMax`), which is
what keeps the `u32` counter `publish_send_count` from overflowing in `send_stored`
(fix ab9a1ec): C05 (`Headroom`), C12 (`C12_no_wrap_ids`).
-/
namespace MqttVerif.Pigeon

theorem length_le_of_window (lo : Nat) :
    ∀ (n : Nat) (l : List Nat), l.Nodup → (∀ x ∈ l, lo ≤ x ∧ x < lo + n) → l.length ≤ n := by
  intro n
  induction n with
  | zero =>
    intro l _ h
    cases l with
    | nil => simp
    | cons a t => have := h a (by simp); omega
  | succ n ih =>
    intro l hn h
    by_cases hm : lo + n ∈ l
    · obtain ⟨a, b, rfl⟩ := List.append_of_mem hm
      have hn' : (a ++ b).Nodup := by
        rw [List.nodup_append] at hn ⊢
        obtain ⟨h1, h2, h3⟩ := hn
        exact ⟨h1, (List.nodup_cons.1 h2).2, fun x hx y hy => h3 x hx y (List.mem_cons_of_mem _ hy)⟩
      have hlt : ∀ x ∈ a ++ b, lo ≤ x ∧ x < lo + n := by
        intro x hx
        have h1 := h x (by
          rcases List.mem_append.1 hx with hx | hx
          · exact List.mem_append.2 (Or.inl hx)
          · exact List.mem_append.2 (Or.inr (List.mem_cons_of_mem _ hx)))
        have h2 : x ≠ lo + n := by
          rw [List.nodup_append] at hn
          obtain ⟨_, h2, h3⟩ := hn
          rcases List.mem_append.1 hx with hx | hx
          · exact h3 x hx (lo + n) (by simp)
          · intro e; subst e; exact (List.nodup_cons.1 h2).1 hx
        omega
      have := ih (a ++ b) hn' hlt
      simp only [List.length_append, List.length_cons] at this ⊢
      omega
    · have := ih l hn (fun x hx => by
        have h1 := h x hx
        have h2 : x ≠ lo + n := fun e => hm (e ▸ hx)
        omega)
      omega

theorem length_le_of_range {m : Nat} {l : List Nat} (hn : l.Nodup) (h : ∀ x ∈ l, 1 ≤ x ∧ x ≤ m) :
    l.length ≤ m :=
  length_le_of_window 1 m l hn (fun x hx => by have := h x hx; omega)

/-- the identifier types of the library: `256 ^ pw - 1 ≤ u32::MAX` for `pw ≤ 4` -/
theorem idMax_le_u32 {pw : Nat} (h : pw ≤ 4) : 256 ^ pw - 1 ≤ 4294967295 := by
  have : 256 ^ pw ≤ 256 ^ 4 := Nat.pow_le_pow_right (by omega) h
  omega

theorem keys_length_le {α : Type} {m : Nat} {l : List (Nat × α)} (hn : (l.map (·.1)).Nodup)
    (h : ∀ x ∈ l, 1 ≤ x.1 ∧ x.1 ≤ m) : l.length ≤ m := by
  have := length_le_of_range (m := m) hn (by
    intro x hx
    obtain ⟨y, hy, rfl⟩ := List.mem_map.1 hx
    exact h y hy)
  simpa using this

end MqttVerif.Pigeon
