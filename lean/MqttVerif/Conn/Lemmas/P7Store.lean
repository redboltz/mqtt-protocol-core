import MqttVerif.Conn.Lemmas.Qos2Recv
import MqttVerif.Conn.Lemmas.Projections
import MqttVerif.Conn.Lemmas.FootprintIdsSend
/-!
# Lemmas for C06 (outbound QoS 1/2 store): the store container, `send_stored`, the sending of a PUBLISH
-/
namespace MqttVerif.Conn
open MqttVerif

/-! ## the store container -/

theorem lookup_some_mem {α : Type} {k : Nat} {l : List (Nat × α)} {v : α} (h : lookup k l = some v) :
    (k, v) ∈ l := mem_of_lookup h

theorem storeErase_removed {ver : Nat} {k : Kind} {id : Nat} {st : List (Nat × Pkt)} {e : Nat × Pkt}
    (h1 : e ∈ st) (h2 : e ∉ storeErase ver k id st) :
    e.1 = id ∧ ∃ q, lookup id st = some q ∧ respOf q = k ∧ q.ver = ver := by
  unfold storeErase at h2
  split at h2
  · rename_i q hq
    split at h2
    · rename_i hm
      rw [mem_erase] at h2
      exact ⟨Classical.byContradiction fun hne => h2 ⟨h1, hne⟩, q, hq, hm.1, hm.2⟩
    · exact absurd h1 h2
  · exact absurd h1 h2

theorem storeErase_sub {ver : Nat} {k : Kind} {id : Nat} {st : List (Nat × Pkt)} {e : Nat × Pkt}
    (h : e ∈ storeErase ver k id st) : e ∈ st := (storeErase_sublist ver k id st).subset h

theorem storeErasePublish_removed {id : Nat} {st : List (Nat × Pkt)} {e : Nat × Pkt}
    (h1 : e ∈ st) (h2 : e ∉ (storeErasePublish id st).2) :
    e.1 = id ∧ ∃ q, lookup id st = some q ∧ q.kind = .publish := by
  unfold storeErasePublish at h2
  split at h2
  · rename_i q hq
    split at h2
    · rename_i hm
      rw [mem_erase] at h2
      exact ⟨Classical.byContradiction fun hne => h2 ⟨h1, hne⟩, q, hq, hm⟩
    · exact absurd h1 h2
  · exact absurd h1 h2

/-! ## `send_stored` -/

def fits (pw mps : Nat) (l : List (Nat × Pkt)) : List (Nat × Pkt) :=
  l.filter (fun e => !decide (e.2.sz pw > mps))

theorem mem_fits {pw mps : Nat} {l : List (Nat × Pkt)} {e : Nat × Pkt} :
    e ∈ fits pw mps l ↔ e ∈ l ∧ e.2.sz pw ≤ mps := by
  simp [fits]

theorem fits_cons_of_le {pw mps : Nat} {e : Nat × Pkt} (h : e.2.sz pw ≤ mps) (l : List (Nat × Pkt)) :
    fits pw mps (e :: l) = e :: fits pw mps l :=
  List.filter_cons_of_pos (by simpa using h)

theorem fits_cons_of_gt {pw mps : Nat} {e : Nat × Pkt} (h : e.2.sz pw > mps) (l : List (Nat × Pkt)) :
    fits pw mps (e :: l) = fits pw mps l :=
  List.filter_cons_of_neg (by simpa using h)

theorem sendStoredLoop_snd (c : C) (l : List (Nat × Pkt)) :
    (sendStoredLoop c l).2 = fits c.cfg.pw c.s.mpsSend l := Fp.sendStoredLoop_snd c l

/-- the packets that fit are requested in the order of the store -/
theorem sendStoredLoop_sends (c : C) (l : List (Nat × Pkt)) :
    sends (sendStoredLoop c l).1.ev = sends c.ev ++ (fits c.cfg.pw c.s.mpsSend l).map (·.2) := by
  induction l generalizing c with
  | nil => exact (List.append_nil _).symm
  | cons a t ih =>
    obtain ⟨i, p⟩ := a
    by_cases h : p.sz c.cfg.pw > c.s.mpsSend
    · rw [sendStoredLoop, if_pos h, ih, fits_cons_of_gt h, (Fp.releaseIfUsed_ev _ i).sends_eq (by decide),
        Fp.releaseIfUsed_cfg, Fp.releaseIfUsed_s]
    · obtain ⟨c1, e, hc, he, hs⟩ :=
        (Fp.ite_count_fp (c.s.sendMax.isSome = true) c "core.rs:send_stored:publish_send_count+=1").named
      rw [sendStoredLoop, if_neg h]
      dsimp only
      rw [e, ih, fits_cons_of_le (Nat.le_of_not_lt h), push_ev, sends_append, he, push_cfg, hc, push_s, hs,
        List.map_cons, List.append_assoc]
      rfl

/-- `sendStored` is the loop over the store, run in a context `c0` in which the send quota starts afresh -/
theorem sendStored_loop (c : C) :
    ∃ c0 : C, c0.cfg = c.cfg ∧ c0.ev = c.ev ∧ c0.s.mpsSend = c.s.mpsSend ∧ c0.s.store = c.s.store ∧
      (sendStored c).ev = (sendStoredLoop c0 c0.s.store).1.ev ∧
      (sendStored c).s.store = (sendStoredLoop c0 c0.s.store).2 :=
  ⟨if c.s.sendMax.isSome then { c with s := { c.s with sendCount := 0 } } else c, Fp.ite_both (Q := fun r : C => r.cfg = c.cfg) rfl rfl, Fp.ev_ite rfl rfl,
    Fp.ite_both (Q := fun r : C => r.s.mpsSend = c.s.mpsSend) rfl rfl,
    Fp.ite_both (Q := fun r : C => r.s.store = c.s.store) rfl rfl, rfl, rfl⟩

theorem sendStored_store (c : C) : (sendStored c).s.store = fits c.cfg.pw c.s.mpsSend c.s.store := by
  obtain ⟨c0, hc, -, hm, hs, -, e⟩ := sendStored_loop c
  rw [e, sendStoredLoop_snd, hc, hm, hs]

theorem sendStored_sends (c : C) :
    sends (sendStored c).ev = sends c.ev ++ (fits c.cfg.pw c.s.mpsSend c.s.store).map (·.2) := by
  obtain ⟨c0, hc, he, hm, hs, e, -⟩ := sendStored_loop c
  rw [e, sendStoredLoop_sends, hc, he, hm, hs]

@[simp] theorem sendStored_errs (c : C) : errs (sendStored c).ev = errs c.ev :=
  (Fp.sendStored_ev c).errs_eq (by decide)

/-! ## sending a PUBLISH -/

theorem storeAdd_store (c : C) (id : Nat) (p : Pkt) (site : String) :
    (storeAdd c id p site).s.store = c.s.store ∨ (storeAdd c id p site).s.store = c.s.store ++ [(id, p)] := by
  unfold storeAdd
  exact Fp.ite_ind (Q := fun r : C => r.s.store = c.s.store ∨ r.s.store = c.s.store ++ [(id, p)])
    (fun _ => .inl rfl) (fun _ => .inr rfl)

theorem storeAdd_mono (c : C) (id : Nat) (p : Pkt) (site : String) {e : Nat × Pkt} (h : e ∈ c.s.store) :
    e ∈ (storeAdd c id p site).s.store := by
  rcases storeAdd_store c id p site with h' | h' <;> rw [h']
  · exact h
  · exact List.mem_append_left _ h

theorem storeAdd_has (c : C) (id : Nat) (p : Pkt) (site : String) :
    ∃ q, (id, q) ∈ (storeAdd c id p site).s.store := by
  unfold storeAdd
  exact Fp.ite_ind (Q := fun r : C => ∃ q, (id, q) ∈ r.s.store) (fun h => storeHas_iff.1 h)
    (fun _ => ⟨p, List.mem_append_right _ (List.mem_singleton.2 rfl)⟩)

theorem psV5PublishTail_sends (c : C) (p : Pkt) (rel : Option Nat) :
    sends (psV5PublishTail c p rel).ev = sends c.ev ++ (if c.s.status = .connected then [p] else []) := by
  rw [Fp.psV5PublishTail_eq, ← show (Fp.countSend c p).s.status = c.s.status by rw [Fp.countSend_s]]
  refine Fp.sendIfConnected_cases (Q := fun r : C => sends r.ev = _) _ p rel (fun h => ?_) (fun h => ?_)
  · rw [if_pos h]
    exact (sent_events c _ p rel (Fp.countSend_ev c p)).1
  · rw [if_neg h, Fp.countSend_ev, List.append_nil]

/-- What `send` does with a PUBLISH, as the events and the store show it.  It is refused with an error; or it is
    accepted without one: then nothing leaves the store, and a QoS 1/2 PUBLISH is requested for sending — possibly
    with its topic replaced by an alias — or an entry for its identifier is in the store. -/
inductive PubSent (p : Pkt) (c c' : C) : Prop
  | refused (he : errs c'.ev ≠ errs c.ev)
  | accepted (he : errs c'.ev = errs c.ev) (hs : ∀ e ∈ c.s.store, e ∈ c'.s.store)
      (hq : ∀ id, p.qos > 0 → p.pid = some id →
        (∃ q ∈ sends c'.ev, q.pid = some id ∧ q.kind = p.kind) ∨ ∃ q, (id, q) ∈ c'.s.store)

namespace PubSent
variable {p : Pkt} {c c1 c' : C}

theorem errs_ne (he : c1.ev = c.ev) (e : Nat) (h : errs c'.ev = errs (c1.err e).ev) : errs c'.ev ≠ errs c.ev := by
  intro h'
  have hl := congrArg List.length (h.symm.trans h')
  rw [err_ev, errs_append, he, List.length_append] at hl
  exact absurd hl (by simp)

/-- refused in `c1`, which has the events of `c` -/
theorem err (he : c1.ev = c.ev) (e : Nat) : PubSent p c (c1.err e) := .refused (errs_ne he e rfl)

theorem err_release (he : c1.ev = c.ev) (e id : Nat) : PubSent p c (releaseIfUsed (c1.err e) id) :=
  .refused (errs_ne he e ((Fp.releaseIfUsed_ev _ id).errs_eq (by decide)))

/-- what happened before did not show: the events are those of `c`, and the entries of `c` are still stored -/
theorem of_pre (h : PubSent p c1 c') (he : c1.ev = c.ev) (hs : ∀ e ∈ c.s.store, e ∈ c1.s.store) : PubSent p c c' := by
  cases h with
  | refused a => exact .refused (he ▸ a)
  | accepted a b d => exact .accepted (he ▸ a) (fun e h => b e (hs e h)) d

end PubSent

/-- the Receive Maximum and alias stages of a v5.0 PUBLISH that is sent now (connected) or has been stored -/
theorem psV5PublishAlias_sent (c : C) (p : Pkt) (rel : Option Nat) (v : Bool)
    (hq : ∀ id, p.qos > 0 → p.pid = some id → c.s.status = .connected ∨ ∃ q, (id, q) ∈ c.s.store) :
    PubSent p c (psV5PublishAlias c p rel v) := by
  refine Fp.psV5PublishAlias_cases c p rel v
    (fun c1 e k => .refused (PubSent.errs_ne k.ev_eq e ((Fp.pubRefuseCleanup_ev _ _).errs_eq (by decide))))
    (fun c1 q k ha _ => ?_)
  have hst : (psV5PublishTail c1 q rel).s.store = c.s.store := by rw [Fp.psV5PublishTail_s, k.s]
  refine .accepted (by rw [(Fp.psV5PublishTail_ev c1 q rel).errs_eq (by decide), k.ev_eq]) (fun x hx => hst ▸ hx)
    fun id h0 hid => ?_
  rcases hq id h0 hid with hc | ⟨q', hq'⟩
  · refine .inl ⟨q, ?_, ha.pid.trans hid, ha.kind⟩
    rw [psV5PublishTail_sends, if_pos (by rw [k.s]; exact hc)]
    exact List.mem_append_right _ (List.mem_singleton.2 rfl)
  · exact .inr ⟨q', hst ▸ hq'⟩

theorem wildcardCheck_store (c : C) (t : List Nat) : (wildcardCheck c t).s.store = c.s.store := by
  unfold wildcardCheck
  exact Fp.ite_both (Q := fun r : C => r.s.store = c.s.store) rfl rfl

theorem addWait_keeps (c : C) (qos id : Nat) :
    (addWait c qos id).ev = c.ev ∧ (addWait c qos id).s.store = c.s.store ∧
      (addWait c qos id).s.status = c.s.status :=
  Fp.ite_both (Q := fun r : C => r.ev = c.ev ∧ r.s.store = c.s.store ∧ r.s.status = c.s.status)
    ⟨rfl, rfl, rfl⟩ ⟨rfl, rfl, rfl⟩

/-- a QoS 1/2 PUBLISH is neither sent now nor stored only if it is refused -/
theorem connected_of_allowed {s : St} (h1 : pubNotAllowed s = false) (h2 : willStore s = false) :
    s.status = .connected := by
  simp only [pubNotAllowed, willStore] at h1 h2
  by_cases h : s.status = .connected
  · exact h
  · simp_all

namespace PubSent

/-- requested now -/
theorem sentNow (c : C) (p : Pkt) (rel : Option Nat) : PubSent p c (sendPostProcess (c.push (.send p rel))) :=
  .accepted ((sent_events c c p rel rfl).2.trans (List.append_nil _))
    (fun e h => by rw [Fp.sendPostProcess_s]; exact h)
    fun id _ hid => .inl ⟨p, by rw [(sent_events c c p rel rfl).1]; exact List.mem_append_right _ (.head _), hid, rfl⟩

variable {p : Pkt} {c : C} {K : C → C}
  (hK : ∀ c1 : C, (∀ id, p.qos > 0 → p.pid = some id → c1.s.status = .connected ∨ ∃ q, (id, q) ∈ c1.s.store) →
    PubSent p c1 (K c1))
include hK

/-- `K`, the rest of either PUBLISH handler, after the packet was stored under `id` in `c1` and its response is
    awaited -/
theorem stored (c1 : C) (id : Nat) (q : Pkt) (site : String) (hid : p.pid = some id) (he : c1.ev = c.ev)
    (hs : c1.s.store = c.s.store) : PubSent p c (K (addWait (storeAdd c1 id q site) p.qos id)) := by
  obtain ⟨w1, w2, -⟩ := addWait_keeps (storeAdd c1 id q site) p.qos id
  refine (hK _ fun id' _ h => .inr ?_).of_pre (w1.trans ((Fp.storeAdd_ev ..).trans he))
    fun e h => w2 ▸ storeAdd_mono _ _ _ _ (hs ▸ h)
  obtain ⟨q', hq'⟩ := storeAdd_has c1 id q site
  rw [← Option.some.inj (hid.symm.trans h), w2]
  exact ⟨q', hq'⟩

/-- … or after the wait-set entry alone, which is made without storing on an established connection only -/
theorem awaited (id : Nat) (ha : pubNotAllowed c.s = false) (hw : willStore c.s = false) :
    PubSent p c (K (addWait c p.qos id)) := by
  obtain ⟨w1, w2, w3⟩ := addWait_keeps c p.qos id
  refine (hK _ fun _ _ _ => .inl ?_).of_pre w1 fun e h => w2 ▸ h
  rw [w3]
  exact connected_of_allowed ha hw

end PubSent

/-- the end of a v3.1.1 PUBLISH that is sent now (connected) or has been stored -/
theorem sendIfConnected_sent (c : C) (p : Pkt) (rel : Option Nat)
    (hq : ∀ id, p.qos > 0 → p.pid = some id → c.s.status = .connected ∨ ∃ q, (id, q) ∈ c.s.store) :
    PubSent p c (Fp.sendIfConnected c p rel) :=
  Fp.sendIfConnected_cases c p rel (fun _ => .sentNow c p rel)
    (fun hc => .accepted rfl (fun _ h => h) fun id h0 hid => .inr ((hq id h0 hid).resolve_left hc))

theorem psV5Publish_sent (c : C) (p : Pkt) : PubSent p c (psV5Publish c p) := by
  have alias := fun rel v (c1 : C) => psV5PublishAlias_sent c1 p rel v
  have hv := Fp.validateTopicAlias_ev c p.alias
  exact Fp.psV5Publish_paths c p (fun _ _ => .err rfl _) (fun id _ _ => .err_release rfl _ id)
    (fun _ _ hid => .accepted rfl (fun _ h => h) fun id _ h => nomatch hid.symm.trans h)
    (fun id _ _ _ _ => .err_release rfl _ id) (fun _ _ _ _ _ _ => .err rfl _) (fun id _ _ _ _ => .err_release hv _ id)
    (fun id t k _ _ _ => .stored (alias none true) _ id _ _ k.pid ((Fp.wildcardCheck_ev ..).trans hv)
      ((wildcardCheck_store ..).trans (by rw [Fp.validateTopicAlias_s])))
    (fun id k _ _ => .stored (alias none false) c id _ _ k.pid rfl rfl)
    (fun id k hw => .awaited (alias (some id) false) id k.allowed hw) (fun _ _ _ => .err rfl _)
    (fun _ hq _ => alias none false c fun _ h => absurd h hq)

theorem psV3Publish_sent (c : C) (p : Pkt) : PubSent p c (psV3Publish c p) := by
  have send := fun rel (c1 : C) => sendIfConnected_sent c1 p rel
  exact Fp.psV3Publish_paths c p (fun _ hid => .accepted rfl (fun _ h => h) fun id _ h => nomatch hid.symm.trans h)
    (fun id _ _ _ => .err_release rfl _ id) (fun _ _ _ _ _ => .err rfl _)
    (fun id k _ => .stored (send none) c id _ _ k.pid rfl rfl)
    (fun id k hw => .awaited (send (some id)) id k.allowed hw) (fun _ _ => .err rfl _) (fun _ _ => .sentNow c p none)

end MqttVerif.Conn
