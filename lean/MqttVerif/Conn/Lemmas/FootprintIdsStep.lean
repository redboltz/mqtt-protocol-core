import MqttVerif.Conn.Lemmas.FootprintIdsRecv
/-!
# What one API call does to the packet identifiers

`step_ids`: every call is one of the sequences of primitives that `StepOut` lists.  Before it, the calls that are
neither a send nor a receive: `notify_closed` (`IdPrim.close`), `release_packet_id`, `erase_stored_publish` and
`restore_packets`.  After it, what the listed sequences have in common: a `.store` stands behind an `is_used_id` test
and names the stored form of the packet sent or the PUBREL that answers a PUBREC, a `.restore` occurs in
`restore_packets` only, a packet that is no CONNECT or CONNACK takes no identifier and starts no session; and with the
facts about the primitives, what holds of `step`: the allocator keeps its range (`step_bounds`), the store gains
nothing but those packets (`step_store_gains`).
-/
namespace MqttVerif.Conn
open MqttVerif

namespace Fp

theorem releaseAll_ids (c : C) (ids : List Nat) : IdRun (ids.map .release) c (releaseAll c ids) := by
  induction ids generalizing c with
  | nil => exact .refl c
  | cons id rest ih => exact (releaseIfUsed_ids c id).trans (ih _)

/-- one stage of `notify_closed`: the model empties the set first and releases the identifiers it held -/
theorem drain_ids {l : List IdPrim} {a c : C} (h : IdRun l a c) (k : Kind) (get : St → List Nat) (clr : St → St)
    (ids : List Nat) (hg : get c.s = ids) (hc : ∀ s, (clr s).ids = s.ids.setWait k []) :
    IdRun (l ++ IdPrim.drain k ids) a (drain c get clr) := by
  subst hg
  exact h.trans ((IdRun.quiet (l := [.clearWait k]) (c := c) (hi := hc _)).trans (releaseAll_ids _ _))

theorem closeConn_ids (c : C) :
    IdRun (IdPrim.drain .suback c.s.suback ++ IdPrim.drain .unsuback c.s.unsuback) c (closeConn c) := by
  unfold closeConn
  have h0 : IdRun [] c { c with s := { c.s with mpsSend := noLimit, mpsRecv := noLimit, status := .disconnected,
                                                 tas := none, tar := none } } := (IdRun.refl c).set
  have h1 := drain_ids h0 .suback (·.suback) ({ · with suback := [] }) c.s.suback rfl fun _ => rfl
  exact drain_ids h1 .unsuback (·.unsuback) ({ · with unsuback := [] }) c.s.unsuback (by rw [drain_s]) fun _ => rfl

theorem closeSession_ids (c : C) :
    IdRun (IdPrim.drain .puback c.s.puback ++ IdPrim.drain .pubrec c.s.pubrec ++ IdPrim.drain .pubcomp c.s.pubcomp ++
      [.dropStore]) c (closeSession c) := by
  unfold closeSession
  have h0 : IdRun [] c { c with s := { c.s with handled := [] } } := (IdRun.refl c).set
  have h1 := drain_ids h0 .puback (·.puback) ({ · with puback := [] }) c.s.puback rfl fun _ => rfl
  have h2 := drain_ids h1 .pubrec (·.pubrec) ({ · with pubrec := [] }) c.s.pubrec (by rw [drain_s]) fun _ => rfl
  have h3 := drain_ids h2 .pubcomp (·.pubcomp) ({ · with pubcomp := [] }) c.s.pubcomp
    (by rw [drain_s_of _ _ (drain_s _ _ _)]) fun _ => rfl
  refine h3.trans ?_
  -- made a variable, or the unifier unfolds the three stages to compare the two spellings of the result
  generalize drain _ _ _ = D
  exact .quiet

theorem notifyClosed_ids (c : C) : IdRun (IdPrim.close c.s) c (notifyClosed c) := by
  have hA := closeConn_ids c
  have hs := closeConn_s c
  unfold IdPrim.close
  cases h : c.s.needStore
  · rw [notifyClosed_of_drop h, if_neg Bool.false_ne_true]
    have hB := closeSession_ids (closeConn c)
    rw [show (closeConn c).s.puback = c.s.puback by rw [hs], show (closeConn c).s.pubrec = c.s.pubrec by rw [hs],
      show (closeConn c).s.pubcomp = c.s.pubcomp by rw [hs]] at hB
    generalize closeConn c = A at hA hB ⊢
    generalize closeSession A = B at hB ⊢
    refine IdRun.post ?_ (.of_fp (cancelTimers_fp _))
    exact (hA.trans hB).set
  · rw [notifyClosed_of_keep h, if_pos rfl, List.append_nil]
    generalize closeConn c = A at hA ⊢
    refine IdRun.post ?_ (.of_fp (cancelTimers_fp _))
    exact hA.set

theorem dropWaits_ids (c : C) (id : Nat) :
    IdRun [.unwait .suback id, .unwait .unsuback id, .unwait .puback id, .unwait .pubrec id] c (dropWaits c id) := .quiet

theorem releasePacketId_ids (c : C) (id : Nat) (mps : Nat) :
    ∃ l, StepOut c.cfg c.s mps (.release id) l ∧ IdRun l c (releasePacketId c id) := by
  rw [releasePacketId_def]
  refine ite_ind (Q := fun r => ∃ l, StepOut c.cfg c.s mps (.release id) l ∧ IdRun l c r)
    (fun hu => ⟨_, .release id hu, ?_⟩) (fun _ => ⟨_, .keep _, .refl c⟩)
  have h := (releaseIfUsed_ids c id).trans (dropWaits_ids _ id)
  exact ite_ind (fun _ => h.post (.of_fp (decSendCount_fp _))) (fun _ => h)

theorem eraseStoredPublish_ids (c : C) (id : Nat) (mps : Nat) :
    ∃ l, StepOut c.cfg c.s mps (.erase id) l ∧ IdRun l c (eraseStoredPublish c id) := by
  unfold eraseStoredPublish
  dsimp only
  refine ite_ind (Q := fun r => ∃ l, StepOut c.cfg c.s mps (.erase id) l ∧ IdRun l c r)
    (fun he => ⟨_, .erase id he, ?_⟩) (fun _ => ⟨_, .keep _, .refl c⟩)
  have h : IdRun [.erasePublish id, .unwait .puback id, .unwait .pubrec id] c { c with s := { c.s with
      store := (storeErasePublish id c.s.store).2, puback := del id c.s.puback, pubrec := del id c.s.pubrec } } :=
    .quiet
  exact (h.post (.of_fp (decSendCount_fp _))).trans (releaseIfUsed_ids _ id)

theorem awaitResp_ids (c : C) (p : Pkt) (id : Nat) : IdRun [.await (respOf p) id] c (awaitResp c p id) :=
  .iteOf (fun k => [.await k id]) (fun _ => .quiet) fun _ => addWait_ids c p.qos id

theorem storeNew_ids (c : C) (id : Nat) (p : Pkt) : IdRun [.store id p] c (storeNew c id p) :=
  ite_ind (fun h => .quiet (hi := (if_pos h).symm)) (fun h => .quiet (hi := (if_neg h).symm))

theorem restoreOne_ids (c : C) (p : Pkt) : IdRun [.restore p] c (restoreOne c p) := by
  suffices h : IdRun (IdPrim.restoreSteps p c.s.ids) c (restoreOne c p) from
    h.congr (by rw [IdPrim.runAll_singleton, IdPrim.restore_run])
  have hreg : IdRun [.register (p.pid.getD 0)] c (register c (p.pid.getD 0)).2 := .quiet
  rw [restoreOne_eq]
  exact .ite (fun _ => .refl c) fun _ =>
    .ite (fun _ => (hreg.trans (awaitResp_ids _ p _)).trans (storeNew_ids _ _ p)) fun _ => hreg

theorem restorePackets_ids (c : C) (ps : List Pkt) : IdRun (ps.map .restore) c (restorePackets c ps) := by
  induction ps generalizing c with
  | nil => exact .refl c
  | cons p rest ih => exact (restoreOne_ids c p).trans (ih _)

theorem step_ids (cfg : Cfg) (s : St) (op : Op) :
    ∃ l, StepOut cfg s (step cfg s op).s.mpsSend op l ∧ IdRun l ⟨cfg, s, []⟩ (step cfg s op) := by
  cases op with
  | send p =>
    obtain ⟨l, h, hr⟩ := send_ids ⟨cfg, s, []⟩ p
    exact ⟨l, .send p l h, hr⟩
  | recv inp parse => exact recv_ids ⟨cfg, s, []⟩ inp parse
  | timer k => exact ⟨[], .keep _, .of_fp (notifyTimerFired_fp _ k)⟩
  | closed => exact ⟨_, .closed, notifyClosed_ids ⟨cfg, s, []⟩⟩
  | setInterval d => exact ⟨[], .keep _, .of_fp (setPingreqSendInterval_fp _ d)⟩
  | setFlag f b => exact ⟨[], .keep _, (IdRun.refl _).set (by cases f <;> rfl)⟩
  | setRespTimeout ms => exact ⟨[], .keep _, (IdRun.refl _).set⟩
  | acquire => exact ⟨_, .acquire, .quiet⟩
  | register id => exact ⟨_, .register id, .quiet⟩
  | release id => exact releasePacketId_ids ⟨cfg, s, []⟩ id _
  | erase id => exact eraseStoredPublish_ids ⟨cfg, s, []⟩ id _
  | restoreHandled ids => exact ⟨[], .keep _, (IdRun.refl _).set⟩
  | restorePackets ps => exact ⟨_, .restore ps, restorePackets_ids _ ps⟩

theorem step_bounds (cfg : Cfg) (s : St) (op : Op) :
    (step cfg s op).s.pidMan.lowest = s.pidMan.lowest ∧ (step cfg s op).s.pidMan.highest = s.pidMan.highest ∧
      (step cfg s op).s.pidMan.tmax = s.pidMan.tmax := by
  obtain ⟨l, -, h⟩ := step_ids cfg s op
  rw [show (step cfg s op).s.pidMan = (step cfg s op).s.ids.pidMan from rfl, h.ids]
  exact IdPrim.runAll_bounds l s.ids

end Fp

variable {cfg : Cfg} {s : St} {mps : Nat} {l : List IdPrim} {id : Nat} {q r : Pkt}

theorem SendOut.mem_store {p : Pkt} (h : SendOut cfg s p l) (hm : IdPrim.store id q ∈ l) :
    isUsed s id = true ∧ id = p.pid.getD 0 ∧ StoredAs cfg s p q := by
  cases h with
  | exchange id' q' stored hk hid hu hq hs =>
    obtain ⟨hst, rfl, rfl⟩ : stored = true ∧ id = id' ∧ q = q' := by simpa using hm
    exact ⟨hu, hid, hq hst⟩
  | exchangeRefused id' q' stored hk hid hu hq hs =>
    obtain ⟨hst, rfl, rfl⟩ : stored = true ∧ id = id' ∧ q = q' := by simpa [IdPrim.cleanup] using hm
    exact ⟨hu, by rw [hid]; rfl, hq hst⟩
  | _ =>
    simp [apply_ite (IdPrim.store id q ∈ ·), IdPrim.cleanup, IdPrim.openConn, IdPrim.resend, IdPrim.drop] at hm

theorem SendOut.not_mem_restore {p : Pkt} (h : SendOut cfg s p l) : IdPrim.restore r ∉ l := by
  intro hm
  cases h <;>
    simp [apply_ite (IdPrim.restore r ∈ ·), IdPrim.cleanup, IdPrim.openConn, IdPrim.resend, IdPrim.drop] at hm

theorem SendOut.mild {p : Pkt} (h : SendOut cfg s p l) (h1 : p.kind ≠ .connect) (h2 : p.kind ≠ .connack) :
    l.all IdPrim.mild = true := by
  cases h with
  | connect hk => exact absurd hk h1
  | connack hk => exact absurd hk h2
  | exchange id q stored => cases stored <;> rfl
  | exchangeRefused id q stored => cases stored <;> rfl
  | _ => rfl

theorem RecvOut.mem_store {t : Nat} {x : Except Nat Pkt} (h : RecvOut cfg s t x mps l) (hm : IdPrim.store id q ∈ l) :
    isUsed s id = true ∧ ∃ v, q = mkAck cfg v .pubrel id := by
  cases h with
  | pubrec p id' rel ht hx hid hw hok hu =>
    obtain ⟨hrel, -, rfl, rfl⟩ : rel = true ∧ s.needStore = true ∧ id = id' ∧ q = mkAck cfg p.ver .pubrel id' := by
      simpa using hm
    exact ⟨hu hrel, _, rfl⟩
  | _ => simp [apply_ite (IdPrim.store id q ∈ ·), IdPrim.openConn, IdPrim.resend, IdPrim.drop] at hm

theorem RecvOut.not_mem_restore {t : Nat} {x : Except Nat Pkt} (h : RecvOut cfg s t x mps l) :
    IdPrim.restore r ∉ l := by
  intro hm
  cases h <;> simp [apply_ite (IdPrim.restore r ∈ ·), IdPrim.openConn, IdPrim.resend, IdPrim.drop] at hm

theorem RecvOut.mild {t : Nat} {x : Except Nat Pkt} (h : RecvOut cfg s t x mps l) (h1 : t ≠ 1) (h2 : t ≠ 2) :
    l.all IdPrim.mild = true := by
  cases h with
  | connect p ht => exact absurd ht h1
  | connack p cleared ht => exact absurd ht h2
  | pubrec p id rel => cases rel <;> cases s.needStore <;> rfl
  | _ => rfl

theorem StepOut.mem_store {op : Op} (h : StepOut cfg s mps op l) (hm : IdPrim.store id q ∈ l) :
    isUsed s id = true ∧ ((∃ p, op = .send p ∧ id = p.pid.getD 0 ∧ StoredAs cfg s p q) ∨
      ∃ inp parse v, op = .recv inp parse ∧ q = mkAck cfg v .pubrel id) := by
  cases h with
  | send p l h => exact ⟨(h.mem_store hm).1, .inl ⟨p, rfl, (h.mem_store hm).2⟩⟩
  | recv inp parse s' fh data l hs hv h =>
    obtain ⟨hu, v, hq⟩ := h.mem_store hm
    exact ⟨hs ▸ hu, .inr ⟨inp, parse, v, rfl, hq⟩⟩
  | _ => simp [apply_ite (IdPrim.store id q ∈ ·), IdPrim.close, IdPrim.drain] at hm

theorem StepOut.mem_restore {op : Op} (h : StepOut cfg s mps op l) (hm : IdPrim.restore r ∈ l) :
    ∃ ps, op = .restorePackets ps ∧ r ∈ ps := by
  cases h with
  | send p l h => exact absurd hm h.not_mem_restore
  | recv inp parse s' fh data l hs hv h => exact absurd hm h.not_mem_restore
  | restore ps => exact ⟨ps, rfl, by simpa using hm⟩
  | _ => simp [apply_ite (IdPrim.restore r ∈ ·), IdPrim.close, IdPrim.drain] at hm

theorem Fp.step_store_gains {op : Op} {x : Nat × Pkt} (h : x ∈ (step cfg s op).s.store) :
    x ∈ s.store ∨ (∃ p q, op = .send p ∧ StoredAs cfg s p q ∧ x = (p.pid.getD 0, q)) ∨
      (∃ inp parse v id, op = .recv inp parse ∧ x = (id, mkAck cfg v .pubrel id)) ∨
      (∃ ps p, op = .restorePackets ps ∧ p ∈ ps ∧ x = (p.pid.getD 0, p)) := by
  obtain ⟨l, ho, hr⟩ := Fp.step_ids cfg s op
  rw [show (step cfg s op).s.store = (step cfg s op).s.ids.store from rfl, hr.ids] at h
  rcases IdPrim.mem_runAll_store h with h | ⟨a, ha, ⟨id, q, rfl, rfl⟩ | ⟨p, rfl, rfl⟩⟩
  · exact .inl h
  · rcases (ho.mem_store ha).2 with ⟨p, rfl, rfl, hq⟩ | ⟨inp, parse, v, rfl, rfl⟩
    · exact .inr (.inl ⟨p, q, rfl, hq, rfl⟩)
    · exact .inr (.inr (.inl ⟨inp, parse, v, id, rfl, rfl⟩))
  · obtain ⟨ps, rfl, hp⟩ := ho.mem_restore ha
    exact .inr (.inr (.inr ⟨ps, p, rfl, hp, rfl⟩))

end MqttVerif.Conn
