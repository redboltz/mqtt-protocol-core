import MqttVerif.Conn.Lemmas.Projections
import MqttVerif.Conn.Lemmas.FootprintIdsStep
/-!
# Every stored packet satisfies `K`

`SL K l`: every entry of the store list `l` carries a packet satisfying `K`.  The store gains an entry only where a
`.store` or `.restore` primitive runs (`IdRun.store_all`), and one API call runs these in three places
(`Fp.step_store_gains`): for the PUBLISH or PUBREL it sends, for the PUBREL with which the library answers a PUBREC,
and for a restored packet.  So `SL K` is kept by every call as soon as `K` holds of PUBLISH and PUBREL packets (`KPub`)
and of what `restore_packets` is given — the Rust type of that argument (`GenericStorePacket`) admits PUBLISH and
PUBREL only.
-/
namespace MqttVerif.Conn
open MqttVerif

structure SL (K : Pkt → Prop) (l : List (Nat × Pkt)) : Prop where
  h : ∀ x ∈ l, K x.2

def KPub (K : Pkt → Prop) : Prop := ∀ q : Pkt, q.kind = .publish ∨ q.kind = .pubrel → K q

theorem SL.keep {K : Pkt → Prop} {c c' : C} (h : SL K c.s.store) (e : c'.s.store = c.s.store) : SL K c'.s.store := by
  rw [e]; exact h

namespace SKn

@[simp] theorem push_store (c : C) (e : Ev) : (c.push e).s.store = c.s.store := rfl
@[simp] theorem err_store (c : C) (e : Nat) : (c.err e).s.store = c.s.store := rfl
@[simp] theorem setPanic_store (c : C) (x : String) : (c.setPanic x).s.store = c.s.store := rfl
@[simp] theorem store_initConn (c : C) (b : Bool) : (initConn c b).s.store = c.s.store := rfl

end SKn

variable {K : Pkt → Prop}

/-- a CONNACK property keeps the store or empties it -/
theorem propsFold_connackRecvProp_sl (c : C) (l : List (Nat × Nat)) (h : SL K c.s.store) :
    SL K (propsFold connackRecvProp c l).s.store := by
  obtain ⟨cleared, -, hr⟩ := Fp.propsFold_connackRecvProp_ids c l
  exact ⟨hr.store_all h.h (by cases cleared <;> simp) (by cases cleared <;> simp)⟩

theorem step_sl (hK : KPub K) (cfg : Cfg) (s : St) (op : Op) (h : SL K s.store)
    (hr : ∀ ps, op = .restorePackets ps → ∀ p ∈ ps, K p) : SL K (step cfg s op).s.store := by
  refine ⟨fun x hx => ?_⟩
  rcases Fp.step_store_gains hx with hx | ⟨p, q, -, hq, rfl⟩ | ⟨-, -, v, id, -, rfl⟩ | ⟨ps, p, e, hp, rfl⟩
  · exact h.h x hx
  · exact hK q hq.storeKind
  · exact hK _ (.inr rfl)
  · exact hr ps e p hp

end MqttVerif.Conn
