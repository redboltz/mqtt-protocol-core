import MqttVerif.Conn.Lemmas.Events
import MqttVerif.Monitors
/-!
# C14 helper lemmas: every packet handed to the application for sending fits the peer's limit

`W B L pw e`: if `e` requests sending `p` then `p.sz pw ≤ L`, or `p` is not a v5.0 packet and
`B` holds.  `B := True` gives the unconditional statement "every **v5.0** packet sent fits";
`B := False` gives the monitor's statement "every packet sent fits", under hypotheses that
make the v3.1.1 code paths unreachable.

`W` allows whatever passed the size check of a context whose limit is `L` (`Cx`, `W_api`), so a whole call adds only
`W`-events for the limit in force when it returns (`step_W`, from `Fp.step_adds`): a received CONNECT or CONNACK sets
the limit before anything is sent.

Then the frame lemmas of the chain (the `cfg` projections as a `simp` set, `send_stored` as its loop run after
`resetCount`, the oversize branch of the loop under the name `dropPrep`) and where `mpsSend` is written.
-/
namespace MqttVerif.Conn
open MqttVerif

def W (B : Prop) (L pw : Nat) : Ev → Prop
  | .send p _ => p.sz pw ≤ L ∨ (p.ver ≠ 5 ∧ B)
  | _ => True

structure Cx (c : C) (L pw : Nat) : Prop where
  hL : c.s.mpsSend = L
  hpw : c.cfg.pw = pw

section
variable {B : Prop} {L pw : Nat}

theorem W_lax : Lax (W B L pw) := fun e h => by cases e <;> simp_all [Ev.passive, W]
theorem W_close : W B L pw .close := trivial

theorem W_size {c : C} (cx : Cx c L pw) {p : Pkt} (h : sizeOk c p = true) (r) : W B L pw (.send p r) :=
  .inl (cx.hL ▸ cx.hpw ▸ sizeOk_iff.1 h)

theorem W_v3 {p : Pkt} (hv : p.ver ≠ 5) (hB : B) (r) : W B L pw (.send p r) := .inr ⟨hv, hB⟩

theorem W_cond {c : C} (cx : Cx c L pw) {p : Pkt} (hB : p.ver ≠ 5 → B) (h : Sized c p) (r) :
    W B L pw (.send p r) := by
  by_cases hv : p.ver = 5
  · exact W_size cx (h hv) r
  · exact W_v3 hv (hB hv) r

theorem W_ack {c : C} (cx : Cx c L pw) (k id) (hz : sizeOk c (mkAck c.cfg 5 k id) = true) :
    W B L pw (.send (mkAck c.cfg 5 k id) none) := W_size cx hz _

theorem W_api {c : C} (cx : Cx c L pw) (S : List (Nat × Pkt)) :
    Emits.Api (W B L pw) (fun d => W B L pw (.send d none)) B S c where
  quiet := W_lax.quiet
  reply _ _ hz hB := W_cond cx hB hz none
  pubrel _ _ _ hz hB := W_cond cx hB hz none
  stored _ _ hz := W_size cx hz none
  disc _ hz := W_size cx hz none
  refusal _ _ hz hB := W_cond cx hB hz none

/-- one API call, limit taken *after* the call.  `send`: the version check makes `p.ver = s.ver` on every path that
    reaches `processSend`. -/
theorem step_W (cfg : Cfg) (s : St) (op : Op) (hB1 : s.ver ≠ 5 → B)
    (hB2 : ∀ inp parse, op = .recv inp parse → ∀ fh data p, parse s.ver fh data = .ok p → p.ver ≠ 5 → B) :
    Emits (W B (step cfg s op).s.mpsSend cfg.pw) ⟨cfg, s, []⟩ (step cfg s op) :=
  have cx : Cx (step cfg s op) (step cfg s op).s.mpsSend cfg.pw := ⟨rfl, congrArg Cfg.pw (Fp.step_cfg cfg s op)⟩
  Fp.step_adds cfg s op W_close hB1 hB2
    (fun _ _ hv _ r ha hz => W_cond cx (fun hn => hB1 fun h5 => hn (ha.ver.trans (hv.symm.trans h5))) hz r)
    (fun _ _ _ _ _ _ _ _ _ _ => trivial) (W_api cx _)

end

attribute [simp] releaseIfUsed_cfg refuseSend_cfg cancelTimers_cfg psV3Disconnect_cfg handleV3Error_cfg
  psSubUnsub_cfg psV5Auth_cfg setPingreqSendInterval_cfg psV5Pubrec_cfg psV5Pubcomp_cfg psPubrel_cfg psV3Publish_cfg
  pubRefuseCleanup_cfg autoAlias_cfg psV5PublishTail_cfg eraseStoredPublish_cfg restoreOne_cfg clearStoreRelated_ev
  prDisconnect_cfg prPingreq_cfg prPingresp_cfg prPlain_cfg prPuback_cfg prPubcomp_cfg prPubrec_cfg prPubrel_cfg
  prSubUnsuback_cfg prV3Publish_cfg prV5Publish_cfg psV5Publish_cfg sendStored_cfg

@[simp] theorem resendStored_cfg (c : C) : (resendStored c).cfg = c.cfg := Fp.resendStored_cfg c
@[simp] theorem send_cfg (c : C) (p : Pkt) : (send c p).cfg = c.cfg := Fp.send_cfg c p
@[simp] theorem prV3Connect_cfg (c : C) (x : Except Nat Pkt) : (prV3Connect c x).cfg = c.cfg := (Fp.prV3Connect_fp c x).cfg
@[simp] theorem prV3Connack_cfg (c : C) (x : Except Nat Pkt) : (prV3Connack c x).cfg = c.cfg := (Fp.prV3Connack_fp c x).cfg

@[simp] theorem restoreOne_mps (c : C) (p : Pkt) : (restoreOne c p).s.mpsSend = c.s.mpsSend := by
  rw [Fp.restoreOne_s]

@[simp] theorem releaseIfUsed_mps (c : C) (id) : (releaseIfUsed c id).s.mpsSend = c.s.mpsSend := by
  rw [Fp.releaseIfUsed_s]

/-- the wait-set cleanup of the oversize branch of `send_stored`: `dropWait` -/
def dropPrep (c : C) (id : Nat) : C :=
  { c with s := { c.s with puback := del id c.s.puback, pubrec := del id c.s.pubrec,
                            pubcomp := del id c.s.pubcomp } }

theorem dropPrep_eq (c : C) (id : Nat) : dropPrep c id = dropWait c id := rfl

@[simp] theorem dropPrep_store (c : C) (id) : (dropPrep c id).s.store = c.s.store := by cases c; rfl

theorem sendStoredLoop_over (c : C) (id p rest) (h : p.sz c.cfg.pw > c.s.mpsSend) :
    sendStoredLoop c ((id, p) :: rest) = sendStoredLoop (releaseIfUsed (dropPrep c id) id) rest := by
  rw [sendStoredLoop, if_pos h]
  rfl

@[simp] theorem resetCount_cfg (c : C) : (resetCount c).cfg = c.cfg := (Fp.resetCount_fp c).cfg
@[simp] theorem resetCount_mps (c : C) : (resetCount c).s.mpsSend = c.s.mpsSend := by rw [Fp.resetCount_s]
@[simp] theorem resetCount_store (c : C) : (resetCount c).s.store = c.s.store := by rw [Fp.resetCount_s]

theorem sendStored_eq (c : C) :
    sendStored c = { (sendStoredLoop (resetCount c) c.s.store).1 with
      s := { (sendStoredLoop (resetCount c) c.s.store).1.s with store := (sendStoredLoop (resetCount c) c.s.store).2 } } := by
  have h := resetCount_store c
  unfold sendStored resetCount at *
  simp only [] at h ⊢
  rw [h]

theorem sendStoredLoop_all {P : Ev → Prop} (hP : Lax P) (l) (c : C) (h : EvAll P c.ev)
    (hs : ∀ x ∈ l, x.2.sz c.cfg.pw ≤ c.s.mpsSend → P (.send x.2 none)) :
    EvAll P (sendStoredLoop c l).1.ev :=
  (Fp.sendStoredLoop_adds hP.quiet l c fun x hx hz => hs x hx (sizeOk_iff.1 hz)).all h

/-- the value a property list leaves in the limit: the last Maximum Packet Size property wins (the handlers assign in
    a `for prop in props` loop, core.rs) -/
def mpsOf : List (Nat × Nat) → Nat → Nat
  | [], d => d
  | (id, v) :: rest, d => mpsOf rest (if id = pMPS then v else d)

theorem connectRecvProp_mps (c : C) (id v : Nat) :
    (connectRecvProp c id v).s.mpsSend = if id = pMPS then v else c.s.mpsSend := by
  let Good : C → Prop := fun r => r.s.mpsSend = if id = pMPS then v else c.s.mpsSend
  show Good (connectRecvProp c id v)
  unfold connectRecvProp
  refine Fp.ite_ind (fun h => ?_) (fun _ => ?_)
  · have hm : Good c := by show _ = ite _ _ _; rw [if_neg (by rw [h]; decide)]
    exact Fp.ite_ind (Q := Good) (fun _ => hm) (fun _ => hm)
  refine Fp.ite_ind (fun h => ?_) (fun _ => ?_)
  · show _ = ite _ _ _; rw [if_neg (by rw [h]; decide)]
  refine Fp.ite_ind (fun h => (if_pos h).symm) (fun h => ?_)
  have hm : Good c := (if_neg h).symm
  refine Fp.ite_ind (fun _ => ?_) (fun _ => hm)
  exact Fp.ite_ind (Q := Good) (fun _ => hm) (fun _ => hm)

theorem propsFold_mps {f : C → Nat → Nat → C}
    (hf : ∀ c id v, (f c id v).s.mpsSend = if id = pMPS then v else c.s.mpsSend) (c : C) (l) :
    (propsFold f c l).s.mpsSend = mpsOf l c.s.mpsSend := by
  induction l generalizing c with
  | nil => rfl
  | cons x rest ih =>
    obtain ⟨id, v⟩ := x
    simp only [propsFold, mpsOf]
    rw [ih, hf]

/-- the only sources of a new limit: property 39 of a received CONNECT, or of a received
    CONNACK with reason code 0 -/
def LimitSrc (old : Nat) (t : Nat) (parsed : Except Nat Pkt) (m : Nat) : Prop :=
  m = old ∨ ∃ p, parsed = .ok p ∧ (t = 1 ∨ (t = 2 ∧ p.rc = some 0)) ∧ m = mpsOf p.props old

theorem prV5Connect_limit (c : C) (x : Except Nat Pkt) : LimitSrc c.s.mpsSend 1 x (prV5Connect c x).s.mpsSend := by
  rw [Fp.prV5Connect_eq]
  refine Fp.connectIn_ind (Q := fun r : C => LimitSrc c.s.mpsSend 1 x r.s.mpsSend)
    (fun _ => .inl (by rw [Fp.handleV5Error_s])) (fun _ e _ => .inl (by rw [err_s, Fp.psV5Connack_s]))
    (fun _ p hp => .inr ⟨p, hp, .inl rfl, ?_⟩)
  rw [push_s, Fp.refreshPingreqRecv_s, propsFold_mps connectRecvProp_mps]
  exact congrArg (mpsOf p.props) (Fp.ite_both (Q := fun r : C => r.s.mpsSend = c.s.mpsSend) rfl rfl)

theorem prV5Connack_limit (c : C) (x : Except Nat Pkt) : LimitSrc c.s.mpsSend 2 x (prV5Connack c x).s.mpsSend := by
  have props : ∀ p : Pkt,
      (propsFold connackRecvProp { c with s := { c.s with status := .connected } } p.props).s.mpsSend =
        mpsOf p.props c.s.mpsSend :=
    fun p => propsFold_mps (fun c id v => (connackRecvProp_store_mps c id v).2) _ _
  rw [Fp.prV5Connack_eq]
  refine Fp.connackIn_ind (Q := fun r : C => LimitSrc c.s.mpsSend 2 x r.s.mpsSend)
    (fun _ => .inl (by rw [Fp.handleV5Error_s])) (fun _ _ _ => .inl rfl) (fun _ _ _ _ => .inl rfl)
    (fun _ p hp hr _ => .inr ⟨p, hp, .inr ⟨rfl, hr⟩, ?_⟩)
    (fun _ p hp hr _ => .inr ⟨p, hp, .inr ⟨rfl, hr⟩, props p⟩)
  rw [push_s, Fp.resendStored_s]
  exact props p

theorem dispatchRecv_limit (c : C) (t parsed) :
    LimitSrc c.s.mpsSend t parsed (dispatchRecv c t parsed).s.mpsSend := by
  by_cases ht3 : 3 ≤ t
  · exact .inl (Fp.dispatchRecv_fr c t parsed ht3).2
  exact Fp.dispatchRecv_lt3 (J := fun r : C => LimitSrc c.s.mpsSend t parsed r.s.mpsSend) c t parsed ht3
    (fun _ _ => .inl (by rw [Fp.prV3Connect_s])) (fun ht _ => ht ▸ prV5Connect_limit c parsed)
    (fun _ _ => .inl (by rw [Fp.prV3Connack_s])) (fun ht _ => ht ▸ prV5Connack_limit c parsed) (.inl rfl)

theorem processRecvPacket_limit (c : C) (fh data parse) :
    ∃ v, LimitSrc c.s.mpsSend (fh / 16) (parse v) (processRecvPacket c fh data parse).s.mpsSend := by
  refine Fp.processRecvPacket_cases
    (Q := fun r : C => ∃ v, LimitSrc c.s.mpsSend (fh / 16) (parse v) r.s.mpsSend) c fh data parse
    (fun _ => ⟨0, .inl (by rw [err_s, Fp.v5DisconnectOrClose_s])⟩) (fun _ _ _ => ⟨0, .inl rfl⟩)
    (fun _ _ _ _ _ _ => ⟨0, .inl (by rw [Fp.prV3Connect_s])⟩) (fun _ _ _ ht _ _ => ⟨5, ?_⟩)
    (fun _ _ _ => ⟨c.s.ver, dispatchRecv_limit c _ _⟩)
  rw [ht]
  exact prV5Connect_limit { c with s := { c.s with ver := 5 } } (parse 5)

theorem recv_limit (c : C) (inp parse) :
    (recv c inp parse).1.s.mpsSend = c.s.mpsSend ∨
    ∃ fh data v, (Framing.feed c.s.pb inp).2.1 = some (.complete fh data) ∧
      LimitSrc c.s.mpsSend (fh / 16) (parse v fh data) (recv c inp parse).1.s.mpsSend := by
  refine Fp.recv_cases (Q := fun r : C => r.s.mpsSend = c.s.mpsSend ∨
      ∃ fh data v, (Framing.feed c.s.pb inp).2.1 = some (.complete fh data) ∧
        LimitSrc c.s.mpsSend (fh / 16) (parse v fh data) r.s.mpsSend) c inp parse
    (fun _ _ _ => .inl rfl) (fun pb fh data rest hf => ?_) (fun _ _ _ => .inl ?_)
  · obtain ⟨v, hv⟩ := processRecvPacket_limit { c with s := { c.s with pb := pb } } fh data (fun v => parse v fh data)
    exact .inr ⟨fh, data, v, by rw [hf], hv⟩
  · rw [err_s, push_s, Fp.cancelTimers_s]

end MqttVerif.Conn
