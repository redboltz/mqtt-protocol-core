import MqttVerif.Conn.Step
import MqttVerif.Spec.Gates
import MqttVerif.Props.C20
import MqttVerif.Conn.Lemmas.FootprintRecv
import MqttVerif.Conn.Lemmas.FootprintGate
import MqttVerif.Conn.Lemmas.Projections
/-!
# Helper lemmas for C11 (send gate) and C17 (receive gate)

The exact outcome of the helpers a refusal or an error runs through (`releaseIfUsed`, `cancelTimers`,
`handleV5Error`, …), and the tests of `send` and `processRecvPacket` against `Spec/Gates.lean`.
-/
set_option linter.unusedSimpArgs false
set_option linter.unusedVariables false
namespace MqttVerif.Conn
open MqttVerif

@[simp] theorem C.err_s (c : C) (e : Nat) : (c.err e).s = c.s := rfl
@[simp] theorem C.err_cfg (c : C) (e : Nat) : (c.err e).cfg = c.cfg := rfl
@[simp] theorem C.err_ev (c : C) (e : Nat) : (c.err e).ev = c.ev ++ [.error e] := rfl
@[simp] theorem C.push_s (c : C) (e : Ev) : (c.push e).s = c.s := rfl
@[simp] theorem C.push_cfg (c : C) (e : Ev) : (c.push e).cfg = c.cfg := rfl
@[simp] theorem C.push_ev (c : C) (e : Ev) : (c.push e).ev = c.ev ++ [e] := rfl

/-- the state after "release `id` if it is in use": only the allocator changes (and the sticky
    panic field if the allocator's own assertion fails — excluded by `Alloc.R`, see
    `releasedState_of_R`) -/
def releasedState (s : St) (id : Nat) : St :=
  if isUsed s id then
    let r := Alloc.deallocate s.pidMan id
    { s with pidMan := r.2,
             panic := match r.1 with | none => s.panic | some site => some (s.panic.getD site) }
  else s

def releasedEv (s : St) (id : Nat) : List Ev := if isUsed s id then [.released id] else []

theorem releaseIfUsed_eq (c : C) (id : Nat) :
    releaseIfUsed c id = { c with s := releasedState c.s id, ev := c.ev ++ releasedEv c.s id } := by
  unfold releaseIfUsed releasedState releasedEv
  by_cases h : isUsed c.s id = true
  · simp only [h, if_true, releaseId, C.push, C.setPanic]
    cases hd : (Alloc.deallocate c.s.pidMan id).1 <;> simp [hd]
  · simp [h]

/-- what `release_packet_id` (fix ba1a812) does beyond freeing the identifier: the exchange the
    identifier was obtained for is abandoned -/
def abandonExchange (s : St) (id : Nat) : St :=
  let s' : St := { s with suback := del id s.suback, unsuback := del id s.unsuback, puback := del id s.puback, pubrec := del id s.pubrec }
  if (id ∈ s.puback ∨ id ∈ s.pubrec) ∧ s.sendMax.isSome ∧ s.sendCount > 0 then { s' with sendCount := s.sendCount - 1 } else s'

/-- the state after `release_packet_id(id)` -/
def releasedStateP (s : St) (id : Nat) : St :=
  if isUsed s id then abandonExchange (releasedState s id) id else s

theorem releasePacketId_eqP (c : C) (id : Nat) :
    releasePacketId c id = { c with s := releasedStateP c.s id, ev := c.ev ++ releasedEv c.s id } := by
  unfold releasedStateP releasedEv
  by_cases h : isUsed c.s id = true
  · have e : (releaseId c id).push (.released id) =
        { c with s := releasedState c.s id, ev := c.ev ++ [.released id] } := by
      have := releaseIfUsed_eq c id
      unfold releaseIfUsed releasedEv at this
      simpa only [h, if_true] using this
    unfold releasePacketId
    simp only [h, if_true]
    rw [e]
    unfold abandonExchange decSendCount
    simp only []
    by_cases ha : id ∈ (releasedState c.s id).puback ∨ id ∈ (releasedState c.s id).pubrec
    · by_cases hc : (releasedState c.s id).sendMax.isSome = true ∧ (releasedState c.s id).sendCount > 0
      · simp only [ha, hc, and_self, if_true]
      · simp only [ha, hc, and_false, if_true, if_false]
    · simp only [ha, false_and, if_false]
  · have h' : isUsed c.s id = false := by simpa using h
    unfold releasePacketId
    rw [h']
    simp only [Bool.false_eq_true, if_false, List.append_nil]

theorem roleMaySend_eq_spec (r : Role) (p : Pkt) :
    roleMaySend r p = Spec.roleMaySend r p.kind p.ver := by
  unfold roleMaySend Spec.roleMaySend
  cases r <;> cases p.kind <;> simp [Spec.actsAsClient, Spec.actsAsServer]

/-- the specification is the three tests a packet passes: the version and the role in `send`, the connection
    state in the handler of its kind -/
theorem mayTransmit_iff (c : C) (p : Pkt) (wf : Spec.PktWf p) :
    Spec.mayTransmit c.cfg.role c.s.ver c.s.status p c.s.needStore c.s.offline = true ↔
      c.s.ver = p.ver ∧ roleMaySend c.cfg.role p = true ∧ ¬Fp.stateRefuses c.s p.kind p.qos := by
  rw [Fp.stateRefuses_spec, roleMaySend_eq_spec, Bool.not_eq_false]
  simp only [Spec.mayTransmit, Spec.versionMaySend, Bool.and_eq_true, Bool.or_eq_true, beq_iff_eq]
  exact ⟨fun ⟨⟨⟨hv, _⟩, hr⟩, hs⟩ => ⟨hv, hr, hs⟩, fun ⟨hv, hr, hs⟩ => ⟨⟨⟨hv, hv ▸ wf.ver⟩, hr⟩, hs⟩⟩

/-- packets that cannot be constructed (a QoS>0 PUBLISH without identifier, a v3.1.1 AUTH)
    are never transmitted or stored either -/
theorem send_nonwf (c : C) (p : Pkt) (hver : p.ver = 4 ∨ p.ver = 5) (h : ¬ Spec.PktWf p) :
    (send c p).s.store = c.s.store ∧
    ((send c p).ev = c.ev ∨ ∃ e, (send c p).ev = c.ev ++ [.error e]) := by
  have h' : (p.kind = .auth ∧ p.ver = 4) ∨ (p.kind = .publish ∧ p.qos > 0 ∧ p.pid = none) := by
    by_cases h1 : p.kind = .auth ∧ p.ver = 4
    · exact Or.inl h1
    · right
      by_cases h2 : p.kind = .publish ∧ p.qos > 0 ∧ p.pid = none
      · exact h2
      · exfalso; apply h
        refine ⟨hver, fun hk => hver.elim (fun h4 => absurd ⟨hk, h4⟩ h1) id, fun hk hq => ?_⟩
        cases hp : p.pid with
        | none => exact absurd ⟨hk, hq, hp⟩ h2
        | some _ => rfl
  have hini : initiatingId p = none := by
    unfold initiatingId
    rcases h' with ⟨hk, _⟩ | ⟨_, _, hp⟩
    · simp [hk]
    · simp [hp]
  have href : ∀ e, refuseSend c e p = c.err e := by
    intro e; unfold refuseSend; rw [hini]
  unfold send
  by_cases hv : c.s.ver = p.ver
  · by_cases hr : roleMaySend c.cfg.role p = true
    · simp only [hv, ne_eq, not_true_eq_false, if_false, hr, Bool.not_true, Bool.false_eq_true]
      rcases h' with ⟨hk, h4⟩ | ⟨hk, hq, hp⟩
      · simp [processSend, h4, hk]
      · rcases hver with h4 | h5
        · simp [processSend, h4, hk, psV3Publish, hq, hp, C.setPanic]
        · have : ¬ p.ver = 4 := by omega
          by_cases hs : sizeOk c p = true <;>
            simp [processSend, this, hk, psV5Publish, hq, hp, C.setPanic, hs]
    · simp [hv, hr, href]
  · simp [hv, href]

/-! ## "this id is free afterwards": the allocator side (via the C20 refinement) -/

/-- every reachable allocator state refines some set `S` of used ids (`Alloc.C20_representation_invariant`) -/
theorem releasedState_of_R {s : St} {S : Alloc.S} (r : Alloc.R s.pidMan S) (id : Nat)
    (hu : isUsed s id = true) :
    releasedState s id = { s with pidMan := (Alloc.deallocate s.pidMan id).2 } ∧
    Alloc.R (Alloc.deallocate s.pidMan id).2 { S with used := S.used.filter (· ≠ id) } ∧
    isUsed (releasedState s id) id = false := by
  have hd := r.wf.deallocate r.tm id
  have heq : releasedState s id = { s with pidMan := (Alloc.deallocate s.pidMan id).2 } := by
    simp only [releasedState, hu, if_true, hd.2.1 (Alloc.isUsed_range hu)]
  refine ⟨heq, r.deallocate id, ?_⟩
  rw [heq]
  show Alloc.isUsed (Alloc.deallocate s.pidMan id).2 id = false
  rw [hd.2.2, bne_self_eq_false, Bool.and_false]

theorem releasedState_eta (s : St) (id : Nat) :
    ∃ a pn, releasedState s id = { s with pidMan := a, panic := pn } := by
  unfold releasedState
  split
  · exact ⟨_, _, rfl⟩
  · exact ⟨s.pidMan, s.panic, rfl⟩

theorem dispatchRecv_noType (c : C) (t : Nat) (parsed : Except Nat Pkt) (h : t = 0 ∨ t > 15) :
    dispatchRecv c t parsed = c.err eMalformed := by
  unfold dispatchRecv
  split <;> first | rfl | omega

theorem dispatchRecv_auth (c : C) (parsed : Except Nat Pkt) (h : c.s.ver ≠ 5) :
    dispatchRecv c 15 parsed = c.err eMalformed := by
  simp [dispatchRecv, h]

def cancelEvs (s : St) : List Ev :=
  (if s.sendSet then [.timerCancel .pingreqSend] else []) ++
  (if s.recvSet then [.timerCancel .pingreqRecv] else []) ++
  (if s.respSet then [.timerCancel .pingrespRecv] else [])

theorem cancelTimers_eq (c : C) :
    cancelTimers c =
      { c with s := { c.s with sendSet := false, recvSet := false, respSet := false },
               ev := c.ev ++ cancelEvs c.s } := by
  unfold cancelTimers cancelEvs
  cases h1 : c.s.sendSet <;> cases h2 : c.s.recvSet <;> cases h3 : c.s.respSet <;>
    simp [C.push, h1, h2, h3] <;> (cases c; rename_i cfg s ev; cases s; simp_all)

theorem handleV3Error_eq (c : C) (e : Nat) :
    handleV3Error c e = { c with ev := c.ev ++ [.close, .error e] } := by
  simp [handleV3Error, C.push, C.err]

/-- does the DISCONNECT the library builds fit the peer's Maximum Packet Size? (3 bytes) -/
def v5DiscFits (s : St) : Bool := decide (3 ≤ s.mpsSend)

def v5ErrState (s : St) : St :=
  if s.status = .connected then
    { s with status := .disconnected, sendSet := false, recvSet := false, respSet := false }
  else s

def v5ErrEvs (s : St) (e : Nat) : List Ev :=
  if s.status = .connected then
    cancelEvs s ++
      (if v5DiscFits s then [.send (mkV5Disconnect (errToDisconnectRc e)) none] else []) ++
      [.close, .error e]
  else [.error (if v5DiscFits s then eNotAllowed else eTooLarge), .error e]

theorem sizeOk_disc (c : C) (rc : Nat) : sizeOk c (mkV5Disconnect rc) = v5DiscFits c.s := by
  simp [sizeOk, mkV5Disconnect, Pkt.sz, v5DiscFits]
  by_cases h : 3 ≤ c.s.mpsSend <;> simp [h] <;> omega

theorem handleV5Error_eq (c : C) (e : Nat) :
    handleV5Error c e = { c with s := v5ErrState c.s, ev := c.ev ++ v5ErrEvs c.s e } := by
  unfold handleV5Error v5DisconnectOrClose psV5Disconnect v5ErrState v5ErrEvs
  simp only [sizeOk_disc]
  by_cases hc : c.s.status = .connected <;> by_cases hf : v5DiscFits c.s = true <;>
    simp [hc, hf, cancelTimers_eq, C.push, C.err, cancelEvs]

/-! ## the version field is written by nobody but the adoption in `processRecvPacket` -/

attribute [simp] initConn_ver clearStoreRelated_ver

end MqttVerif.Conn
