import MqttVerif.Conn.Lemmas.FootprintEmits
import MqttVerif.Conn.Lemmas.Projections
/-!
# Event-list lemmas: "every event pushed so far satisfies `P`"

`EvAll P l` = every event of `l` satisfies `P`.  A predicate is *lax* when it holds for every
event that is neither a send nor a close request.  `Emits P c c'` says that `c'` adds only `P`-events to `c`, so it
carries `EvAll P` from `c.ev` to `c'.ev` (`Emits.all`); a lax `P` allows what any call may add besides sending,
delivering and closing (`Lax.quiet`), and the lemmas `Fp.f_adds` ask for `P` of the packets sent.
Used by C19 (`P` = "not a close", "quiet") and C14 (`P` = "sent size within the limit").
-/
namespace MqttVerif.Conn
open MqttVerif

def Ev.passive : Ev → Prop
  | .send _ _ => False
  | .close => False
  | _ => True

/-- a structure (not a `def` unfolding to `∀`) so that `simp` can use implications between
    `EvAll` facts as conditional rewrite rules -/
structure EvAll (P : Ev → Prop) (l : List Ev) : Prop where
  h : ∀ e ∈ l, P e

theorem EvAll_iff (P : Ev → Prop) (l : List Ev) : EvAll P l ↔ ∀ e ∈ l, P e := ⟨fun h => h.h, fun h => ⟨h⟩⟩

def Lax (P : Ev → Prop) : Prop := ∀ e, e.passive → P e

theorem Lax.rcv {P} (h : Lax P) (p) : P (.recv p) := h _ trivial

@[simp] theorem EvAll_nil (P) : EvAll P [] := by simp [EvAll_iff]
@[simp] theorem EvAll_append (P) (a b : List Ev) : EvAll P (a ++ b) ↔ EvAll P a ∧ EvAll P b := by
  simp [EvAll_iff, or_imp, forall_and]
@[simp] theorem EvAll_cons (P) (e : Ev) (l) : EvAll P (e :: l) ↔ P e ∧ EvAll P l := by simp [EvAll_iff]

-- proved by `cases`, not by `rfl`: as `rfl`-lemmas `simp` would use them by `dsimp`, and then cannot
-- assign the side conditions of the conditional rules it discharges with them
attribute [simp] push_s push_cfg push_ev err_s err_cfg err_ev setPanic_cfg setPanic_ev

@[simp] theorem setPanic_mpsSend (c : C) (x : String) : (c.setPanic x).s.mpsSend = c.s.mpsSend := by cases c; rfl
@[simp] theorem setPanic_status (c : C) (x : String) : (c.setPanic x).s.status = c.s.status := by cases c; rfl
@[simp] theorem setPanic_ver (c : C) (x : String) : (c.setPanic x).s.ver = c.s.ver := by cases c; rfl
@[simp] theorem setPanic_store (c : C) (x : String) : (c.setPanic x).s.store = c.s.store := by cases c; rfl

theorem handleV3Error_events (c : C) (e : Nat) :
    (handleV3Error c e).ev = c.ev ++ [.close, .error e] := by
  simp [handleV3Error]

theorem cancelTimers_spec (c : C) :
    (∃ t, (cancelTimers c).ev = c.ev ++ t ∧ ∀ e ∈ t, ∃ k, e = .timerCancel k) ∧
    (cancelTimers c).s.sendSet = false ∧ (cancelTimers c).s.recvSet = false ∧
    (cancelTimers c).s.respSet = false ∧ (cancelTimers c).s.status = c.s.status ∧
    (cancelTimers c).cfg = c.cfg := by
  obtain ⟨t, e, ht⟩ := Fp.cancelTimers_ev c
  refine ⟨⟨t, e, fun x hx => ?_⟩, ?_⟩
  · have := ht x hx
    cases x <;> simp [Ev.tag] at this
    exact ⟨_, rfl⟩
  · rw [Fp.cancelTimers_s]
    exact ⟨rfl, rfl, rfl, rfl, Fp.cancelTimers_cfg c⟩

section
variable {P : Ev → Prop} {c c' : C}

theorem Emits.all (h : Emits P c c') (h0 : EvAll P c.ev) : EvAll P c'.ev := by
  obtain ⟨l, e, hl⟩ := h
  rw [e]
  exact (EvAll_append P _ _).2 ⟨h0, ⟨hl⟩⟩

theorem Lax.quiet (hP : Lax P) : Emits.Quiet P := fun e he => hP e <| by
  cases e with
  | send => exact nomatch he
  | close => exact nomatch he
  | _ => trivial

end
end MqttVerif.Conn
