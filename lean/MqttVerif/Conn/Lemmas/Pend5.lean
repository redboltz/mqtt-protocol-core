import MqttVerif.Conn.Lemmas.Pend4
/-!
# C08 — the ghost `pend` against the model: `closed`, `erase`, `release`, `restorePackets`, every call
(`PInv_step`), delivery of an awaited acknowledgement, runs
-/
namespace MqttVerif.Conn.Pend
open MqttVerif MqttVerif.Conn

/-! ## `notify_closed`: the driver empties the ghost -/

theorem inv_notifyClosed (c : C) (hev : c.ev = []) (hs : StoreOk c.s) : Inv [] (notifyClosed c) := by
  refine inv_of_empty (pendStep_nil_of_appends (Fp.notifyClosed_ev c) (by decide) (by rw [hev]; rfl)) ?_
  cases h : c.s.needStore
  · exact storeOk_of_nil (by rw [Fp.notifyClosed_s_eq, h]; rfl)
  · exact hs.congr (by unfold W; rw [Fp.notifyClosed_s_eq, h]; rfl)

theorem decSendCount_isUsed (c : C) (id : Nat) : isUsed (decSendCount c).s id = isUsed c.s id := by
  unfold decSendCount; split <;> rfl

/-- contract: the identifier is in use (then `NotifyPacketIdReleased` removes the ghost entry), or
    the ghost holds no entry of it -/
theorem inv_eraseStoredPublish {g : Gh} {c : C} (h : Inv g c) (id : Nat)
    (hc : isUsed c.s id = true ∨ ∀ n, (id, n) ∉ pendStep g c.ev) : Inv g (eraseStoredPublish c id) := by
  refine Fp.eraseStoredPublish_cases c id h ?_
  have h2 := (inv_erasePublish h id).fr (fr_decSendCount _)
  unfold releaseIfUsed
  refine Fp.ite_ind (fun _ => (h2.fr (fr_releaseId _ _)).unmask_released) (fun hu => ?_)
  rw [decSendCount_isUsed] at hu
  refine h2.unmask_absent ?_
  rw [Fp.decSendCount_ev]
  exact hc.resolve_left hu

theorem inv_restoreOne {g : Gh} {c : C} (h : Inv g c) (p : Pkt)
    (hk : (p.kind = .publish ∨ p.kind = .pubrel) → p.ver = c.s.ver ∧ c.s.ver ≠ 0) : Inv g (restoreOne c p) := by
  have hr : Inv g (register c (p.pid.getD 0)).2 := h.fr (fr_of_eq (c := c) rfl rfl)
  rw [Fp.restoreOne_eq]
  refine Fp.ite_ind (fun _ => h) (fun _ => Fp.ite_ind (fun _ => ?_) (fun _ => hr))
  -- `X`: the context after the identifier entered the wait set of the packet's response
  obtain ⟨e1, e2, e3, e4, e5, e6, e7, e8⟩ := awaitResp_grows (register c (p.pid.getD 0)).2 p (p.pid.getD 0)
  generalize Fp.awaitResp _ p _ = X at e1 e2 e3 e4 e5 e6 e7 e8 ⊢
  refine Fp.ite_ind (fun _ => hr.grow e1 e2 e3 e5 e6 e7 (.inl e4)) (fun hn => ?_)
  refine hr.grow e1 e2 e3 e5 e6 e7 (.inr ⟨(p.pid.getD 0, p), congrArg (· ++ _) e4, ?_, fun hkk => ?_⟩)
  · rw [← e4]
    simpa using hn
  · exact ⟨rfl, (hk hkk).1.trans e3.symm, e3 ▸ (hk hkk).2, e8⟩

theorem inv_restorePackets {g : Gh} : ∀ (ps : List Pkt) (c : C), Inv g c →
    (∀ p ∈ ps, (p.kind = .publish ∨ p.kind = .pubrel) → p.ver = c.s.ver ∧ c.s.ver ≠ 0) →
    Inv g (restorePackets c ps) := by
  intro ps
  induction ps with
  | nil => intro c h _; exact h
  | cons p rest ih =>
    intro c h hl
    rw [restorePackets]
    refine ih _ (inv_restoreOne h p (hl p (by simp))) ?_
    intro q hq
    rw [Fp.restoreOne_s]
    exact hl q (by simp [hq])

/-- **the invariant between calls**, on the model state and the driver's ghost:
    * `agree`: every ghost entry `(id, n)` is awaited by the model — `id` is in the wait set of the
      acknowledgement with type nibble `n`;
    * `store`: the stored packets are pairwise distinct incomplete exchanges that are awaited;
    * `conn`: while a connection is being established (`connecting`) the ghost is empty. -/
structure PInv (s : St) (pend : Gh) : Prop where
  agree : PendAgree s pend
  store : StoreOk s
  conn : s.status = .connecting → pend = []

instance (s : St) (pend : Gh) : Decidable (PInv s pend) :=
  decidable_of_iff (PendAgree s pend ∧ StoreOk s ∧ (s.status = .connecting → pend = []))
    ⟨fun h => ⟨h.1, h.2.1, h.2.2⟩, fun h => ⟨h.agree, h.store, h.conn⟩⟩

theorem PInv.toInv {cfg : Cfg} {s : St} {pend : Gh} (h : PInv s pend) : Inv pend ({ cfg := cfg, s := s } : C) :=
  ⟨h.agree, h.store, h.conn⟩
theorem PInv.ofInv {g : Gh} {c : C} (h : Inv g c) : PInv c.s (pendStep g c.ev) := ⟨h.agree, h.store, h.conn⟩

/-- **the contract** of one call, given the state and the ghost before it:
    * `send p`: `p` is a v3.1.1 or v5.0 packet (`p.ver ≠ 0`);
    * `recv`: the parser returns packets of the version it was asked for, whose kind is the frame's
      type nibble (`ParseOk`); and between connections the closed transport was reported (the
      ghost is empty) or the previous peer's Maximum Packet Size admits a 5-byte CONNACK;
    * `erase id`: `id` is in use, or the ghost holds no entry of it;
    * `release id`: no stored packet carries `id` (since fix ba1a812 `release_packet_id` removes
      `id` from the wait sets `puback` / `pubrec` but leaves the store alone: a stored packet would no
      longer be awaited — `StoreOk`);
    * `restorePackets`: the PUBLISH / PUBREL packets are of the connection's (determined) version.
    Nothing is required of `acquire`, `register`, timers, settings, `closed`. -/
def Legal (s : St) (pend : Gh) : Op → Prop
  | .send p => p.ver ≠ 0
  | .recv _ parse => ParseOk parse ∧ (s.status = .disconnected → pend = [] ∨ 5 ≤ s.mpsSend)
  | .erase id => isUsed s id = true ∨ ∀ n, (id, n) ∉ pend
  | .release id => storeHas id s.store = false
  | .restorePackets ps => ∀ p ∈ ps, (p.kind = .publish ∨ p.kind = .pubrel) → p.ver = s.ver ∧ s.ver ≠ 0
  | _ => True

theorem inv_dropWaits {g : Gh} {c : C} (h : Inv g c) (id : Nat) (hst : storeHas id c.s.store = false) :
    InvM (some id) g (dropWaits c id) := by
  have hne : ∀ x ∈ c.s.store, x.1 ≠ id := by
    simpa only [storeHas, List.any_eq_false, decide_eq_true_eq] using hst
  exact InvM.del h rfl rfl rfl (fun i hi hm => mem_del.2 ⟨hm, hi⟩) (fun i hi hm => mem_del.2 ⟨hm, hi⟩)
    (fun _ _ hm => hm) (.refl _) (fun x hx hid => absurd hid (hne x hx))

/-- `release_packet_id` (fix ba1a812): the identifier leaves `puback` / `pubrec` together with its
    ghost entry (event `released id`); no stored packet carries it -/
theorem inv_releasePacketId {g : Gh} {c : C} (h : Inv g c) (id : Nat) (hst : storeHas id c.s.store = false) :
    Inv g (releasePacketId c id) := by
  rw [releasePacketId_def]
  refine Fp.ite_ind (fun hu => ?_) (fun _ => h)
  have f := fr_releaseId c id
  have key : Inv g (dropWaits (releaseIfUsed c id) id) := by
    rw [show releaseIfUsed c id = (releaseId c id).push (.released id) from if_pos hu]
    exact (inv_dropWaits (h.fr f) id (f.store ▸ hst)).unmask_released
  exact Fp.ite_ind (fun _ => key.fr (fr_decSendCount _)) (fun _ => key)

theorem pendReset_cases (op : Op) (evs : List Ev) (pend : Gh) :
    pendReset op evs pend = [] ∨ pendReset op evs pend = pend := by
  unfold pendReset
  (repeat' split) <;> simp

theorem pendReset_sub (op : Op) (evs : List Ev) (pend : Gh) : pendReset op evs pend ⊆ pend := by
  rcases pendReset_cases op evs pend with e | e <;> rw [e]
  · exact List.nil_subset _
  · exact List.Subset.refl _

theorem pendReset_of_resets {op : Op} {evs : List Ev} (h : Resets evs) (pend : Gh) : pendReset op evs pend = [] := by
  unfold pendReset
  split
  · rfl
  · rw [if_pos]
    rcases h with h | h
    · exact .inl h
    · exact .inr h

theorem PInv.of_good {cfg : Cfg} {s : St} {pend : Gh} {op : Op} {P : Gh → Prop} {c' : C}
    (h : PInv s pend) (hg : GoodP P ({ cfg := cfg, s := s } : C) c') (hP : P [] ∧ P pend) :
    PInv c'.s (pendNext op c'.ev pend) := by
  unfold pendNext
  rcases hg with hg | ⟨r, hg⟩
  · rcases pendReset_cases op c'.ev pend with e | e <;> rw [e]
    · exact .ofInv (hg [] hP.1 (inv_of_empty rfl h.store))
    · exact .ofInv (hg pend hP.2 h.toInv)
  · rw [pendReset_of_resets r]
    exact .ofInv (hg h.store)

theorem PInv.of_fr {cfg : Cfg} {s : St} {pend : Gh} {op : Op} {c' : C}
    (h : PInv s pend) (f : Fr ({ cfg := cfg, s := s } : C) c') : PInv c'.s (pendNext op c'.ev pend) :=
  h.of_good (P := fun _ => True) (GoodP.of_fr f) ⟨trivial, trivial⟩

/-- **preservation** (justifies the ghost bookkeeping of `VIOL sig=C08 completion_not_released@<site>`):
    every call of the API keeps the invariant, the ghost being updated exactly as the driver does
    (`pendNext` = reset by the whole event list, then the fold) -/
theorem PInv_step {cfg : Cfg} {s : St} {pend : Gh} (h : PInv s pend) (op : Op) (hl : Legal s pend op) :
    PInv (step cfg s op).s (pendNext op (step cfg s op).ev pend) := by
  cases op with
  | send p => exact h.of_good (P := fun _ => True) (good_send _ p rfl hl).toP ⟨trivial, trivial⟩
  | recv inp parse =>
    refine h.of_good (good_recv { cfg := cfg, s := s } inp parse rfl hl.1) ⟨fun _ => .inl rfl, hl.2⟩
  | timer k => exact h.of_fr (cfg := cfg) (fr_notifyTimerFired _ k)
  | closed =>
    show PInv (notifyClosed _).s (pendStep [] (notifyClosed _).ev)
    exact .ofInv (inv_notifyClosed { cfg := cfg, s := s } rfl h.store)
  | setInterval d =>
    refine h.of_fr (cfg := cfg) ?_
    exact fr_setPingreqSendInterval _ d
  | setFlag f b => cases f <;> exact h.of_fr (cfg := cfg) (fr_of_eq rfl rfl)
  | setRespTimeout ms => exact h.of_fr (cfg := cfg) (fr_of_eq rfl rfl)
  | acquire => exact h.of_fr (cfg := cfg) (fr_of_eq rfl rfl)
  | register id => exact h.of_fr (cfg := cfg) (fr_of_eq rfl rfl)
  | release id =>
    exact h.of_good (P := fun _ => True) (.inl (fun g _ hi => inv_releasePacketId hi id hl)) ⟨trivial, trivial⟩
  | erase id =>
    refine h.of_good (P := fun g => isUsed s id = true ∨ ∀ n, (id, n) ∉ g)
      (.inl (fun g hP hi => inv_eraseStoredPublish hi id hP)) ⟨.inr (fun n => by simp), hl⟩
  | restoreHandled ids => exact h.of_fr (cfg := cfg) (fr_of_eq rfl rfl)
  | restorePackets ps =>
    exact h.of_good (P := fun _ => True) (.inl (fun g _ hi => inv_restorePackets ps _ hi hl)) ⟨trivial, trivial⟩

theorem mem_releasedIds {l : List Ev} {id : Nat} : id ∈ Mon.releasedIds l ↔ Ev.released id ∈ l := by
  induction l with
  | nil => simp [Mon.releasedIds]
  | cons e t ih => cases e <;> simp_all [Mon.releasedIds]

/-- each of the three handlers tests the wait set of its kind and ends with the delivery -/
theorem mem_ite_push {b : Prop} [Decidable b] (hb : b) (c c' : C) (e : Ev) : e ∈ (if b then c.push e else c').ev := by
  rw [if_pos hb]
  exact mem_push_self _ _

theorem ack_delivered (c : C) (p : Pkt) {n : Nat} (hn : n = 4 ∨ n = 5 ∨ n = 7) (hm : p.pid.getD 0 ∈ waitN c.s n) :
    Ev.recv p ∈ (dispatchRecv c n (.ok p)).ev := by
  rcases hn with rfl | rfl | rfl
  · exact mem_ite_push (show p.pid.getD 0 ∈ c.s.puback from hm) _ _ _
  · exact mem_ite_push (show p.pid.getD 0 ∈ c.s.pubrec from hm) _ _ _
  · exact mem_ite_push (show p.pid.getD 0 ∈ c.s.pubcomp from hm) _ _ _

theorem canReceive_ack (cfg : Cfg) (s : St) {t : Nat} (h : t = 4 ∨ t = 5 ∨ t = 7) : canReceive cfg s t = true := by
  rcases h with rfl | rfl | rfl <;> simp [canReceive]

def pendRun (cfg : Cfg) : St → Gh → List Op → Gh
  | _, g, [] => g
  | s, g, op :: ops => pendRun cfg (step cfg s op).s (pendNext op (step cfg s op).ev g) ops

def LegalRun (cfg : Cfg) : St → Gh → List Op → Prop
  | _, _, [] => True
  | s, g, op :: ops => Legal s g op ∧ LegalRun cfg (step cfg s op).s (pendNext op (step cfg s op).ev g) ops

/-- `VIOL sig=C08 completion_not_released@<site>`: the invariant holds for a fresh connection object and
    the empty ghost -/
theorem PInv_init (cfg : Cfg) (ver : Nat) : PInv (St.init cfg ver) [] :=
  ⟨PendAgree.nil _, storeOk_of_nil rfl, fun _ => rfl⟩

/-- `VIOL sig=C08 completion_not_released@<site>`: the invariant along a run within the contract -/
theorem PInv_run {cfg : Cfg} : ∀ (ops : List Op) {s : St} {g : Gh}, PInv s g → LegalRun cfg s g ops →
    PInv (run cfg s ops) (pendRun cfg s g ops) := by
  intro ops
  induction ops with
  | nil => intro s g h _; exact h
  | cons op ops ih => intro s g h hl; exact ih (PInv_step h op hl.1) hl.2

theorem pendRun_append (cfg : Cfg) : ∀ (a b : List Op) (s : St) (g : Gh),
    pendRun cfg s g (a ++ b) = pendRun cfg (run cfg s a) (pendRun cfg s g a) b := by
  intro a
  induction a with
  | nil => intro b s g; rfl
  | cons op a ih => intro b s g; simp only [List.cons_append, pendRun, run, ih]

theorem step_recv_ver_zero {cfg : Cfg} {s : St} {inp : List Nat} {pb : Framing.PB} {fh : Nat} {data rest : List Nat}
    (hf : Framing.feed s.pb inp = (pb, some (.complete fh data), rest)) (h0 : s.ver = 0) (h1 : fh / 16 ≠ 1)
    (parse : Nat → Nat → List Nat → Except Nat Pkt) : (step cfg s (.recv inp parse)).s.ver = 0 := by
  rw [step_recv_feed hf]
  exact Fp.processRecvPacket_cases (Q := fun r => r.s.ver = 0) _ fh data _
    (fun _ => by rw [Conn.err_s, Fp.v5DisconnectOrClose_s]; exact h0)
    (fun _ _ _ => h0) (fun _ _ _ ht _ _ => absurd ht h1) (fun _ _ _ ht _ _ => absurd ht h1) (fun _ _ hv => absurd h0 hv)

end MqttVerif.Conn.Pend
