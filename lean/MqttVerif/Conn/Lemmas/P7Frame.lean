import MqttVerif.Conn.Lemmas.FootprintApi
import MqttVerif.Conn.Lemmas.Projections
/-!
# What the helpers of `Conn/Model.lean` leave alone, field by field

The event projections `recvs` / `sends` / `errs` that C06 and C07 are stated with, and the footprints of
`Footprint*.lean` read one field at a time: `(helper c args).s.FIELD = c.s.FIELD`, `(helper c args).cfg = c.cfg`, and
`recvs` / `sends` / `errs` of a helper that never pushes such an event.
-/
namespace MqttVerif.Conn
open MqttVerif

def sends : List Ev → List Pkt
  | [] => []
  | .send p _ :: t => p :: sends t
  | _ :: t => sends t

attribute [simp] recvs_append errs_append

@[simp] theorem recvs_nil : recvs [] = [] := rfl
@[simp] theorem sends_nil : sends [] = [] := rfl
@[simp] theorem errs_nil : errs [] = [] := rfl
@[simp] theorem recvs_cons (e : Ev) (t : List Ev) :
    recvs (e :: t) = (match e with | .recv p => [p] | _ => []) ++ recvs t := by
  cases e <;> rfl
@[simp] theorem sends_cons (e : Ev) (t : List Ev) :
    sends (e :: t) = (match e with | .send p _ => [p] | _ => []) ++ sends t := by
  cases e <;> rfl
@[simp] theorem errs_cons (e : Ev) (t : List Ev) :
    errs (e :: t) = (match e with | .error x => [x] | _ => []) ++ errs t := by
  cases e <;> rfl
@[simp] theorem sends_append (a b : List Ev) : sends (a ++ b) = sends a ++ sends b := by
  induction a with
  | nil => rfl
  | cons e t ih => simp [ih]
theorem mem_recvs {p : Pkt} {l : List Ev} : p ∈ recvs l ↔ Ev.recv p ∈ l := by
  induction l with
  | nil => simp
  | cons e t ih => cases e <;> simp [ih]
theorem mem_sends {p : Pkt} {l : List Ev} : p ∈ sends l ↔ ∃ r, Ev.send p r ∈ l := by
  induction l with
  | nil => simp
  | cons e t ih => cases e <;> simp [ih, exists_or]
theorem mem_errs {x : Nat} {l : List Ev} : x ∈ errs l ↔ Ev.error x ∈ l := by
  induction l with
  | nil => simp
  | cons e t ih => cases e <;> simp [ih]

theorem Appends.sends_eq {T : List EvTag} {c c' : C} (h : Appends T c c') (hT : EvTag.send ∉ T) :
    sends c'.ev = sends c.ev := by
  obtain ⟨l, e, hl⟩ := h
  have : sends l = [] := List.eq_nil_iff_forall_not_mem.2 fun p hp =>
    (mem_sends.1 hp).elim fun r hr => hT (hl _ hr)
  rw [e, sends_append, this, List.append_nil]
/-- projections are pushed through `if`s (no case explosion) -/
macro "frame_simp" f:ident : tactic =>
  `(tactic| simp [$f:ident, C.setPanic, apply_ite C.s, apply_ite C.ev, apply_ite C.cfg, apply_ite Prod.fst,
      apply_ite Prod.snd, apply_ite recvs, apply_ite sends, apply_ite errs,
      apply_ite St.handled, apply_ite St.store, apply_ite St.pidMan, apply_ite St.puback, apply_ite St.pubrec, apply_ite St.pubcomp, apply_ite St.suback, apply_ite St.unsuback, apply_ite St.status, apply_ite St.needStore, apply_ite St.ver, apply_ite St.autoPub, apply_ite St.mpsSend])

/-- close by `frame_simp` where possible, `split` the head `match`/`if` otherwise -/
macro "frame_deep" f:ident : tactic =>
  `(tactic| (simp only [$f:ident]; repeat' (first | (frame_simp $f; done) | split)))

macro "frame_tac" f:ident : tactic =>
  `(tactic| first
    | (frame_simp $f; done)
    | (simp only [$f:ident]; split <;> frame_simp $f <;> done)
    | (simp only [$f:ident]; split <;> (try split) <;> frame_simp $f <;> done)
    | (simp only [$f:ident]; split <;> (try split) <;> (try split) <;> frame_simp $f <;> done)
    | (simp only [$f:ident]; (repeat' split) <;> simp <;> done))

theorem initConn_status (c : C) (b : Bool) : (initConn c b).s.status = c.s.status := by rw [Fp.initConn_s]
theorem initConn_recvs (c : C) (b : Bool) : recvs (initConn c b).ev = recvs c.ev := by rw [Fp.initConn_ev]
theorem initConn_errs (c : C) (b : Bool) : errs (initConn c b).ev = errs c.ev := by rw [Fp.initConn_ev]

theorem clearStoreRelated_suback (c : C) : (clearStoreRelated c).s.suback = c.s.suback := by
  rw [Fp.clearStoreRelated_s]
theorem clearStoreRelated_unsuback (c : C) : (clearStoreRelated c).s.unsuback = c.s.unsuback := by
  rw [Fp.clearStoreRelated_s]
theorem clearStoreRelated_status (c : C) : (clearStoreRelated c).s.status = c.s.status := by
  rw [Fp.clearStoreRelated_s]
theorem clearStoreRelated_needStore (c : C) : (clearStoreRelated c).s.needStore = c.s.needStore := by
  rw [Fp.clearStoreRelated_s]
theorem clearStoreRelated_autoPub (c : C) : (clearStoreRelated c).s.autoPub = c.s.autoPub := by
  rw [Fp.clearStoreRelated_s]
theorem clearStoreRelated_mpsSend (c : C) : (clearStoreRelated c).s.mpsSend = c.s.mpsSend := by
  rw [Fp.clearStoreRelated_s]
theorem clearStoreRelated_errs (c : C) : errs (clearStoreRelated c).ev = errs c.ev := by rw [Fp.clearStoreRelated_ev]

theorem decSendCount_pidMan (c : C) : (decSendCount c).s.pidMan = c.s.pidMan := by rw [Fp.decSendCount_s]

theorem psV3Disconnect_pidMan (c : C) (p : Pkt) : (psV3Disconnect c p).s.pidMan = c.s.pidMan := by
  rw [Fp.psV3Disconnect_s]
theorem psV3Disconnect_suback (c : C) (p : Pkt) : (psV3Disconnect c p).s.suback = c.s.suback := by
  rw [Fp.psV3Disconnect_s]
theorem psV3Disconnect_unsuback (c : C) (p : Pkt) : (psV3Disconnect c p).s.unsuback = c.s.unsuback := by
  rw [Fp.psV3Disconnect_s]
theorem psV3Disconnect_autoPub (c : C) (p : Pkt) : (psV3Disconnect c p).s.autoPub = c.s.autoPub := by
  rw [Fp.psV3Disconnect_s]
theorem psV3Disconnect_mpsSend (c : C) (p : Pkt) : (psV3Disconnect c p).s.mpsSend = c.s.mpsSend := by
  rw [Fp.psV3Disconnect_s]

theorem handleV3Error_status (c : C) (e : Nat) : (handleV3Error c e).s.status = c.s.status := by
  rw [Fp.handleV3Error_s]

theorem connectSendProp_cfg (c : C) (i v : Nat) : (connectSendProp c i v).cfg = c.cfg :=
  (Fp.connectSendProp_fp c i v).cfg
theorem connectSendProp_suback (c : C) (i v : Nat) : (connectSendProp c i v).s.suback = c.s.suback := by
  rw [Fp.connectSendProp_s]
theorem connectSendProp_unsuback (c : C) (i v : Nat) : (connectSendProp c i v).s.unsuback = c.s.unsuback := by
  rw [Fp.connectSendProp_s]
theorem connectSendProp_status (c : C) (i v : Nat) : (connectSendProp c i v).s.status = c.s.status := by
  rw [Fp.connectSendProp_s]
theorem connectSendProp_autoPub (c : C) (i v : Nat) : (connectSendProp c i v).s.autoPub = c.s.autoPub := by
  rw [Fp.connectSendProp_s]
theorem connectSendProp_mpsSend (c : C) (i v : Nat) : (connectSendProp c i v).s.mpsSend = c.s.mpsSend := by
  rw [Fp.connectSendProp_s]
theorem connectSendProp_errs (c : C) (i v : Nat) : errs (connectSendProp c i v).ev = errs c.ev := by
  rw [Fp.connectSendProp_ev]

theorem connackSendProp_pidMan (c : C) (i v : Nat) : (connackSendProp c i v).s.pidMan = c.s.pidMan := by
  rw [Fp.connackSendProp_s]
theorem connackSendProp_puback (c : C) (i v : Nat) : (connackSendProp c i v).s.puback = c.s.puback := by
  rw [Fp.connackSendProp_s]
theorem connackSendProp_pubrec (c : C) (i v : Nat) : (connackSendProp c i v).s.pubrec = c.s.pubrec := by
  rw [Fp.connackSendProp_s]
theorem connackSendProp_pubcomp (c : C) (i v : Nat) : (connackSendProp c i v).s.pubcomp = c.s.pubcomp := by
  rw [Fp.connackSendProp_s]
theorem connackSendProp_suback (c : C) (i v : Nat) : (connackSendProp c i v).s.suback = c.s.suback := by
  rw [Fp.connackSendProp_s]
theorem connackSendProp_unsuback (c : C) (i v : Nat) : (connackSendProp c i v).s.unsuback = c.s.unsuback := by
  rw [Fp.connackSendProp_s]
theorem connackSendProp_status (c : C) (i v : Nat) : (connackSendProp c i v).s.status = c.s.status := by
  rw [Fp.connackSendProp_s]
theorem connackSendProp_needStore (c : C) (i v : Nat) : (connackSendProp c i v).s.needStore = c.s.needStore := by
  rw [Fp.connackSendProp_s]
theorem connackSendProp_autoPub (c : C) (i v : Nat) : (connackSendProp c i v).s.autoPub = c.s.autoPub := by
  rw [Fp.connackSendProp_s]
theorem connackSendProp_errs (c : C) (i v : Nat) : errs (connackSendProp c i v).ev = errs c.ev :=
  (Fp.connackSendProp_ev c i v).errs_eq (by decide)

theorem connectRecvProp_pidMan (c : C) (i v : Nat) : (connectRecvProp c i v).s.pidMan = c.s.pidMan := by
  rw [Fp.connectRecvProp_s]
theorem connectRecvProp_puback (c : C) (i v : Nat) : (connectRecvProp c i v).s.puback = c.s.puback := by
  rw [Fp.connectRecvProp_s]
theorem connectRecvProp_pubrec (c : C) (i v : Nat) : (connectRecvProp c i v).s.pubrec = c.s.pubrec := by
  rw [Fp.connectRecvProp_s]
theorem connectRecvProp_pubcomp (c : C) (i v : Nat) : (connectRecvProp c i v).s.pubcomp = c.s.pubcomp := by
  rw [Fp.connectRecvProp_s]
theorem connectRecvProp_suback (c : C) (i v : Nat) : (connectRecvProp c i v).s.suback = c.s.suback := by
  rw [Fp.connectRecvProp_s]
theorem connectRecvProp_unsuback (c : C) (i v : Nat) : (connectRecvProp c i v).s.unsuback = c.s.unsuback := by
  rw [Fp.connectRecvProp_s]
theorem connectRecvProp_status (c : C) (i v : Nat) : (connectRecvProp c i v).s.status = c.s.status := by
  rw [Fp.connectRecvProp_s]
theorem connectRecvProp_autoPub (c : C) (i v : Nat) : (connectRecvProp c i v).s.autoPub = c.s.autoPub := by
  rw [Fp.connectRecvProp_s]
theorem connectRecvProp_errs (c : C) (i v : Nat) : errs (connectRecvProp c i v).ev = errs c.ev := by
  rw [Fp.connectRecvProp_ev]

theorem autoAlias_pidMan (c : C) (p : Pkt) : ((autoAlias c p).1).s.pidMan = c.s.pidMan := by rw [Fp.autoAlias_s]
theorem autoAlias_suback (c : C) (p : Pkt) : ((autoAlias c p).1).s.suback = c.s.suback := by rw [Fp.autoAlias_s]
theorem autoAlias_unsuback (c : C) (p : Pkt) : ((autoAlias c p).1).s.unsuback = c.s.unsuback := by rw [Fp.autoAlias_s]
theorem autoAlias_autoPub (c : C) (p : Pkt) : ((autoAlias c p).1).s.autoPub = c.s.autoPub := by rw [Fp.autoAlias_s]
theorem autoAlias_mpsSend (c : C) (p : Pkt) : ((autoAlias c p).1).s.mpsSend = c.s.mpsSend := by rw [Fp.autoAlias_s]

theorem psV5PublishTail_pidMan (c : C) (p : Pkt) (rel : Option Nat) : (psV5PublishTail c p rel).s.pidMan = c.s.pidMan := by
  rw [Fp.psV5PublishTail_s]
theorem psV5PublishTail_suback (c : C) (p : Pkt) (rel : Option Nat) : (psV5PublishTail c p rel).s.suback = c.s.suback := by
  rw [Fp.psV5PublishTail_s]
theorem psV5PublishTail_unsuback (c : C) (p : Pkt) (rel : Option Nat) : (psV5PublishTail c p rel).s.unsuback = c.s.unsuback := by
  rw [Fp.psV5PublishTail_s]
theorem psV5PublishTail_autoPub (c : C) (p : Pkt) (rel : Option Nat) : (psV5PublishTail c p rel).s.autoPub = c.s.autoPub := by
  rw [Fp.psV5PublishTail_s]
theorem psV5PublishTail_mpsSend (c : C) (p : Pkt) (rel : Option Nat) : (psV5PublishTail c p rel).s.mpsSend = c.s.mpsSend := by
  rw [Fp.psV5PublishTail_s]

theorem psV5Pubcomp_pidMan (c : C) (p : Pkt) : (psV5Pubcomp c p).s.pidMan = c.s.pidMan := by rw [Fp.psV5Pubcomp_s]
theorem psV5Pubcomp_suback (c : C) (p : Pkt) : (psV5Pubcomp c p).s.suback = c.s.suback := by rw [Fp.psV5Pubcomp_s]
theorem psV5Pubcomp_unsuback (c : C) (p : Pkt) : (psV5Pubcomp c p).s.unsuback = c.s.unsuback := by
  rw [Fp.psV5Pubcomp_s]
theorem psV5Pubcomp_autoPub (c : C) (p : Pkt) : (psV5Pubcomp c p).s.autoPub = c.s.autoPub := by rw [Fp.psV5Pubcomp_s]
theorem psV5Pubcomp_mpsSend (c : C) (p : Pkt) : (psV5Pubcomp c p).s.mpsSend = c.s.mpsSend := by rw [Fp.psV5Pubcomp_s]

theorem psV5Pubrec_pidMan (c : C) (p : Pkt) : (psV5Pubrec c p).s.pidMan = c.s.pidMan := by rw [Fp.psV5Pubrec_s]
theorem psV5Pubrec_suback (c : C) (p : Pkt) : (psV5Pubrec c p).s.suback = c.s.suback := by rw [Fp.psV5Pubrec_s]
theorem psV5Pubrec_unsuback (c : C) (p : Pkt) : (psV5Pubrec c p).s.unsuback = c.s.unsuback := by rw [Fp.psV5Pubrec_s]
theorem psV5Pubrec_autoPub (c : C) (p : Pkt) : (psV5Pubrec c p).s.autoPub = c.s.autoPub := by rw [Fp.psV5Pubrec_s]
theorem psV5Pubrec_mpsSend (c : C) (p : Pkt) : (psV5Pubrec c p).s.mpsSend = c.s.mpsSend := by rw [Fp.psV5Pubrec_s]

theorem psV5Auth_pidMan (c : C) (p : Pkt) : (psV5Auth c p).s.pidMan = c.s.pidMan := by rw [Fp.psV5Auth_s]
theorem psV5Auth_suback (c : C) (p : Pkt) : (psV5Auth c p).s.suback = c.s.suback := by rw [Fp.psV5Auth_s]
theorem psV5Auth_unsuback (c : C) (p : Pkt) : (psV5Auth c p).s.unsuback = c.s.unsuback := by rw [Fp.psV5Auth_s]
theorem psV5Auth_autoPub (c : C) (p : Pkt) : (psV5Auth c p).s.autoPub = c.s.autoPub := by rw [Fp.psV5Auth_s]
theorem psV5Auth_mpsSend (c : C) (p : Pkt) : (psV5Auth c p).s.mpsSend = c.s.mpsSend := by rw [Fp.psV5Auth_s]

theorem psPubrel_pidMan (c : C) (p : Pkt) : (psPubrel c p).s.pidMan = c.s.pidMan := by rw [Fp.psPubrel_s]
theorem psPubrel_suback (c : C) (p : Pkt) : (psPubrel c p).s.suback = c.s.suback := by rw [Fp.psPubrel_s]
theorem psPubrel_unsuback (c : C) (p : Pkt) : (psPubrel c p).s.unsuback = c.s.unsuback := by rw [Fp.psPubrel_s]
theorem psPubrel_autoPub (c : C) (p : Pkt) : (psPubrel c p).s.autoPub = c.s.autoPub := by rw [Fp.psPubrel_s]
theorem psPubrel_mpsSend (c : C) (p : Pkt) : (psPubrel c p).s.mpsSend = c.s.mpsSend := by rw [Fp.psPubrel_s]

theorem psSubUnsub_autoPub (c : C) (p : Pkt) : (psSubUnsub c p).s.autoPub = c.s.autoPub := by rw [Fp.psSubUnsub_s]
theorem psSubUnsub_mpsSend (c : C) (p : Pkt) : (psSubUnsub c p).s.mpsSend = c.s.mpsSend := by rw [Fp.psSubUnsub_s]

theorem pubRefuseCleanup_suback (c : C) (pid : Option Nat) : (pubRefuseCleanup c pid).s.suback = c.s.suback := by
  rw [Fp.pubRefuseCleanup_s]
theorem pubRefuseCleanup_unsuback (c : C) (pid : Option Nat) : (pubRefuseCleanup c pid).s.unsuback = c.s.unsuback := by
  rw [Fp.pubRefuseCleanup_s]
theorem pubRefuseCleanup_autoPub (c : C) (pid : Option Nat) : (pubRefuseCleanup c pid).s.autoPub = c.s.autoPub := by
  rw [Fp.pubRefuseCleanup_s]
theorem pubRefuseCleanup_mpsSend (c : C) (pid : Option Nat) : (pubRefuseCleanup c pid).s.mpsSend = c.s.mpsSend := by
  rw [Fp.pubRefuseCleanup_s]

theorem notifyTimerFired_pidMan (c : C) (k : Timer) : (notifyTimerFired c k).s.pidMan = c.s.pidMan := by
  rw [Fp.notifyTimerFired_s]
theorem notifyTimerFired_suback (c : C) (k : Timer) : (notifyTimerFired c k).s.suback = c.s.suback := by
  rw [Fp.notifyTimerFired_s]
theorem notifyTimerFired_unsuback (c : C) (k : Timer) : (notifyTimerFired c k).s.unsuback = c.s.unsuback := by
  rw [Fp.notifyTimerFired_s]
theorem notifyTimerFired_autoPub (c : C) (k : Timer) : (notifyTimerFired c k).s.autoPub = c.s.autoPub := by
  rw [Fp.notifyTimerFired_s]
theorem notifyTimerFired_mpsSend (c : C) (k : Timer) : (notifyTimerFired c k).s.mpsSend = c.s.mpsSend := by
  rw [Fp.notifyTimerFired_s]

theorem setPingreqSendInterval_pidMan (c : C) (d : Option Nat) : (setPingreqSendInterval c d).s.pidMan = c.s.pidMan := by
  rw [Fp.setPingreqSendInterval_s]
theorem setPingreqSendInterval_suback (c : C) (d : Option Nat) : (setPingreqSendInterval c d).s.suback = c.s.suback := by
  rw [Fp.setPingreqSendInterval_s]
theorem setPingreqSendInterval_unsuback (c : C) (d : Option Nat) : (setPingreqSendInterval c d).s.unsuback = c.s.unsuback := by
  rw [Fp.setPingreqSendInterval_s]
theorem setPingreqSendInterval_autoPub (c : C) (d : Option Nat) : (setPingreqSendInterval c d).s.autoPub = c.s.autoPub := by
  rw [Fp.setPingreqSendInterval_s]
theorem setPingreqSendInterval_mpsSend (c : C) (d : Option Nat) : (setPingreqSendInterval c d).s.mpsSend = c.s.mpsSend := by
  rw [Fp.setPingreqSendInterval_s]
theorem setPingreqSendInterval_sends (c : C) (d : Option Nat) : sends (setPingreqSendInterval c d).ev = sends c.ev :=
  (Fp.setPingreqSendInterval_ev c d).sends_eq (by decide)
theorem setPingreqSendInterval_errs (c : C) (d : Option Nat) : errs (setPingreqSendInterval c d).ev = errs c.ev :=
  (Fp.setPingreqSendInterval_ev c d).errs_eq (by decide)

theorem acquire_suback (c : C) : ((acquire c).2).s.suback = c.s.suback := by rw [Fp.acquire_s]
theorem acquire_unsuback (c : C) : ((acquire c).2).s.unsuback = c.s.unsuback := by rw [Fp.acquire_s]
theorem acquire_autoPub (c : C) : ((acquire c).2).s.autoPub = c.s.autoPub := by rw [Fp.acquire_s]
theorem acquire_mpsSend (c : C) : ((acquire c).2).s.mpsSend = c.s.mpsSend := by rw [Fp.acquire_s]
theorem acquire_sends (c : C) : sends ((acquire c).2).ev = sends c.ev := by rw [Fp.acquire_ev]
theorem acquire_errs (c : C) : errs ((acquire c).2).ev = errs c.ev := by rw [Fp.acquire_ev]

theorem releasePacketId_autoPub (c : C) (id : Nat) : (releasePacketId c id).s.autoPub = c.s.autoPub := by
  rw [Fp.releasePacketId_s]
theorem releasePacketId_mpsSend (c : C) (id : Nat) : (releasePacketId c id).s.mpsSend = c.s.mpsSend := by
  rw [Fp.releasePacketId_s]
theorem releasePacketId_sends (c : C) (id : Nat) : sends (releasePacketId c id).ev = sends c.ev :=
  (Fp.releasePacketId_ev c id).sends_eq (by decide)
theorem releasePacketId_errs (c : C) (id : Nat) : errs (releasePacketId c id).ev = errs c.ev :=
  (Fp.releasePacketId_ev c id).errs_eq (by decide)

theorem eraseStoredPublish_suback (c : C) (id : Nat) : (eraseStoredPublish c id).s.suback = c.s.suback := by
  rw [Fp.eraseStoredPublish_s]
theorem eraseStoredPublish_unsuback (c : C) (id : Nat) : (eraseStoredPublish c id).s.unsuback = c.s.unsuback := by
  rw [Fp.eraseStoredPublish_s]
theorem eraseStoredPublish_autoPub (c : C) (id : Nat) : (eraseStoredPublish c id).s.autoPub = c.s.autoPub := by
  rw [Fp.eraseStoredPublish_s]
theorem eraseStoredPublish_mpsSend (c : C) (id : Nat) : (eraseStoredPublish c id).s.mpsSend = c.s.mpsSend := by
  rw [Fp.eraseStoredPublish_s]
theorem eraseStoredPublish_sends (c : C) (id : Nat) : sends (eraseStoredPublish c id).ev = sends c.ev :=
  (Fp.eraseStoredPublish_ev c id).sends_eq (by decide)
theorem eraseStoredPublish_errs (c : C) (id : Nat) : errs (eraseStoredPublish c id).ev = errs c.ev :=
  (Fp.eraseStoredPublish_ev c id).errs_eq (by decide)

theorem restoreOne_suback (c : C) (p : Pkt) : (restoreOne c p).s.suback = c.s.suback := by rw [Fp.restoreOne_s]
theorem restoreOne_unsuback (c : C) (p : Pkt) : (restoreOne c p).s.unsuback = c.s.unsuback := by rw [Fp.restoreOne_s]
theorem restoreOne_autoPub (c : C) (p : Pkt) : (restoreOne c p).s.autoPub = c.s.autoPub := by rw [Fp.restoreOne_s]
theorem restoreOne_mpsSend (c : C) (p : Pkt) : (restoreOne c p).s.mpsSend = c.s.mpsSend := by rw [Fp.restoreOne_s]
theorem restoreOne_sends (c : C) (p : Pkt) : sends (restoreOne c p).ev = sends c.ev := by rw [Fp.restoreOne_ev]
theorem restoreOne_errs (c : C) (p : Pkt) : errs (restoreOne c p).ev = errs c.ev := by rw [Fp.restoreOne_ev]

theorem prPlain_handled (c : C) (x : Except Nat Pkt) : (prPlain c x).s.handled = c.s.handled := by rw [Fp.prPlain_s]
theorem prPlain_pidMan (c : C) (x : Except Nat Pkt) : (prPlain c x).s.pidMan = c.s.pidMan := by rw [Fp.prPlain_s]
theorem prPlain_suback (c : C) (x : Except Nat Pkt) : (prPlain c x).s.suback = c.s.suback := by rw [Fp.prPlain_s]
theorem prPlain_unsuback (c : C) (x : Except Nat Pkt) : (prPlain c x).s.unsuback = c.s.unsuback := by
  rw [Fp.prPlain_s]
theorem prPlain_autoPub (c : C) (x : Except Nat Pkt) : (prPlain c x).s.autoPub = c.s.autoPub := by rw [Fp.prPlain_s]
theorem prPlain_mpsSend (c : C) (x : Except Nat Pkt) : (prPlain c x).s.mpsSend = c.s.mpsSend := by rw [Fp.prPlain_s]

theorem prPingreq_handled (c : C) (x : Except Nat Pkt) : (prPingreq c x).s.handled = c.s.handled := by
  rw [Fp.prPingreq_s]
theorem prPingreq_pidMan (c : C) (x : Except Nat Pkt) : (prPingreq c x).s.pidMan = c.s.pidMan := by
  rw [Fp.prPingreq_s]
theorem prPingreq_suback (c : C) (x : Except Nat Pkt) : (prPingreq c x).s.suback = c.s.suback := by
  rw [Fp.prPingreq_s]
theorem prPingreq_unsuback (c : C) (x : Except Nat Pkt) : (prPingreq c x).s.unsuback = c.s.unsuback := by
  rw [Fp.prPingreq_s]
theorem prPingreq_autoPub (c : C) (x : Except Nat Pkt) : (prPingreq c x).s.autoPub = c.s.autoPub := by
  rw [Fp.prPingreq_s]
theorem prPingreq_mpsSend (c : C) (x : Except Nat Pkt) : (prPingreq c x).s.mpsSend = c.s.mpsSend := by
  rw [Fp.prPingreq_s]

theorem prPingresp_handled (c : C) (x : Except Nat Pkt) : (prPingresp c x).s.handled = c.s.handled := by
  rw [Fp.prPingresp_s]
theorem prPingresp_pidMan (c : C) (x : Except Nat Pkt) : (prPingresp c x).s.pidMan = c.s.pidMan := by
  rw [Fp.prPingresp_s]
theorem prPingresp_suback (c : C) (x : Except Nat Pkt) : (prPingresp c x).s.suback = c.s.suback := by
  rw [Fp.prPingresp_s]
theorem prPingresp_unsuback (c : C) (x : Except Nat Pkt) : (prPingresp c x).s.unsuback = c.s.unsuback := by
  rw [Fp.prPingresp_s]
theorem prPingresp_autoPub (c : C) (x : Except Nat Pkt) : (prPingresp c x).s.autoPub = c.s.autoPub := by
  rw [Fp.prPingresp_s]
theorem prPingresp_mpsSend (c : C) (x : Except Nat Pkt) : (prPingresp c x).s.mpsSend = c.s.mpsSend := by
  rw [Fp.prPingresp_s]

theorem prDisconnect_handled (c : C) (x : Except Nat Pkt) : (prDisconnect c x).s.handled = c.s.handled := by
  rw [Fp.prDisconnect_s]
theorem prDisconnect_pidMan (c : C) (x : Except Nat Pkt) : (prDisconnect c x).s.pidMan = c.s.pidMan := by
  rw [Fp.prDisconnect_s]
theorem prDisconnect_suback (c : C) (x : Except Nat Pkt) : (prDisconnect c x).s.suback = c.s.suback := by
  rw [Fp.prDisconnect_s]
theorem prDisconnect_unsuback (c : C) (x : Except Nat Pkt) : (prDisconnect c x).s.unsuback = c.s.unsuback := by
  rw [Fp.prDisconnect_s]
theorem prDisconnect_autoPub (c : C) (x : Except Nat Pkt) : (prDisconnect c x).s.autoPub = c.s.autoPub := by
  rw [Fp.prDisconnect_s]
theorem prDisconnect_mpsSend (c : C) (x : Except Nat Pkt) : (prDisconnect c x).s.mpsSend = c.s.mpsSend := by
  rw [Fp.prDisconnect_s]

theorem prSubUnsuback_handled (c : C) (b : Bool) (x : Except Nat Pkt) : (prSubUnsuback c b x).s.handled = c.s.handled := by
  rw [Fp.prSubUnsuback_s]
theorem prSubUnsuback_autoPub (c : C) (b : Bool) (x : Except Nat Pkt) : (prSubUnsuback c b x).s.autoPub = c.s.autoPub := by
  rw [Fp.prSubUnsuback_s]
theorem prSubUnsuback_mpsSend (c : C) (b : Bool) (x : Except Nat Pkt) : (prSubUnsuback c b x).s.mpsSend = c.s.mpsSend := by
  rw [Fp.prSubUnsuback_s]

theorem initConn_sends (c : C) (b : Bool) : sends (initConn c b).ev = sends c.ev := rfl
theorem clearStoreRelated_sends (c : C) : sends (clearStoreRelated c).ev = sends c.ev := rfl
theorem handleV3Error_sends (c : C) (e : Nat) : sends (handleV3Error c e).ev = sends c.ev :=
  (Fp.handleV3Error_ev c e).sends_eq (by decide)
theorem connectSendProp_sends (c : C) (i v : Nat) : sends (connectSendProp c i v).ev = sends c.ev := by
  rw [Fp.connectSendProp_ev]
theorem connectRecvProp_sends (c : C) (i v : Nat) : sends (connectRecvProp c i v).ev = sends c.ev := by
  rw [Fp.connectRecvProp_ev]
theorem storeAdd_sends (c : C) (id : Nat) (p : Pkt) (site : String) : sends (storeAdd c id p site).ev = sends c.ev := by
  rw [Fp.storeAdd_ev]
theorem autoAlias_errs (c : C) (p : Pkt) : errs ((autoAlias c p).1).ev = errs c.ev := by
  rw [Fp.autoAlias_ev]
theorem psV5PublishTail_errs (c : C) (p : Pkt) (rel : Option Nat) : errs (psV5PublishTail c p rel).ev = errs c.ev :=
  (Fp.psV5PublishTail_ev c p rel).errs_eq (by decide)
theorem pubRefuseCleanup_sends (c : C) (pid : Option Nat) : sends (pubRefuseCleanup c pid).ev = sends c.ev :=
  (Fp.pubRefuseCleanup_ev c pid).sends_eq (by decide)

end MqttVerif.Conn
