import MqttVerif.Conn.Lemmas.PairAbs
/-!
# Generated phase table (helper for `Props/C01L2c.lean`)

Two SAME-direction exchanges in flight: `startTwo v true P1 P2`, `P1` QoS 1 (identifier 1), `P2` QoS 1 (identifier 2).
`Ph`: the 13 phases that ANY schedule of `Act4` actions passes through (found by a breadth-first search on concrete
packets; a phase is a shape of the pair together with how often each message has been notified and each identifier
released so far, so a shape may occur in several phases).
`sysOf`: the shape; `next`: the successor; `nS nC rC rS`: the PUBLISH notifications at the server / client application and
the identifiers released by the client / server in that step.  `tab` collects them; `ok`, `counts`, `loss` (`PairAbs.lean`):
the kernel reads the table in tokens, runs the machine `astep` on every phase and action and finds the table's successor
and outputs - so the table is right for arbitrary packets and both versions (`closure`) - and checks that the outputs
follow the progress of the two exchanges as the shapes show it (`Counted`), and the runs with one loss.
-/
set_option linter.unusedVariables false
namespace MqttVerif.Conn.Pair.G5_11t
open MqttVerif MqttVerif.Conn MqttVerif.Conn.Pair

inductive Ph
  | p0
  | p1
  | p2
  | p3
  | p4
  | p5
  | p6
  | p7
  | p8
  | p9
  | p10
  | p11
  | p12
deriving DecidableEq, Repr

def sysOf (v : Nat) (P1 P2 : Pkt) : Ph → Sys
  | .p0 =>
    { c := mkSt v true .connected [⟨3, 65535⟩] [(1, P1.asDup), (2, P2.asDup)] [2, 1] [] [] [] [],
      s := mkSt v false .connected [⟨1, 65535⟩] [] [] [] [] [] [],
      c2s := [P1, P2], s2c := [] }
  | .p1 =>
    { c := mkSt v true .connected [⟨3, 65535⟩] [(1, P1.asDup), (2, P2.asDup)] [2, 1] [] [] [] [],
      s := mkSt v false .connected [⟨1, 65535⟩] [] [] [] [] [] [],
      c2s := [P2], s2c := [(ackN v .puback 1)] }
  | .p2 =>
    { c := mkSt v true .connected [⟨3, 65535⟩] [(1, P1.asDup), (2, P2.asDup)] [2, 1] [] [] [] [],
      s := mkSt v false .connected [⟨1, 65535⟩] [] [] [] [] [] [],
      c2s := [P1.asDup, P2.asDup], s2c := [] }
  | .p3 =>
    { c := mkSt v true .connected [⟨3, 65535⟩] [(1, P1.asDup), (2, P2.asDup)] [2, 1] [] [] [] [],
      s := mkSt v false .connected [⟨1, 65535⟩] [] [] [] [] [] [],
      c2s := [], s2c := [(ackN v .puback 1), (ackN v .puback 2)] }
  | .p4 =>
    { c := mkSt v true .connected [⟨1, 1⟩, ⟨3, 65535⟩] [(2, P2.asDup)] [2] [] [] [] [],
      s := mkSt v false .connected [⟨1, 65535⟩] [] [] [] [] [] [],
      c2s := [P2], s2c := [] }
  | .p5 =>
    { c := mkSt v true .connected [⟨3, 65535⟩] [(1, P1.asDup), (2, P2.asDup)] [2, 1] [] [] [] [],
      s := mkSt v false .connected [⟨1, 65535⟩] [] [] [] [] [] [],
      c2s := [P1.asDup, P2.asDup], s2c := [] }
  | .p6 =>
    { c := mkSt v true .connected [⟨3, 65535⟩] [(1, P1.asDup), (2, P2.asDup)] [2, 1] [] [] [] [],
      s := mkSt v false .connected [⟨1, 65535⟩] [] [] [] [] [] [],
      c2s := [P2.asDup], s2c := [(ackN v .puback 1)] }
  | .p7 =>
    { c := mkSt v true .connected [⟨1, 1⟩, ⟨3, 65535⟩] [(2, P2.asDup)] [2] [] [] [] [],
      s := mkSt v false .connected [⟨1, 65535⟩] [] [] [] [] [] [],
      c2s := [], s2c := [(ackN v .puback 2)] }
  | .p8 =>
    { c := mkSt v true .connected [⟨3, 65535⟩] [(1, P1.asDup), (2, P2.asDup)] [2, 1] [] [] [] [],
      s := mkSt v false .connected [⟨1, 65535⟩] [] [] [] [] [] [],
      c2s := [P1.asDup, P2.asDup], s2c := [] }
  | .p9 =>
    { c := mkSt v true .connected [⟨1, 1⟩, ⟨3, 65535⟩] [(2, P2.asDup)] [2] [] [] [] [],
      s := mkSt v false .connected [⟨1, 65535⟩] [] [] [] [] [] [],
      c2s := [P2.asDup], s2c := [] }
  | .p10 =>
    { c := mkSt v true .connected [⟨1, 65535⟩] [] [] [] [] [] [],
      s := mkSt v false .connected [⟨1, 65535⟩] [] [] [] [] [] [],
      c2s := [], s2c := [] }
  | .p11 =>
    { c := mkSt v true .connected [⟨1, 1⟩, ⟨3, 65535⟩] [(2, P2.asDup)] [2] [] [] [] [],
      s := mkSt v false .connected [⟨1, 65535⟩] [] [] [] [] [] [],
      c2s := [P2.asDup], s2c := [] }
  | .p12 =>
    { c := mkSt v true .connected [⟨3, 65535⟩] [(1, P1.asDup), (2, P2.asDup)] [2, 1] [] [] [] [],
      s := mkSt v false .connected [⟨1, 65535⟩] [] [] [] [] [] [],
      c2s := [P2.asDup], s2c := [(ackN v .puback 1)] }

def next (ph : Ph) (a : Act4) : Ph :=
  match ph with
  | .p0 => sel a .p1 .p0 .p1 .p2
  | .p1 => sel a .p3 .p4 .p3 .p5
  | .p2 => sel a .p6 .p2 .p6 .p2
  | .p3 => sel a .p3 .p7 .p7 .p8
  | .p4 => sel a .p7 .p4 .p7 .p9
  | .p5 => sel a .p6 .p5 .p6 .p5
  | .p6 => sel a .p3 .p9 .p3 .p5
  | .p7 => sel a .p7 .p10 .p10 .p11
  | .p8 => sel a .p12 .p8 .p12 .p8
  | .p9 => sel a .p7 .p9 .p7 .p9
  | .p10 => sel a .p10 .p10 .p10 .p10
  | .p11 => sel a .p7 .p11 .p7 .p11
  | .p12 => sel a .p3 .p11 .p3 .p8

def nS (P1 P2 : Pkt) (ph : Ph) (a : Act4) : List Pkt :=
  match ph with
  | .p0 => sel a [P1] [] [P1] []
  | .p1 => sel a [P2] [] [P2] []
  | .p2 => sel a [P1.asDup] [] [P1.asDup] []
  | .p4 => sel a [P2] [] [P2] []
  | .p5 => sel a [P1.asDup] [] [P1.asDup] []
  | .p6 => sel a [P2.asDup] [] [P2.asDup] []
  | .p8 => sel a [P1.asDup] [] [P1.asDup] []
  | .p9 => sel a [P2.asDup] [] [P2.asDup] []
  | .p11 => sel a [P2.asDup] [] [P2.asDup] []
  | .p12 => sel a [P2.asDup] [] [P2.asDup] []
  | _ => []

def nC (P1 P2 : Pkt) (ph : Ph) (a : Act4) : List Pkt := []

def rC (ph : Ph) (a : Act4) : List Nat :=
  match ph with
  | .p1 => sel a [] [1] [] []
  | .p3 => sel a [] [1] [1] []
  | .p6 => sel a [] [1] [] []
  | .p7 => sel a [] [2] [2] []
  | .p12 => sel a [] [1] [] []
  | _ => []

def rS (ph : Ph) (a : Act4) : List Nat := []

abbrev tab : PhaseData := ⟨Ph, sysOf, next, nS, nC, rC, rS, .p0, .p10⟩

instance (p : Ph → Prop) [DecidablePred p] : Decidable (∀ ph, p ph) :=
  decidableForallEnum Ph.ofNat Ph.ctorIdx Ph.ofNat_ctorIdx 13 (by intro ph; cases ph <;> decide) p

theorem ok : tab.Ok 1 1 2 (astartTwo 1 1 true) where
  sys_abs v P1 P2 ph := by cases ph <;> rfl
  nS_abs v P1 P2 ph a := by cases ph <;> exact row_abs rfl a
  nC_abs v P1 P2 ph a := rfl
  steps := by decide +kernel

theorem counts : tab.Counts5 true 1 1 := by
  decide +kernel

theorem loss : tab.Loss5 true 1 1 := by
  decide +kernel

section
variable {v : Nat} {P1 P2 : Pkt} (hv : v = 4 ∨ v = 5) (hA : IsPub v 1 P1) (hB : IsPubN v 1 2 P2)
include hv hA hB

theorem closure (ph : Ph) (a : Act4) :
    Obs2 (sysOf v P1 P2 (next ph a)) (nS P1 P2 ph a) (nC P1 P2 ph a) (rC ph a) (rS ph a) (act4 v (sysOf v P1 P2 ph) a) :=
  ok.closure hv hA hB ph a
end

end MqttVerif.Conn.Pair.G5_11t
