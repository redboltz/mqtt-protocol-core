import MqttVerif.Conn.Lemmas.FootprintIdsStep
import MqttVerif.Conn.Lemmas.Projections
/-!
# C08 — the packet-id allocator inside the connection

`W m a` is the well-formedness of the allocator `[1, m]` (the allocator part of `PidWf`): `Alloc.Wf` with
`lowest = 1` and `highest = T::MAX = m`, so that the set operations of `Alloc/Lemmas.lean` apply and keep `W`.
-/
namespace MqttVerif.Alloc

def W (m : Nat) (a : A) : Prop :=
  a.lowest = 1 ∧ a.highest = m ∧ a.tmax = m ∧ Ok 1 a.pool ∧ ∀ iv ∈ a.pool, iv.hi ≤ m

theorem W.iff {m : Nat} {a : A} : W m a ↔ (a.lowest = 1 ∧ a.highest = m ∧ a.tmax = m) ∧ Wf a :=
  ⟨fun ⟨h1, h2, h3, h4, h5⟩ => ⟨⟨h1, h2, h3⟩, h1.symm ▸ h4, h2.symm ▸ h5⟩,
    fun ⟨⟨h1, h2, h3⟩, w⟩ => ⟨h1, h2, h3, h1 ▸ w.ok, h2 ▸ w.hi⟩⟩

theorem W.wf {m : Nat} {a : A} (w : W m a) : Wf a := (W.iff.1 w).2

theorem W.tm {m : Nat} {a : A} (w : W m a) : a.highest ≤ a.tmax := Nat.le_of_eq (w.2.1.trans w.2.2.1.symm)

theorem W.keep {m : Nat} {a a' : A} (w : W m a)
    (hb : a'.lowest = a.lowest ∧ a'.highest = a.highest ∧ a'.tmax = a.tmax) (w' : Wf a') : W m a' :=
  W.iff.2 ⟨⟨hb.1.trans w.1, hb.2.1.trans w.2.1, hb.2.2.trans w.2.2.1⟩, w'⟩

theorem W.isUsed_range {m : Nat} {a : A} (w : W m a) {v : Nat} (h : isUsed a v = true) :
    1 ≤ v ∧ v ≤ m := w.1 ▸ w.2.1 ▸ Alloc.isUsed_range h

theorem W_new {m : Nat} (hm : 1 ≤ m) : W m (new 1 m m) := W.iff.2 ⟨⟨rfl, rfl, rfl⟩, wf_new hm m⟩

theorem W_clear {m : Nat} {a : A} (hm : 1 ≤ m) (w : W m a) : W m (clear a) :=
  w.keep ⟨rfl, rfl, rfl⟩ (wf_clear (w.1 ▸ w.2.1 ▸ hm))

theorem W.dealloc {m : Nat} {a : A} (w : W m a) {v : Nat} (hu : isUsed a v = true) :
    (deallocate a v).1 = none ∧ W m (deallocate a v).2 ∧
      ∀ x, isUsed (deallocate a v).2 x = (isUsed a x && x != v) :=
  have d := w.wf.deallocate w.tm v
  ⟨d.2.1 (Alloc.isUsed_range hu), w.keep (deallocate_bounds a v) d.1, d.2.2⟩

theorem W.alloc_none {m : Nat} {a : A} (w : W m a) (h : (allocate a).1 = none) :
    (allocate a).2 = a ∧ ∀ v, 1 ≤ v → v ≤ m → isUsed a v = true := by
  refine ⟨congrArg (·.2) (allocate_none h).1, fun v h1 h2 => ?_⟩
  cases hf : isUsed a v with
  | true => rfl
  | false => exact absurd ((w.wf.free_iff v).2 ⟨w.1 ▸ h1, w.2.1 ▸ h2, hf⟩) ((allocate_none h).2 v)

theorem W.alloc_some {m : Nat} {a : A} (w : W m a) {v : Nat} (h : (allocate a).1 = some v) :
    isUsed a v = false ∧ 1 ≤ v ∧ v ≤ m ∧
      ∀ x, isUsed (allocate a).2 x = true ↔ (isUsed a x = true ∨ x = v) := by
  obtain ⟨f1, _, f3⟩ := w.wf.allocate_some h
  obtain ⟨r1, r2, hu⟩ := (w.wf.free_iff v).1 f1
  refine ⟨hu, w.1 ▸ r1, w.2.1 ▸ r2, fun x => ?_⟩
  rw [f3, Bool.or_eq_true, beq_iff_eq]

theorem W.use {m : Nat} {a : A} (w : W m a) (v : Nat) :
    ((useValue a v).1 = true ↔ (1 ≤ v ∧ v ≤ m ∧ isUsed a v = false)) ∧ W m (useValue a v).2 ∧
      ∀ x, isUsed (useValue a v).2 x = true ↔ (isUsed a x = true ∨ ((useValue a v).1 = true ∧ x = v)) := by
  refine ⟨w.1 ▸ w.2.1 ▸ w.wf.useValue_iff v, w.keep (useValue_bounds a v) (w.wf.useValue v).1, fun x => ?_⟩
  rw [(w.wf.useValue v).2.2, Bool.or_eq_true, Bool.and_eq_true, beq_iff_eq]

end MqttVerif.Alloc

namespace MqttVerif.Conn
open MqttVerif

/-- allocator well-formedness of a connection state (an invariant of `step`) -/
def PidWf (cfg : Cfg) (s : St) : Prop :=
  s.pidMan.lowest = 1 ∧ s.pidMan.highest = cfg.idMax ∧ s.pidMan.tmax = cfg.idMax ∧
    Alloc.Ok 1 s.pidMan.pool ∧ (∀ iv ∈ s.pidMan.pool, iv.hi ≤ cfg.idMax)

theorem PidWf.w {cfg : Cfg} {s : St} (h : PidWf cfg s) : Alloc.W cfg.idMax s.pidMan := h

theorem Cfg.idMax_pos_of_pw {cfg : Cfg} (h : 1 ≤ cfg.pw) : 1 ≤ cfg.idMax := by
  have : 256 ^ 1 ≤ 256 ^ cfg.pw := Nat.pow_le_pow_right (by omega) h
  unfold Cfg.idMax; omega

def Wf (c : C) : Prop := 1 ≤ c.cfg.idMax ∧ PidWf c.cfg c.s

theorem isUsed_congr {s s' : St} (h : s'.pidMan = s.pidMan) (id : Nat) : isUsed s' id = isUsed s id := by
  simp only [isUsed, h]

attribute [simp] releasedIds_append push_s push_cfg push_ev err_s err_cfg err_ev setPanic_cfg setPanic_ev

@[simp] theorem setPanic_pidMan (c : C) (x : String) : (c.setPanic x).s.pidMan = c.s.pidMan := by cases c; rfl

abbrev Quiet (c c' : C) : Prop :=
  c'.cfg = c.cfg ∧ c'.s.pidMan = c.s.pidMan ∧ Mon.releasedIds c'.ev = Mon.releasedIds c.ev

theorem Quiet.refl (c : C) : Quiet c c := ⟨rfl, rfl, rfl⟩
theorem Quiet.trans {a b c : C} (h1 : Quiet a b) (h2 : Quiet b c) : Quiet a c :=
  ⟨h2.1.trans h1.1, h2.2.1.trans h1.2.1, h2.2.2.trans h1.2.2⟩

/-- the usual reason: configuration, allocator and events are the same terms.  The three equations are closed by
    `rfl` once `c'` is known, so this can be written before `c'` is determined (`⟨rfl, rfl, rfl⟩` cannot). -/
theorem Quiet.of_eq {c c' : C} (h1 : c'.cfg = c.cfg := by rfl) (h2 : c'.s.pidMan = c.s.pidMan := by rfl)
    (h3 : c'.ev = c.ev := by rfl) : Quiet c c' :=
  ⟨h1, h2, by rw [h3]⟩

theorem Quiet.of_footprint {T : List EvTag} {w : St → St → St} {c c' : C} (h : Fp.Footprint T w c c')
    (hw : ∀ a x, (w a x).pidMan = a.pidMan := by exact fun _ _ => rfl) (hT : EvTag.released ∉ T := by decide) :
    Quiet c c' :=
  ⟨h.cfg, by rw [h.s, hw], h.ev.releasedIds hT⟩

theorem Quiet.push {c c' : C} (q : Quiet c c') {e : Ev} (he : e.tag ≠ .released) : Quiet c (c'.push e) :=
  q.trans (.of_footprint (T := [e.tag]) (w := fun a _ => a) ⟨rfl, Fp.push_ev c' e, rfl⟩ (fun _ _ => rfl)
    (fun hm => he (List.mem_singleton.1 hm).symm))

theorem Quiet.err {c c' : C} (q : Quiet c c') (e : Nat) : Quiet c (c'.err e) := q.push (e := .error e) (fun h => nomatch h)

theorem ite_cfg (p : Prop) {_ : Decidable p} (a b : C) : (if p then a else b).cfg = if p then a.cfg else b.cfg := apply_ite _ _ _ _
theorem ite_s (p : Prop) {_ : Decidable p} (a b : C) : (if p then a else b).s = if p then a.s else b.s := apply_ite _ _ _ _
theorem ite_ev (p : Prop) {_ : Decidable p} (a b : C) : (if p then a else b).ev = if p then a.ev else b.ev := apply_ite _ _ _ _
theorem ite_pidMan (p : Prop) {_ : Decidable p} (a b : St) : (if p then a else b).pidMan = if p then a.pidMan else b.pidMan := apply_ite _ _ _ _
theorem ite_rel (p : Prop) {_ : Decidable p} (a b : List Ev) :
    Mon.releasedIds (if p then a else b) = if p then Mon.releasedIds a else Mon.releasedIds b := apply_ite _ _ _ _

theorem ite_fst {α β : Type} (p : Prop) {_ : Decidable p} (a b : α × β) :
    (if p then a else b).1 = if p then a.1 else b.1 := apply_ite _ _ _ _
theorem ite_snd {α β : Type} (p : Prop) {_ : Decidable p} (a b : α × β) :
    (if p then a else b).2 = if p then a.2 else b.2 := apply_ite _ _ _ _

/-- closes `Quiet c c'` for a `c'` written out as record updates, pushes and calls of the quiet functions below -/
macro "quiet_tac" : tactic =>
  `(tactic| simp [Quiet, ite_cfg, ite_s, ite_ev, ite_pidMan, ite_rel, ite_fst, ite_snd, Mon.releasedIds])

@[simp] theorem cancelTimers_q (c : C) : Quiet c (cancelTimers c) := .of_footprint (Fp.cancelTimers_fp c)
@[simp] theorem refreshPingreqRecv_q (c : C) : Quiet c (refreshPingreqRecv c) :=
  .of_footprint (Fp.refreshPingreqRecv_fp c)
theorem validateTopicAlias_q (c : C) (ao : Option Nat) : Quiet c (validateTopicAlias c ao).2 :=
  .of_footprint (Fp.validateTopicAlias_fp c ao)
theorem decSendCount_q (c : C) : Quiet c (decSendCount c) := .of_footprint (Fp.decSendCount_fp c)
theorem v5DisconnectOrClose_q (c : C) (p : Pkt) : Quiet c (v5DisconnectOrClose c p) :=
  .of_footprint (Fp.v5DisconnectOrClose_fp c p)
@[simp] theorem storeAdd_q (c : C) (id : Nat) (p : Pkt) (x : String) : Quiet c (storeAdd c id p x) :=
  .of_footprint (Fp.storeAdd_fp c id p x)
theorem psPubrel_q (c : C) (p : Pkt) : Quiet c (psPubrel c p) := .of_footprint (Fp.psPubrel_fp c p)

end MqttVerif.Conn
