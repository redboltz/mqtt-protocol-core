import MqttVerif.Conn.Lemmas.NoPanicRange
import MqttVerif.Conn.Lemmas.NoPanicStep
/-!
# C06 / C05 helper — a stored packet keeps its identifier in use

`Held s`: every stored packet's identifier is in use (the driver's monitor
`VIOL sig=C06 stored_id_not_held`).  `Disj s`: no identifier awaited by a SUBACK / UNSUBACK is
awaited by a PUBACK / PUBREC / PUBCOMP.  Both are kept by every call in the invariant class `Good`
under the contract `Legal` **plus** the ownership rule `LegalIds`: the application does not
release, or hand to `send` with a packet that starts an exchange, an identifier that is still
owned by an exchange (`step_w` below, `Props/C05.lean`).  Without `LegalIds` the statement is
false (`release id` of a stored packet's identifier is unrestricted in `Legal`).

Both are properties of the identifier group (`WI`).  `Disj` and the allocator's invariant are kept by
every primitive that adds nothing (`IdPrim.safe`); `Held` is not, a release may come before the packet
leaves the store, but after a sequence of such primitives it can be read off the store that is left
(`WI.runAll`).
-/
namespace MqttVerif.Conn.Hd
open MqttVerif MqttVerif.Conn

theorem dealloc_used {a : Alloc.A} (h : PidWf a) (v x : Nat) :
    Alloc.isUsed (Alloc.deallocate a v).2 x = true ↔ (Alloc.isUsed a x = true ∧ x ≠ v) := by
  rw [(h.wf.1.deallocate h.wf.2 v).2.2, Bool.and_eq_true, bne_iff_ne]

theorem alloc_mono {a : Alloc.A} (h : PidWf a) (x : Nat) (hx : Alloc.isUsed a x = true) :
    Alloc.isUsed (Alloc.allocate a).2 x = true := h.wf.1.allocate_mono hx

theorem use_mono {a : Alloc.A} (h : PidWf a) (v x : Nat) (hx : Alloc.isUsed a x = true) :
    Alloc.isUsed (Alloc.useValue a v).2 x = true := by
  rw [(h.wf.1.useValue v).2.2, hx]
  rfl

theorem use_true {a : Alloc.A} (h : PidWf a) {v : Nat} (hv : (Alloc.useValue a v).1 = true) :
    Alloc.isUsed (Alloc.useValue a v).2 v = true := by
  rw [(h.wf.1.useValue v).2.2, hv, beq_self_eq_true]
  exact Bool.or_true _

def K2 (c : C) : Alloc.A × List (Nat × Pkt) × List Nat × List Nat × List Nat × List Nat × List Nat :=
  (c.s.pidMan, c.s.store, c.s.suback, c.s.unsuback, c.s.puback, c.s.pubrec, c.s.pubcomp)

def Held (s : St) : Prop := ∀ x ∈ s.store, isUsed s x.1 = true
/- `Held` alone is not kept: a SUBACK, an UNSUBACK and `notify_closed` release every identifier of `suback`/`unsuback`, and
   one that also keyed a stored packet would leave the store with a free key. -/
def Disj (s : St) : Prop :=
  ∀ id, (id ∈ s.suback ∨ id ∈ s.unsuback) → id ∉ s.puback ∧ id ∉ s.pubrec ∧ id ∉ s.pubcomp
def HD (s : St) : Prop := Held s ∧ Disj s

@[simp] theorem K2_push (c : C) (e : Ev) : K2 (c.push e) = K2 c := rfl
@[simp] theorem K2_err (c : C) (e : Nat) : K2 (c.err e) = K2 c := rfl
@[simp] theorem K2_setPanic (c : C) (x : String) : K2 (c.setPanic x) = K2 c := rfl
@[simp] theorem K2_handleV3Error (c : C) (e : Nat) : K2 (handleV3Error c e) = K2 c := rfl

/-- `Disj` of a state with this group -/
def DisjI (x : Ids) : Prop :=
  ∀ id, id ∈ x.suback ∨ id ∈ x.unsuback → id ∉ x.puback ∧ id ∉ x.pubrec ∧ id ∉ x.pubcomp

/-- `PidWf`, `Held` and `Disj` of a state with this group -/
def WI (x : Ids) : Prop :=
  PidWf x.pidMan ∧ (∀ e ∈ x.store, Alloc.isUsed x.pidMan e.1 = true) ∧ DisjI x

theorem storeHas_false' {id : Nat} {st : List (Nat × Pkt)} : storeHas id st = false ↔ ∀ x ∈ st, x.1 ≠ id := by
  rw [storeHas_false]
  constructor
  · intro h x hx e; exact h x.2 (by rw [← e]; exact hx)
  · intro h q hq; exact h (id, q) hq rfl

variable {x : Ids}

theorem DisjI.setWait (h : DisjI x) (k : Kind) {l : List Nat} (hl : ∀ i ∈ l, i ∈ x.wait k) :
    DisjI (x.setWait k l) := by
  cases k with
  | suback => exact fun i hi => h i (hi.imp_left (hl i))
  | unsuback => exact fun i hi => h i (hi.imp_right (hl i))
  | puback => exact fun i hi => ⟨fun m => (h i hi).1 (hl i m), (h i hi).2.1, (h i hi).2.2⟩
  | pubrec => exact fun i hi => ⟨(h i hi).1, fun m => (h i hi).2.1 (hl i m), (h i hi).2.2⟩
  | pubcomp => exact fun i hi => ⟨(h i hi).1, (h i hi).2.1, fun m => (h i hi).2.2 (hl i m)⟩
  | _ => exact h

theorem DisjI.run (h : DisjI x) (a : IdPrim) (hs : a.safe = true) : DisjI (a.run x).1 := by
  cases a with
  | release id =>
    rw [IdPrim.release_run]
    split
    · exact h
    · exact h
  | unwait k id => exact h.setWait k fun i hi => (mem_del.1 hi).1
  | clearWait k => exact h.setWait k fun i hi => nomatch hi
  | store id q => cases hs
  | await k id => cases hs
  | restore p => cases hs
  | clearSession => cases hs
  | _ => exact h

theorem used_run (hp : PidWf x.pidMan) (a : IdPrim) (hs : a.safe = true) {v : Nat}
    (hu : Alloc.isUsed x.pidMan v = true) (hv : a ≠ .release v) : Alloc.isUsed (a.run x).1.pidMan v = true := by
  cases a with
  | release id =>
    rw [IdPrim.release_run]
    split
    · exact (dealloc_used hp id v).2 ⟨hu, fun e => hv (by rw [e])⟩
    · exact hu
  | acquire => exact alloc_mono hp v hu
  | register id => exact use_mono hp id v hu
  | unwait k id => exact (x.setWait_pidMan _ _).symm ▸ hu
  | clearWait k => exact (x.setWait_pidMan _ _).symm ▸ hu
  | store id q => cases hs
  | await k id => cases hs
  | restore p => cases hs
  | clearSession => cases hs
  | _ => exact hu

theorem runAll_safe {l : List IdPrim} (hl : l.all IdPrim.safe = true) :
    ∀ {x : Ids}, PidWf x.pidMan → DisjI x →
      PidWf (IdPrim.runAll l x).1.pidMan ∧ DisjI (IdPrim.runAll l x).1 ∧
        ∀ v, Alloc.isUsed x.pidMan v = true → .release v ∉ l → Alloc.isUsed (IdPrim.runAll l x).1.pidMan v = true := by
  induction l with
  | nil => exact fun hp hd => ⟨hp, hd, fun _ hu _ => hu⟩
  | cons a l ih =>
    intro x hp hd
    rw [List.all_cons, Bool.and_eq_true] at hl
    obtain ⟨i1, i2, i3⟩ := ih hl.2 (hp.run a) (hd.run a hl.1)
    refine ⟨i1, i2, fun v hu hv => ?_⟩
    exact i3 v (used_run hp a hl.1 hu fun e => hv (e ▸ List.mem_cons_self)) fun hm => hv (List.mem_cons_of_mem _ hm)

namespace WI

/-- After primitives that add nothing, `Held` is decided on the store that is left: it holds no entry under a
    released identifier. -/
theorem runAll (h : WI x) {l : List IdPrim} (hl : l.all IdPrim.safe = true)
    (hr : ∀ id, .release id ∈ l → storeHas id (IdPrim.runAll l x).1.store = false) : WI (IdPrim.runAll l x).1 := by
  obtain ⟨i1, i2, i3⟩ := runAll_safe hl h.1 h.2.2
  exact ⟨i1, fun e he => i3 e.1 (h.2.1 e ((IdPrim.runAll_safe hl x).subset he)) fun hm =>
    storeHas_false'.1 (hr _ hm) e he rfl, i2⟩

theorem runAll_unstored (h : WI x) {l : List IdPrim} (hl : l.all IdPrim.safe = true)
    (hr : ∀ id, .release id ∈ l → storeHas id x.store = false) : WI (IdPrim.runAll l x).1 :=
  h.runAll hl fun id hm => storeHas_false'.2 fun e he =>
    storeHas_false'.1 (hr id hm) e ((IdPrim.runAll_safe hl x).subset he)

theorem clear (h : WI x) : WI (IdPrim.clearSession.run x).1 :=
  ⟨h.1.clear, fun _ he => absurd he List.not_mem_nil,
    fun _ _ => ⟨List.not_mem_nil, List.not_mem_nil, List.not_mem_nil⟩⟩

/-- `store.add` behind an `is_used_id` test -/
theorem store (h : WI x) {id : Nat} (hu : Alloc.isUsed x.pidMan id = true) (q : Pkt) :
    WI ((IdPrim.store id q).run x).1 := by
  simp only [IdPrim.run]
  split
  · exact h
  · refine ⟨h.1, fun e he => ?_, h.2.2⟩
    rcases List.mem_append.1 he with he | he
    · exact h.2.1 e he
    · rw [List.mem_singleton.1 he]
      exact hu

theorem awaitQos (h : WI x) {k : Kind} (hk : k = .pubcomp ∨ k = .pubrec ∨ k = .puback) {id : Nat}
    (h1 : id ∉ x.suback) (h2 : id ∉ x.unsuback) : WI ((IdPrim.await k id).run x).1 := by
  have hne : ∀ i, i ∈ x.suback ∨ i ∈ x.unsuback → ¬i = id := by
    rintro i (hi | hi) rfl
    · exact h1 hi
    · exact h2 hi
  rcases hk with rfl | rfl | rfl
  · exact ⟨h.1, h.2.1, fun i hi =>
      ⟨(h.2.2 i hi).1, (h.2.2 i hi).2.1, fun m => (mem_ins.1 m).elim (hne i hi) (h.2.2 i hi).2.2⟩⟩
  · exact ⟨h.1, h.2.1, fun i hi =>
      ⟨(h.2.2 i hi).1, fun m => (mem_ins.1 m).elim (hne i hi) (h.2.2 i hi).2.1, (h.2.2 i hi).2.2⟩⟩
  · exact ⟨h.1, h.2.1, fun i hi =>
      ⟨fun m => (mem_ins.1 m).elim (hne i hi) (h.2.2 i hi).1, (h.2.2 i hi).2.1, (h.2.2 i hi).2.2⟩⟩

theorem awaitSub (h : WI x) {k : Kind} (hk : k = .suback ∨ k = .unsuback) {id : Nat}
    (hq : id ∉ x.puback ∧ id ∉ x.pubrec ∧ id ∉ x.pubcomp) : WI ((IdPrim.await k id).run x).1 := by
  rcases hk with rfl | rfl
  · exact ⟨h.1, h.2.1, fun i hi => hi.elim
      (fun m => (mem_ins.1 m).elim (fun e => e ▸ hq) fun m => h.2.2 i (.inl m)) fun m => h.2.2 i (.inr m)⟩
  · exact ⟨h.1, h.2.1, fun i hi => hi.elim (fun m => h.2.2 i (.inl m))
      fun m => (mem_ins.1 m).elim (fun e => e ▸ hq) fun m => h.2.2 i (.inr m)⟩

end WI


def W (c : C) : Prop := PidWf c.s.pidMan ∧ HD c.s

theorem W.release {c : C} (h : W c) {id : Nat} (hn : storeHas id c.s.store = false) : W (releaseIfUsed c id) := by
  show WI (releaseIfUsed c id).s.ids
  rw [(Fp.releaseIfUsed_ids c id).ids]
  refine WI.runAll_unstored (show WI c.s.ids from h) rfl fun i hm => ?_
  obtain rfl : i = id := by simpa using hm
  exact hn

def Unowned (s : St) (id : Nat) : Prop :=
  storeHas id s.store = false ∧ id ∉ s.suback ∧ id ∉ s.unsuback ∧ id ∉ s.puback ∧ id ∉ s.pubrec ∧ id ∉ s.pubcomp

/-- **the ownership rule of `send`**: the identifier of a packet that starts an exchange (QoS>0
    PUBLISH, PUBREL, SUBSCRIBE, UNSUBSCRIBE — and, for the release on refusal, any PUBLISH carrying
    an identifier) is not owned by another exchange or stored packet -/
def IdsOk (s : St) (p : Pkt) : Prop :=
  (p.kind = .publish → ∀ id, p.pid = some id → Unowned s id) ∧
  (p.kind = .pubrel → p.pid.getD 0 ∉ s.suback ∧ p.pid.getD 0 ∉ s.unsuback) ∧
  ((p.kind = .subscribe ∨ p.kind = .unsubscribe) → Unowned s (p.pid.getD 0))


theorem store_keeps (x : Ids) (id : Nat) (q : Pkt) :
    ((IdPrim.store id q).run x).1.suback = x.suback ∧ ((IdPrim.store id q).run x).1.unsuback = x.unsuback := by
  simp only [IdPrim.run]
  split
  · exact ⟨rfl, rfl⟩
  · exact ⟨rfl, rfl⟩

theorem WI.begin (h : WI x) {id : Nat} (hu : Alloc.isUsed x.pidMan id = true) {k : Kind}
    (hk : k = .pubcomp ∨ k = .pubrec ∨ k = .puback) (h1 : id ∉ x.suback) (h2 : id ∉ x.unsuback) (stored : Bool)
    (q : Pkt) : WI (IdPrim.runAll ((if stored then [.store id q] else []) ++ [.await k id]) x).1 := by
  cases stored
  · exact h.awaitQos hk h1 h2
  · refine (h.store hu q).awaitQos hk ?_ ?_
    · rw [(store_keeps x id q).1]
      exact h1
    · rw [(store_keeps x id q).2]
      exact h2

theorem WI.openConn (h : WI x) (clean : Bool) :
    WI (IdPrim.runAll (IdPrim.openConn ++ if clean then [.clearSession] else []) x).1 := by
  have h1 : WI (IdPrim.runAll IdPrim.openConn x).1 := h.runAll rfl fun _ hm => by simp [IdPrim.openConn] at hm
  rw [IdPrim.runAll_append]
  cases clean
  · exact h1
  · exact h1.clear

theorem storeErasePublish_gone {id : Nat} {st : List (Nat × Pkt)}
    (h : ∀ q, lookup id st = some q → q.kind = .publish) : storeHas id (storeErasePublish id st).2 = false := by
  unfold storeErasePublish
  cases hl : lookup id st with
  | none => exact storeHas_false.2 (lookup_none_mem hl)
  | some q =>
    dsimp only
    rw [if_pos (h q hl)]
    exact storeHas_false.2 fun q' hq' => (mem_erase.1 hq').2 rfl

theorem cleanup_store (y : Ids) (id : Nat) :
    (IdPrim.runAll (IdPrim.cleanup id) y).1.store = (storeErasePublish id y.store).2 :=
  IdPrim.runAll_store_eq _ y fun p hp => by simp [IdPrim.cleanup] at hp

/-- `pubRefuseCleanup`: what the store holds under the identifier is the PUBLISH that is refused -/
theorem WI.cleanup (h : WI x) (id : Nat) (hpub : ∀ q, lookup id x.store = some q → q.kind = .publish) :
    WI (IdPrim.runAll (IdPrim.cleanup id) x).1 := by
  refine h.runAll rfl fun i hm => ?_
  obtain rfl : i = id := by simpa [IdPrim.cleanup] using hm
  rw [cleanup_store]
  exact storeErasePublish_gone hpub

/-- `send_stored`: the identifiers released are those of the entries dropped, and the keys are distinct -/
theorem WI.resend (h : WI x) (hn : (x.store.map (·.1)).Nodup) (pw mps : Nat) :
    WI (IdPrim.runAll (IdPrim.resend pw mps x.store) x).1 := by
  refine h.runAll (IdPrim.resend_safe pw mps x.store) fun id hm => storeHas_false'.2 fun e he hid => ?_
  obtain ⟨q, he', ho⟩ : ∃ q, (id, q) ∈ x.store ∧ oversize pw mps (id, q) = true := by
    simpa [IdPrim.resend, IdPrim.drop] using hm
  rw [IdPrim.resend_store] at he
  obtain ⟨he0, hfit⟩ := List.mem_filter.1 he
  rw [eq_of_key hn he0 he' hid, ho] at hfit
  cases hfit

section
variable {cfg : Cfg} {s : St} {p : Pkt} {l : List IdPrim}

/-- `hp`: a QoS 1/2 PUBLISH carries an identifier (part of the contract `SendOk`) -/
theorem _root_.MqttVerif.Conn.SendOut.w (ho : SendOut cfg s p l) (h : WI s.ids) (hn : (s.store.map (·.1)).Nodup)
    (hi : IdsOk s p) (hp : p.kind = .publish → p.qos > 0 → ∃ id, p.pid = some id) : WI (IdPrim.runAll l s.ids).1 := by
  -- the identifier of a packet that begins an exchange awaits no SUBACK or UNSUBACK
  have hfree : (p.kind = .publish ∧ p.qos > 0 ∨ p.kind = .pubrel) →
      p.pid.getD 0 ∉ s.suback ∧ p.pid.getD 0 ∉ s.unsuback := by
    rintro (⟨hk, hq⟩ | hk)
    · obtain ⟨id, e⟩ := hp hk hq
      rw [e]
      exact ⟨(hi.1 hk id e).2.1, (hi.1 hk id e).2.2.1⟩
    · exact hi.2.1 hk
  cases ho with
  | keep => exact h
  | refuse id hk hid hpub =>
    refine h.runAll_unstored rfl fun i hm => ?_
    obtain rfl : i = id := by simpa using hm
    rcases hk with hk | hk | hk
    · exact (hi.1 hk i (hpub hk)).1
    · exact hid ▸ (hi.2.2 (.inl hk)).1
    · exact hid ▸ (hi.2.2 (.inr hk)).1
  | exchange id q stored hk hid hu hq hs =>
    subst hid
    exact h.begin hu (respOf_cases p) (hfree hk).1 (hfree hk).2 stored q
  | exchangeRefused id q stored hk hid hu hq hs =>
    have hf := hfree (.inl hk)
    rw [hid] at hf
    rw [IdPrim.runAll_append]
    refine (h.begin hu (respOf_cases p) hf.1 hf.2 stored q).cleanup id fun q' hl => ?_
    -- no entry had this identifier, so the one found is the packet just stored
    rcases IdPrim.mem_runAll_store (lookup_some_mem hl) with hm | ⟨a, ha, ⟨id', q'', rfl, e⟩ | ⟨p', rfl, -⟩⟩
    · exact absurd rfl (storeHas_false'.1 (hi.1 hk.1 id hid).1 _ hm)
    · obtain ⟨hst, -, rfl⟩ : stored = true ∧ id' = id ∧ q'' = q := by simpa using ha
      rw [(Prod.mk.inj e).2, (hq hst).kind]
      exact hk.1
    · simp at ha
  | cleanup id hk hid hu =>
    exact h.cleanup id fun q hl => absurd rfl (storeHas_false'.1 (hi.1 hk.1 id hid).1 _ (lookup_some_mem hl))
  | subscribe id hk hid hu =>
    have hf := hi.2.2 hk
    rw [← hid] at hf
    refine h.awaitSub ?_ hf.2.2.2
    by_cases hsub : p.kind = .subscribe
    · exact .inl (if_pos hsub)
    · exact .inr (if_neg hsub)
  | connect hk hs => exact h.openConn p.clean
  | connack hk hs hrc =>
    cases p.sp
    · exact h.clear
    · exact h.resend hn _ _

end

section
variable {cfg : Cfg} {s : St} {t : Nat} {y : Except Nat Pkt} {mps : Nat} {l : List IdPrim}

/-- `hv`: the parser gives a packet the version it was asked for (part of `ParserOk`) -/
theorem _root_.MqttVerif.Conn.RecvOut.w (ho : RecvOut cfg s t y mps l) (h : WI s.ids)
    (hs : StoreInv s.ver s.store s.puback s.pubrec s.pubcomp) (hv : ∀ p, y = .ok p → p.ver = s.ver) :
    WI (IdPrim.runAll l s.ids).1 := by
  cases ho with
  | keep => exact h
  | connect p ht hx hst => exact h.openConn p.clean
  | connack p cleared ht hx hst hrc hc =>
    rw [IdPrim.runAll_append]
    cases cleared
    · cases p.sp
      · exact h.clear
      · exact h.resend hs.2.2.2.2 _ _
    · cases p.sp
      · exact h.clear.clear
      · exact h.clear.runAll rfl fun _ hm => by simp [IdPrim.resend] at hm
  | ack p k id ht hx hid hw hk =>
    refine h.runAll rfl fun i hm => ?_
    obtain rfl : i = id := by simpa using hm
    have e : (IdPrim.runAll [.unwait k i, .storeErase p.ver k i, .release i] s.ids).1.store =
        storeErase s.ver k i s.store := by
      rw [IdPrim.runAll_store_eq _ _ fun q hq => by simp at hq, ← hv p hx]
      rfl
    rw [e, storeHas_false]
    refine storeErase_gone hs ?_
    rcases hk with rfl | rfl | ⟨rfl, -⟩
    · exact .inl ⟨rfl, hw⟩
    · exact .inr (.inr ⟨rfl, hw⟩)
    · exact .inr (.inl ⟨rfl, hw⟩)
  | pubrec p id rel ht hx hid hw hok hu =>
    rw [IdPrim.runAll_append]
    have h1 : WI (IdPrim.runAll [.unwait .pubrec id, .storeErase p.ver .pubrec id] s.ids).1 :=
      h.runAll rfl fun _ hm => by simp at hm
    cases rel
    · exact h1
    · -- awaited by PUBREC, hence by no SUBACK or UNSUBACK
      exact h1.begin (hu rfl) (.inl rfl) (fun m => (h.2.2 id (.inl m)).2.1 hw)
        (fun m => (h.2.2 id (.inr m)).2.1 hw) s.needStore _
  | suback p k id ht hx hid hw hk =>
    refine h.runAll_unstored rfl fun i hm => ?_
    obtain rfl : i = id := by simpa using hm
    have hd := h.2.2 i (by
      rcases hk with rfl | rfl
      · exact .inl hw
      · exact .inr hw)
    exact hs.fresh_not_stored hd.1 hd.2.1 hd.2.2

end

/-- `notify_closed`: the identifiers awaited by a SUBACK or UNSUBACK are those of no stored packet; if the session
    ends the store is emptied -/
theorem close_w {s : St} (h : WI s.ids) (hs : StoreInv s.ver s.store s.puback s.pubrec s.pubcomp) :
    WI (IdPrim.runAll (IdPrim.close s) s.ids).1 := by
  cases hn : s.needStore
  · refine h.runAll (IdPrim.close_safe s) fun id _ => ?_
    have e : IdPrim.close s = (IdPrim.drain .suback s.suback ++ IdPrim.drain .unsuback s.unsuback ++
        IdPrim.drain .puback s.puback ++ IdPrim.drain .pubrec s.pubrec ++ IdPrim.drain .pubcomp s.pubcomp) ++
        [.dropStore] := by
      simp [IdPrim.close, hn]
    rw [e, IdPrim.runAll_append]
    rfl
  · refine h.runAll_unstored (IdPrim.close_safe s) fun id hm => ?_
    have hm' : id ∈ s.suback ∨ id ∈ s.unsuback := by simpa [IdPrim.close, hn, IdPrim.drain] using hm
    have hd := h.2.2 id hm'
    exact hs.fresh_not_stored hd.1 hd.2.1 hd.2.2

theorem setWait_respOf (x : Ids) (p : Pkt) (l : List Nat) :
    (x.setWait (respOf p) l).suback = x.suback ∧ (x.setWait (respOf p) l).unsuback = x.unsuback := by
  rcases respOf_cases p with e | e | e
  · rw [e]
    exact ⟨rfl, rfl⟩
  · rw [e]
    exact ⟨rfl, rfl⟩
  · rw [e]
    exact ⟨rfl, rfl⟩

theorem WI.restore (h : WI x) (hs : x.suback = [] ∧ x.unsuback = []) (p : Pkt) :
    WI ((IdPrim.restore p).run x).1 ∧ ((IdPrim.restore p).run x).1.suback = [] ∧
      ((IdPrim.restore p).run x).1.unsuback = [] := by
  have hreg : WI ((IdPrim.register (p.pid.getD 0)).run x).1 :=
    h.runAll (l := [.register (p.pid.getD 0)]) rfl fun _ hm => by simp at hm
  rw [IdPrim.restore_run]
  unfold IdPrim.restoreSteps
  split
  · exact ⟨h, hs⟩
  split
  · rename_i hr
    have ha := hreg.awaitQos (respOf_cases p) (id := p.pid.getD 0)
      (by rw [hs.1]; exact List.not_mem_nil : p.pid.getD 0 ∉ x.suback)
      (by rw [hs.2]; exact List.not_mem_nil : p.pid.getD 0 ∉ x.unsuback)
    have hw := setWait_respOf ((IdPrim.register (p.pid.getD 0)).run x).1 p
      (ins (p.pid.getD 0) (((IdPrim.register (p.pid.getD 0)).run x).1.wait (respOf p)))
    have hst := ha.store (id := p.pid.getD 0) (by
      rw [IdPrim.run, Ids.setWait_pidMan]
      exact use_true h.1 hr) p
    have hk := store_keeps ((IdPrim.await (respOf p) (p.pid.getD 0)).run ((IdPrim.register (p.pid.getD 0)).run x).1).1
      (p.pid.getD 0) p
    exact ⟨hst, hk.1.trans (hw.1.trans hs.1), hk.2.trans (hw.2.trans hs.2)⟩
  · exact ⟨hreg, hs⟩

theorem restore_w (ps : List Pkt) : ∀ {x : Ids}, WI x → x.suback = [] ∧ x.unsuback = [] →
    WI (IdPrim.runAll (ps.map .restore) x).1 := by
  induction ps with
  | nil => exact fun h _ => h
  | cons p ps ih => exact fun h hs => ih (h.restore hs p).1 (h.restore hs p).2


/-- **the ownership rule**: what the application must respect so that a stored packet keeps its
    identifier — it does not release an identifier a stored packet carries, does not start an
    exchange (`send` of a QoS>0 PUBLISH / PUBREL / SUBSCRIBE / UNSUBSCRIBE) with an identifier that is
    still owned, and restores packets only while no SUBSCRIBE / UNSUBSCRIBE is in flight (before the
    first connection) -/
def LegalIds (s : St) : Op → Prop
  | .send p => IdsOk s p
  | .release id => storeHas id s.store = false
  | .restorePackets _ => s.suback = [] ∧ s.unsuback = []
  | _ => True

theorem step_w {cfg : Cfg} {s : St} {op : Op} (hg : Good s) (h : HD s) (hl : Legal cfg s op) (hi : LegalIds s op) :
    HD (step cfg s op).s := by
  have hw : WI s.ids := ⟨hg.pid, h⟩
  have hs := hg.store
  obtain ⟨l, ho, hr⟩ := Fp.step_ids cfg s op
  suffices hw' : WI (IdPrim.runAll l s.ids).1 by
    have : WI (step cfg s op).s.ids := hr.ids ▸ hw'
    exact this.2
  cases ho with
  | keep => exact hw
  | send p l ho =>
    obtain ⟨-, hpub, -⟩ := (hl : SendOk s p)
    exact ho.w hw hs.2.2.2.2 hi fun hk hq => (hpub hk hq).imp fun _ e => e.1
  | recv inp parse s' fh data l hs' hv ho =>
    have e : s'.ids = s.ids := by
      have := congrArg St.ids hs'
      exact this
    -- while the version is undetermined nothing is stored
    have hst : StoreInv s'.ver s'.ids.store s'.ids.puback s'.ids.pubrec s'.ids.pubcomp := by
      rw [e]
      rcases hv with hv | hv
      · rw [hv]
        exact hs
      · exact (hv ▸ hs).setVer _
    rw [← e]
    exact ho.w (e.symm ▸ hw) hst fun p hp => (hl _ _ _ p hp).1
  | closed => exact close_w hw hs
  | acquire => exact hw.runAll rfl fun _ hm => by simp at hm
  | register id => exact hw.runAll rfl fun _ hm => by simp at hm
  | release id hu =>
    refine hw.runAll_unstored rfl fun i hm => ?_
    obtain rfl : i = id := by simpa using hm
    exact hi
  | erase id he =>
    refine hw.runAll rfl fun i hm => ?_
    obtain rfl : i = id := by simpa using hm
    have e : (IdPrim.runAll [.erasePublish i, .unwait .puback i, .unwait .pubrec i, .release i] s.ids).1.store =
        (storeErasePublish i s.store).2 := by
      simp only [IdPrim.runAll, IdPrim.run, Ids.setWait_store]
      split
      · rfl
      · rfl
    rw [e]
    -- the erased entry was a PUBLISH
    refine storeErasePublish_gone fun q hq => ?_
    unfold storeErasePublish at he
    rw [hq] at he
    dsimp only at he
    by_cases hk : q.kind = .publish
    · exact hk
    · rw [if_neg hk] at he
      cases he
  | restore ps => exact restore_w ps hw hi

end MqttVerif.Conn.Hd
