import MqttVerif.Conn.Lemmas.Events
import MqttVerif.Monitors
/-!
# C19 helper lemmas: shape of the event list of one call

`EvAll P l` with `P` a *close-free* predicate (`CP P`: lax, excludes `.close`, allows every
sent packet that is neither a DISCONNECT nor a refusing CONNACK), or `F l`: the list contains
a close request and no send after any close request.  A call adds only `P`-events, or does so up to a context from
which it gives the connection up (`Fp.step_orCloses`), and that leaves an `F`-list (`Emits.Closes.F`).
-/
namespace MqttVerif.Conn
open MqttVerif

def notClose (e : Ev) : Prop := e ≠ .close
def quietEv (e : Ev) : Prop :=
  e ≠ .close ∧ Mon.isSentDisconnect e = false ∧ Mon.isSentRefusingConnack e = false

structure CP (P : Ev → Prop) : Prop where
  lax : Lax P
  nc : ∀ e, P e → e ≠ .close
  snd : ∀ q r, q.kind ≠ .disconnect → (q.kind = .connack → q.rc = some 0) → P (.send q r)

theorem CP_notClose : CP notClose :=
  ⟨fun e h => by cases e <;> simp_all [Ev.passive, notClose], fun _ h => h, fun _ _ _ _ => by simp [notClose]⟩

theorem CP_quietEv : CP quietEv := by
  refine ⟨fun e h => ?_, fun _ h => h.1, fun q r h1 h2 => ?_⟩
  · cases e <;> simp_all [Ev.passive, quietEv, Mon.isSentDisconnect, Mon.isSentRefusingConnack]
  · simp only [quietEv, Mon.isSentDisconnect, Mon.isSentRefusingConnack]
    by_cases hk : q.kind = .connack <;> simp_all

def F (l : List Ev) : Prop := Mon.closeAfterSend l = true ∧ Mon.hasClose l = true

def PF (P : Ev → Prop) (l : List Ev) : Prop := EvAll P l ∨ F l

theorem cas_cons_notClose (e : Ev) (l : List Ev) (h : e ≠ .close) :
    Mon.closeAfterSend (e :: l) = Mon.closeAfterSend l := by
  cases e <;> simp_all [Mon.closeAfterSend]

theorem cas_of_NC (l : List Ev) (h : EvAll notClose l) : Mon.closeAfterSend l = true := by
  induction l with
  | nil => rfl
  | cons e rest ih =>
    simp only [EvAll_cons] at h
    rw [cas_cons_notClose e rest h.1]; exact ih h.2

theorem F_close_errs {a e : List Ev} (ha : EvAll notClose a) (he : ∀ x ∈ e, x.tag = .error) :
    F (a ++ .close :: e) := by
  refine ⟨?_, by simp [Mon.hasClose]⟩
  induction a with
  | nil =>
    have hn : EvAll notClose e := ⟨fun x hx hc => by have := he x hx; rw [hc] at this; exact nomatch this⟩
    show (e.all _ && Mon.closeAfterSend e) = true
    rw [cas_of_NC e hn, Bool.and_true, List.all_eq_true]
    intro x hx
    have := he x hx
    cases x with
    | error => rfl
    | _ => exact nomatch this
  | cons x a ih =>
    simp only [EvAll_cons] at ha
    rw [List.cons_append, cas_cons_notClose x _ ha.1]
    exact ih ha.2

theorem F_cas {l} (h : F l) : Mon.closeAfterSend l = true := h.1
theorem F_dhc {l} (h : F l) : Mon.disconnectHasClose l = true := by
  simp [Mon.disconnectHasClose, h.2]
theorem Q_dhc {l} (h : EvAll quietEv l) : Mon.disconnectHasClose l = true := by
  simp only [Mon.disconnectHasClose, Bool.or_eq_true, Bool.not_eq_true', List.any_eq_false]
  left
  intro e he
  have := h.h e he
  simp_all [quietEv]

section
variable {P : Ev → Prop}

theorem CP.toNC (hP : CP P) {l} (h : EvAll P l) : EvAll notClose l := ⟨fun e he => hP.nc e (h.h e he)⟩

theorem PF_cas (hP : CP P) {l} (h : PF P l) : Mon.closeAfterSend l = true :=
  h.elim (fun h => cas_of_NC l (hP.toNC h)) F_cas

theorem Emits.Closes.F {D : Pkt → Prop} {c r : C} (h : Emits.Closes D c r)
    (h0 : EvAll notClose c.ev) : F r.ev := by
  obtain ⟨X, e, h1, h2, h3⟩ := h
  have hX : EvAll notClose X.ev := (h1.mono fun x hx => by
    rcases hx with hx | ⟨d, rfl, _⟩
    · intro hc; rw [hc] at hx; exact nomatch hx
    · exact nofun).all h0
  rw [h2]
  exact F_close_errs hX h3

theorem mem_store_clear {x} {c : C} : x ∈ (clearStoreRelated c).s.store → x ∈ c.s.store := by
  simp [clearStoreRelated]

theorem CP.sendOk (hP : CP P) {p : Pkt} (h1 : p.kind ≠ .disconnect) (h2 : p.kind ≠ .connack) (r) :
    P (.send p r) := hP.snd p r h1 (fun h => absurd h h2)

/-- nothing the library answers with is a DISCONNECT or a CONNACK; what gives the connection up is left to `Closes` -/
theorem CP.api (hP : CP P) {S : List (Nat × Pkt)} (hst : ∀ x ∈ S, P (.send x.2 none)) (c : C) :
    Emits.Api P (fun _ => True) True S c where
  quiet := hP.lax.quiet
  reply q ha _ _ :=
    hP.sendOk (fun h => absurd (h ▸ ha.kind) (by decide)) (fun h => absurd (h ▸ ha.kind) (by decide)) none
  pubrel _ _ _ _ _ :=
    hP.sendOk (fun h : Kind.pubrel = .disconnect => nomatch h) (fun h : Kind.pubrel = .connack => nomatch h) none
  stored y hy _ := hst y hy
  disc _ _ := trivial
  refusal _ _ _ _ := trivial

theorem step_PF (hP : CP P) (cfg : Cfg) (s : St) (op : Op) (hst : ∀ x ∈ s.store, P (.send x.2 none)) :
    PF P (step cfg s op).ev := by
  have h0 : EvAll P ({ cfg := cfg, s := s } : C).ev := EvAll_nil P
  rcases Fp.step_orCloses cfg s op (fun _ => trivial) (fun _ _ _ _ _ _ _ _ => trivial)
      (fun p _ _ hn q r ha _ => hP.snd q r (fun h => hn (.inl (ha.kind.symm.trans h)))
        (fun hk => Decidable.by_contra fun hr => hn (.inr ⟨ha.kind.symm.trans hk, fun h => hr (ha.rc.trans h)⟩)))
      (fun _ _ _ _ _ => trivial) (fun _ _ _ _ _ _ _ _ _ _ => hP.lax.rcv _) (hP.api hst _) with h | ⟨c1, h1, h2⟩
  · exact .inl (h.all h0)
  · exact .inr (h2.F (hP.toNC (h1.all h0)))

/-- C19, third clause: on an established connection a keep-alive timeout always requests a close -/
theorem notifyTimerFired_keepalive_F (c : C) (k) (hk : k = .pingreqRecv ∨ k = .pingrespRecv)
    (hc : c.s.status = .connected) (hv : c.s.ver = 4 ∨ c.s.ver = 5) (h : EvAll notClose c.ev) :
    F (notifyTimerFired c k).ev :=
  (Fp.notifyTimerFired_closes (D := fun _ => True) (fun _ _ => trivial) k hk hc hv).F h

end
end MqttVerif.Conn
