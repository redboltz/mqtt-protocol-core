import MqttVerif.Conn.Lemmas.Pids
import MqttVerif.Conn.Lemmas.FootprintEmits
/-!
# C08 — the effect of every model function on the set of ids in use

`Eff b c c'`: going from `c` to `c'` only releases ids; the ids announced (`released` events
appended) are distinct, were in use, are free afterwards; nothing becomes used; and
* `b = false`: every id that was in use and is not announced is still in use
  (**released exactly when it turns free**);
* `b = true`: `clearStoreRelated` ran — afterwards no id is in use.

`Eff false` holds of every run of primitives that neither take an identifier nor start a session (`IdRun.eff`), so of
every function whose outcome list (`SendOut`, `RecvOut`, `StepOut`) is made of those.  Whether a session starts is
`b`, computed from the state before the call by the `…Clears` functions: the CONNECT and CONNACK handlers are
followed test by test.
-/
namespace MqttVerif.Conn
open MqttVerif

theorem Wf.congr {c c' : C} (h : Wf c) (h1 : c'.cfg = c.cfg) (h2 : c'.s.pidMan = c.s.pidMan) : Wf c' := by
  unfold Wf PidWf at *
  rw [h1, h2]; exact h

theorem Wf.range {c : C} (h : Wf c) {id : Nat} (hu : isUsed c.s id = true) : 1 ≤ id ∧ id ≤ c.cfg.idMax :=
  h.2.w.isUsed_range hu

structure Eff (b : Bool) (c c' : C) : Prop where
  cfg : c'.cfg = c.cfg
  wf : Wf c'
  ex : ∃ r, Mon.releasedIds c'.ev = Mon.releasedIds c.ev ++ r ∧ r.Nodup ∧
        (∀ id ∈ r, isUsed c.s id = true ∧ isUsed c'.s id = false) ∧
        (∀ id, isUsed c'.s id = true → isUsed c.s id = true) ∧
        (b = false → ∀ id, isUsed c.s id = true → id ∉ r → isUsed c'.s id = true) ∧
        (b = true → ∀ id, isUsed c'.s id = false)

theorem Eff.of_quiet {c c' : C} (h : Wf c) (q : Quiet c c') : Eff false c c' := by
  obtain ⟨q1, q2, q3⟩ := q
  refine ⟨q1, h.congr q1 q2, [], by simp [q3], List.nodup_nil, by simp, ?_, ?_, by simp⟩
  · intro x hx; rw [isUsed_congr q2] at hx; exact hx
  · intro _ id hu _; rw [isUsed_congr q2]; exact hu

theorem Eff.refl {c : C} (h : Wf c) : Eff false c c := Eff.of_quiet h (Quiet.refl c)

theorem Eff.refused {c : C} (h : Wf c) (e : Nat) : Eff false c (c.err e) := Eff.of_quiet h ((Quiet.refl c).err e)

theorem Eff.trans {b1 b2 : Bool} {c c' c'' : C} (e1 : Eff b1 c c') (e2 : Eff b2 c' c'') :
    Eff (b1 || b2) c c'' := by
  obtain ⟨k1, w1, r1, a1, a2, a3, a4, a5, a6⟩ := e1
  obtain ⟨k2, w2, r2, b1', b2', b3, b4, b5, b6⟩ := e2
  refine ⟨k2.trans k1, w2, r1 ++ r2, by rw [b1', a1, List.append_assoc], ?_, ?_, ?_, ?_, ?_⟩
  · rw [List.nodup_append]
    refine ⟨a2, b2', ?_⟩
    intro x hx y hy e
    subst e
    have := (a3 x hx).2
    have := (b3 x hy).1
    simp_all
  · intro id hm
    rcases List.mem_append.1 hm with hm | hm
    · refine ⟨(a3 id hm).1, ?_⟩
      cases hc : isUsed c''.s id with
      | false => rfl
      | true => have := b4 id hc; have := (a3 id hm).2; simp_all
    · exact ⟨a4 id (b3 id hm).1, (b3 id hm).2⟩
  · intro id h; exact a4 id (b4 id h)
  · intro hb id hu hn
    simp only [Bool.or_eq_false_iff] at hb
    simp only [List.mem_append, not_or] at hn
    exact b5 hb.2 id (a5 hb.1 id hu hn.1) hn.2
  · intro hb id
    simp only [Bool.or_eq_true] at hb
    rcases hb with hb | hb
    · cases hc : isUsed c''.s id with
      | false => rfl
      | true => have := b4 id hc; have := a6 hb id; simp_all
    · exact b6 hb id

theorem Eff.quiet_right {b : Bool} {c c' c'' : C} (e : Eff b c c') (q : Quiet c' c'') : Eff b c c'' := by
  have := e.trans (Eff.of_quiet e.wf q)
  simpa using this

theorem Eff.quiet_left {b : Bool} {c c' c'' : C} (h : Wf c) (q : Quiet c c') (e : Eff b c' c'') : Eff b c c'' := by
  have := (Eff.of_quiet h q).trans e
  simpa using this

theorem Wf.quiet {c c' : C} (h : Wf c) (q : Quiet c c') : Wf c' := h.congr q.1 q.2.1

theorem Eff.cast {b b' : Bool} {c c' : C} (e : Eff b c c') (h : b = b') : Eff b' c c' := h ▸ e

theorem releaseId_eq {c : C} (h : Wf c) {id : Nat} (hu : isUsed c.s id = true) :
    releaseId c id = { c with s := { c.s with pidMan := (Alloc.deallocate c.s.pidMan id).2 } } := by
  have := (h.2.w.dealloc hu).1
  unfold releaseId
  simp only [this]

theorem releaseIfUsed_used {c : C} (h : Wf c) {id : Nat} (hu : isUsed c.s id = true) :
    releaseIfUsed c id =
      ({ c with s := { c.s with pidMan := (Alloc.deallocate c.s.pidMan id).2 } } : C).push (.released id) := by
  simp only [releaseIfUsed, hu, if_true, releaseId_eq h hu]

theorem releaseIfUsed_rel {c : C} (id : Nat) :
    Mon.releasedIds (releaseIfUsed c id).ev =
      Mon.releasedIds c.ev ++ (if isUsed c.s id = true then [id] else []) := by
  unfold releaseIfUsed
  by_cases hu : isUsed c.s id = true
  · rw [if_pos hu, if_pos hu, push_ev, releasedIds_append, Fp.releaseId_ev]; rfl
  · rw [if_neg hu, if_neg hu, List.append_nil]

attribute [simp] releaseIfUsed_cfg clearStoreRelated_ev

theorem releaseIfUsed_isUsed {c : C} (h : Wf c) (id x : Nat) :
    isUsed (releaseIfUsed c id).s x = (isUsed c.s x && x != id) := by
  cases hu : isUsed c.s id with
  | false =>
    rw [releaseIfUsed_unused hu]
    by_cases e : x = id
    · rw [e, hu]; rfl
    · simp [e]
  | true => rw [releaseIfUsed_used h hu]; exact (h.2.w.dealloc hu).2.2 x

theorem releaseIfUsed_eff {c : C} (h : Wf c) (id : Nat) : Eff false c (releaseIfUsed c id) := by
  have u := releaseIfUsed_isUsed h id
  cases hu : isUsed c.s id with
  | false => rw [releaseIfUsed_unused hu]; exact Eff.refl h
  | true =>
    refine ⟨releaseIfUsed_cfg c id, ?_, [id], by rw [releaseIfUsed_rel, if_pos hu], by simp, ?_, ?_, ?_, by simp⟩
    · rw [releaseIfUsed_used h hu]; exact ⟨h.1, (h.2.w.dealloc hu).2.1⟩
    · intro x hx
      rw [List.mem_singleton.1 hx, u]
      simp [hu]
    · intro x hx
      rw [u, Bool.and_eq_true] at hx
      exact hx.1
    · intro _ x hx hn
      rw [u, hx]
      simpa using hn

theorem clearStoreRelated_eff {c : C} (h : Wf c) : Eff true c (clearStoreRelated c) := by
  refine ⟨rfl, ⟨h.1, Alloc.W_clear h.1 h.2.w⟩, [], by simp [clearStoreRelated], List.nodup_nil, by simp, ?_, by simp, ?_⟩
  · intro id hu
    have : isUsed (clearStoreRelated c).s id = false := Alloc.clear_isUsed _ _
    simp_all
  · intro _ id; exact Alloc.clear_isUsed _ _

theorem Eff.via {b : Bool} {c c' c'' : C} (h : Wf c) (e : Wf c' → Eff b c' c'') (q : Quiet c c') :
    Eff b c c'' := Eff.quiet_left h q (e (h.quiet q))

theorem Eff.clear {c c' : C} (h : Wf c) (q : Quiet (clearStoreRelated c) c') : Eff true c c' :=
  (clearStoreRelated_eff h).quiet_right q

theorem Eff.mono {b : Bool} {c c' : C} (e : Eff b c c') {id : Nat} (hf : isUsed c.s id = false) :
    isUsed c'.s id = false := by
  obtain ⟨_, _, r, _, _, _, a4, _, _⟩ := e
  cases hc : isUsed c'.s id with
  | false => rfl
  | true => have := a4 id hc; simp_all

theorem releaseIfUsed_free {c : C} (h : Wf c) (id : Nat) : isUsed (releaseIfUsed c id).s id = false := by
  rw [releaseIfUsed_isUsed h]; simp

/-! ## a run of primitives

`Eff` reads the configuration, the allocator and the release events of the two contexts, which is what `IdRun` fixes:
it holds of a run once it holds of each primitive.  `release` is `releaseIfUsed_eff`; every other primitive is `Quiet`,
apart from `clearSession`, `acquire`, `register` and `restore`, which `mild` excludes. -/

theorem Quiet.of_run {c c' : C} (r : IdRun [] c c') : Quiet c c' :=
  ⟨r.cfg, congrArg Ids.pidMan r.ids, r.rel.trans (List.append_nil _)⟩

theorem Quiet.of_runs {l : List IdPrim} {c c1 c2 : C} (r1 : IdRun l c c1) (r2 : IdRun l c c2) : Quiet c1 c2 :=
  ⟨r2.cfg.trans r1.cfg.symm, congrArg Ids.pidMan (r2.ids.trans r1.ids.symm), r2.rel.trans r1.rel.symm⟩

theorem IdRun.sess {l : List IdPrim} {c c' : C} (r : IdRun l c c') (h : Wf c)
    (hl : l.all (fun a => a.mild || a.clears) = true) : Eff (l.any IdPrim.clears) c c' := by
  induction l generalizing c with
  | nil => exact Eff.of_quiet h (.of_run r)
  | cons a l ih =>
    rw [List.all_cons, Bool.and_eq_true, Bool.or_eq_true] at hl
    obtain ⟨c1, r1, r2⟩ := r.uncons
    suffices h1 : Eff a.clears c c1 from h1.trans (ih r2 h1.wf hl.2)
    rcases hl.1 with hm | hc
    · rw [IdPrim.not_clears hm]
      rcases IdPrim.run_mild hm c.s.ids with ⟨id, rfl⟩ | ⟨hp, hr⟩
      · exact (releaseIfUsed_eff h id).quiet_right (.of_runs (Fp.releaseIfUsed_ids c id) r1)
      · rw [← IdPrim.runAll_singleton] at hp hr
        exact Eff.of_quiet h ⟨r1.cfg, (congrArg Ids.pidMan r1.ids).trans hp, by rw [r1.rel, hr, List.append_nil]⟩
    · cases a with
      | clearSession => exact Eff.clear h (.of_runs (Fp.clearStoreRelated_ids c) r1)
      | _ => exact nomatch hc

theorem IdRun.eff {l : List IdPrim} {c c' : C} (r : IdRun l c c') (h : Wf c) (hl : l.all IdPrim.mild = true) :
    Eff false c c' := by
  have hl' := List.all_eq_true.1 hl
  refine (r.sess h (List.all_eq_true.2 fun a ha => by rw [hl' a ha]; rfl)).cast ?_
  exact List.any_eq_false.2 fun a ha => by rw [IdPrim.not_clears (hl' a ha)]; exact Bool.false_ne_true

theorem IdRun.free {l : List IdPrim} {c c' : C} (r : IdRun l c c') (h : Wf c) (hl : l.all IdPrim.mild = true) {id : Nat}
    (hm : .release id ∈ l) : isUsed c'.s id = false := by
  induction l generalizing c with
  | nil => exact nomatch hm
  | cons a l ih =>
    rw [List.all_cons, Bool.and_eq_true] at hl
    obtain ⟨c1, r1, r2⟩ := r.uncons
    have e1 : Eff false c c1 := r1.eff h (by rw [List.all_cons, hl.1]; rfl)
    rcases List.mem_cons.1 hm with rfl | hm
    · refine (r2.eff e1.wf hl.2).mono ?_
      rw [isUsed_congr (Quiet.of_runs (Fp.releaseIfUsed_ids c id) r1).2.1]
      exact releaseIfUsed_free h id
    · exact ih r2 e1.wf hl.2 hm

/-- the counter reset at the start of `send_stored` -/
def ssReset (c : C) : C :=
  if c.s.sendMax.isSome then { c with s := { c.s with sendCount := 0 } } else c

theorem sendStored_eq (c : C) :
    sendStored c =
      { (sendStoredLoop (ssReset c) (ssReset c).s.store).1 with
        s := { (sendStoredLoop (ssReset c) (ssReset c).s.store).1.s with
               store := (sendStoredLoop (ssReset c) (ssReset c).s.store).2 } } := rfl

/-! ## send side

A CONNECT or CONNACK handler runs a list that is a function of its tests (`Fp.f_run`): whether a session starts is read
off it. -/

theorem any_guard {p : Prop} [Decidable p] (l : List IdPrim) (f : IdPrim → Bool) :
    (if p then l else []).any f = (decide p && l.any f) := by
  by_cases h : p
  · rw [if_pos h, decide_eq_true h]
    rfl
  · rw [if_neg h, decide_eq_false h]
    rfl

theorem all_guard {p : Prop} [Decidable p] {l : List IdPrim} {f : IdPrim → Bool} (h : l.all f = true) :
    (if p then l else []).all f = true := Fp.ite_both (Q := fun l : List IdPrim => l.all f = true) h rfl

theorem connect_tame (clean : Bool) :
    (IdPrim.openConn ++ if clean then [IdPrim.clearSession] else []).all (fun a => a.mild || a.clears) = true := by
  cases clean <;> rfl

theorem connect_clears (clean : Bool) :
    (IdPrim.openConn ++ if clean then [IdPrim.clearSession] else []).any IdPrim.clears = clean := by
  cases clean <;> rfl

theorem session_tame (sp : Bool) (pw mps : Nat) (st : List (Nat × Pkt)) :
    (if sp then IdPrim.resend pw mps st else [.clearSession]).all (fun a => a.mild || a.clears) = true := by
  cases sp
  · rfl
  · exact List.all_eq_true.2 fun a ha => by rw [List.all_eq_true.1 (IdPrim.resend_mild pw mps st) a ha]; rfl

theorem session_clears (sp : Bool) (pw mps : Nat) (st : List (Nat × Pkt)) :
    (if sp then IdPrim.resend pw mps st else [.clearSession]).any IdPrim.clears = !sp := by
  cases sp
  · rfl
  · exact List.any_eq_false.2 fun a ha => by
      rw [IdPrim.not_clears (List.all_eq_true.1 (IdPrim.resend_mild pw mps st) a ha)]
      exact Bool.false_ne_true

/-- `clearStoreRelated` runs in `psV3Connect` -/
def psV3ConnectClears (c : C) (p : Pkt) : Bool := decide (c.s.status = .disconnected) && p.clean
def psV5ConnectClears (c : C) (p : Pkt) : Bool :=
  sizeOk c p && decide (c.s.status = .disconnected) && p.clean

theorem psV3Connect_eff {c : C} (h : Wf c) (p : Pkt) : Eff (psV3ConnectClears c p) c (psV3Connect c p) :=
  ((Fp.psV3Connect_run c p).sess h (all_guard (connect_tame _))).cast (by rw [any_guard, connect_clears]; rfl)

theorem psV5Connect_eff {c : C} (h : Wf c) (p : Pkt) : Eff (psV5ConnectClears c p) c (psV5Connect c p) :=
  ((Fp.psV5Connect_run c p).sess h (all_guard (all_guard (connect_tame _)))).cast
    (by rw [any_guard, any_guard, connect_clears, Bool.decide_eq_true, ← Bool.and_assoc]; rfl)

/-- `clearStoreRelated` runs in `psV3Connack`: an accepted CONNACK(success) sent with session
    present = false (a new session starts) -/
def psV3ConnackClears (c : C) (p : Pkt) : Bool :=
  decide (c.s.status = .connecting) && decide (p.rc = some 0) && !p.sp
def psV5ConnackClears (c : C) (p : Pkt) : Bool :=
  sizeOk c p && decide (c.s.status = .connecting) && decide (p.rc = some 0) && !p.sp

theorem psV3Connack_eff {c : C} (h : Wf c) (p : Pkt) : Eff (psV3ConnackClears c p) c (psV3Connack c p) :=
  ((Fp.psV3Connack_run c p).sess h (all_guard (all_guard (session_tame ..)))).cast
    (by rw [any_guard, any_guard, session_clears, ← Bool.and_assoc]; rfl)

theorem psV5Connack_eff {c : C} (h : Wf c) (p : Pkt) : Eff (psV5ConnackClears c p) c (psV5Connack c p) :=
  ((Fp.psV5Connack_run c p).sess h (all_guard (all_guard (all_guard (session_tame ..))))).cast
    (by rw [any_guard, any_guard, any_guard, session_clears, Bool.decide_eq_true, ← Bool.and_assoc, ← Bool.and_assoc]
        rfl)

/-- fix 1d0ef05: a send refused for version or role releases the identifier obtained for it -/
theorem refuseSend_eff {c : C} (h : Wf c) (e : Nat) (p : Pkt) : Eff false c (refuseSend c e p) := by
  unfold refuseSend
  cases initiatingId p with
  | none => exact Eff.refused h e
  | some id => exact (Fp.refuse_ids c e id).eff h rfl

def processSendClears (c : C) (p : Pkt) : Bool :=
  if p.kind = .connect then (if p.ver = 4 then psV3ConnectClears c p else psV5ConnectClears c p)
  else if p.kind = .connack then (if p.ver = 4 then psV3ConnackClears c p else psV5ConnackClears c p)
  else false

/-- `clearStoreRelated` runs in `send c p`: an accepted CONNECT with clean start, or an accepted
    CONNACK(success) with session present = false -/
def sendClears (c : C) (p : Pkt) : Bool :=
  decide (c.s.ver = p.ver) && roleMaySend c.cfg.role p && processSendClears c p

theorem processSend_eff {c : C} (h : Wf c) (p : Pkt) : Eff (processSendClears c p) c (processSend c p) := by
  unfold processSendClears
  by_cases h1 : p.kind = .connect
  · rw [if_pos h1, Fp.processSend_connect c h1]
    by_cases hv : p.ver = 4
    · rw [if_pos hv, if_pos hv]
      exact psV3Connect_eff h p
    · rw [if_neg hv, if_neg hv]
      exact psV5Connect_eff h p
  by_cases h2 : p.kind = .connack
  · rw [if_neg h1, if_pos h2, Fp.processSend_connack c h2]
    by_cases hv : p.ver = 4
    · rw [if_pos hv, if_pos hv]
      exact psV3Connack_eff h p
    · rw [if_neg hv, if_neg hv]
      exact psV5Connack_eff h p
  rw [if_neg h1, if_neg h2]
  obtain ⟨l, ho, hr⟩ := Fp.processSend_ids c p
  exact hr.eff h (ho.mild h1 h2)

theorem send_eff {c : C} (h : Wf c) (p : Pkt) : Eff (sendClears c p) c (send c p) := by
  unfold sendClears
  refine Fp.send_cases c p (fun hv => ?_) (fun hv hr => ?_) (fun hv hr => ?_)
  · exact (refuseSend_eff h _ p).cast (by rw [decide_eq_false hv]; rfl)
  · exact (refuseSend_eff h _ p).cast (by rw [hr, Bool.and_false]; rfl)
  · exact (processSend_eff h p).cast (by rw [decide_eq_true hv, hr]; rfl)

end MqttVerif.Conn
