import MqttVerif.Conn.Lemmas.Qos2
import MqttVerif.Conn.Lemmas.P7Deliver
import MqttVerif.Conn.Lemmas.FootprintEmits
/-!
# C07 lemmas, receiving side: what a handler does to `handled`, and which packet it hands to the application

`Q2Sum` is proved handler by handler.  A handler hands the packet on last, after steps that add no `.recv` event and —
the handlers of a QoS 2 PUBLISH, of a PUBREL and of a packet that starts a new session apart — leave `handled` alone.
Such a prefix is described by its footprint (`Before`), composed from the footprints of the callees; a handler that
turns the packet away is described by its footprint as a whole (`Q2Sum.of_fp`).  Both PUBLISH handlers end in the same
way for a QoS 2 PUBLISH (`Q2End`): what becomes of a duplicate and of a first copy is read off that end.
-/
namespace MqttVerif.Conn
open MqttVerif

/-- the received packet starts a new session (CONNECT with clean start; CONNACK accepted without
    session present, or — v5.0 — with Session Expiry Interval 0) -/
def NewSess (t : Nat) (p : Pkt) : Prop :=
  (t = 1 ∧ p.clean = true) ∨ (t = 2 ∧ p.rc = some 0 ∧ (p.sp = false ∨ (pSEI, 0) ∈ p.props))

/-- What the handler of a packet of type `t` did: which packet it handed to the application and what became of
    `handled`.  A handler that hands nothing on leaves the store alone as well. -/
inductive Q2Sum (t : Nat) (x : Except Nat Pkt) (c c' : C) : Prop
  | quiet : recvs c'.ev = recvs c.ev → c'.s.handled = c.s.handled → c'.s.store = c.s.store → Q2Sum t x c c'
  | plain (p p' : Pkt) : x = .ok p → recvs c'.ev = recvs c.ev ++ [p'] → Fp.Resolved p p' → (t ≠ 3 → p' = p) →
      c'.s.handled = c.s.handled → (t = 3 → p.qos ≠ 2) → t ≠ 6 → Q2Sum t x c c'
  | pubrel (p : Pkt) : x = .ok p → t = 6 → recvs c'.ev = recvs c.ev ++ [p] →
      c'.s.handled = del (p.pid.getD 0) c.s.handled → Q2Sum t x c c'
  | newSess (p : Pkt) : x = .ok p → NewSess t p → recvs c'.ev = recvs c.ev ++ [p] →
      c'.s.handled = [] → Q2Sum t x c c'
  | notify (p p' : Pkt) (id : Nat) : x = .ok p → t = 3 → p.qos = 2 → p.pid = some id → id ∉ c.s.handled →
      recvs c'.ev = recvs c.ev ++ [p'] → Fp.Resolved p p' → c'.s.handled = ins id c.s.handled → Q2Sum t x c c'

/-- steps that hand nothing to the application and leave `handled` alone -/
abbrev Before (c m : C) : Prop :=
  Fp.Footprint [.close, .error, .timerCancel, .send, .released, .timerReset] (fun a x => { x with handled := a.handled })
    c m

namespace Q2Sum
variable {t : Nat} {c c0 c1 m c' : C} {x : Except Nat Pkt} {T : List EvTag} {w : St → St → St}

theorem congr (h : Q2Sum t x c0 c') (h1 : c0.s.handled = c.s.handled) (h2 : recvs c0.ev = recvs c.ev)
    (h3 : c0.s.store = c.s.store) : Q2Sum t x c c' := by
  cases h with
  | quiet a b d => exact .quiet (by rw [a, h2]) (by rw [b, h1]) (by rw [d, h3])
  | plain p p' a b r e d f g => exact .plain p p' a (by rw [b, h2]) r e (by rw [d, h1]) f g
  | pubrel p a b d e => exact .pubrel p a b (by rw [d, h2]) (by rw [e, h1])
  | newSess p a b d e => exact .newSess p a b (by rw [d, h2]) e
  | notify p p' id a b d e f g r k =>
    exact .notify p p' id a b d e (by rw [← h1]; exact f) (by rw [g, h2]) r (by rw [k, h1])

/-- a function whose footprint avoids the deliveries, `handled` and the store -/
theorem of_fp (h : Fp.Footprint T w c c') (hT : EvTag.recv ∉ T := by decide)
    (hw : ∀ a x, (w a x).handled = a.handled ∧ (w a x).store = a.store := by exact fun _ _ => ⟨rfl, rfl⟩) :
    Q2Sum t x c c' :=
  .quiet (h.ev.recvs_eq hT) (by rw [h.s, (hw _ _).1]) (by rw [h.s, (hw _ _).2])

/-- `m` is reached from `c1`, which has handed on what `c` has, by steps that hand nothing on and keep `handled`;
    then `p` is handed on -/
theorem handed (h : Fp.Footprint T w c1 m) (he : recvs c1.ev = recvs c.ev) (p : Pkt) (hT : EvTag.recv ∉ T := by decide)
    (hw : ∀ a x, (w a x).handled = a.handled := by exact fun _ _ => rfl) :
    recvs (m.push (.recv p)).ev = recvs c.ev ++ [p] ∧ (m.push (.recv p)).s.handled = c1.s.handled :=
  ⟨by rw [push_ev, recvs_append, h.ev.recvs_eq hT, he]; rfl, by rw [push_s, h.s, hw]⟩

theorem deliver (h : Before c1 m) (p : Pkt) (ht : t ≠ 3 ∧ t ≠ 6) (he : c1.ev = c.ev := by rfl)
    (hh : c1.s.handled = c.s.handled := by rfl) : Q2Sum t (.ok p) c (m.push (.recv p)) :=
  have k := handed h (congrArg recvs he) p
  .plain p p rfl k.1 .same (fun _ => rfl) (k.2.trans hh) (fun h3 => absurd h3 ht.1) ht.2

theorem fresh (h : Before c1 m) (p : Pkt) (hn : NewSess t p) (he : c1.ev = c.ev := by rfl)
    (hh : c1.s.handled = [] := by rfl) : Q2Sum t (.ok p) c (m.push (.recv p)) :=
  have k := handed h (congrArg recvs he) p
  .newSess p rfl hn k.1 (k.2.trans hh)

end Q2Sum

/-! ## CONNECT, CONNACK -/

/-- A CONNECT received: the refusing CONNACK (`hn`) hands nothing on and keeps `handled`; `settle` clears the session
    on a clean start and apart from that takes only such steps (`hs`). -/
theorem connectIn_sum {c busy : C} {x : Except Nat Pkt} {nack : C → Nat → C} {settle : Pkt → C → C}
    (hb : Q2Sum 1 x c busy)
    (hn : ∀ c' e, Fp.Footprint [.error, .send, .timerCancel, .close] Fp.wClose c' (nack c' e))
    (hs : ∀ p c', Before (if p.clean then clearStoreRelated c' else c') (settle p c')) :
    Q2Sum 1 x c (Fp.connectIn c x busy nack settle) := by
  refine Fp.connectIn_ind (fun _ => hb) (fun _ e _ => ?_) (fun _ p hx => ?_)
  · exact .of_fp (T := [.error, .send, .timerCancel, .close]) (w := Fp.wClose)
      (.err (.step (.of_s rfl) (hn _ e)) (by decide) e)
  · subst hx
    have h := (hs p (Fp.accepting c p.keepAlive)).step (Fp.refreshPingreqRecv_fp _)
    have he : (Fp.accepting c p.keepAlive).ev = c.ev := rfl
    have hh : (Fp.accepting c p.keepAlive).s.handled = c.s.handled := rfl
    cases hc : p.clean with
    | true =>
      exact .fresh (c1 := clearStoreRelated (Fp.accepting c p.keepAlive)) (by rwa [hc] at h) p (.inl ⟨rfl, hc⟩) he
    | false => exact .deliver (c1 := Fp.accepting c p.keepAlive) (by rwa [hc] at h) p (by decide) he hh

theorem prV3Connect_sum (c : C) (x : Except Nat Pkt) : Q2Sum 1 x c (prV3Connect c x) := by
  refine Fp.prV3Connect_eq c x ▸ connectIn_sum (.of_fp (w := fun a _ => a) ⟨rfl, Fp.handleV3Error_ev c _, rfl⟩)
    (fun c' e => Fp.psV3Connack_refusing_fp c' _ (v3ConnectErrRc_ne e)) (fun p c' => ?_)
  cases p.clean
  · exact .of_s rfl
  · exact .of_s rfl

theorem prV5Connect_sum (c : C) (x : Except Nat Pkt) : Q2Sum 1 x c (prV5Connect c x) :=
  Fp.prV5Connect_eq c x ▸ connectIn_sum (.of_fp (Fp.handleV5Error_fp c _))
    (fun c' e => Fp.psV5Connack_refusing_fp c' _ (v5ConnectErrRc_ne e))
    (fun p c' => (Fp.propsFold_connectRecvProp_fp _ p.props).widen)

/-- A CONNACK received: the properties hand nothing on (`hp`); they keep `handled` unless a Session Expiry Interval
    of 0 among them clears the session. -/
theorem connackIn_sum {c busy : C} {x : Except Nat Pkt} {bad : Nat → C} {props : Pkt → C → C}
    (hb : Q2Sum 2 x c busy) (hbad : ∀ e, Q2Sum 2 x c (bad e))
    (hp : ∀ p c', recvs (props p c').ev = recvs c'.ev ∧
      ((props p c').s.handled = c'.s.handled ∨ ((pSEI, 0) ∈ p.props ∧ (props p c').s.handled = []))) :
    Q2Sum 2 x c (Fp.connackIn c x busy bad props) := by
  refine Fp.connackIn_ind (fun _ => hb) (fun _ e _ => hbad e) (fun _ p hx _ => ?_) (fun _ p hx hr _ => ?_)
    (fun _ p hx hr hsp => ?_)
  · exact hx ▸ .deliver (c1 := c) (.of_s rfl) p (by decide)
  · subst hx
    obtain ⟨hev, hh⟩ := hp p { c with s := { c.s with status := .connected } }
    obtain ⟨hre, hrh⟩ := Q2Sum.handed (Fp.resendStored_fp _) hev p
    rcases hh with hh | ⟨hm, hh⟩
    · exact .plain p p rfl hre .same (fun _ => rfl) (hrh.trans hh) nofun (by decide)
    · exact .newSess p rfl (.inr ⟨rfl, hr, .inr hm⟩) hre (hrh.trans hh)
  · subst hx
    exact .newSess p rfl (.inr ⟨rfl, hr, .inl hsp⟩)
      (by rw [push_ev, recvs_append, Fp.clearStoreRelated_ev, (hp p _).1]; rfl) rfl

theorem prV3Connack_sum (c : C) (x : Except Nat Pkt) : Q2Sum 2 x c (prV3Connack c x) :=
  Fp.prV3Connack_eq c x ▸ connackIn_sum (.of_fp (w := fun a _ => a) ⟨rfl, Fp.handleV3Error_ev c _, rfl⟩)
    (fun _ => .of_fp (w := fun a _ => a) ⟨rfl, Fp.handleV3Error_ev c _, rfl⟩) (fun _ _ => ⟨rfl, .inl rfl⟩)

theorem prV5Connack_sum (c : C) (x : Except Nat Pkt) : Q2Sum 2 x c (prV5Connack c x) :=
  Fp.prV5Connack_eq c x ▸ connackIn_sum (.of_fp (Fp.handleV5Error_fp c _))
    (fun e => .of_fp (T := [.error]) (w := fun a _ => a) (.err (.of_s rfl) (by decide) e))
    (fun p c' => ⟨(Fp.propsFold_connackRecvProp_ev c' p.props).recvs_eq (by decide),
      propsFold_connackRecvProp_handled c' p.props⟩)

/-! ## exact send / error events of the automatic acknowledgements -/

/-- a packet is requested for sending in `m`, which has the events of `c`; the timer that may be re-armed shows in
    neither projection -/
theorem sent_events (c m : C) (p : Pkt) (r : Option Nat) (he : m.ev = c.ev) :
    sends (sendPostProcess (m.push (.send p r))).ev = sends c.ev ++ [p] ∧
      errs (sendPostProcess (m.push (.send p r))).ev = errs c.ev ++ [] := by
  rw [(Fp.sendPostProcess_ev _).sends_eq (by decide), (Fp.sendPostProcess_ev _).errs_eq (by decide), push_ev,
    sends_append, errs_append, he]
  exact ⟨rfl, rfl⟩

theorem err_events (c : C) (e : Nat) :
    sends (c.err e).ev = sends c.ev ++ [] ∧ errs (c.err e).ev = errs c.ev ++ [e] := by
  rw [err_ev, sends_append, errs_append]
  exact ⟨rfl, rfl⟩

theorem psV3Simple_events (c : C) (p : Pkt) :
    sends (psV3Simple c p).ev = sends c.ev ++ (if c.s.status = .connected then [p] else []) ∧
      errs (psV3Simple c p).ev = errs c.ev ++ (if c.s.status = .connected then [] else [eNotAllowed]) := by
  unfold psV3Simple
  by_cases h : c.s.status = .connected
  · rw [if_neg (not_not_intro h), if_pos h, if_pos h]
    exact sent_events c c p none rfl
  · rw [if_pos h, if_neg h, if_neg h]
    exact err_events c _

theorem psV5Pubrec_events (c : C) (p : Pkt) :
    sends (psV5Pubrec c p).ev = sends c.ev ++ (if sizeOk c p ∧ c.s.status = .connected then [p] else []) ∧
      errs (psV5Pubrec c p).ev = errs c.ev ++
        (if !sizeOk c p then [eTooLarge] else if c.s.status ≠ .connected then [eNotAllowed] else []) := by
  unfold psV5Pubrec
  by_cases hz : sizeOk c p = true
  · by_cases h : c.s.status = .connected
    · rw [if_neg (by rw [hz]; decide), if_neg (not_not_intro h), if_pos ⟨hz, h⟩, if_neg (by rw [hz]; decide),
        if_neg (not_not_intro h)]
      exact sent_events c _ p none (Fp.ev_ite rfl rfl)
    · rw [if_neg (by rw [hz]; decide), if_pos h, if_neg (fun hh => h hh.2), if_neg (by rw [hz]; decide), if_pos h]
      exact err_events c _
  · rw [if_pos (by simpa using hz), if_neg (fun hh => hz hh.1), if_pos (by simpa using hz)]
    exact err_events c _

/-! ## PUBLISH -/

/-- … and the store -/
abbrev BeforeQ (c m : C) : Prop :=
  Fp.Footprint [.close, .error, .timerCancel, .send, .released, .timerReset]
    (fun a x => { x with handled := a.handled, store := a.store }) c m

/-- a PUBLISH that is no QoS 2 PUBLISH is handed on as it is -/
theorem Q2Sum.deliver3 {c m : C} {x : Except Nat Pkt} (h : BeforeQ c m) (p : Pkt) (hx : x = .ok p) (h2 : p.qos ≠ 2) :
    Q2Sum 3 x c (m.push (.recv p)) :=
  .plain p p hx (Q2Sum.handed h rfl p).1 .same (fun _ => rfl) (Q2Sum.handed h rfl p).2 (fun _ => h2) (by decide)

theorem autoAck_before {a c : C} {due : Prop} [Decidable due] {site : String} {id : Nat} {send : C → C} (h : BeforeQ a c)
    (hs : ∀ m, Fp.Footprint [.error, .send, .timerReset] Fp.wPsV5Puback m (send m)) :
    BeforeQ a (Fp.autoAck c due site id send) :=
  h.step (show BeforeQ c _ from Fp.autoAck_fp fun m => (hs m).widen)

/-- the acknowledgement of a v3.1.1 PUBLISH, if one is due -/
theorem v3Ack_before (c : C) {due : Prop} [Decidable due] {site : String} (k : Kind) (id : Nat) :
    BeforeQ c (Fp.autoAck c due site id fun c => psV3Simple c (mkAck c.cfg 4 k id)) :=
  autoAck_before (.of_s rfl) fun m => (Fp.psV3Simple_fp m _).widen

/-- … which is made only on an established connection: the acknowledgement is requested, nothing is reported -/
theorem v3Ack_events (c : C) (due : Prop) [Decidable due] (site : String) (k : Kind) (id : Nat)
    (hd : due → c.s.status = .connected) :
    sends (Fp.autoAck c due site id fun c => psV3Simple c (mkAck c.cfg 4 k id)).ev =
        sends c.ev ++ (if due then [mkAck c.cfg 4 k id] else []) ∧
      errs (Fp.autoAck c due site id fun c => psV3Simple c (mkAck c.cfg 4 k id)).ev = errs c.ev := by
  refine Fp.autoAck_ind (Q := fun r => sends r.ev = sends c.ev ++ (if due then [mkAck c.cfg 4 k id] else []) ∧
      errs r.ev = errs c.ev) (fun h => ?_) (fun h m hm _ => ?_)
  · rw [if_neg h]
    exact ⟨(List.append_nil _).symm, rfl⟩
  · have hst : m.s.status = .connected := by rw [hm.s]; exact hd h
    rw [(psV3Simple_events m _).1, (psV3Simple_events m _).2, if_pos hst, if_pos hst, if_pos h, hm.ev_eq, hm.cfg]
    exact ⟨rfl, List.append_nil _⟩

/-- How both PUBLISH handlers end for a QoS 2 PUBLISH with the identifier `id`: `id` is entered in `handled`, the PUBREC
    `ack` is sent if one is due (the duplicate of a handled PUBLISH is always answered, `fits` permitting), the timer
    that watches the peer is refreshed (`m`), and `p'` is handed on unless it is a duplicate. -/
inductive Q2End (c : C) (id : Nat) (ack p' : Pkt) (fits : Prop) : C → Prop
  | mk (dup : Prop) [Decidable dup] (flag : dup ↔ id ∈ c.s.handled) (m : C) (quiet : recvs m.ev = recvs c.ev)
      (entered : m.s.handled = ins id c.s.handled) (store : m.s.store = c.s.store)
      (idle : c.s.status ≠ .connected → sends m.ev = sends c.ev ∧ errs m.ev = errs c.ev)
      (answered : c.s.status = .connected → id ∈ c.s.handled → fits →
        sends m.ev = sends c.ev ++ [ack] ∧ errs m.ev = errs c.ev) :
      Q2End c id ack p' fits (if !dup then m.push (.recv p') else m)

namespace Q2End
variable {c r : C} {id : Nat} {ack p' : Pkt} {fits : Prop}

/-- the duplicate of a handled PUBLISH: answered on an established connection, not handed on -/
theorem dup (h : Q2End c id ack p' fits r) (hh : id ∈ c.s.handled) :
    recvs r.ev = recvs c.ev ∧ r.s.handled = c.s.handled ∧ r.s.store = c.s.store ∧
      (c.s.status = .connected → fits → sends r.ev = sends c.ev ++ [ack] ∧ errs r.ev = errs c.ev) ∧
      (c.s.status ≠ .connected → sends r.ev = sends c.ev ∧ errs r.ev = errs c.ev) := by
  cases h with
  | mk dup flag m quiet entered store idle answered =>
    rw [if_neg (by simpa using flag.2 hh)]
    exact ⟨quiet, entered.trans (if_pos hh), store, fun hc hf => answered hc hh hf, idle⟩

/-- the first copy is handed on, and its identifier is handled from then on -/
theorem first (h : Q2End c id ack p' fits r) (hh : id ∉ c.s.handled) :
    recvs r.ev = recvs c.ev ++ [p'] ∧ r.s.handled = ins id c.s.handled := by
  cases h with
  | mk dup flag m quiet entered store idle answered =>
    rw [if_pos (by simpa using mt flag.1 hh), push_ev, recvs_append, push_s, quiet]
    exact ⟨rfl, entered⟩

theorem sum (h : Q2End c id ack p' fits r) {p : Pkt} (hq : p.qos = 2) (hid : p.pid = some id)
    (hres : Fp.Resolved p p') : Q2Sum 3 (.ok p) c r := by
  by_cases hh : id ∈ c.s.handled
  · exact .quiet (h.dup hh).1 (h.dup hh).2.1 (h.dup hh).2.2.1
  · exact .notify p p' id rfl rfl hq hid hh (h.first hh).1 hres (h.first hh).2

end Q2End

theorem prV3Publish_q2 (c : C) (p : Pkt) (id : Nat) (hq : p.qos = 2) (hid : p.pid = some id) :
    Q2End c id (mkAck c.cfg 4 .pubrec id) p True (prV3Publish c (.ok p)) := by
  unfold prV3Publish
  dsimp -zeta only
  rw [if_neg (by omega), hid]
  dsimp -zeta only
  rw [if_neg (by omega)]
  extract_lets already s0 c1 c2 c3
  have he := v3Ack_events c1 (c1.s.status = .connected ∧ (c1.s.autoPub = true ∨ already))
    "core.rs:process_recv_v3_1_1_publish:pubrec.build().unwrap()" .pubrec id And.left
  have hr := Fp.refreshPingreqRecv_ev c2
  have h3 : BeforeQ c1 c3 := .step (v3Ack_before c1 .pubrec id) (Fp.refreshPingreqRecv_fp _)
  have hs : sends c3.ev = _ ∧ errs c3.ev = _ := ⟨(hr.sends_eq (by decide)).trans he.1, (hr.errs_eq (by decide)).trans he.2⟩
  exact .mk already Iff.rfl c3 (h3.ev.recvs_eq (by decide)) (by rw [h3.s]) (by rw [h3.s])
    (fun hc => by rw [hs.1, hs.2, if_neg fun h => hc h.1]; exact ⟨List.append_nil _, rfl⟩)
    (fun hc ha _ => by rw [hs.1, hs.2, if_pos ⟨hc, .inr ha⟩]; exact ⟨rfl, rfl⟩)

theorem prV3Publish_sum (c : C) (x : Except Nat Pkt) (hq : ∀ p, x = .ok p → p.qos ≤ 2) :
    Q2Sum 3 x c (prV3Publish c x) := by
  have h3 : ∀ id, BeforeQ { c with s := { c.s with handled := ins id c.s.handled } } (Fp.prV3Qos2 c id) :=
    fun id => .step (v3Ack_before _ .pubrec id) (Fp.refreshPingreqRecv_fp _)
  refine Fp.prV3Publish_paths (fun _ _ => .of_fp (w := fun a _ => a) ⟨rfl, Fp.handleV3Error_ev c _, rfl⟩)
    (fun p hx h0 => .deliver3 (.step (.of_s rfl) (Fp.refreshPingreqRecv_fp c)) p hx (by omega))
    (fun _ _ _ _ => .of_fp (T := []) (w := Fp.wPanic) (.of_s rfl))
    (fun p id hx h1 _ => .deliver3 (.step (v3Ack_before c .puback id) (Fp.refreshPingreqRecv_fp _)) p hx (by omega))
    (fun p id hx h0 h1 hid hn => ?_) (fun p id hx h0 h1 hid hm => ?_)
  · have h2 := hq p hx
    exact .notify p p id hx rfl (by omega) hid hn (Q2Sum.handed (c := c) (h3 id) rfl p).1 .same
      (Q2Sum.handed (c := c) (h3 id) rfl p).2
  · refine .quiet ((h3 id).ev.recvs_eq (by decide)) ?_ (by rw [(h3 id).s])
    rw [(h3 id).s]
    exact if_pos hm

theorem psV5Pubrec_mkAck_handled (c : C) (id : Nat) :
    (psV5Pubrec c (mkAck c.cfg 5 .pubrec id)).s.handled = c.s.handled := by
  rw [psV5Pubrec_handled_eq]
  exact if_neg fun h => nomatch h.2.2

/-- a PUBREC that reports no failure writes what a PUBACK writes -/
theorem psV5Pubrec_ok_fp (c : C) (p : Pkt) (hrc : p.rc = none) :
    Fp.Footprint [.error, .send, .timerReset] Fp.wPsV5Puback c (psV5Pubrec c p) :=
  Fp.psV5Pubrec_paths c p (fun _ => .err (.of_s rfl) (by decide) _) (fun _ _ => .err (.of_s rfl) (by decide) _)
    (fun _ _ _ e _ => nomatch hrc.symm.trans e) (fun _ _ _ => .sendNow (.of_s rfl) p none)

theorem prvAck_before (c : C) (qos id : Nat) (already : Prop) [Decidable already] :
    BeforeQ c (prvAck c qos id already) :=
  autoAck_before (autoAck_before (.of_s rfl) fun m => Fp.psV5Puback_fp m _) fun m => psV5Pubrec_ok_fp m _ rfl

/-- The acknowledgement stage for a QoS 2 PUBLISH.  Off an established connection nothing happens; on one, the duplicate
    of a handled PUBLISH (`a`) is answered with a PUBREC, provided the peer's Maximum Packet Size admits it. -/
theorem prvAck_q2 (c : C) (id : Nat) (a : Prop) [Decidable a] :
    (c.s.status ≠ .connected → (prvAck c 2 id a).ev = c.ev) ∧
      (c.s.status = .connected → a → sizeOk c (mkAck c.cfg 5 .pubrec id) = true →
        sends (prvAck c 2 id a).ev = sends c.ev ++ [mkAck c.cfg 5 .pubrec id] ∧
          errs (prvAck c 2 id a).ev = errs c.ev) := by
  refine Fp.prvAck_cases (Q := fun r => (c.s.status ≠ .connected → r.ev = c.ev) ∧ (c.s.status = .connected → a →
      sizeOk c (mkAck c.cfg 5 .pubrec id) = true →
        sends r.ev = sends c.ev ++ [mkAck c.cfg 5 .pubrec id] ∧ errs r.ev = errs c.ev))
    (fun _ h2 => ⟨fun _ => rfl, fun hs ha _ => absurd ⟨rfl, hs, .inr ha⟩ h2⟩)
    (fun h => absurd h (by decide)) (fun _ hc _ m hm _ => ⟨fun hs => absurd hc hs, fun hs _ hz => ?_⟩)
  have hz2 : sizeOk m (mkAck c.cfg 5 .pubrec id) = true := (sizeOk_congr hm.fr _).trans hz
  have hst : m.s.status = .connected := by rw [hm.s]; exact hs
  rw [(psV5Pubrec_events m _).1, (psV5Pubrec_events m _).2, hm.cfg, hm.ev_eq, if_pos ⟨hz2, hst⟩,
    if_neg (by rw [hz2]; decide), if_neg (not_not_intro hst)]
  exact ⟨rfl, List.append_nil _⟩

/-- a QoS 2 PUBLISH is entered in `handled`; nothing else of what `Q2Sum` reads is touched -/
theorem prvBook_q2 (c : C) (qos id : Nat) :
    (prvBook c qos id).ev = c.ev ∧ (prvBook c qos id).s.store = c.s.store ∧
      (prvBook c qos id).s.handled = if qos = 2 then ins id c.s.handled else c.s.handled := by
  refine ⟨Fp.prvBook_ev c qos id, by rw [Fp.prvBook_s], ?_⟩
  unfold prvBook
  extract_lets s0 c1
  have h1 : c1.s.handled = c.s.handled := Fp.ite_both (Q := fun r : C => r.s.handled = c.s.handled) rfl rfl
  by_cases h2 : qos = 2
  · rw [if_pos h2, if_pos h2, ← h1]
  · rw [if_neg h2, if_neg h2, h1]

theorem prV5PublishAlias_some {c : C} {p p' : Pkt} (h : (prV5PublishAlias c p).2 = some p') :
    p' = p ∨ (p.topic = [] ∧ ∃ a t topic, p.alias = some a ∧ c.s.tar = some t ∧ t.get a = some topic ∧
      p' = { p with topic := topic, extracted := true }) :=
  Fp.prV5PublishAlias_ind (Q := fun r => r.2 = some p' → p' = p ∨ (p.topic = [] ∧ ∃ a t topic, p.alias = some a ∧
      c.s.tar = some t ∧ t.get a = some topic ∧ p' = { p with topic := topic, extracted := true }))
    c p (fun _ h => nomatch h) (fun _ _ h => .inl (Option.some.inj h).symm)
    (fun a t topic he ha ht _ _ hg _ h => .inr ⟨he, a, t, topic, ha, ht, hg, (Option.some.inj h).symm⟩)
    (fun _ _ _ _ _ _ _ h => .inl (Option.some.inj h).symm) h

/-- the alias stage passes the packet on in a context that differs from `c` in the alias table at most -/
theorem prV5PublishAlias_some_ctx {c : C} {p p' : Pkt} (h : (prV5PublishAlias c p).2 = some p') :
    ∃ c1 : C, (prV5PublishAlias c p).1 = c1 ∧ c1.cfg = c.cfg ∧ c1.ev = c.ev ∧ c1.s = { c.s with tar := c1.s.tar } :=
  Fp.prV5PublishAlias_cases (Q := fun r => r.2 = some p' → ∃ c1 : C, r.1 = c1 ∧ c1.cfg = c.cfg ∧ c1.ev = c.ev ∧
      c1.s = { c.s with tar := c1.s.tar }) c p (fun h => nomatch h) (fun c' _ hc he hs _ => ⟨c', rfl, hc, he, hs⟩) h

theorem recvMaxReached_eq_false {s : St} :
    recvMaxReached s = false ↔ ∀ m, s.recvMax = some m → s.publishRecv.length < m := by
  unfold recvMaxReached
  cases s.recvMax with
  | none => exact ⟨fun _ _ => nofun, fun _ => rfl⟩
  | some m =>
    exact ⟨fun h m' e => Option.some.inj e ▸ Nat.lt_of_not_le (of_decide_eq_false h),
      fun h => decide_eq_false (Nat.not_le_of_lt (h m rfl))⟩

/-- the last stage of `prV5Publish`, for a PUBLISH that left the alias stage as `p'` and passed the Receive Maximum
    test: bookkeeping, acknowledgement, and — unless it is the duplicate of a handled QoS 2 PUBLISH — delivery -/
def prvMain (c : C) (p p' : Pkt) : C :=
  let id := p.pid.getD 0
  let already := p.qos = 2 ∧ id ∈ c.s.handled
  let c4 := refreshPingreqRecv (prvAck (prvBook c p.qos id) p.qos id already)
  if !already then c4.push (.recv p') else c4

theorem prV5Publish_main (c : C) (p : Pkt) : prV5Publish c (.ok p) =
    match (prV5PublishAlias c p).2 with
    | none => (prV5PublishAlias c p).1
    | some p' =>
      let c1 := (prV5PublishAlias c p).1
      if p.qos > 0 ∧ p.pid.isNone then c1.setPanic "core.rs:process_recv_v5_0_publish:packet_id().unwrap()"
      else if p.qos > 0 ∧ recvMaxReached c1.s then handleV5Error c1 eRMExceeded
      else prvMain c1 p p' := rfl

/-- up to the delivery, `prvMain` hands nothing on, keeps the store and `handled` as `prvBook` left it -/
theorem prvMain_before (c : C) (qos id : Nat) (a : Prop) [Decidable a] :
    recvs (refreshPingreqRecv (prvAck (prvBook c qos id) qos id a)).ev = recvs c.ev ∧
      (refreshPingreqRecv (prvAck (prvBook c qos id) qos id a)).s.store = c.s.store ∧
      (refreshPingreqRecv (prvAck (prvBook c qos id) qos id a)).s.handled =
        if qos = 2 then ins id c.s.handled else c.s.handled := by
  obtain ⟨b1, b2, b3⟩ := prvBook_q2 c qos id
  have h4 : BeforeQ (prvBook c qos id) _ := .step (prvAck_before _ qos id a) (Fp.refreshPingreqRecv_fp _)
  exact ⟨by rw [h4.ev.recvs_eq (by decide), b1], by rw [h4.s, b2], by rw [h4.s, b3]⟩

theorem prvMain_q2 (c : C) (p p' : Pkt) (id : Nat) (hq : p.qos = 2) (hid : p.pid = some id) :
    Q2End c id (mkAck c.cfg 5 .pubrec id) p' (sizeOk c (mkAck c.cfg 5 .pubrec id) = true) (prvMain c p p') := by
  have hi : p.pid.getD 0 = id := by rw [hid]; rfl
  unfold prvMain
  dsimp only
  rw [hq, hi]
  obtain ⟨r1, r2, r3⟩ := prvMain_before c 2 id (2 = 2 ∧ id ∈ c.s.handled)
  -- the acknowledgement stage runs in `c2`, which has the status, the limit and the events of `c`
  have hb := Fp.prvBook_fp c 2 id
  generalize prvBook c 2 id = c2 at hb r1 r2 r3 ⊢
  have hr := Fp.refreshPingreqRecv_ev (prvAck c2 2 id (2 = 2 ∧ id ∈ c.s.handled))
  have hst : c2.s.status = c.s.status := by rw [hb.s]
  have hz := sizeOk_congr (c := c) (c' := c2) ⟨hb.cfg, by rw [hb.s]⟩ (mkAck c.cfg 5 .pubrec id)
  refine .mk _ ⟨And.right, fun h => ⟨rfl, h⟩⟩ _ r1 (r3.trans (if_pos rfl)) r2 (fun hc => ?_) (fun hc ha hf => ?_)
  · rw [hr.sends_eq (by decide), hr.errs_eq (by decide), (prvAck_q2 c2 id _).1 (by rw [hst]; exact hc), hb.ev_eq]
    exact ⟨rfl, rfl⟩
  · rw [hr.sends_eq (by decide), hr.errs_eq (by decide)]
    have := (prvAck_q2 c2 id (2 = 2 ∧ id ∈ c.s.handled)).2 (hst.trans hc) ⟨rfl, ha⟩ (by rw [hb.cfg, hz]; exact hf)
    rwa [hb.ev_eq, hb.cfg] at this

theorem prvMain_sum (c : C) (p p' : Pkt) (hp : ¬(p.qos > 0 ∧ p.pid.isNone = true)) (hres : Fp.Resolved p p') :
    Q2Sum 3 (.ok p) c (prvMain c p p') := by
  by_cases h2 : p.qos = 2
  · cases hid : p.pid with
    | none => exact absurd ⟨by omega, by rw [hid]; rfl⟩ hp
    | some id => exact (prvMain_q2 c p p' id h2 hid).sum h2 hid hres
  · obtain ⟨hr, -, hh⟩ := prvMain_before c p.qos (p.pid.getD 0) (p.qos = 2 ∧ p.pid.getD 0 ∈ c.s.handled)
    unfold prvMain
    dsimp only
    rw [if_pos (by simp [h2])]
    exact .plain p p' rfl (by rw [push_ev, recvs_append, hr]; rfl) hres (fun h => absurd rfl h)
      (by rw [push_s, hh, if_neg h2]) (fun _ => h2) (by decide)

theorem prV5Publish_sum (c : C) (x : Except Nat Pkt) : Q2Sum 3 x c (prV5Publish c x) := by
  cases x with
  | error e =>
    unfold prV5Publish
    exact Fp.ite_ind (fun _ => .of_fp (Fp.handleV5Error_fp c e))
      (fun _ => .of_fp (T := [.error]) (w := fun a _ => a) (.err (.of_s rfl) (by decide) e))
  | ok p =>
    rw [prV5Publish_main]
    have h0 := Fp.prV5PublishAlias_fp c p
    have hres := Fp.prV5PublishAlias_resolved c p
    generalize prV5PublishAlias c p = r at h0 hres ⊢
    obtain ⟨c1, o⟩ := r
    cases o with
    | none => exact .of_fp h0
    | some p' =>
      have h1 : recvs c1.ev = recvs c.ev ∧ c1.s.handled = c.s.handled ∧ c1.s.store = c.s.store :=
        ⟨h0.ev.recvs_eq (by decide), by rw [h0.s], by rw [h0.s]⟩
      dsimp -zeta only
      refine Fp.ite_ind (fun _ => .quiet h1.1 h1.2.1 h1.2.2) (fun hp => ?_)
      refine Fp.ite_ind (fun _ => .of_fp (h0.step (Fp.handleV5Error_fp c1 _))) (fun _ => ?_)
      exact (prvMain_sum c1 p p' hp (hres p' rfl)).congr h1.2.1 h1.1 h1.2.2

/-! ## acknowledgements and the rest -/

theorem Q2Sum.ackIn {t : Nat} (ht : t ≠ 3 ∧ t ≠ 6) (c : C) (x : Except Nat Pkt) (set : List Nat)
    {taken : Pkt → Nat → C} (hk : ∀ p id, Before c (taken p id)) : Q2Sum t x c (Fp.ackIn c x set taken) :=
  Fp.ackIn_ind (fun e _ => .of_fp (Fp.vErr_fp c e)) (fun _ _ _ => .of_fp (Fp.vErr_fp c _))
    fun p hx _ => hx ▸ .deliver ((hk p _).step (Fp.refreshPingreqRecv_fp _)) p ht

/-- `h` comes last so that the goal decides `m` -/
theorem pubDone_before (p : Pkt) (id : Nat) {c m : C} (h : Before c m) : Before c (Fp.pubDone m p id) :=
  Fp.ite_ind (fun _ => (h.step (Fp.releaseIfUsed_fp _ _)).step (Fp.decSendCount_fp _))
    (fun _ => h.step (Fp.releaseIfUsed_fp _ _))

theorem prPuback_sum (c : C) (x : Except Nat Pkt) : Q2Sum 4 x c (prPuback c x) :=
  Fp.prPuback_eq c x ▸ .ackIn (by decide) c x _ fun p id => pubDone_before p id (.of_s rfl)

theorem prPubcomp_sum (c : C) (x : Except Nat Pkt) : Q2Sum 7 x c (prPubcomp c x) :=
  Fp.prPubcomp_eq c x ▸ .ackIn (by decide) c x _ fun p id => pubDone_before p id (.of_s rfl)

theorem prPubrec_sum (c : C) (x : Except Nat Pkt) : Q2Sum 5 x c (prPubrec c x) :=
  Fp.prPubrec_eq c x ▸ .ackIn (by decide) c x _ fun p id => .step (.of_s rfl) (Fp.pubrecDone_fp _ p id)

/-- a PUBREL is always handed on, and ends the exchange of its identifier -/
theorem prPubrel_ok (c : C) (p : Pkt) :
    recvs (prPubrel c (.ok p)).ev = recvs c.ev ++ [p] ∧
      (prPubrel c (.ok p)).s.handled = del (p.pid.getD 0) c.s.handled := by
  unfold prPubrel
  dsimp -zeta only
  extract_lets id removed s0 c1 c2
  have h : Before c1 c1 := .of_s rfl
  have h2 : Before c1 c2 := Fp.ite_ind (fun _ => Fp.ite_ind (fun _ => h.step (Fp.psV3Simple_fp _ _)) (fun _ =>
    Fp.ite_ind (fun _ => h.step (Fp.psV5Pubcomp_fp _ _)) (fun _ => h.step (Fp.psV5Pubcomp_fp _ _)))) (fun _ => h)
  exact Q2Sum.handed (c := c) (h2.step (Fp.refreshPingreqRecv_fp c2)) rfl p

theorem prPubrel_sum (c : C) (x : Except Nat Pkt) : Q2Sum 6 x c (prPubrel c x) := by
  cases x with
  | error e => exact .of_fp (Fp.vErr_fp c e)
  | ok p => exact .pubrel p rfl rfl (prPubrel_ok c p).1 (prPubrel_ok c p).2

theorem prPlain_sum (t : Nat) (ht : t ≠ 3 ∧ t ≠ 6) (c : C) (x : Except Nat Pkt) : Q2Sum t x c (prPlain c x) := by
  unfold prPlain
  cases x with
  | error e => exact .of_fp (Fp.vErr_fp c e)
  | ok p => exact .deliver (.step (.of_s rfl) (Fp.refreshPingreqRecv_fp c)) p ht

theorem prSubUnsuback_sum (t : Nat) (ht : t ≠ 3 ∧ t ≠ 6) (c : C) (b : Bool) (x : Except Nat Pkt) :
    Q2Sum t x c (prSubUnsuback c b x) := by
  rw [Fp.prSubUnsuback_eq]
  refine .ackIn ht c x _ fun _ id => Fp.Footprint.step ?_ (Fp.releaseIfUsed_fp _ _)
  exact Fp.ite_ind (fun _ => .of_s rfl) (fun _ => .of_s rfl)

theorem prPingreq_sum (c : C) (x : Except Nat Pkt) : Q2Sum 12 x c (prPingreq c x) := by
  unfold prPingreq
  cases x with
  | error e => exact .of_fp (Fp.vErr_fp c e)
  | ok p =>
    dsimp only
    refine .deliver (.step ?_ (Fp.refreshPingreqRecv_fp _)) p (by decide)
    refine Fp.ite_ind (fun _ => ?_) (fun _ => .of_s rfl)
    exact Fp.ite_ind (fun _ => .step (.of_s rfl) (Fp.psV3Simple_fp c _)) (fun _ => .step (.of_s rfl) (Fp.psV5Simple_fp c _))

theorem prPingresp_sum (c : C) (x : Except Nat Pkt) : Q2Sum 13 x c (prPingresp c x) := by
  unfold prPingresp
  cases x with
  | error e => exact .of_fp (Fp.vErr_fp c e)
  | ok p =>
    dsimp only
    exact .deliver (Fp.ite_ind (fun _ => .timerCancel (.of_s rfl) (by decide) _) (fun _ => .of_s rfl)) p (by decide)

theorem prDisconnect_sum (c : C) (x : Except Nat Pkt) : Q2Sum 14 x c (prDisconnect c x) := by
  unfold prDisconnect
  cases x with
  | error e => exact .of_fp (Fp.vErr_fp c e)
  | ok p => exact .deliver (.step (.of_s rfl) (Fp.cancelTimers_fp c)) p (by decide)

theorem dispatchRecv_sum (c : C) (t : Nat) (x : Except Nat Pkt) (hq : ∀ p, x = .ok p → p.qos ≤ 2) :
    Q2Sum t x c (dispatchRecv c t x) :=
  Fp.dispatchRecv_cases (Q := fun c' => Q2Sum t x c c') c t x
    (fun ht _ => ht ▸ prV3Connect_sum c x) (fun ht _ => ht ▸ prV5Connect_sum c x)
    (fun ht _ => ht ▸ prV3Connack_sum c x) (fun ht _ => ht ▸ prV5Connack_sum c x)
    (fun ht _ => ht ▸ prV3Publish_sum c x hq) (fun ht _ => ht ▸ prV5Publish_sum c x)
    (fun ht => ht ▸ prPuback_sum c x) (fun ht => ht ▸ prPubrec_sum c x) (fun ht => ht ▸ prPubrel_sum c x)
    (fun ht => ht ▸ prPubcomp_sum c x)
    (fun ht => prPlain_sum t (by omega) c x)
    (fun ht => prSubUnsuback_sum t (by omega) c true x) (fun ht => prSubUnsuback_sum t (by omega) c false x)
    (fun ht => ht ▸ prPingreq_sum c x) (fun ht => ht ▸ prPingresp_sum c x) (fun ht => ht ▸ prDisconnect_sum c x)
    (fun _ => .of_fp (T := [.error]) (w := fun a _ => a) (.err (.of_s rfl) (by decide) _))

/-- `recv` as a whole, for a parser that answers with a legal QoS -/
theorem recv_sum (c : C) (inp : List Nat) (parse : Nat → Nat → List Nat → Except Nat Pkt)
    (hq : ∀ v fh d p, parse v fh d = .ok p → p.qos ≤ 2) :
    ∃ v fh d, Q2Sum (fh / 16) (parse v fh d) c (recv c inp parse).1 :=
  Fp.recv_frame (Q := fun c' => ∃ v fh d, Q2Sum (fh / 16) (parse v fh d) c c') c inp parse
    (fun _ h => ⟨0, 0, [], .of_fp h⟩)
    (fun c0 fh d _ he hs => ⟨c0.s.ver, fh, d, (dispatchRecv_sum c0 _ _ (hq _ fh d)).congr
      (by rw [← hs]) (congrArg recvs he) (by rw [← hs])⟩)

/-! ## `notify_closed` -/

theorem notifyClosed_handled (c : C) :
    (notifyClosed c).s.handled = if c.s.needStore then c.s.handled else [] := by
  rw [Fp.notifyClosed_s_eq]

@[simp] theorem notifyClosed_recvs (c : C) : recvs (notifyClosed c).ev = recvs c.ev :=
  (Fp.notifyClosed_ev c).recvs_eq (by decide)

end MqttVerif.Conn
