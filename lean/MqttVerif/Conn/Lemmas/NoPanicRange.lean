import MqttVerif.Conn.Lemmas.NoPanic
import MqttVerif.Conn.Lemmas.FootprintIdsStep
import MqttVerif.Conn.Lemmas.Pigeon
/-!
# C05 helper — stored identifiers stay inside the allocator's range

`SR L H (K c)`: the packet-id allocator of `c` manages `[L, H]` and every stored packet's
identifier lies in `[L, H]`.  Kept by every primitive of the identifier group (`sr_run`): the
allocator never changes its range, and an entry enters the store only behind an `is_used_id` test
(`.store`, whose listed outcomes carry the test) or a successful `register_packet_id` (`.restore`,
which needs the allocator's representation invariant).

Together with "store identifiers are pairwise distinct" (`StoreInv`) this bounds the number of
stored packets by `H` (pigeonhole, `Pigeon.keys_length_le`): the `u32` counter
`publish_send_count` cannot overflow in `send_stored` when `H ≤ u32::MAX` (`Headroom`).
-/
namespace MqttVerif.Conn
open MqttVerif

theorem PidWf.run {y : Ids} (h : PidWf y.pidMan) (a : IdPrim) : PidWf (a.run y).1.pidMan := by
  obtain ⟨op, e⟩ := a.run_alloc y
  rw [e]
  exact h.step op

end MqttVerif.Conn

namespace MqttVerif.Conn.Rng
open MqttVerif MqttVerif.Conn

def K (c : C) : Nat × Nat × List (Nat × Pkt) := (c.s.pidMan.lowest, c.s.pidMan.highest, c.s.store)

def SR (L H : Nat) (k : Nat × Nat × List (Nat × Pkt)) : Prop :=
  k.1 = L ∧ k.2.1 = H ∧ ∀ x ∈ k.2.2, L ≤ x.1 ∧ x.1 ≤ H

theorem SR.sub {L H l h : Nat} {st st' : List (Nat × Pkt)} (hs : SR L H (l, h, st))
    (hsub : ∀ x ∈ st', x ∈ st) : SR L H (l, h, st') :=
  ⟨hs.1, hs.2.1, fun x hx => hs.2.2 x (hsub x hx)⟩

theorem SR.nil {L H l h : Nat} {st : List (Nat × Pkt)} (hs : SR L H (l, h, st)) : SR L H (l, h, []) :=
  hs.sub (by simp)

theorem SR.add {L H l h : Nat} {st : List (Nat × Pkt)} (hs : SR L H (l, h, st)) {id : Nat} (q : Pkt)
    (hr : l ≤ id ∧ id ≤ h) : SR L H (l, h, st ++ [(id, q)]) := by
  obtain ⟨h1, h2, h3⟩ := hs
  refine ⟨h1, h2, ?_⟩
  intro x hx
  simp only [List.mem_append, List.mem_singleton] at hx
  rcases hx with hx | rfl
  · exact h3 x hx
  · simp only at h1 h2; subst h1 h2; exact hr

theorem ite_SR (L H : Nat) (p : Prop) {_ : Decidable p} (a b : Nat × Nat × List (Nat × Pkt)) :
    SR L H (if p then a else b) = if p then SR L H a else SR L H b := apply_ite _ _ _ _
theorem ite_fst' {α β : Type} (p : Prop) {_ : Decidable p} (a b : α × β) :
    (if p then a else b).1 = if p then a.1 else b.1 := apply_ite _ _ _ _
theorem ite_snd' {α β : Type} (p : Prop) {_ : Decidable p} (a b : α × β) :
    (if p then a else b).2 = if p then a.2 else b.2 := apply_ite _ _ _ _

@[simp] theorem K_setPanic (c : C) (x : String) : K (c.setPanic x) = K c := rfl
@[simp] theorem K_initConn (c : C) (b : Bool) : K (initConn c b) = K c := rfl
@[simp] theorem K_handleV3Error (c : C) (e : Nat) : K (handleV3Error c e) = K c := rfl

theorem K_storeAdd_bounds (c : C) (id : Nat) (q : Pkt) (x : String) :
    (storeAdd c id q x).s.pidMan = c.s.pidMan := by
  unfold storeAdd; split <;> rfl

/-- a successful `register_packet_id` is for an identifier inside the allocator's range (needs
    the allocator's representation invariant: free intervals lie inside the range) -/
theorem useValue_range {a : Alloc.A} (hp : PidWf a) {v : Nat} (h : (Alloc.useValue a v).1 = true) :
    a.lowest ≤ v ∧ v ≤ a.highest :=
  have := (hp.wf.1.useValue_iff v).1 h
  ⟨this.1, this.2.1⟩

/-- what `K` reads, of the identifier group -/
def ofIds (y : Ids) : Nat × Nat × List (Nat × Pkt) := (y.pidMan.lowest, y.pidMan.highest, y.store)

theorem sr_run {L H : Nat} {y : Ids} (hp : PidWf y.pidMan) (h : SR L H (ofIds y)) (a : IdPrim)
    (hs : ∀ id q, a = .store id q → y.pidMan.lowest ≤ id ∧ id ≤ y.pidMan.highest) :
    SR L H (ofIds (a.run y).1) := by
  obtain ⟨b1, b2, -⟩ := a.run_bounds y
  unfold ofIds
  rw [b1, b2]
  rcases a.run_store y with hsub | ⟨id, q, rfl | ⟨rfl, rfl, hr⟩, -, e⟩
  · exact h.sub fun _ hx => hsub.subset hx
  · rw [e]
    exact h.add q (hs id q rfl)
  · rw [e]
    exact h.add q (useValue_range hp hr)

theorem sr_runAll {L H : Nat} (l : List IdPrim) {y : Ids} (hp : PidWf y.pidMan) (h : SR L H (ofIds y))
    (hs : ∀ id q, .store id q ∈ l → L ≤ id ∧ id ≤ H) : SR L H (ofIds (IdPrim.runAll l y).1) := by
  induction l generalizing y with
  | nil => exact h
  | cons a l ih =>
    refine ih (hp.run a) (sr_run hp h a fun id q e => ?_) fun id q hm => hs id q (List.mem_cons_of_mem _ hm)
    rw [show y.pidMan.lowest = L from h.1, show y.pidMan.highest = H from h.2.1]
    exact hs id q (e ▸ List.mem_cons_self)

/-- `hp`: the allocator's representation invariant, needed for `restorePackets` only -/
theorem sr_step {L H : Nat} {cfg : Cfg} {s : St} (hp : PidWf s.pidMan)
    (h : SR L H (K { cfg := cfg, s := s })) (op : Op) : SR L H (K (step cfg s op)) := by
  obtain ⟨l, ho, hr⟩ := Fp.step_ids cfg s op
  show SR L H (ofIds (step cfg s op).s.ids)
  rw [hr.ids]
  refine sr_runAll l hp h fun id q hm => ?_
  rw [← show s.pidMan.lowest = L from h.1, ← show s.pidMan.highest = H from h.2.1]
  exact Alloc.isUsed_range (ho.mem_store hm).1

end MqttVerif.Conn.Rng
