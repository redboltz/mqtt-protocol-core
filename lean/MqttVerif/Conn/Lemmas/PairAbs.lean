import MqttVerif.Conn.Lemmas.PairSched
import MqttVerif.Conn.Lemmas.Containers
/-!
# The pair system with two exchanges in flight, over packet tokens (for `Props/C01L2c.lean`)

While two exchanges are in flight only nine packets occur: the two PUBLISH packets, their DUP copies and the
acknowledgements of the identifiers in use.  With tokens for these packets the pair of `Conn` models becomes a small
machine, `astep`, whose steps are the step lemmas `step_deliver_*` of `PairExchange.lean` with their side conditions as
decidable tests (`none` if one fails); `astep_sound`: whatever it computes, the pair does, for arbitrary PUBLISH packets
and both versions.  A finite table of shapes (`PhaseData`, printed in `PairTabG*.lean`) is read in tokens by evaluating
it at two sample packets and checked against the model by evaluating `astep` on it (`PhaseData.Ok`); the tables of one
exchange (`Ph2`, `Ph1`) are checked the same way (`closure_one`).
-/
namespace MqttVerif.Conn.Pair
open MqttVerif MqttVerif.Conn

inductive Tok
  | pub1 | dup1 | pub2 | dup2
  | puback (id : Nat) | pubrec (id : Nat) | pubrel (id : Nat) | pubcomp (id : Nat)
  /-- the PUBCOMP answering a PUBREL for an identifier that is not handled: `pcA v id` -/
  | pcA (id : Nat)
deriving DecidableEq, Repr

structure AEnd where
  pool : List Alloc.Iv
  store : List (Nat × Tok)
  pa : List Nat
  pr : List Nat
  pc : List Nat
  h : List Nat
  /-- `publish_recv` as v5.0 keeps it; v3.1.1 keeps none (`cprv`) -/
  prv : List Nat
deriving DecidableEq, Repr

structure ASys where
  c : AEnd
  s : AEnd
  c2s : List Tok
  s2c : List Tok
deriving DecidableEq, Repr

def concT (v : Nat) (P1 P2 : Pkt) : Tok → Pkt
  | .pub1 => P1
  | .dup1 => P1.asDup
  | .pub2 => P2
  | .dup2 => P2.asDup
  | .puback id => ackN v .puback id
  | .pubrec id => ackN v .pubrec id
  | .pubrel id => ackN v .pubrel id
  | .pubcomp id => ackN v .pubcomp id
  | .pcA id => pcA v id

def cprv (v : Nat) : List Nat → List Nat
  | [] => []
  | a :: l => prl v (a :: l)

def concE (v : Nat) (P1 P2 : Pkt) (b : Bool) (e : AEnd) : St :=
  mkSt v b .connected e.pool (e.store.map fun x => (x.1, concT v P1 P2 x.2)) e.pa e.pr e.pc e.h (cprv v e.prv)

def conc (v : Nat) (P1 P2 : Pkt) (x : ASys) : Sys :=
  { c := concE v P1 P2 true x.c, s := concE v P1 P2 false x.s,
    c2s := x.c2s.map (concT v P1 P2), s2c := x.s2c.map (concT v P1 P2) }

/-- `respOf` of the stored packet, for QoS `q1` / `q2` of the two PUBLISH packets -/
def tokResp (q1 q2 : Nat) : Tok → Kind
  | .pub1 | .dup1 => if q1 = 2 then .pubrec else .puback
  | .pub2 | .dup2 => if q2 = 2 then .pubrec else .puback
  | .pubrel _ => .pubcomp
  | _ => .puback

/-- `storeErase` -/
def astoreErase (q1 q2 : Nat) (resp : Kind) (id : Nat) (st : List (Nat × Tok)) : List (Nat × Tok) :=
  match lookup id st with
  | some t => if tokResp q1 q2 t = resp then erase id st else st
  | none => st

/-- what one delivery to an endpoint does: new state, packets sent, PUBLISH notifications, identifiers released -/
abbrev ARes := AEnd × List Tok × List Tok × List Nat

/-- `step_deliver_pub` -/
def arecvPub (q id : Nat) (t : Tok) (e : AEnd) : ARes :=
  ({ e with h := if q = 2 then ins id e.h else e.h, prv := if q = 2 then ins id e.prv else del id (ins id e.prv) },
    [if q = 2 then .pubrec id else .puback id], if q = 2 ∧ id ∈ e.h then [] else [t], [])

/-- `step_deliver_done`: a PUBACK (`k = .puback`), or a PUBCOMP with or without reason code -/
def arecvDone (q1 q2 : Nat) (k : Kind) (id : Nat) (e : AEnd) : Option ARes :=
  if id ∈ (if k = .puback then e.pa else e.pc) ∧ l2c_ok e.pool id then
    some ({ e with pool := l2c_free e.pool id, store := astoreErase q1 q2 k id e.store,
                   pa := if k = .puback then del id e.pa else e.pa, pc := if k = .puback then e.pc else del id e.pc }, [], [], [id])
  else none

/-- a delivery to an endpoint; the PUBLISH packets have QoS `q1`, `q2` and identifiers `i1`, `i2` -/
def arecv (q1 i1 q2 i2 : Nat) (e : AEnd) : Tok → Option ARes
  | .pub1 => some (arecvPub q1 i1 .pub1 e)
  | .dup1 => some (arecvPub q1 i1 .dup1 e)
  | .pub2 => some (arecvPub q2 i2 .pub2 e)
  | .dup2 => some (arecvPub q2 i2 .dup2 e)
  | .puback id => arecvDone q1 q2 .puback id e
  | .pubrec id =>
    if id ∈ e.pr ∧ l2c_used e.pool id ∧ (astoreErase q1 q2 .pubrec id e.store).any (·.1 = id) = false then
      some ({ e with store := astoreErase q1 q2 .pubrec id e.store ++ [(id, .pubrel id)], pr := del id e.pr, pc := ins id e.pc },
        [.pubrel id], [], [])
    else none
  | .pubrel id =>
    some ({ e with h := del id e.h, prv := del id e.prv }, [if id ∈ e.h then .pubcomp id else .pcA id], [], [])
  | .pubcomp id => arecvDone q1 q2 .pubcomp id e
  | .pcA id => arecvDone q1 q2 .pubcomp id e

/-- `resume v ∘ lose`: CONNECT resets `publish_recv`, CONNACK makes each side send its store again -/
def alose (x : ASys) : ASys :=
  { c := { x.c with prv := [] }, s := { x.s with prv := [] }, c2s := x.c.store.map (·.2), s2c := x.s.store.map (·.2) }

/-- what an action does: new system, notifications at the server / client, identifiers released by the client / server -/
structure AOut where
  sys : ASys
  nS : List Tok
  nC : List Tok
  rC : List Nat
  rS : List Nat
deriving DecidableEq

/-- `deliverS` -/
def atoS (q1 i1 q2 i2 : Nat) (x : ASys) : Option AOut :=
  match x.c2s with
  | [] => some ⟨x, [], [], [], []⟩
  | t :: rest =>
    (arecv q1 i1 q2 i2 x.s t).map fun r => ⟨{ x with s := r.1, c2s := rest, s2c := x.s2c ++ r.2.1 }, r.2.2.1, [], [], r.2.2.2⟩

/-- `deliverC` -/
def atoC (q1 i1 q2 i2 : Nat) (x : ASys) : Option AOut :=
  match x.s2c with
  | [] => some ⟨x, [], [], [], []⟩
  | t :: rest =>
    (arecv q1 i1 q2 i2 x.c t).map fun r => ⟨{ x with c := r.1, s2c := rest, c2s := x.c2s ++ r.2.1 }, [], r.2.2.1, r.2.2.2, []⟩

/-- `act4` -/
def astep (q1 i1 q2 i2 : Nat) (x : ASys) : Act4 → Option AOut
  | .toS => atoS q1 i1 q2 i2 x
  | .toC => atoC q1 i1 q2 i2 x
  | .deliver => if x.c2s ≠ [] then atoS q1 i1 q2 i2 x else atoC q1 i1 q2 i2 x
  | .lose => some ⟨alose x, [], [], [], []⟩

@[simp] theorem concT_puback (v : Nat) (P1 P2 : Pkt) (id : Nat) : concT v P1 P2 (.puback id) = ackN v .puback id := rfl
@[simp] theorem concT_pubrec (v : Nat) (P1 P2 : Pkt) (id : Nat) : concT v P1 P2 (.pubrec id) = ackN v .pubrec id := rfl
@[simp] theorem concT_pubrel (v : Nat) (P1 P2 : Pkt) (id : Nat) : concT v P1 P2 (.pubrel id) = ackN v .pubrel id := rfl
@[simp] theorem concT_pubcomp (v : Nat) (P1 P2 : Pkt) (id : Nat) : concT v P1 P2 (.pubcomp id) = ackN v .pubcomp id := rfl
@[simp] theorem concT_pcA (v : Nat) (P1 P2 : Pkt) (id : Nat) : concT v P1 P2 (.pcA id) = pcA v id := rfl

theorem cprv_five (l : List Nat) : cprv 5 l = l := by cases l <;> rfl
theorem cprv_four (l : List Nat) : cprv 4 l = [] := by cases l <;> rfl

theorem cprv_step {v : Nat} (hv : v = 4 ∨ v = 5) (f : List Nat → List Nat) (l : List Nat) :
    (if v = 5 then f (cprv v l) else cprv v l) = cprv v (f l) := by
  rcases hv with rfl | rfl
  · simp [cprv_four]
  · simp [cprv_five]

theorem storeErase_map {q1 q2 v : Nat} (f : Tok → Pkt) (hr : ∀ t, respOf (f t) = tokResp q1 q2 t) (hver : ∀ t, (f t).ver = v)
    (resp : Kind) (id : Nat) (st : List (Nat × Tok)) :
    storeErase v resp id (st.map fun x => (x.1, f x.2)) = (astoreErase q1 q2 resp id st).map fun x => (x.1, f x.2) := by
  unfold storeErase astoreErase
  rw [lookup_map]
  cases lookup id st with
  | none => rfl
  | some t => simp only [Option.map_some, hr, hver, and_true, erase_map]; split <;> rfl

theorem storeHas_map (f : Tok → Pkt) (id : Nat) (st : List (Nat × Tok)) :
    storeHas id (st.map fun x => (x.1, f x.2)) = st.any (·.1 = id) := by
  simp [storeHas, List.any_map, Function.comp_def]

/-- what `deliverS` / `deliverC` read off the events of a call -/
structure EvObs (ev : List Ev) (out notes : List Pkt) (rel : List Nat) : Prop where
  sends : sends ev = out
  notes : pubNotes ev = notes
  rel : releasedIds ev = rel
  err : errFree ev

section
variable {v q1 i1 q2 i2 : Nat} {P1 P2 : Pkt} (hv : v = 4 ∨ v = 5) (h1 : q1 = 1 ∨ q1 = 2) (h2 : q2 = 1 ∨ q2 = 2)
  (hA : IsPubN v q1 i1 P1) (hB : IsPubN v q2 i2 P2) (n1 : i1 ≠ 0) (n2 : i2 ≠ 0)
include hv hA hB

theorem concT_ver (t : Tok) : (concT v P1 P2 t).ver = v := by
  cases t with
  | pub1 => exact hA.ver
  | dup1 => exact hA.ver
  | pub2 => exact hB.ver
  | dup2 => exact hB.ver
  | pcA id => rcases hv with rfl | rfl <;> rfl
  | _ => rfl

include h1 h2 in
theorem concT_resp (t : Tok) : respOf (concT v P1 P2 t) = tokResp q1 q2 t := by
  cases t with
  | pub1 => rcases h1 with rfl | rfl <;> simp [respOf, concT, tokResp, hA.kind, hA.qos]
  | dup1 => rcases h1 with rfl | rfl <;> simp [respOf, concT, tokResp, hA.kind, hA.qos]
  | pub2 => rcases h2 with rfl | rfl <;> simp [respOf, concT, tokResp, hB.kind, hB.qos]
  | dup2 => rcases h2 with rfl | rfl <;> simp [respOf, concT, tokResp, hB.kind, hB.qos]
  | pcA id => rcases hv with rfl | rfl <;> rfl
  | _ => rfl

omit hA hB in
theorem arecvPub_sound (r : Role) (b : Bool) (e : AEnd) {q id : Nat} (hq : q = 1 ∨ q = 2) (t : Tok)
    (hP : IsPubN v q id (concT v P1 P2 t)) (hid : id ≠ 0) :
    (step ⟨r, 2⟩ (concE v P1 P2 b e) (deliverOp (concT v P1 P2 t))).s = concE v P1 P2 b (arecvPub q id t e).1 ∧
      EvObs (step ⟨r, 2⟩ (concE v P1 P2 b e) (deliverOp (concT v P1 P2 t))).ev ((arecvPub q id t e).2.1.map (concT v P1 P2))
        ((arecvPub q id t e).2.2.1.map (concT v P1 P2)) (arecvPub q id t e).2.2.2 := by
  rw [concE, step_deliver_pub r b _ _ _ _ _ _ _ hv hq hP hid, mkAck_ackN,
    cprv_step hv (fun l => if q = 2 then ins id l else del id (ins id l))]
  refine ⟨?_, ?_⟩
  · rfl
  · have hk := hP.kind
    rcases hq with rfl | rfl
    · constructor <;> simp [sends, pubNotes, releasedIds, errFree, isErr, arecvPub, hk]
    · by_cases hh : id ∈ e.h <;> constructor <;> simp [sends, pubNotes, releasedIds, errFree, isErr, arecvPub, hk, hh]

include h1 h2 in
theorem arecvDone_sound (r : Role) (b : Bool) {e : AEnd} {k : Kind} (hk : k = .puback ∨ k = .pubcomp) {id : Nat} {res : ARes}
    (X : Pkt) (hX : IsAck v k id X) (h : arecvDone q1 q2 k id e = some res) :
    (step ⟨r, 2⟩ (concE v P1 P2 b e) (deliverOp X)).s = concE v P1 P2 b res.1 ∧
      EvObs (step ⟨r, 2⟩ (concE v P1 P2 b e) (deliverOp X)).ev (res.2.1.map (concT v P1 P2))
        (res.2.2.1.map (concT v P1 P2)) res.2.2.2 := by
  unfold arecvDone at h
  by_cases hc : id ∈ (if k = .puback then e.pa else e.pc) ∧ l2c_ok e.pool id
  · rw [if_pos hc] at h
    obtain rfl := Option.some.inj h
    rw [concE, step_deliver_done r b _ _ _ _ _ _ _ hv hk hX hc.1 hc.2.1 hc.2.dealloc,
      storeErase_map _ (concT_resp hv h1 h2 hA hB) (concT_ver hv hA hB)]
    exact ⟨rfl, by rcases hk with rfl | rfl <;> constructor <;> simp [sends, pubNotes, releasedIds, errFree, isErr, hX.kind]⟩
  · rw [if_neg hc] at h; cases h

include h1 h2 n1 n2 in
theorem arecv_sound (r : Role) (b : Bool) {e : AEnd} {t : Tok} {res : ARes} (h : arecv q1 i1 q2 i2 e t = some res) :
    (step ⟨r, 2⟩ (concE v P1 P2 b e) (deliverOp (concT v P1 P2 t))).s = concE v P1 P2 b res.1 ∧
      EvObs (step ⟨r, 2⟩ (concE v P1 P2 b e) (deliverOp (concT v P1 P2 t))).ev (res.2.1.map (concT v P1 P2))
        (res.2.2.1.map (concT v P1 P2)) res.2.2.2 := by
  cases t with
  | pub1 => obtain rfl := Option.some.inj h; exact arecvPub_sound hv r b e h1 .pub1 hA n1
  | dup1 => obtain rfl := Option.some.inj h; exact arecvPub_sound hv r b e h1 .dup1 hA.asDup n1
  | pub2 => obtain rfl := Option.some.inj h; exact arecvPub_sound hv r b e h2 .pub2 hB n2
  | dup2 => obtain rfl := Option.some.inj h; exact arecvPub_sound hv r b e h2 .dup2 hB.asDup n2
  | puback id => exact arecvDone_sound hv h1 h2 hA hB r b (Or.inl rfl) _ ⟨rfl, rfl, rfl⟩ h
  | pubrec id =>
    simp only [arecv] at h
    split at h
    next hc =>
      obtain rfl := Option.some.inj h
      have hst := hc.2.2
      rw [← storeHas_map (concT v P1 P2), ← storeErase_map (v := v) _ (concT_resp hv h1 h2 hA hB) (concT_ver hv hA hB)] at hst
      rw [concE, concT_pubrec, step_deliver_pubrec r b _ _ _ _ _ _ _ hv ⟨rfl, rfl, rfl⟩ rfl hc.1 hc.2.1 hst,
        storeErase_map _ (concT_resp hv h1 h2 hA hB) (concT_ver hv hA hB)]
      exact ⟨by simp [concE, mkAck_ackN], by constructor <;> simp [sends, pubNotes, releasedIds, errFree, isErr, mkAck_ackN]⟩
    next => cases h
  | pubrel id =>
    obtain rfl := Option.some.inj h
    rw [concE, concT_pubrel, step_deliver_pubrel r b _ _ _ _ _ _ _ hv ⟨rfl, rfl, rfl⟩, cprv_step hv (del id)]
    refine ⟨rfl, ?_⟩
    by_cases hh : id ∈ e.h <;> rcases hv with rfl | rfl <;>
      constructor <;> simp [sends, pubNotes, releasedIds, errFree, isErr, hh, pcA, mkAck_ackN, mkV5PubcompRc_ackRcN]
  | pubcomp id => exact arecvDone_sound hv h1 h2 hA hB r b (Or.inr rfl) _ ⟨rfl, rfl, rfl⟩ h
  | pcA id =>
    refine arecvDone_sound hv h1 h2 hA hB r b (Or.inr rfl) _ ?_ h
    rcases hv with rfl | rfl <;> exact ⟨rfl, rfl, rfl⟩

include h1 h2 n1 n2

theorem atoS_sound {x : ASys} {o : AOut} (h : atoS q1 i1 q2 i2 x = some o) :
    Obs2 (conc v P1 P2 o.sys) (o.nS.map (concT v P1 P2)) (o.nC.map (concT v P1 P2)) o.rC o.rS (deliverS (conc v P1 P2 x)) := by
  unfold atoS at h
  split at h
  next hx =>
    cases h
    simp only [deliverS, conc, hx, List.map_nil]
    exact ⟨rfl, rfl, rfl, rfl, rfl, rfl, rfl, rfl, rfl, rfl⟩
  next t rest hx =>
    obtain ⟨res, hr, rfl⟩ := Option.map_eq_some_iff.1 h
    obtain ⟨hs, ho⟩ := arecv_sound hv h1 h2 hA hB n1 n2 .server false hr
    simp only [deliverS, conc, hx, List.map_cons, cfgS]
    exact ⟨rfl, hs, rfl, by simp [ho.sends], rfl, ho.err, ho.notes, rfl, rfl, ho.rel⟩

theorem atoC_sound {x : ASys} {o : AOut} (h : atoC q1 i1 q2 i2 x = some o) :
    Obs2 (conc v P1 P2 o.sys) (o.nS.map (concT v P1 P2)) (o.nC.map (concT v P1 P2)) o.rC o.rS (deliverC (conc v P1 P2 x)) := by
  unfold atoC at h
  split at h
  next hx =>
    cases h
    simp only [deliverC, conc, hx, List.map_nil]
    exact ⟨rfl, rfl, rfl, rfl, rfl, rfl, rfl, rfl, rfl, rfl⟩
  next t rest hx =>
    obtain ⟨res, hr, rfl⟩ := Option.map_eq_some_iff.1 h
    obtain ⟨hs, ho⟩ := arecv_sound hv h1 h2 hA hB n1 n2 .client true hr
    simp only [deliverC, conc, hx, List.map_cons, cfgC]
    exact ⟨hs, rfl, by simp [ho.sends], rfl, ho.err, rfl, rfl, ho.notes, ho.rel, rfl⟩

omit h1 h2 n1 n2 in
theorem concT_fits (st : List (Nat × Tok)) : ∀ e ∈ st.map fun x => (x.1, concT v P1 P2 x.2), e.2.sz 2 ≤ noLimit := by
  intro e he
  obtain ⟨x, _, rfl⟩ := List.mem_map.1 he
  show (concT v P1 P2 x.2).sz 2 ≤ noLimit
  cases x.2 with
  | pub1 => exact hA.fits
  | dup1 => exact hA.fits
  | pub2 => exact hB.fits
  | dup2 => exact hB.fits
  | puback id => exact l2c_sz_ackN v _ id (by decide)
  | pubrec id => exact l2c_sz_ackN v _ id (by decide)
  | pubrel id => exact l2c_sz_ackN v _ id (by decide)
  | pubcomp id => exact l2c_sz_ackN v _ id (by decide)
  | pcA id =>
    rcases hv with rfl | rfl
    · exact l2c_sz_ackN 4 .pubcomp id (by decide)
    · rw [sz_of_not_pub _ _ (by simp [pcA, ackRcN])]; simp [pcA, ackRcN, noLimit]

omit h1 h2 n1 n2 in
theorem alose_sound (x : ASys) : Obs2 (conc v P1 P2 (alose x)) [] [] [] [] (resume v (lose (conc v P1 P2 x))) := by
  unfold conc concE
  rw [resume_lose hv (concT_fits hv hA hB x.c.store) (concT_fits hv hA hB x.s.store)]
  refine ⟨rfl, rfl, ?_, ?_, ?_, ?_, ?_, ?_, ?_, ?_⟩
  · simp [alose]
  · simp [alose]
  · simp [errFree, isErr]
  · simp [errFree, isErr]
  · simp only [List.nil_append, pubNotes, connectPkt_kind, pubNotes_resent]; rfl
  · simp only [List.nil_append, pubNotes, pubNotes_append, pubNotes_resent, connackPkt_kind]; rfl
  · simp only [List.nil_append, releasedIds, releasedIds_append, releasedIds_resent]
  · simp only [List.nil_append, releasedIds, releasedIds_resent]

theorem astep_sound {x : ASys} {a : Act4} {o : AOut} (h : astep q1 i1 q2 i2 x a = some o) :
    Obs2 (conc v P1 P2 o.sys) (o.nS.map (concT v P1 P2)) (o.nC.map (concT v P1 P2)) o.rC o.rS (act4 v (conc v P1 P2 x) a) := by
  cases a with
  | toS => exact atoS_sound hv h1 h2 hA hB n1 n2 h
  | toC => exact atoC_sound hv h1 h2 hA hB n1 n2 h
  | deliver =>
    -- `deliver1` and the machine make the same choice: a channel is empty iff its tokens are
    have e : (conc v P1 P2 x).c2s ≠ [] ↔ x.c2s ≠ [] := by simp [conc]
    unfold astep at h
    show Obs2 _ _ _ _ _ (deliver1 _)
    unfold deliver1
    by_cases hx : x.c2s ≠ []
    · rw [if_pos hx] at h; rw [if_pos (e.2 hx)]; exact atoS_sound hv h1 h2 hA hB n1 n2 h
    · rw [if_neg hx] at h; rw [if_neg (mt e.1 hx)]; exact atoC_sound hv h1 h2 hA hB n1 n2 h
  | lose => cases h; exact alose_sound hv hA hB x
end

def aidle : AEnd := ⟨[⟨1, 65535⟩], [], [], [], [], [], []⟩

/-- the publisher of `startBoth`: identifier 1 in flight with QoS `q` -/
def apubOne (q : Nat) (t : Tok) : AEnd :=
  ⟨[⟨2, 65535⟩], [(1, t)], if q = 1 then [1] else [], if q = 2 then [1] else [], [], [], []⟩

/-- the publisher of `startTwo`: identifiers 1 and 2 in flight -/
def apubTwo (q1 q2 : Nat) : AEnd :=
  ⟨[⟨3, 65535⟩], [(1, .dup1), (2, .dup2)], if q2 = 1 then ins 2 (apubOne q1 .dup1).pa else (apubOne q1 .dup1).pa,
    if q2 = 2 then ins 2 (apubOne q1 .dup1).pr else (apubOne q1 .dup1).pr, [], [], []⟩

def astartTwo (q1 q2 : Nat) (d : Bool) : ASys :=
  if d then { c := apubTwo q1 q2, s := aidle, c2s := [.pub1, .pub2], s2c := [] }
  else { c := aidle, s := apubTwo q1 q2, c2s := [], s2c := [.pub1, .pub2] }

def astartBoth (q1 q2 : Nat) : ASys :=
  { c := apubOne q1 .dup1, s := apubOne q2 .dup2, c2s := [.pub1], s2c := [.pub2] }

section
variable {v q1 q2 : Nat} {P1 P2 : Pkt} (hv : v = 4 ∨ v = 5) (h1 : q1 = 1 ∨ q1 = 2) (h2 : q2 = 1 ∨ q2 = 2)
include hv h1 h2

theorem startTwo_obs (hA : IsPub v q1 P1) (hB : IsPubN v q2 2 P2) (d : Bool) :
    Obs2 (conc v P1 P2 (astartTwo q1 q2 d)) [] [] [] [] (startTwo v d P1 P2) := by
  cases d <;>
    simp [startTwo, start, startFrom, startFromC, startFromS, appC, appS, cfgC, cfgS, sends, established_eq _ hv,
      step_acquire, Alloc.allocate, Alloc.allocateP,
      step_send_pub _ _ [⟨2, 65535⟩] [] _ _ _ _ _ hv h1 hA.isPubN (by decide) rfl,
      step_send_pub _ _ [⟨3, 65535⟩] [(1, P1.asDup)] _ _ _ _ _ hv h2 hB (by decide) rfl] <;>
    exact ⟨rfl, rfl, rfl, rfl, rfl, rfl, rfl, rfl, rfl, rfl⟩

theorem startBoth_obs (hA : IsPub v q1 P1) (hB : IsPub v q2 P2) :
    Obs2 (conc v P1 P2 (astartBoth q1 q2)) [] [] [] [] (startBoth v P1 P2) := by
  simp [startBoth, startFromC, startFromS, appC, appS, cfgC, cfgS, sends, established_eq _ hv,
    step_acquire, Alloc.allocate, Alloc.allocateP, step_send_pub _ _ [⟨2, 65535⟩] [] _ _ _ _ _ hv h1 hA.isPubN (by decide) rfl,
    step_send_pub _ _ [⟨2, 65535⟩] [] _ _ _ _ _ hv h2 hB.isPubN (by decide) rfl]
  exact ⟨rfl, rfl, rfl, rfl, rfl, rfl, rfl, rfl, rfl, rfl⟩
end

/-! ## tokens back from packets -/

/-- two PUBLISH packets that differ in the retain flag: a table evaluated at `v = 5` and these two can be read in tokens -/
def smp1 : Pkt := { ver := 5, kind := .publish }
def smp2 : Pkt := { ver := 5, kind := .publish, retain := true }

/-- the token of a packet built from `smp1`, `smp2` and acknowledgements of version 5 -/
def tokOf (p : Pkt) : Tok :=
  match p.kind, p.retain, p.dup with
  | .publish, false, false => .pub1
  | .publish, false, true => .dup1
  | .publish, true, false => .pub2
  | .publish, true, true => .dup2
  | .puback, _, _ => .puback (p.pid.getD 0)
  | .pubrec, _, _ => .pubrec (p.pid.getD 0)
  | .pubrel, _, _ => .pubrel (p.pid.getD 0)
  | _, _, _ => if p.rc.isSome then .pcA (p.pid.getD 0) else .pubcomp (p.pid.getD 0)

def absE (st : St) : AEnd :=
  ⟨st.pidMan.pool, st.store.map fun x => (x.1, tokOf x.2), st.puback, st.pubrec, st.pubcomp, st.handled, st.publishRecv⟩

def absSys (y : Sys) : ASys := ⟨absE y.c, absE y.s, y.c2s.map tokOf, y.s2c.map tokOf⟩

/-! ## finite checks on a table -/

instance (p : Act4 → Prop) [DecidablePred p] : Decidable (∀ a, p a) :=
  decidable_of_iff (p .toS ∧ p .toC ∧ p .deliver ∧ p .lose)
    ⟨fun h a => match a with | .toS => h.1 | .toC => h.2.1 | .deliver => h.2.2.1 | .lose => h.2.2.2, fun h => ⟨h _, h _, h _, h _⟩⟩

/-- a property of all phases is decidable: Lean numbers the constructors of an enumeration type `T`
    (`T.ofNat`, `T.ctorIdx`, `T.ofNat_ctorIdx`), so it is enough to try the numbers below their count `n` -/
def decidableForallEnum {α : Type} (ofNat : Nat → α) (idx : α → Nat) (hof : ∀ x, ofNat (idx x) = x) (n : Nat)
    (hn : ∀ x, idx x < n) (p : α → Prop) [DecidablePred p] : Decidable (∀ x, p x) :=
  decidable_of_iff (∀ i, i < n → p (ofNat i)) ⟨fun h x => hof x ▸ h _ (hn x), fun h _ _ => h _⟩

/-- which of the two messages a PUBLISH token carries (0: not a PUBLISH) -/
def Tok.msg : Tok → Nat
  | .pub1 | .dup1 => 1
  | .pub2 | .dup2 => 2
  | _ => 0

def cntMsg (i : Nat) (l : List Tok) : Nat := l.countP (·.msg = i)

theorem sameMsg_conc1 (v : Nat) (P1 P2 : Pkt) {t : Tok} (h : t.msg = 1) : sameMsg P1 (concT v P1 P2 t) := by
  cases t with
  | pub1 => exact Or.inl rfl
  | dup1 => exact Or.inr rfl
  | _ => cases h

theorem sameMsg_conc2 (v : Nat) (P1 P2 : Pkt) {t : Tok} (h : t.msg = 2) : sameMsg P2 (concT v P1 P2 t) := by
  cases t with
  | pub2 => exact Or.inl rfl
  | dup2 => exact Or.inr rfl
  | _ => cases h

theorem sameMsg_pid {P Q : Pkt} (h : sameMsg P Q) : Q.pid = P.pid := by
  rcases h with rfl | rfl <;> rfl

theorem cntMsg_append (i : Nat) (a b : List Tok) : cntMsg i (a ++ b) = cntMsg i a + cntMsg i b := by
  simp [cntMsg]

theorem cntMsg_eq_length {i : Nat} {l : List Tok} (h : ∀ t ∈ l, t.msg = i) : cntMsg i l = l.length :=
  List.countP_eq_length.2 fun t ht => by simpa using h t ht

theorem cntOf_conc {v : Nat} {P1 P2 : Pkt} (a1 : P1.pid = some 1) (a2 : P2.pid = some 2) (i : Nat) (l : List Tok)
    (hl : ∀ t ∈ l, t.msg = 1 ∨ t.msg = 2) : cntOf i (l.map (concT v P1 P2)) = cntMsg i l := by
  induction l with
  | nil => rfl
  | cons t l ih =>
    have ih := ih fun t ht => hl t (List.mem_cons_of_mem _ ht)
    simp only [cntOf, notesOf, cntMsg] at ih ⊢
    rw [List.map_cons, List.filter_cons, List.countP_cons, ← ih]
    rcases hl t List.mem_cons_self with h | h
    · rw [sameMsg_pid (sameMsg_conc1 v P1 P2 h), a1, h]; by_cases hi : 1 = i <;> simp [hi]
    · rw [sameMsg_pid (sameMsg_conc2 v P1 P2 h), a2, h]; by_cases hi : 2 = i <;> simp [hi]

theorem deliverySpec_conc {v q1 q2 : Nat} {P1 P2 : Pkt} (a1 : P1.pid = some 1) (a2 : P2.pid = some 2) (L : List Tok)
    (hok : ∀ t ∈ L, t.msg = 1 ∨ t.msg = 2) (k1 : 1 ≤ cntMsg 1 L) (k2 : 1 ≤ cntMsg 2 L)
    (x1 : q1 = 2 → cntMsg 1 L = 1) (x2 : q2 = 2 → cntMsg 2 L = 1) :
    DeliverySpec q1 q2 P1 P2 (L.map (concT v P1 P2)) := by
  have aok : ∀ Q ∈ L.map (concT v P1 P2), (Q.pid = some 1 ∧ sameMsg P1 Q) ∨ (Q.pid = some 2 ∧ sameMsg P2 Q) := by
    intro Q hQ
    obtain ⟨t, ht, rfl⟩ := List.mem_map.1 hQ
    rcases hok t ht with h | h
    · exact Or.inl ⟨(sameMsg_pid (sameMsg_conc1 v P1 P2 h)).trans a1, sameMsg_conc1 v P1 P2 h⟩
    · exact Or.inr ⟨(sameMsg_pid (sameMsg_conc2 v P1 P2 h)).trans a2, sameMsg_conc2 v P1 P2 h⟩
  have c := fun i => cntOf_conc (v := v) a1 a2 i L hok
  refine ⟨fun Q hQ => (aok Q hQ).imp (·.1) (·.1), ?_, ?_, ?_, ?_, ?_, ?_⟩
  · intro Q hQ
    simp only [notesOf, List.mem_filter, decide_eq_true_eq] at hQ
    rcases aok Q hQ.1 with h | h
    · exact h.2
    · rw [hQ.2] at h; simp at h
  · intro Q hQ
    simp only [notesOf, List.mem_filter, decide_eq_true_eq] at hQ
    rcases aok Q hQ.1 with h | h
    · rw [hQ.2] at h; simp at h
    · exact h.2
  · show 1 ≤ cntOf 1 _; rw [c]; exact k1
  · show 1 ≤ cntOf 2 _; rw [c]; exact k2
  · intro hq; show cntOf 1 _ = 1; rw [c]; exact x1 hq
  · intro hq; show cntOf 2 _ = 1; rw [c]; exact x2 hq

/-- a row of an output table is read in tokens entry by entry (the rows a table leaves out are `[]` whatever the action) -/
theorem row_abs {f : Act4 → List Pkt} {g : Act4 → List Tok} {c : Tok → Pkt}
    (h : (f .toS, f .toC, f .deliver, f .lose) = ((g .toS).map c, (g .toC).map c, (g .deliver).map c, (g .lose).map c))
    (a : Act4) : f a = (g a).map c := by
  cases a
  · exact congrArg (·.1) h
  · exact congrArg (·.2.1) h
  · exact congrArg (·.2.2.1) h
  · exact congrArg (·.2.2.2) h

/-! ## progress of an exchange, read off the state -/

/-- 1 if the receiver `R` has been notified of the message its peer `S` publishes with QoS `q` and identifier `i`
    (`bwd`: the channel back to `S`).  QoS 2, exact: `R` has handled `i`, or `S` is past PUBREC.  QoS 1, a lower bound
    (a loss that takes the PUBACK sets it back to 0): the PUBACK is on its way or has arrived. -/
def cSt (q i : Nat) (S R : AEnd) (bwd : List Tok) : Nat :=
  if q = 2 then (if i ∈ R.h ∨ i ∉ S.pr then 1 else 0) else (if i ∉ S.pa ∨ Tok.puback i ∈ bwd then 1 else 0)

/-- 1 if `S` awaits no acknowledgement for `i`: it has released the identifier -/
def rSt (i : Nat) (S : AEnd) : Nat := if i ∈ S.pa ∨ i ∈ S.pr ∨ i ∈ S.pc then 0 else 1

/-- a phase table as `PairTabG*.lean` prints it: shapes (`sysOf`), successor, outputs (the PUBLISH notifications at the
    server / client application, the identifiers released by the client / server in a step), first and last phase -/
structure PhaseData where
  Ph : Type
  sysOf : Nat → Pkt → Pkt → Ph → Sys
  next : Ph → Act4 → Ph
  nS : Pkt → Pkt → Ph → Act4 → List Pkt
  nC : Pkt → Pkt → Ph → Act4 → List Pkt
  rC : Ph → Act4 → List Nat
  rS : Ph → Act4 → List Nat
  start : Ph
  done : Ph

namespace PhaseData
variable (T : PhaseData)

def absOf (ph : T.Ph) : ASys := absSys (T.sysOf 5 smp1 smp2 ph)
def tS (ph : T.Ph) (a : Act4) : List Tok := (T.nS smp1 smp2 ph a).map tokOf
def tC (ph : T.Ph) (a : Act4) : List Tok := (T.nC smp1 smp2 ph a).map tokOf

/-- for an exchange whose publisher is the client (`d`) / the server: the receiver's notifications, the publisher's, the
    publisher's releases, the receiver's -/
def tR (d : Bool) : T.Ph → Act4 → List Tok := if d then T.tS else T.tC
def tX (d : Bool) : T.Ph → Act4 → List Tok := if d then T.tC else T.tS
def rP (d : Bool) : T.Ph → Act4 → List Nat := if d then T.rC else T.rS
def rR (d : Bool) : T.Ph → Act4 → List Nat := if d then T.rS else T.rC

/-- `cSt` / `rSt` of a phase's shape, for the message with QoS `q` and identifier `i` of that publisher -/
def told (d : Bool) (q i : Nat) (ph : T.Ph) : Nat :=
  let x := T.absOf ph
  if d then cSt q i x.c x.s x.s2c else cSt q i x.s x.c x.c2s
def freed (d : Bool) (i : Nat) (ph : T.Ph) : Nat := rSt i (if d then (T.absOf ph).c else (T.absOf ph).s)

/-- checked by evaluation: `astep` (QoS `q1`, `q2`, identifiers 1, `i2`) takes every shape to the successor's with the
    table's outputs; the first shape is `x0`, the last the idle pair, which eight deliveries reach from everywhere -/
abbrev Steps (q1 q2 i2 : Nat) (x0 : ASys) : Prop :=
  (∀ ph a, astep q1 1 q2 i2 (T.absOf ph) a = some ⟨T.absOf (T.next ph a), T.tS ph a, T.tC ph a, T.rC ph a, T.rS ph a⟩) ∧
  T.absOf T.start = x0 ∧ T.absOf T.done = ⟨aidle, aidle, [], []⟩ ∧
  (∀ ph, phRunG T.next ph (List.replicate 8 .deliver) = T.done) ∧ T.next T.done .deliver = T.done ∧
  (q1 = 1 ∨ q1 = 2) ∧ (q2 = 1 ∨ q2 = 2) ∧ i2 ≠ 0

/-- the table is its reading in tokens, for all packets and versions, and that reading is what the machine computes -/
structure Ok (q1 q2 i2 : Nat) (x0 : ASys) : Prop where
  sys_abs : ∀ v P1 P2 ph, T.sysOf v P1 P2 ph = conc v P1 P2 (T.absOf ph)
  nS_abs : ∀ v P1 P2 ph a, T.nS P1 P2 ph a = (T.tS ph a).map (concT v P1 P2)
  nC_abs : ∀ v P1 P2 ph a, T.nC P1 P2 ph a = (T.tC ph a).map (concT v P1 P2)
  steps : T.Steps q1 q2 i2 x0

abbrev RunIs (A : List Act4) (NS NC : List Tok) (RC RS : List Nat) : Prop :=
  phRunG T.next T.start A = T.done ∧ outRunG T.next T.tS T.start A = NS ∧ outRunG T.next T.tC T.start A = NC ∧
  outRunG T.next T.rC T.start A = RC ∧ outRunG T.next T.rS T.start A = RS

/-- message 1 (QoS `q1`, identifier 1) is published by the client iff `d1`, message 2 (QoS `q2`, identifier `i2`) iff `d2`.
    `told` follows the receiver's output: it counts the tokens of the message from below (exactly, for QoS 2); `freed` counts
    the publisher's releases of the identifier; both are 0 at the start and 1 at the end -/
abbrev Counted (d1 d2 : Bool) (q1 q2 i2 : Nat) : Prop :=
  (∀ ph a, T.told d1 q1 1 (T.next ph a) ≤ T.told d1 q1 1 ph + cntMsg 1 (T.tR d1 ph a)) ∧
  (∀ ph a, T.told d2 q2 i2 (T.next ph a) ≤ T.told d2 q2 i2 ph + cntMsg 2 (T.tR d2 ph a)) ∧
  (q1 = 2 → ∀ ph a, T.told d1 q1 1 (T.next ph a) = T.told d1 q1 1 ph + cntMsg 1 (T.tR d1 ph a)) ∧
  (q2 = 2 → ∀ ph a, T.told d2 q2 i2 (T.next ph a) = T.told d2 q2 i2 ph + cntMsg 2 (T.tR d2 ph a)) ∧
  (∀ ph a, T.freed d1 1 (T.next ph a) = T.freed d1 1 ph + (T.rP d1 ph a).count 1) ∧
  (∀ ph a, T.freed d2 i2 (T.next ph a) = T.freed d2 i2 ph + (T.rP d2 ph a).count i2) ∧
  (T.told d1 q1 1 T.start = 0 ∧ T.told d2 q2 i2 T.start = 0 ∧ T.freed d1 1 T.start = 0 ∧ T.freed d2 i2 T.start = 0) ∧
  (T.told d1 q1 1 T.done = 1 ∧ T.told d2 q2 i2 T.done = 1 ∧ T.freed d1 1 T.done = 1 ∧ T.freed d2 i2 T.done = 1)

variable {T}

theorem counted_once {d1 d2 : Bool} {q1 q2 i2 : Nat} (h : T.Counted d1 d2 q1 q2 i2) (A : List Act4)
    (e : phRunG T.next T.start A = T.done) :
    1 ≤ cntMsg 1 (outRunG T.next (T.tR d1) T.start A) ∧ 1 ≤ cntMsg 2 (outRunG T.next (T.tR d2) T.start A) ∧
    (q1 = 2 → cntMsg 1 (outRunG T.next (T.tR d1) T.start A) = 1) ∧
    (q2 = 2 → cntMsg 2 (outRunG T.next (T.tR d2) T.start A) = 1) ∧
    (outRunG T.next (T.rP d1) T.start A).count 1 = 1 ∧ (outRunG T.next (T.rP d2) T.start A).count i2 = 1 := by
  obtain ⟨hc1, hc2, hx1, hx2, hr1, hr2, ⟨z1, z2, z3, z4⟩, d1, d2, d3, d4⟩ := h
  have k1 := outRunG_count_le T.next _ (cntMsg 1) (cntMsg_append 1) _ hc1 A T.start
  have k2 := outRunG_count_le T.next _ (cntMsg 2) (cntMsg_append 2) _ hc2 A T.start
  have j1 := outRunG_count T.next _ (·.count 1) rfl (fun _ _ => List.count_append) _ hr1 A T.start
  have j2 := outRunG_count T.next _ (·.count i2) rfl (fun _ _ => List.count_append) _ hr2 A T.start
  rw [e] at k1 k2 j1 j2
  refine ⟨by omega, by omega, fun hq => ?_, fun hq => ?_, by omega, by omega⟩
  · have := outRunG_count T.next _ (cntMsg 1) rfl (cntMsg_append 1) _ (hx1 hq) A T.start
    rw [e] at this; omega
  · have := outRunG_count T.next _ (cntMsg 2) rfl (cntMsg_append 2) _ (hx2 hq) A T.start
    rw [e] at this; omega

namespace Ok
variable {q1 q2 i2 : Nat} {x0 : ASys} (ok : T.Ok q1 q2 i2 x0) {v : Nat} {P1 P2 : Pkt}
include ok

theorem logs (v : Nat) (P1 P2 : Pkt) (ph : T.Ph) : (T.sysOf v P1 P2 ph).logC = [] ∧ (T.sysOf v P1 P2 ph).logS = [] := by
  rw [ok.sys_abs]; exact ⟨rfl, rfl⟩

theorem sys_done (hv : v = 4 ∨ v = 5) : T.sysOf v P1 P2 T.done = established v := by
  obtain ⟨_, _, hdone, _⟩ := ok.steps
  rw [ok.sys_abs, hdone, established_eq v hv]; rfl

theorem drain_done (acts : List Act4) (n : Nat) (hn : 8 ≤ n) :
    phRunG T.next T.start (acts ++ List.replicate n .deliver) = T.done := by
  obtain ⟨_, _, _, h8, hd, _⟩ := ok.steps
  rw [phRunG_append]; exact phRunG_done T.next T.done .deliver 8 h8 hd n hn _

theorem start_obs {y0 : Sys} (h0 : Obs2 (conc v P1 P2 x0) [] [] [] [] y0) : Obs2 (T.sysOf v P1 P2 T.start) [] [] [] [] y0 := by
  rw [ok.sys_abs, ok.steps.2.1]; exact h0

variable (hv : v = 4 ∨ v = 5) (hA : IsPub v q1 P1) (hB : IsPubN v q2 i2 P2)
include hv hA hB

theorem closure (ph : T.Ph) (a : Act4) :
    Obs2 (T.sysOf v P1 P2 (T.next ph a)) (T.nS P1 P2 ph a) (T.nC P1 P2 ph a) (T.rC ph a) (T.rS ph a)
      (act4 v (T.sysOf v P1 P2 ph) a) := by
  obtain ⟨step, _, _, _, _, h1, h2, n2⟩ := ok.steps
  rw [ok.sys_abs v, ok.sys_abs v, ok.nS_abs v, ok.nC_abs v]
  exact astep_sound hv h1 h2 hA.isPubN hB (by decide) n2 (step ph a)

variable {y0 : Sys} (h0 : Obs2 (conc v P1 P2 x0) [] [] [] [] y0)
include h0

theorem safe (acts : List Act4) : errFree (runActs4 v y0 acts).logC ∧ errFree (runActs4 v y0 acts).logS :=
  sched_safe (T.sysOf v P1 P2) T.next (T.nS P1 P2) (T.nC P1 P2) T.rC T.rS T.start y0 (ok.logs v P1 P2)
    (ok.closure hv hA hB) (ok.start_obs h0) acts

theorem run (A : List Act4) (e : phRunG T.next T.start A = T.done) :
    Obs2 (established v) ((outRunG T.next T.tS T.start A).map (concT v P1 P2))
      ((outRunG T.next T.tC T.start A).map (concT v P1 P2)) (outRunG T.next T.rC T.start A) (outRunG T.next T.rS T.start A)
      (runActs4 v y0 A) := by
  have o := sched_run (T.sysOf v P1 P2) T.next (T.nS P1 P2) (T.nC P1 P2) T.rC T.rS T.start T.done y0 (ok.logs v P1 P2)
    (ok.closure hv hA hB) (ok.start_obs h0) (ok.sys_done hv) A e
  rwa [outRunG_map T.next _ T.tS _ (ok.nS_abs v P1 P2), outRunG_map T.next _ T.tC _ (ok.nC_abs v P1 P2)] at o

theorem run_is {A : List Act4} {NS NC : List Tok} {RC RS : List Nat} (h : T.RunIs A NS NC RC RS) :
    Obs2 (established v) (NS.map (concT v P1 P2)) (NC.map (concT v P1 P2)) RC RS (runActs4 v y0 A) := by
  obtain ⟨e, rfl, rfl, rfl, rfl⟩ := h
  exact ok.run hv hA hB h0 A e

end Ok

/-! ### two exchanges in the same direction (identifiers 1, 2; `d`: the client publishes) -/

abbrev Counts5 (T : PhaseData) (d : Bool) (q1 q2 : Nat) : Prop :=
  (∀ ph a, T.tX d ph a = []) ∧ (∀ ph a, T.rR d ph a = []) ∧
  (∀ ph a, ∀ t ∈ T.tR d ph a, t.msg = 1 ∨ t.msg = 2) ∧ (∀ ph a, ∀ id ∈ T.rP d ph a, id = 1 ∨ id = 2) ∧
  T.Counted d d q1 q2 2

/-- eight deliveries; a loss after `k ≤ 8` deliveries, then eight deliveries: the outputs are `t5notes`, `t5rel` -/
abbrev Loss5 (T : PhaseData) (d : Bool) (q1 q2 : Nat) : Prop :=
  T.RunIs (List.replicate 8 .deliver) (if d then [.pub1, .pub2] else []) (if d then [] else [.pub1, .pub2])
    (if d then t5rel q1 q2 else []) (if d then [] else t5rel q1 q2) ∧
  ∀ k, k ≤ 8 → T.RunIs (lossActs k 8) (if d then (t5notes d q1 q2 k smp1 smp2).map tokOf else [])
    (if d then [] else (t5notes d q1 q2 k smp1 smp2).map tokOf) (if d then t5rel q1 q2 else []) (if d then [] else t5rel q1 q2)

theorem t5notes_conc (v : Nat) (d : Bool) (q1 q2 k : Nat) (P1 P2 : Pkt) :
    t5notes d q1 q2 k P1 P2 = ((t5notes d q1 q2 k smp1 smp2).map tokOf).map (concT v P1 P2) := by
  unfold t5notes
  simp only [apply_ite (List.map _), List.map_cons, List.map_nil]
  rfl

section
variable {q1 q2 : Nat} {d : Bool} (ok : T.Ok q1 q2 2 (astartTwo q1 q2 d)) (cnt : T.Counts5 d q1 q2)
  {v : Nat} {P1 P2 : Pkt} (hv : v = 4 ∨ v = 5) (hA : IsPub v q1 P1) (hB : IsPubN v q2 2 P2)
include ok hv hA hB

theorem Ok.start5 : Obs2 (conc v P1 P2 (astartTwo q1 q2 d)) [] [] [] [] (startTwo v d P1 P2) := by
  obtain ⟨_, _, _, _, _, h1, h2, _⟩ := ok.steps
  exact startTwo_obs hv h1 h2 hA hB d

theorem Ok.no_loss5 (loss : T.Loss5 d q1 q2) : Obs d (established v) [P1, P2] (t5rel q1 q2) (drain 8 (startTwo v d P1 P2)) := by
  have o := ok.run_is hv hA hB (ok.start5 hv hA hB) loss.1
  rw [drain_eq_runActs4 v]
  apply obs_of_obs2
  cases d <;> exact o

theorem Ok.one_loss5 (loss : T.Loss5 d q1 q2) (k : Nat) (hk : k ≤ 8) :
    Obs d (established v) (t5notes d q1 q2 k P1 P2) (t5rel q1 q2)
      (drain 8 (resume v (lose (drain k (startTwo v d P1 P2))))) := by
  have o := ok.run_is hv hA hB (ok.start5 hv hA hB) (loss.2 k hk)
  rw [← runActs4_lossActs, t5notes_conc v]
  apply obs_of_obs2
  cases d <;> exact o

include cnt

theorem Ok.run5 (A : List Act4) (e : phRunG T.next T.start A = T.done) :
    Obs d (established v) ((outRunG T.next (T.tR d) T.start A).map (concT v P1 P2)) (outRunG T.next (T.rP d) T.start A)
      (runActs4 v (startTwo v d P1 P2) A) := by
  have o := ok.run hv hA hB (ok.start5 hv hA hB) A e
  apply obs_of_obs2
  cases d
  · rw [outRunG_nil T.next T.tS cnt.1, outRunG_nil T.next T.rC cnt.2.1] at o; exact o
  · rw [outRunG_nil T.next T.tC cnt.1, outRunG_nil T.next T.rS cnt.2.1] at o; exact o

theorem Ok.main5 (acts : List Act4) (n : Nat) (hn : 8 ≤ n) :
    let y := drain n (runActs4 v (startTwo v d P1 P2) acts)
    Quiet v y ∧ errFree y.logC ∧ errFree y.logS ∧ pubNotes (sendLog d y) = [] ∧ releasedIds (recvLog d y) = [] ∧
    DeliverySpec q1 q2 P1 P2 (pubNotes (recvLog d y)) ∧ RelSpec (releasedIds (sendLog d y)) := by
  intro y
  have e := ok.drain_done acts n hn
  have o := ok.run5 cnt hv hA hB _ e
  rw [← drain_runActs4] at o
  obtain ⟨_, _, hok, hrel, cn⟩ := cnt
  obtain ⟨k1, k2, x1, x2, j1, j2⟩ := counted_once cn _ e
  refine ⟨o.quiet hv, o.errC, o.errS, o.noEcho, o.releasedR, ?_, ?_⟩
  · rw [show pubNotes (recvLog d y) = _ from o.notes]
    exact deliverySpec_conc hA.pid hB.pid _ (outRunG_all T.next (T.tR d) _ hok _ _) k1 k2 x1 x2
  · rw [show releasedIds (sendLog d y) = _ from o.released]
    exact relSpec_of_counts _ j1 j2 (outRunG_all T.next (T.rP d) _ hrel _ _)
end

/-! ### two exchanges in opposite directions (identifier 1 on each side) -/

abbrev Counts6 (T : PhaseData) (q1 q2 : Nat) : Prop :=
  (∀ ph a, ∀ t ∈ T.tS ph a, t.msg = 1) ∧ (∀ ph a, ∀ t ∈ T.tC ph a, t.msg = 2) ∧
  (∀ ph a, ∀ id ∈ T.rC ph a, id = 1) ∧ (∀ ph a, ∀ id ∈ T.rS ph a, id = 1) ∧
  T.Counted true false q1 q2 1

/-- eight deliveries; a loss after `k ≤ 8` deliveries, then eight deliveries: the outputs are `t6notesS`, `t6notesC` -/
abbrev Loss6 (T : PhaseData) (q1 q2 : Nat) : Prop :=
  T.RunIs (List.replicate 8 .deliver) [.pub1] [.pub2] [1] [1] ∧
  ∀ k, k ≤ 8 → T.RunIs (lossActs k 8) ((t6notesS q1 k smp1).map tokOf) ((t6notesC q2 k smp2).map tokOf) [1] [1]

theorem t6notesS_conc (v q1 k : Nat) (P1 P2 : Pkt) : t6notesS q1 k P1 = ((t6notesS q1 k smp1).map tokOf).map (concT v P1 P2) := by
  unfold t6notesS
  simp only [apply_ite (List.map _), List.map_cons, List.map_nil]
  rfl

theorem t6notesC_conc (v q2 k : Nat) (P1 P2 : Pkt) : t6notesC q2 k P2 = ((t6notesC q2 k smp2).map tokOf).map (concT v P1 P2) := by
  unfold t6notesC
  simp only [apply_ite (List.map _), List.map_cons, List.map_nil]
  rfl

section
variable {q1 q2 : Nat} (ok : T.Ok q1 q2 1 (astartBoth q1 q2)) {v : Nat} {P1 P2 : Pkt} (hv : v = 4 ∨ v = 5)
  (hA : IsPub v q1 P1) (hB : IsPub v q2 P2)
include ok hv hA hB

theorem Ok.start6 : Obs2 (conc v P1 P2 (astartBoth q1 q2)) [] [] [] [] (startBoth v P1 P2) := by
  obtain ⟨_, _, _, _, _, h1, h2, _⟩ := ok.steps
  exact startBoth_obs hv h1 h2 hA hB

theorem Ok.no_loss6 (loss : T.Loss6 q1 q2) : Obs2 (established v) [P1] [P2] [1] [1] (drain 8 (startBoth v P1 P2)) := by
  rw [drain_eq_runActs4 v]
  exact ok.run_is hv hA hB.isPubN (ok.start6 hv hA hB) loss.1

theorem Ok.one_loss6 (loss : T.Loss6 q1 q2) (k : Nat) (hk : k ≤ 8) :
    Obs2 (established v) (t6notesS q1 k P1) (t6notesC q2 k P2) [1] [1]
      (drain 8 (resume v (lose (drain k (startBoth v P1 P2))))) := by
  rw [← runActs4_lossActs, t6notesS_conc v q1 k P1 P2, t6notesC_conc v q2 k P1 P2]
  exact ok.run_is hv hA hB.isPubN (ok.start6 hv hA hB) (loss.2 k hk)

theorem Ok.main6 (cnt : T.Counts6 q1 q2) (acts : List Act4) (n : Nat) (hn : 8 ≤ n) :
    let y := drain n (runActs4 v (startBoth v P1 P2) acts)
    Quiet v y ∧ errFree y.logC ∧ errFree y.logS ∧
    (∀ Q ∈ pubNotes y.logS, sameMsg P1 Q) ∧ (∀ Q ∈ pubNotes y.logC, sameMsg P2 Q) ∧
    1 ≤ (pubNotes y.logS).length ∧ 1 ≤ (pubNotes y.logC).length ∧
    (q1 = 2 → (pubNotes y.logS).length = 1) ∧ (q2 = 2 → (pubNotes y.logC).length = 1) ∧
    releasedIds y.logC = [1] ∧ releasedIds y.logS = [1] := by
  intro y
  have e := ok.drain_done acts n hn
  have o := ok.run hv hA hB.isPubN (ok.start6 hv hA hB) _ e
  rw [← drain_runActs4] at o
  obtain ⟨hS, hC, hrC, hrS, cn⟩ := cnt
  obtain ⟨k1, k2, x1, x2, j1, j2⟩ := counted_once cn _ e
  have aS := outRunG_all T.next (T.tR true) _ hS (acts ++ List.replicate n .deliver) T.start
  have aC := outRunG_all T.next (T.tR false) _ hC (acts ++ List.replicate n .deliver) T.start
  rw [cntMsg_eq_length aS] at k1 x1
  rw [cntMsg_eq_length aC] at k2 x2
  rw [show pubNotes y.logS = _ from o.notesS, show pubNotes y.logC = _ from o.notesC,
    show releasedIds y.logC = _ from o.relC, show releasedIds y.logS = _ from o.relS, List.length_map, List.length_map]
  refine ⟨o.quiet hv, o.errC, o.errS, ?_, ?_, k1, k2, x1, x2, ?_, ?_⟩
  · intro Q hQ
    obtain ⟨t, ht, rfl⟩ := List.mem_map.1 hQ
    exact sameMsg_conc1 v P1 P2 (aS t ht)
  · intro Q hQ
    obtain ⟨t, ht, rfl⟩ := List.mem_map.1 hQ
    exact sameMsg_conc2 v P1 P2 (aC t ht)
  · exact eq_one_of_count _ j1 (outRunG_all T.next T.rC _ hrC _ _)
  · exact eq_one_of_count _ j2 (outRunG_all T.next T.rS _ hrS _ _)
end

end PhaseData

/-! ## one exchange (`Ph2`, `Ph1`)

A table of one exchange (QoS `q`, identifier 1, the client publishes iff `d`) over deliveries and losses is checked like a
`PhaseData`: read in tokens at the sample packet `smp1`, stepped by `astep` with both message slots holding the one message. -/

theorem closure_one {Ph : Type} (sysOf : Nat → Bool → Pkt → Ph → Sys) (next : Ph → Act → Ph) (note : Pkt → Ph → Act → List Pkt)
    (rel : Ph → Act → List Nat) {q : Nat} (hq : q = 1 ∨ q = 2)
    (sys_abs : ∀ v d P ph, sysOf v d P ph = conc v P P (absSys (sysOf 5 d smp1 ph)))
    (note_abs : ∀ v P ph a, note P ph a = ((note smp1 ph a).map tokOf).map (concT v P P))
    (steps : ∀ d ph a, astep q 1 q 1 (absSys (sysOf 5 d smp1 ph)) (ofAct a) =
      some ⟨absSys (sysOf 5 d smp1 (next ph a)), if d then (note smp1 ph a).map tokOf else [],
        if d then [] else (note smp1 ph a).map tokOf, if d then rel ph a else [], if d then [] else rel ph a⟩)
    {v : Nat} {P : Pkt} (hv : v = 4 ∨ v = 5) (hP : IsPub v q P) (d : Bool) (ph : Ph) (a : Act) :
    Obs d (sysOf v d P (next ph a)) (note P ph a) (rel ph a) (act v (sysOf v d P ph) a) := by
  have h := astep_sound hv hq hq hP.isPubN hP.isPubN (by decide) (by decide) (steps d ph a)
  rw [act_eq_act4, sys_abs, sys_abs v, note_abs v]
  apply obs_of_obs2
  cases d <;> exact h

instance (p : Act → Prop) [DecidablePred p] : Decidable (∀ a, p a) :=
  decidable_of_iff (p .deliver ∧ p .lose) ⟨fun h a => match a with | .deliver => h.1 | .lose => h.2, fun h => ⟨h _, h _⟩⟩

instance (p : Ph2 → Prop) [DecidablePred p] : Decidable (∀ ph, p ph) :=
  decidable_of_iff ((∀ b, p (.pub b) ∧ p (.rel b) ∧ p (.comp b)) ∧ p .recd ∧ p .pubAgain ∧ p .relAgain ∧ p .done)
    ⟨fun h ph => match ph with
      | .pub b => (h.1 b).1 | .rel b => (h.1 b).2.1 | .comp b => (h.1 b).2.2
      | .recd => h.2.1 | .pubAgain => h.2.2.1 | .relAgain => h.2.2.2.1 | .done => h.2.2.2.2,
     fun h => ⟨fun _ => ⟨h _, h _, h _⟩, h _, h _, h _, h _⟩⟩

instance (p : Ph1 → Prop) [DecidablePred p] : Decidable (∀ ph, p ph) :=
  decidable_of_iff ((∀ b, p (.pub b)) ∧ p .ack ∧ p .done)
    ⟨fun h ph => match ph with | .pub b => h.1 b | .ack => h.2.1 | .done => h.2.2, fun h => ⟨fun _ => h _, h _, h _⟩⟩

theorem sysOf2_abs (v : Nat) (d : Bool) (P : Pkt) : ∀ ph, sysOf2 v d P ph = conc v P P (absSys (sysOf2 5 d smp1 ph))
  | .pub b | .rel b | .comp b => by cases d <;> cases b <;> rfl
  | .recd | .pubAgain | .relAgain | .done => by cases d <;> rfl

theorem note2_abs (v : Nat) (P : Pkt) : ∀ ph a, note2 P ph a = ((note2 smp1 ph a).map tokOf).map (concT v P P)
  | .pub b, a => by cases a <;> cases b <;> rfl
  | .recd, _ | .pubAgain, _ | .rel _, _ | .comp _, _ | .relAgain, _ | .done, _ => rfl

theorem sysOf1_abs (v : Nat) (d : Bool) (P : Pkt) : ∀ ph, sysOf1 v d P ph = conc v P P (absSys (sysOf1 5 d smp1 ph))
  | .pub b => by cases d <;> cases b <;> rfl
  | .ack | .done => by cases d <;> rfl

theorem note1_abs (v : Nat) (P : Pkt) : ∀ ph a, note1 P ph a = ((note1 smp1 ph a).map tokOf).map (concT v P P)
  | .pub b, a => by cases a <;> cases b <;> rfl
  | .ack, _ | .done, _ => rfl

section closure
variable {v : Nat} {P : Pkt} (hv : v = 4 ∨ v = 5)
include hv

theorem closure2 (hP : IsPub v 2 P) (d : Bool) (ph : Ph2) (a : Act) :
    Obs d (sysOf2 v d P (next2 ph a)) (note2 P ph a) (rel2 ph a) (act v (sysOf2 v d P ph) a) :=
  closure_one sysOf2 next2 note2 rel2 (Or.inr rfl) sysOf2_abs note2_abs (by decide +kernel) hv hP d ph a

theorem closure1 (hP : IsPub v 1 P) (d : Bool) (ph : Ph1) (a : Act) :
    Obs d (sysOf1 v d P (next1 ph a)) (note1 P ph a) (rel1 ph a) (act v (sysOf1 v d P ph) a) :=
  closure_one sysOf1 next1 note1 rel1 (Or.inl rfl) sysOf1_abs note1_abs (by decide +kernel) hv hP d ph a

end closure

end MqttVerif.Conn.Pair
