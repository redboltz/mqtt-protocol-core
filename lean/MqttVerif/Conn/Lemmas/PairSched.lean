import MqttVerif.Conn.Lemmas.PairExchange3
/-!
# Arbitrary schedules of deliveries to either endpoint and losses (for `Props/C01L2c.lean`)

A schedule is a list of `toS` / `toC` (deliver the head of a channel to the server / the client; nothing happens if it
is empty), `deliver` (`deliver1`, the deterministic choice of `drain`) and `lose` (a loss followed at once by `resume v`).
A finite transducer whose every step the pair system matches is matched along every schedule (`run_obs2`), and facts
about all outputs of all schedules follow from facts about single steps (`outRunG_*` of `PairExchange2.lean`), which are finite
checks on a table.
-/
namespace MqttVerif.Conn.Pair
open MqttVerif MqttVerif.Conn

inductive Act4 | toS | toC | deliver | lose
deriving DecidableEq, Repr

def act4 (v : Nat) (y : Sys) : Act4 → Sys
  | .toS => deliverS y
  | .toC => deliverC y
  | .deliver => deliver1 y
  | .lose => resume v (lose y)

def runActs4 (v : Nat) : Sys → List Act4 → Sys
  | y, [] => y
  | y, a :: as => runActs4 v (act4 v y a) as

theorem runActs4_append (v : Nat) (y : Sys) (a b : List Act4) :
    runActs4 v y (a ++ b) = runActs4 v (runActs4 v y a) b := by
  induction a generalizing y with
  | nil => rfl
  | cons x a ih => simp only [List.cons_append, runActs4]; exact ih _

theorem drain_eq_runActs4 (v n : Nat) (y : Sys) : drain n y = runActs4 v y (List.replicate n .deliver) := by
  induction n generalizing y with
  | zero => rfl
  | succ n ih => simp only [drain, List.replicate_succ, runActs4, act4]; exact ih _

theorem drain_runActs4 (v n : Nat) (y : Sys) (acts : List Act4) :
    drain n (runActs4 v y acts) = runActs4 v y (acts ++ List.replicate n .deliver) := by
  rw [runActs4_append, ← drain_eq_runActs4]

def ofSide : Side → Act4
  | .toS => .toS
  | .toC => .toC

theorem runSides_eq_runActs4 (v : Nat) (y : Sys) (σ : List Side) : runSides y σ = runActs4 v y (σ.map ofSide) := by
  induction σ generalizing y with
  | nil => rfl
  | cons a σ ih => cases a <;> simp only [runSides, deliverAt, List.map_cons, runActs4, act4, ofSide] <;> exact ih _

def ofAct : Act → Act4
  | .deliver => .deliver
  | .lose => .lose

theorem act_eq_act4 (v : Nat) (y : Sys) (a : Act) : act v y a = act4 v y (ofAct a) := by
  cases a <;> rfl

theorem runActs_eq_runActs4 (v : Nat) (y : Sys) (acts : List Act) : runActs v y acts = runActs4 v y (acts.map ofAct) := by
  induction acts generalizing y with
  | nil => rfl
  | cons a as ih => simp only [runActs, List.map_cons, runActs4, act_eq_act4]; exact ih _

theorem act4_prep (v : Nat) (lc ls : List Ev) (y : Sys) (a : Act4) : act4 v (prep lc ls y) a = prep lc ls (act4 v y a) := by
  cases a <;> simp only [act4, deliverS_prep, deliverC_prep, deliver1_prep, lose_prep, resume_prep]

def sel {α : Type} (a : Act4) (x y z w : α) : α :=
  match a with
  | .toS => x
  | .toC => y
  | .deliver => z
  | .lose => w

section transducerG
variable {Ph : Type}

theorem run_obs2 {v : Nat} (sysOf : Ph → Sys) (next : Ph → Act4 → Ph) (nS nC : Ph → Act4 → List Pkt)
    (rC rS : Ph → Act4 → List Nat) (hlog : ∀ ph, (sysOf ph).logC = [] ∧ (sysOf ph).logS = [])
    (hcl : ∀ ph a, Obs2 (sysOf (next ph a)) (nS ph a) (nC ph a) (rC ph a) (rS ph a) (act4 v (sysOf ph) a)) :
    ∀ acts ph NS NC RC RS y, Obs2 (sysOf ph) NS NC RC RS y →
      Obs2 (sysOf (phRunG next ph acts)) (NS ++ outRunG next nS ph acts) (NC ++ outRunG next nC ph acts)
        (RC ++ outRunG next rC ph acts) (RS ++ outRunG next rS ph acts) (runActs4 v y acts) := by
  intro acts
  induction acts with
  | nil => intro ph NS NC RC RS y h; simpa [phRunG, outRunG, runActs4] using h
  | cons a as ih =>
    intro ph NS NC RC RS y h
    have h1 := Obs2.step (fun z => act4 v z a) (fun lc ls z => act4_prep v lc ls z a) (hlog ph) h (hcl ph a)
    have := ih _ _ _ _ _ _ h1
    simpa [phRunG, outRunG, runActs4, List.append_assoc] using this

end transducerG

def notesOf (id : Nat) (N : List Pkt) : List Pkt := N.filter (fun Q => Q.pid = some id)

def cntOf (id : Nat) (N : List Pkt) : Nat := (notesOf id N).length

theorem count_append' (id : Nat) (a b : List Nat) : (a ++ b).count id = a.count id + b.count id := by
  simp

/-- v5.0: PUBCOMP "Packet Identifier not found" for a PUBREL retransmitted after the receiver
    completed; v3.1.1: plain PUBCOMP -/
def pcA (v id : Nat) : Pkt := if v = 5 then ackRcN id else ackN v .pubcomp id

/-- the delivery clauses of C01 for the notification list `N` of an application that is sent `P1`
    (QoS `q1`, identifier 1) and `P2` (QoS `q2`, identifier 2): only copies of the two messages (same
    packet up to the DUP flag), each at least once, a QoS 2 message exactly once -/
def DeliverySpec (q1 q2 : Nat) (P1 P2 : Pkt) (N : List Pkt) : Prop :=
  (∀ Q ∈ N, Q.pid = some 1 ∨ Q.pid = some 2) ∧
  (∀ Q ∈ notesOf 1 N, sameMsg P1 Q) ∧ (∀ Q ∈ notesOf 2 N, sameMsg P2 Q) ∧
  1 ≤ (notesOf 1 N).length ∧ 1 ≤ (notesOf 2 N).length ∧
  (q1 = 2 → (notesOf 1 N).length = 1) ∧ (q2 = 2 → (notesOf 2 N).length = 1)

def RelSpec (R : List Nat) : Prop := R = [1, 2] ∨ R = [2, 1]

theorem relSpec_of_counts (R : List Nat) (h1 : R.count 1 = 1) (h2 : R.count 2 = 1) (h : ∀ id ∈ R, id = 1 ∨ id = 2) :
    RelSpec R := by
  match R, h1, h2, h with
  | [], h1, _, _ => simp at h1
  | [a], h1, h2, h =>
    rcases h a (by simp) with rfl | rfl <;> simp at h1 h2
  | [a, b], h1, h2, h =>
    rcases h a (by simp) with rfl | rfl <;> rcases h b (by simp) with rfl | rfl <;> simp [RelSpec] at h1 h2 ⊢
  | a :: b :: c :: rest, h1, h2, h =>
    exfalso
    rcases h a (by simp) with rfl | rfl <;> rcases h b (by simp) with rfl | rfl <;> rcases h c (by simp) with rfl | rfl <;>
      simp at h1 h2 <;> omega

theorem eq_one_of_count (R : List Nat) (h1 : R.count 1 = 1) (h : ∀ id ∈ R, id = 1) : R = [1] := by
  rw [List.count_eq_length.2 fun id hid => (h id hid).symm] at h1
  match R, h1, h with
  | [a], _, h => rw [h a (by simp)]

/-! ## a verified table gives the theorem for every schedule -/

section sched
variable {Ph : Type} {v : Nat}
variable (sysOf : Ph → Sys) (next : Ph → Act4 → Ph) (nS nC : Ph → Act4 → List Pkt) (rC rS : Ph → Act4 → List Nat)
  (start done : Ph) (y0 : Sys)

theorem sched_safe (hlog : ∀ ph, (sysOf ph).logC = [] ∧ (sysOf ph).logS = [])
    (hcl : ∀ ph a, Obs2 (sysOf (next ph a)) (nS ph a) (nC ph a) (rC ph a) (rS ph a) (act4 v (sysOf ph) a))
    (hstart : Obs2 (sysOf start) [] [] [] [] y0) (acts : List Act4) :
    errFree (runActs4 v y0 acts).logC ∧ errFree (runActs4 v y0 acts).logS := by
  have := run_obs2 (v := v) sysOf next nS nC rC rS hlog hcl acts start [] [] [] [] y0 hstart
  exact ⟨this.errC, this.errS⟩

theorem sched_run (hlog : ∀ ph, (sysOf ph).logC = [] ∧ (sysOf ph).logS = [])
    (hcl : ∀ ph a, Obs2 (sysOf (next ph a)) (nS ph a) (nC ph a) (rC ph a) (rS ph a) (act4 v (sysOf ph) a))
    (hstart : Obs2 (sysOf start) [] [] [] [] y0) (hdone : sysOf done = established v)
    (acts : List Act4) (e : phRunG next start acts = done) :
    Obs2 (established v) (outRunG next nS start acts) (outRunG next nC start acts) (outRunG next rC start acts)
      (outRunG next rS start acts) (runActs4 v y0 acts) := by
  have := run_obs2 (v := v) sysOf next nS nC rC rS hlog hcl acts start [] [] [] [] y0 hstart
  rwa [e, hdone] at this

end sched

def lossActs (k n : Nat) : List Act4 := List.replicate k .deliver ++ .lose :: List.replicate n .deliver

theorem runActs4_lossActs (v k n : Nat) (y : Sys) : runActs4 v y (lossActs k n) = drain n (resume v (lose (drain k y))) := by
  rw [lossActs, runActs4_append, ← drain_eq_runActs4, drain_eq_runActs4 v n]; rfl

theorem Obs2.quiet {v : Nat} (hv : v = 4 ∨ v = 5) {NS NC : List Pkt} {RC RS : List Nat} {y : Sys}
    (h : Obs2 (established v) NS NC RC RS y) : Quiet v y := by
  have e := established_eq v hv
  exact ⟨h.c.trans (by rw [e]), h.s.trans (by rw [e]), h.c2s.trans (by rw [e]), h.s2c.trans (by rw [e])⟩

theorem Obs.quiet {v : Nat} (hv : v = 4 ∨ v = 5) {d : Bool} {N : List Pkt} {R : List Nat} {y : Sys}
    (h : Obs d (established v) N R y) : Quiet v y :=
  h.obs2.quiet hv

end MqttVerif.Conn.Pair
