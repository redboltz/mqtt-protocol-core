import MqttVerif.Conn.Lemmas.FootprintGate
/-!
# What one send handler does to the event list

The monitors of `Props/C06R5.lean`, `C11R5.lean`, `C15R5.lean` read the events of a call at a finer
grain than the constructor tags of `Appends`: which error code, which hint, which timer.  `Outcome`
records that grain, once, for the send handlers more than one of those files walks through.
-/
namespace MqttVerif.Conn
open MqttVerif

theorem ite_keeps {α β : Type} (f : β → α) {b : Prop} [Decidable b] {x y : β} {z : α} (hx : f x = z) (hy : f y = z) :
    f (if b then x else y) = z :=
  Fp.ite_both (Q := fun r => f r = z) hx hy

/-- at most one re-arm of the PINGREQ timer, as `sendPostProcess` pushes it -/
def Rearm (r : List Ev) : Prop := r = [] ∨ ∃ ms, r = [.timerReset .pingreqSend ms]

/-- What a send handler did to `c`: refused with the error `e` (`PacketTooLarge` only if `g`) and released
    identifiers; or changed the state alone; or requested one packet — without a hint, or with the hint
    `rel` and the store untouched — and re-armed the PINGREQ timer. -/
inductive Outcome (g : Prop) (rel : Option Nat) (c c' : C) : Prop
  | refused (e : Nat) (r : List Ev) (hev : c'.ev = c.ev ++ .error e :: r) (he : e ≠ eTooLarge ∨ g)
      (hr : ∀ x ∈ r, x.tag = .released)
  | quiet (hev : c'.ev = c.ev)
  | sent (q : Pkt) (h : Option Nat) (r : List Ev) (hev : c'.ev = c.ev ++ .send q h :: r) (hr : Rearm r)
      (hh : h = none ∨ h = rel ∧ c'.s.store = c.s.store)

namespace Outcome
variable {g : Prop} {rel : Option Nat} {c c' : C}

theorem err (e : Nat) (he : e ≠ eTooLarge ∨ g) : Outcome g rel c (c.err e) :=
  .refused e [] rfl he (fun _ h => nomatch h)

theorem refuse (e : Nat) (he : e ≠ eTooLarge := by decide) : Outcome g rel c (c.err e) := err e (.inl he)

theorem released {c0 : C} (e : Nat) (he : e ≠ eTooLarge ∨ g) (h0 : c0.ev = c.ev ++ [.error e])
    (h : Appends [.released] c0 c') : Outcome g rel c c' := by
  obtain ⟨l, hl, ht⟩ := h
  refine .refused e l ?_ he (fun x hx => List.mem_singleton.1 (ht x hx))
  rw [hl, h0, List.append_assoc, List.singleton_append]

theorem err_release (e : Nat) (he : e ≠ eTooLarge ∨ g) (id : Nat) :
    Outcome g rel c (releaseIfUsed (c.err e) id) :=
  released e he rfl (Fp.releaseIfUsed_ev _ id)

theorem post (c1 : C) (q : Pkt) (h : Option Nat) (hev : c1.ev = c.ev)
    (hh : h = none ∨ h = rel ∧ c1.s.store = c.s.store) :
    Outcome g rel c (sendPostProcess (c1.push (.send q h))) := by
  have hst : (sendPostProcess (c1.push (.send q h))).s.store = c1.s.store := by rw [Fp.sendPostProcess_s]; rfl
  have hh' : h = none ∨ h = rel ∧ (sendPostProcess (c1.push (.send q h))).s.store = c.s.store :=
    hh.imp id (fun h' => ⟨h'.1, hst.trans h'.2⟩)
  rcases sendPostProcess_ev_cases (c1.push (.send q h)) with e | ⟨ms, e⟩
  · exact .sent q h [] (by rw [e, ← hev]; rfl) (.inl rfl) hh'
  · exact .sent q h [_] (by rw [e, ← hev]; exact List.append_assoc ..) (.inr ⟨ms, rfl⟩) hh'

theorem ifConnected (c1 : C) (q : Pkt) (h : Option Nat) (hev : c1.ev = c.ev)
    (hh : h = none ∨ h = rel ∧ c1.s.store = c.s.store) : Outcome g rel c (Fp.sendIfConnected c1 q h) :=
  Fp.sendIfConnected_cases c1 q h (fun _ => post c1 q h hev hh) (fun _ => .quiet hev)

theorem of_eq {c1 : C} (h : Outcome g rel c1 c') (hev : c1.ev = c.ev)
    (hst : rel = none ∨ c1.s.store = c.s.store) : Outcome g rel c c' := by
  cases h with
  | refused e r h1 h2 h3 => exact .refused e r (hev ▸ h1) h2 h3
  | quiet h1 => exact .quiet (h1.trans hev)
  | sent q h r h1 h2 h3 =>
    refine .sent q h r (hev ▸ h1) h2 ?_
    rcases h3 with h3 | ⟨h3, h4⟩
    · exact .inl h3
    · rcases hst with hst | hst
      · exact .inl (h3.trans hst)
      · exact .inr ⟨h3, h4.trans hst⟩

/-- without a hint the store does not matter -/
theorem of_none {c1 : C} (h : Outcome g none c1 c') (hev : c1.ev = c.ev) : Outcome g rel c c' := by
  cases h with
  | refused e r h1 h2 h3 => exact .refused e r (hev ▸ h1) h2 h3
  | quiet h1 => exact .quiet (h1.trans hev)
  | sent q h r h1 h2 h3 => exact .sent q h r (hev ▸ h1) h2 (.inl (h3.elim id And.left))

end Outcome

theorem Outcome.refusal {g : Prop} {r : Option Nat} {c : C} (e : Nat) (he : e ≠ eTooLarge ∨ g) (rel : Option Nat) :
    Outcome g r c (Fp.refusal c e rel) := by
  cases rel with
  | none => exact .err e he
  | some id => exact .err_release e he id

theorem send_outcome {g : Prop} {rel : Option Nat} {c : C} {p : Pkt} (h : Outcome g rel c (processSend c p)) :
    Outcome g rel c (send c p) :=
  Fp.send_cases c p (fun _ => Fp.refuseSend_eq .. ▸ .refusal _ (.inl (by decide)) _)
    (fun _ _ => Fp.refuseSend_eq .. ▸ .refusal _ (.inl (by decide)) _) (fun _ _ => h)

/-- `PacketTooLarge` is reported by the size test alone -/
theorem Outcome.guarded {g : Prop} {r : Option Nat} {c : C} {large refuse : Prop} [Decidable large] [Decidable refuse]
    {rel : Option Nat} {body : C} (hg : large → g) (hb : ¬large → ¬refuse → Outcome g r c body) :
    Outcome g r c (Fp.guarded c large refuse rel body) :=
  Fp.guarded_ind (fun hl => .refusal _ (.inr (hg hl)) _) (fun _ _ => .refusal _ (.inl (by decide)) _) hb

theorem not_sizeOk {c : C} {p : Pkt} (h : (!sizeOk c p) = true) : sizeOk c p = false := by simpa using h

/-! ## the handlers of acknowledgements and plain packets -/

theorem psV3Simple_outcome (g : Prop) (c : C) (p : Pkt) : Outcome g none c (psV3Simple c p) :=
  Fp.psV3Simple_eq c p ▸ .guarded False.elim fun _ _ => .post c p none rfl (.inl rfl)

theorem psV5Simple_outcome (c : C) (p : Pkt) : Outcome (sizeOk c p = false) none c (psV5Simple c p) :=
  Fp.psV5Simple_eq c p ▸ .guarded not_sizeOk fun _ _ => .post c p none rfl (.inl rfl)

theorem psV5Auth_outcome (c : C) (p : Pkt) : Outcome (sizeOk c p = false) none c (psV5Auth c p) :=
  Fp.psV5Auth_eq c p ▸ .guarded not_sizeOk fun _ _ => .post c p none rfl (.inl rfl)

theorem psV5Puback_outcome (c : C) (p : Pkt) : Outcome (sizeOk c p = false) none c (psV5Puback c p) :=
  Fp.psV5Puback_eq c p ▸ .guarded not_sizeOk fun _ _ => .post _ p none rfl (.inl rfl)

theorem psV5Pubrec_outcome (c : C) (p : Pkt) : Outcome (sizeOk c p = false) none c (psV5Pubrec c p) :=
  Fp.psV5Pubrec_eq c p ▸ .guarded not_sizeOk fun _ _ => .post _ p none (ite_keeps C.ev rfl rfl) (.inl rfl)

theorem psV5Pubcomp_outcome (c : C) (p : Pkt) : Outcome (sizeOk c p = false) none c (psV5Pubcomp c p) :=
  psV5Puback_outcome c p

theorem psPubrel_outcome (c : C) (p : Pkt) : Outcome (p.ver = 5 ∧ sizeOk c p = false) none c (psPubrel c p) := by
  rw [Fp.psPubrel_eq]
  refine .guarded (fun h => ⟨h.1, not_sizeOk h.2⟩) fun _ _ => ?_
  exact Fp.ite_ind (fun _ => .refuse _)
    (fun _ => .ifConnected _ p none (ite_keeps C.ev (Fp.storeAdd_ev ..) rfl) (.inl rfl))

/-! ## PUBLISH -/

theorem psV5PublishTail_outcome (g : Prop) (c : C) (p : Pkt) (rel : Option Nat) :
    Outcome g rel c (psV5PublishTail c p rel) :=
  Fp.psV5PublishTail_eq c p rel ▸ .ifConnected _ p rel (Fp.countSend_ev c p) (.inr ⟨rfl, by rw [Fp.countSend_s]⟩)

theorem Outcome.cleanup {g : Prop} {rel : Option Nat} {c c1 : C} (e : Nat) (he : e ≠ eTooLarge)
    (hev : c1.ev = c.ev) (pid : Option Nat) : Outcome g rel c (pubRefuseCleanup (c1.err e) pid) :=
  .released e (.inl he) (by rw [← hev]; rfl) (Fp.pubRefuseCleanup_ev _ pid)

theorem psV5PublishAlias_outcome (g : Prop) (c : C) (p : Pkt) (rel : Option Nat) (v : Bool) :
    Outcome g rel c (psV5PublishAlias c p rel v) := by
  have tail : ∀ (c1 : C) (q : Pkt), c1.ev = c.ev → c1.s.store = c.s.store →
      Outcome g rel c (psV5PublishTail c1 q rel) :=
    fun c1 q hev hst => (psV5PublishTail_outcome g c1 q rel).of_eq hev (.inr hst)
  have hv := Fp.validateTopicAlias_ev c p.alias
  exact Fp.psV5PublishAlias_paths c p rel v (fun _ => .cleanup _ (by decide) rfl _)
    (fun _ _ _ _ _ => .cleanup _ (by decide) rfl _) (fun _ _ _ _ => .cleanup _ (by decide) hv _)
    (fun _ _ _ => tail c p rfl rfl) (fun _ _ _ _ _ => tail _ p hv (by rw [Fp.validateTopicAlias_s]))
    (fun _ _ _ _ _ => tail _ p (ite_keeps C.ev (Fp.tasInsert_ev ..) rfl)
      (ite_keeps (fun x : C => x.s.store) (by rw [Fp.tasInsert_s]) rfl))
    (fun _ _ _ => tail _ _ (Fp.autoAlias_ev c p) (by rw [Fp.autoAlias_s]))

theorem psV5Publish_outcome (c : C) (p : Pkt) : Outcome (sizeOk c p = false) p.pid c (psV5Publish c p) := by
  have hv := Fp.validateTopicAlias_ev c p.alias
  -- after the packet is stored the alias stage runs without a hint
  have alias : ∀ (c1 : C) (v : Bool), c1.ev = c.ev →
      Outcome (sizeOk c p = false) p.pid c (psV5PublishAlias c1 p none v) :=
    fun c1 v hev => (psV5PublishAlias_outcome _ c1 p none v).of_none hev
  refine Fp.psV5Publish_paths c p (fun hz _ => .err _ (.inr hz)) (fun id hz _ => .err_release _ (.inr hz) id)
    (fun _ _ _ => .quiet rfl) (fun id _ _ _ _ => .err_release _ (.inl (by decide)) id) (fun _ _ _ _ _ _ => .refuse _)
    (fun id _ _ _ _ => .released eNotAllowed (.inl (by decide)) (by rw [← hv]; rfl) (Fp.releaseIfUsed_ev _ id))
    (fun id t _ _ _ _ => alias _ true
      ((Fp.addWait_ev ..).trans ((Fp.storeAdd_ev ..).trans ((Fp.wildcardCheck_ev ..).trans hv))))
    (fun id _ _ _ => alias _ false ((Fp.addWait_ev ..).trans (Fp.storeAdd_ev ..))) (fun id k _ => ?_)
    (fun _ _ _ => .refuse _) (fun _ _ _ => alias c false rfl)
  -- not stored: the hint is the packet's identifier, the store is untouched so far
  rw [k.pid]
  exact (psV5PublishAlias_outcome _ _ p (some id) false).of_eq (Fp.addWait_ev ..) (.inr (by rw [Fp.addWait_s]))

theorem psV3Publish_outcome (g : Prop) (c : C) (p : Pkt) : Outcome g p.pid c (psV3Publish c p) :=
  Fp.psV3Publish_paths c p (fun _ _ => .quiet rfl) (fun _ _ _ _ => .err_release _ (.inl (by decide)) _)
    (fun _ _ _ _ _ => .refuse _)
    (fun id _ _ => .ifConnected _ p none ((Fp.addWait_ev ..).trans (Fp.storeAdd_ev ..)) (.inl rfl))
    (fun id k _ => .ifConnected _ p (some id) (Fp.addWait_ev ..) (.inr ⟨k.pid.symm, by rw [Fp.addWait_s]⟩))
    (fun _ _ => .refuse _) (fun _ _ => .post c p none rfl (.inl rfl))

end MqttVerif.Conn
