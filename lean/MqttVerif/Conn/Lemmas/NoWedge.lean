import MqttVerif.Conn.Lemmas.NoPanicStep
import MqttVerif.Monitors
import MqttVerif.Conn.Lemmas.FootprintEmits
/-!
# C05 helpers — every complete frame is accounted for (`Mon.frameAccounted`); after `notify_closed` the object
accepts a new connection
-/
namespace MqttVerif.Conn
open MqttVerif

def Acc (c : C) : Prop := Mon.frameAccounted c.ev = true

theorem acc_push_recv (c : C) (p : Pkt) : Acc (c.push (.recv p)) := by
  simp [Acc, Mon.frameAccounted, C.push]

theorem acc_err (c : C) (e : Nat) : Acc (c.err e) := by
  simp [Acc, Mon.frameAccounted, C.push, C.err]

theorem acc_push_pubrec (c : C) (p : Pkt) (rel : Option Nat) (h : p.kind = .pubrec) :
    Acc (c.push (.send p rel)) := by
  simp [Acc, Mon.frameAccounted, C.push, h]

theorem acc_of_append {T : List EvTag} {c c' : C} (h : Acc c) (he : Appends T c c') : Acc c' := by
  obtain ⟨t, e, -⟩ := he
  unfold Acc Mon.frameAccounted at *
  rw [e, List.any_append, h]; rfl

theorem acc_refresh {c : C} (h : Acc c) : Acc (refreshPingreqRecv c) :=
  acc_of_append h (Fp.refreshPingreqRecv_ev c)

theorem acc_spp {c : C} (h : Acc c) : Acc (sendPostProcess c) :=
  acc_of_append h (Fp.sendPostProcess_ev c)

theorem acc_handleV3Error (c : C) (e : Nat) : Acc (handleV3Error c e) := acc_err _ _
theorem acc_handleV5Error (c : C) (e : Nat) : Acc (handleV5Error c e) := acc_err _ _

theorem acc_vErr (c : C) (e : Nat) : Acc (vErr c e) :=
  Fp.vErr_cases c e (fun _ => acc_handleV3Error c e) (fun _ => acc_handleV5Error c e)

theorem acc_psV3Simple_pubrec {c : C} (p : Pkt) (hk : p.kind = .pubrec) : Acc (psV3Simple c p) :=
  Fp.ite_both (acc_err _ _) (acc_spp (acc_push_pubrec _ _ _ hk))

theorem acc_psV5Pubrec {c : C} (p : Pkt) (hk : p.kind = .pubrec) : Acc (psV5Pubrec c p) :=
  Fp.ite_both (acc_err _ _) (Fp.ite_both (acc_err _ _) (acc_spp (acc_push_pubrec _ _ _ hk)))

theorem acc_processed {Q : Ev → Prop} {c r : C} {x : Except Nat Pkt} (h : Fp.Processed Q c x r) : Acc r := by
  cases h with
  | refused e => exact acc_vErr c e
  | delivered p m _ _ _ => exact acc_push_recv m p

/-- whatever the stages are: a malformed CONNECT ends in an error event, a parsed one in its delivery -/
theorem acc_connectIn {c : C} {x : Except Nat Pkt} {busy : C} {nack : C → Nat → C} {settle : Pkt → C → C}
    (hb : Acc busy) : Acc (Fp.connectIn c x busy nack settle) :=
  Fp.connectIn_ind (fun _ => hb) (fun _ _ _ => acc_err _ _) (fun _ _ _ => acc_push_recv _ _)

theorem acc_connackIn {c : C} {x : Except Nat Pkt} {busy : C} {bad : Nat → C} {props : Pkt → C → C}
    (hb : Acc busy) (he : ∀ e, Acc (bad e)) : Acc (Fp.connackIn c x busy bad props) :=
  Fp.connackIn_ind (fun _ => hb) (fun _ e _ => he e) (fun _ _ _ _ => acc_push_recv _ _)
    (fun _ _ _ _ _ => acc_push_recv _ _) (fun _ _ _ _ _ => acc_push_recv _ _)

theorem acc_prV3Connect (c : C) (parsed : Except Nat Pkt) : Acc (prV3Connect c parsed) :=
  Fp.prV3Connect_eq c parsed ▸ acc_connectIn (acc_handleV3Error _ _)

theorem acc_prV5Connect (c : C) (parsed : Except Nat Pkt) : Acc (prV5Connect c parsed) :=
  Fp.prV5Connect_eq c parsed ▸ acc_connectIn (acc_handleV5Error _ _)

theorem acc_prV3Connack (c : C) (parsed : Except Nat Pkt) : Acc (prV3Connack c parsed) :=
  Fp.prV3Connack_eq c parsed ▸ acc_connackIn (acc_handleV3Error _ _) (acc_handleV3Error c)

theorem acc_prV5Connack (c : C) (parsed : Except Nat Pkt) : Acc (prV5Connack c parsed) :=
  Fp.prV5Connack_eq c parsed ▸ acc_connackIn (acc_handleV5Error _ _) (acc_err c)

/-! ## PUBLISH: the one exception (known finding #27) -/

/-- a QoS 2 PUBLISH whose identifier is already in `qos2_publish_handled` arrives while the
    connection is not established -/
def dupNotConnected (s : St) (fh : Nat) (parsed : Except Nat Pkt) : Prop :=
  fh / 16 = 3 ∧ s.status ≠ .connected ∧
    ∃ p, parsed = .ok p ∧ p.qos = 2 ∧ p.pid.getD 0 ∈ s.handled

theorem acc_prV3Publish {c : C} {parsed : Except Nat Pkt}
    (hp : ∀ p, parsed = .ok p → PubParsedOk p ∧ p.qos ≤ 2)
    (hx : ¬ (c.s.status ≠ .connected ∧ ∃ p, parsed = .ok p ∧ p.qos = 2 ∧ p.pid.getD 0 ∈ c.s.handled)) :
    Acc (prV3Publish c parsed) := by
  refine Fp.prV3Publish_paths (fun _ _ => acc_handleV3Error _ _) (fun _ _ _ => acc_push_recv _ _) (fun p he h0 hn => ?_)
    (fun _ _ _ _ _ => acc_push_recv _ _) (fun _ _ _ _ _ _ _ => acc_push_recv _ _)
    (fun p id he h0 h1 hpid hal => acc_refresh ?_)
  · obtain ⟨_, hpid, -⟩ := (hp p he).1 (Nat.pos_of_ne_zero h0)
    exact nomatch hn.symm.trans hpid
  · have hq : p.qos = 2 := by have := (hp p he).2; omega
    have hc : c.s.status = .connected :=
      Decidable.by_contra fun hn => hx ⟨hn, p, he, hq, by rw [hpid]; exact hal⟩
    exact Fp.autoAck_ind (fun hn => absurd ⟨hc, .inr hal⟩ hn) fun _ _ _ _ => acc_psV3Simple_pubrec _ rfl

/-- a QoS 2 duplicate on an established connection is answered with PUBREC -/
theorem acc_prvAck {c : C} {qos id : Nat} {already : Prop} [Decidable already] (hq : qos = 2)
    (hc : c.s.status = .connected) (ha : already) : Acc (prvAck c qos id already) :=
  Fp.prvAck_cases (fun _ h2 => absurd ⟨hq, hc, .inr ha⟩ h2) (fun h1 _ _ _ _ _ => absurd (h1.symm.trans hq) (by decide))
    (fun _ _ _ _ _ _ => acc_psV5Pubrec _ rfl)

theorem acc_prV5Publish {c : C} {parsed : Except Nat Pkt}
    (hp : ∀ p, parsed = .ok p → PubParsedOk p ∧ p.qos ≤ 2)
    (hx : ¬ (c.s.status ≠ .connected ∧ ∃ p, parsed = .ok p ∧ p.qos = 2 ∧ p.pid.getD 0 ∈ c.s.handled)) :
    Acc (prV5Publish c parsed) := by
  cases parsed with
  | error e => exact Fp.ite_both (acc_handleV5Error _ _) (acc_err _ _)
  | ok p =>
    -- the alias stage reports the error or leaves `handled` and the status alone
    have h1 := Fp.prV5PublishAlias_cases
      (Q := fun r => (r.2 = none → Acc r.1) ∧ (r.2 ≠ none → r.1.s = { c.s with tar := r.1.s.tar })) c p
      ⟨fun _ => acc_handleV5Error _ _, fun h => absurd rfl h⟩ (fun _ _ _ _ hs => ⟨nofun, fun _ => hs⟩)
    rw [prV5Publish_eq]
    cases h2 : (prV5PublishAlias c p).2 with
    | none => exact h1.1 h2
    | some p' =>
      have hs := h1.2 (by rw [h2]; nofun)
      dsimp only
      refine Fp.ite_ind (fun hc => ?_) (fun _ => Fp.ite_ind (fun _ => acc_handleV5Error _ _) (fun _ => ?_))
      · obtain ⟨id, hid, _⟩ := (hp p rfl).1 hc.1
        rw [hid] at hc
        exact nomatch hc.2
      refine Fp.ite_ind (fun _ => acc_push_recv _ _) (fun hal => acc_refresh ?_)
      have hal : p.qos = 2 ∧ p.pid.getD 0 ∈ (prV5PublishAlias c p).1.s.handled := by simpa using hal
      refine acc_prvAck hal.1 ?_ hal
      rw [Fp.prvBook_s]
      show (prV5PublishAlias c p).1.s.status = _
      rw [hs]
      exact Decidable.by_contra fun hn => hx ⟨hn, p, rfl, hal.1, by rw [hs] at hal; exact hal.2⟩

theorem acc_dispatchRecv {c : C} {t : Nat} {parsed : Except Nat Pkt}
    (hp : t = 3 → ∀ p, parsed = .ok p → PubParsedOk p ∧ p.qos ≤ 2)
    (hx : ¬ (t = 3 ∧ c.s.status ≠ .connected ∧ ∃ p, parsed = .ok p ∧ p.qos = 2 ∧ p.pid.getD 0 ∈ c.s.handled)) :
    Acc (dispatchRecv c t parsed) := by
  exact Fp.dispatchRecv_processed (Q := fun _ => True) (N := True) (J := Acc) ⟨fun _ _ => trivial, fun _ _ _ _ => trivial⟩
    t parsed (fun _ _ _ => trivial) (fun _ _ _ _ => trivial) (fun _ _ => acc_prV3Connect _ _)
    (fun _ _ => acc_prV5Connect _ _) (fun _ _ => acc_prV3Connack _ _) (fun _ _ => acc_prV5Connack _ _)
    (fun ht _ => acc_prV3Publish (hp ht) (fun h => hx ⟨ht, h⟩)) (fun ht _ => acc_prV5Publish (hp ht) (fun h => hx ⟨ht, h⟩))
    (fun _ k => acc_processed k) (acc_err _ _)

/-- **no wedge**: every complete frame handed to `process_recv_packet` is delivered, reported
    through an error event, or answered with PUBREC — except in the situation of known
    finding #27 (`dupNotConnected`) -/
theorem acc_processRecvPacket {c : C} {fh : Nat} {data : List Nat} {parse : Nat → Except Nat Pkt}
    (hp : fh / 16 = 3 → ∀ p, parse c.s.ver = .ok p → PubParsedOk p ∧ p.qos ≤ 2)
    (hx : ¬ dupNotConnected c.s fh (parse c.s.ver)) :
    Acc (processRecvPacket c fh data parse) := by
  exact Fp.processRecvPacket_cases (Q := Acc) c fh data parse (fun _ => acc_err _ _) (fun _ _ _ => acc_err _ _)
    (fun _ _ _ _ _ _ => acc_prV3Connect _ _) (fun _ _ _ _ _ _ => acc_prV5Connect _ _) (fun _ _ _ => acc_dispatchRecv hp hx)

/-- the connection-scoped fields that gate a new CONNECT -/
def cv (s : St) : Status × Nat × Nat × Framing.PB × Nat := (s.status, s.mpsSend, s.mpsRecv, s.pb, s.ver)

/-- `notify_closed` in ANY state (no invariant needed): disconnected, no size limits, empty
    packet builder (fix of finding #1), same version -/
theorem notifyClosed_cv (c : C) :
    cv (notifyClosed c).s = (.disconnected, noLimit, noLimit, Framing.PB.reset, c.s.ver) := by
  unfold cv; rw [Fp.notifyClosed_s_eq]

theorem propsFold_connectSendProp_ev (c : C) (l : List (Nat × Nat)) :
    (propsFold connectSendProp c l).ev = c.ev :=
  Fp.propsFold_keeps C.ev _ Fp.connectSendProp_ev c l

theorem mem_spp_of_mem {c : C} {e : Ev} (h : e ∈ c.ev) : e ∈ (sendPostProcess c).ev :=
  (Fp.sendPostProcess_ev c).mem h

end MqttVerif.Conn
