import MqttVerif.Conn.Step
import MqttVerif.Props.C20
import MqttVerif.Framing.Lemmas
import MqttVerif.Conn.Lemmas.Projections
import MqttVerif.Conn.Lemmas.FootprintIds
/-!
# C05 helpers: the no-panic invariant `Good`

The pieces of `Good`, the invariant of `Props/C05.lean` (`Base` is its part that does not mention timers), take the *fields* they
speak about as arguments, so that a record update of any other field is discharged by `simp`.

`StoreInv` (with the allocator's `PidWf`) is an invariant of the identifier group: `SI`, with one lemma for each of the
sequences of primitives that the base lists for a send and a receive.  The other conjuncts are `Sane`: the handlers
are walked for it, and each panic site gets its reason there.
-/
namespace MqttVerif.Conn
open MqttVerif

/-- the packet-id allocator refines a set (C20's simulation relation; contains `Ok`) -/
def PidWf (a : Alloc.A) : Prop := ∃ sp, Alloc.R a sp

def StoreInv (ver : Nat) (store : List (Nat × Pkt)) (pa pr pc : List Nat) : Prop :=
  (∀ id q, (id, q) ∈ store →
      q.ver = ver ∧ ver ≠ 0 ∧ (q.kind = .publish ∨ q.kind = .pubrel) ∧
      (respOf q = .puback → id ∈ pa) ∧ (respOf q = .pubrec → id ∈ pr) ∧
      (respOf q = .pubcomp → id ∈ pc)) ∧
  (∀ id, id ∈ pa → id ∉ pr) ∧ (∀ id, id ∈ pa → id ∉ pc) ∧ (∀ id, id ∈ pr → id ∉ pc) ∧
  (store.map (·.1)).Nodup

def TasInv (t : TAS) : Prop :=
  1 ≤ t.max ∧ Alloc.Ok 1 t.alloc.pool ∧ (∀ w, Alloc.Free t.alloc.pool w → w ≤ t.max) ∧
  (∀ a topic, (a, topic) ∈ t.a2t → 1 ≤ a ∧ a ≤ t.max ∧ hasWildcard topic = false)

def TasOptInv (o : Option TAS) : Prop := ∀ t, o = some t → TasInv t

/-- the peer's Receive Maximum is a `u16` -/
def Credit (sendMax : Option Nat) : Prop := ∀ m, sendMax = some m → m ≤ 65535

def VerTimer (ver : Nat) (status : Status) (sendSet recvSet respSet : Bool) : Prop :=
  ver = 4 ∨ ver = 5 ∨
    (ver = 0 ∧ status = .disconnected ∧ sendSet = false ∧ recvSet = false ∧ respSet = false)

def Base (s : St) : Prop :=
  PidWf s.pidMan ∧ StoreInv s.ver s.store s.puback s.pubrec s.pubcomp ∧ TasOptInv s.tas ∧
  Credit s.sendMax ∧ Framing.Inv s.pb ∧ s.panic = none

def GoodV (s : St) : Prop := Base s ∧ (s.ver = 4 ∨ s.ver = 5)

/-- **the global invariant** together with "no panic so far" -/
def Good (s : St) : Prop :=
  Base s ∧ VerTimer s.ver s.status s.sendSet s.recvSet s.respSet

theorem GoodV.good {s : St} (h : GoodV s) : Good s := by
  obtain ⟨hb, hv⟩ := h
  refine ⟨hb, ?_⟩
  unfold VerTimer; omega

theorem Good.goodV {s : St} (h : Good s) (hv : s.ver ≠ 0) : GoodV s := by
  obtain ⟨hb, ht⟩ := h
  refine ⟨hb, ?_⟩
  unfold VerTimer at ht; omega

theorem lookup_some_mem {α : Type} {k : Nat} {l : List (Nat × α)} {v : α}
    (h : lookup k l = some v) : (k, v) ∈ l := mem_of_lookup h

theorem lookup_none_mem {α : Type} {k : Nat} {l : List (Nat × α)}
    (h : lookup k l = none) (v : α) : (k, v) ∉ l := by
  induction l with
  | nil => simp
  | cons a rest ih =>
    obtain ⟨k', v'⟩ := a
    simp only [lookup] at h
    split at h
    · simp at h
    · have := ih h; simp_all

theorem storeHas_false {id : Nat} {st : List (Nat × Pkt)} :
    storeHas id st = false ↔ ∀ q, (id, q) ∉ st := by
  rw [← Bool.not_eq_true, storeHas_iff]; simp

theorem StoreInv.empty (v : Nat) : StoreInv v [] [] [] [] := by
  simp [StoreInv]

theorem StoreInv.shrink {v : Nat} {st st' : List (Nat × Pkt)} {pa pr pc pa' pr' pc' : List Nat}
    (h : StoreInv v st pa pr pc)
    (hst : st'.Sublist st)
    (ha : ∀ i, i ∈ pa' → i ∈ pa) (hr : ∀ i, i ∈ pr' → i ∈ pr) (hc : ∀ i, i ∈ pc' → i ∈ pc)
    (hk : ∀ i q, (i, q) ∈ st' → (i ∈ pa → i ∈ pa') ∧ (i ∈ pr → i ∈ pr') ∧ (i ∈ pc → i ∈ pc')) :
    StoreInv v st' pa' pr' pc' := by
  obtain ⟨h1, h2, h3, h4, h5⟩ := h
  refine ⟨fun i q hm => ?_, fun i hi hi' => h2 i (ha i hi) (hr i hi'), fun i hi hi' => h3 i (ha i hi) (hc i hi'),
    fun i hi hi' => h4 i (hr i hi) (hc i hi'), h5.sublist (hst.map _)⟩
  obtain ⟨a1, a2, a3, a4, a5, a6⟩ := h1 i q (hst.subset hm)
  obtain ⟨b1, b2, b3⟩ := hk i q hm
  exact ⟨a1, a2, a3, fun e => b1 (a4 e), fun e => b2 (a5 e), fun e => b3 (a6 e)⟩

theorem StoreInv.same {v : Nat} {st : List (Nat × Pkt)} {pa pr pc : List Nat}
    (h : StoreInv v st pa pr pc) : StoreInv v st pa pr pc := h

theorem StoreInv.fresh_not_stored {v : Nat} {st : List (Nat × Pkt)} {pa pr pc : List Nat} {id : Nat}
    (h : StoreInv v st pa pr pc) (f1 : id ∉ pa) (f2 : id ∉ pr) (f3 : id ∉ pc) :
    storeHas id st = false := by
  rw [storeHas_false]
  intro q hm
  have := h.1 id q hm
  have := respOf_cases q
  grind

theorem disjoint_grow {A B A' B' : List Nat} {id : Nat} {p q : Prop} (hd : ∀ i, i ∈ A → i ∉ B)
    (fa : id ∉ A) (fb : id ∉ B) (hpq : p → ¬ q)
    (ha : ∀ i, i ∈ A' ↔ i ∈ A ∨ (i = id ∧ p)) (hb : ∀ i, i ∈ B' ↔ i ∈ B ∨ (i = id ∧ q)) :
    ∀ i, i ∈ A' → i ∉ B' := by
  intro i hi hi'
  rcases (ha i).1 hi with h | ⟨rfl, hp⟩
  · rcases (hb i).1 hi' with h' | ⟨rfl, hq⟩
    · exact hd i h h'
    · exact fa h
  · rcases (hb i).1 hi' with h' | ⟨-, hq⟩
    · exact fb h'
    · exact hpq hp hq

theorem mem_insIf {i id : Nat} {l : List Nat} {k k' : Kind} :
    i ∈ (if k = k' then ins id l else l) ↔ i ∈ l ∨ (i = id ∧ k = k') := by
  by_cases h : k = k'
  · rw [if_pos h, mem_ins, or_comm, and_iff_left h]
  · rw [if_neg h, iff_false_intro (fun e : i = id ∧ k = k' => h e.2), or_false]

/-- an exchange that ends with a packet of kind `k` begins for an identifier that awaits no response: the identifier
    enters the wait set of `k`, and the packet possibly the store -/
theorem StoreInv.grow {v : Nat} {st st' : List (Nat × Pkt)} {pa pr pc : List Nat} {id : Nat} {k : Kind}
    (h : StoreInv v st pa pr pc)
    (f1 : id ∉ pa) (f2 : id ∉ pr) (f3 : id ∉ pc)
    (hst : st' = st ∨ ∃ q, st' = st ++ [(id, q)] ∧
        q.ver = v ∧ v ≠ 0 ∧ (q.kind = .publish ∨ q.kind = .pubrel) ∧ respOf q = k) :
    StoreInv v st' (if k = .puback then ins id pa else pa) (if k = .pubrec then ins id pr else pr)
      (if k = .pubcomp then ins id pc else pc) := by
  have ha := fun i => mem_insIf (i := i) (id := id) (l := pa) (k := k) (k' := .puback)
  have hr := fun i => mem_insIf (i := i) (id := id) (l := pr) (k := k) (k' := .pubrec)
  have hc := fun i => mem_insIf (i := i) (id := id) (l := pc) (k := k) (k' := .pubcomp)
  have hfresh := storeHas_false.1 (h.fresh_not_stored f1 f2 f3)
  obtain ⟨h1, h2, h3, h4, h5⟩ := h
  refine ⟨fun i q hm => ?_, disjoint_grow h2 f1 f2 (by rintro rfl e; cases e) ha hr,
    disjoint_grow h3 f1 f3 (by rintro rfl e; cases e) ha hc, disjoint_grow h4 f2 f3 (by rintro rfl e; cases e) hr hc, ?_⟩
  · have hm' : (i, q) ∈ st ∨ (i = id ∧ q.ver = v ∧ v ≠ 0 ∧ (q.kind = .publish ∨ q.kind = .pubrel) ∧ respOf q = k) := by
      rcases hst with rfl | ⟨q', rfl, e⟩
      · exact Or.inl hm
      · rcases List.mem_append.1 hm with hm | hm
        · exact Or.inl hm
        · cases List.mem_singleton.1 hm
          exact Or.inr ⟨rfl, e⟩
    rcases hm' with hm' | ⟨rfl, e1, e2, e3, rfl⟩
    · obtain ⟨a1, a2, a3, a4, a5, a6⟩ := h1 i q hm'
      exact ⟨a1, a2, a3, fun e => (ha i).2 (.inl (a4 e)), fun e => (hr i).2 (.inl (a5 e)), fun e => (hc i).2 (.inl (a6 e))⟩
    · exact ⟨e1, e2, e3, fun e => (ha i).2 (.inr ⟨rfl, e⟩), fun e => (hr i).2 (.inr ⟨rfl, e⟩),
        fun e => (hc i).2 (.inr ⟨rfl, e⟩)⟩
  · rcases hst with rfl | ⟨q', rfl, e⟩
    · exact h5
    · rw [List.map_append, List.nodup_append]
      refine ⟨h5, by simp, ?_⟩
      rintro a ha' b hb rfl
      cases List.mem_singleton.1 hb
      obtain ⟨⟨i, q⟩, hm, rfl⟩ := List.mem_map.1 ha'
      exact hfresh q hm

/-- at version 0 the store is empty, so the version may be set -/
theorem StoreInv.setVer {st : List (Nat × Pkt)} {pa pr pc : List Nat} (v : Nat)
    (h : StoreInv 0 st pa pr pc) : StoreInv v st pa pr pc := by
  obtain ⟨h1, h2, h3, h4, h5⟩ := h
  refine ⟨?_, h2, h3, h4, h5⟩
  intro i q hm
  have := (h1 i q hm).2.1
  exact absurd rfl this

theorem storeErase_sub {v : Nat} {k : Kind} {id : Nat} {st : List (Nat × Pkt)} :
    (storeErase v k id st).Sublist st := storeErase_sublist v k id st

theorem storeErase_gone {v : Nat} {st : List (Nat × Pkt)} {pa pr pc : List Nat} {k : Kind} {id : Nat}
    (h : StoreInv v st pa pr pc)
    (hk : (k = .puback ∧ id ∈ pa) ∨ (k = .pubrec ∧ id ∈ pr) ∨ (k = .pubcomp ∧ id ∈ pc)) :
    ∀ q, (id, q) ∉ storeErase v k id st := by
  obtain ⟨h1, h2, h3, h4, h5⟩ := h
  intro q
  unfold storeErase
  cases hl : lookup id st with
  | none => exact lookup_none_mem hl q
  | some q0 =>
    have hm := lookup_some_mem hl
    have a := h1 id q0 hm
    have := respOf_cases q0
    have := h2 id; have := h3 id; have := h4 id
    have hc : respOf q0 = k ∧ q0.ver = v := by grind
    simp only [hc, and_self, if_true, mem_erase]
    simp

/-! ## `PidWf`: the allocator operations of the connection keep C20's relation -/

theorem PidWf.new {lo hi tmax : Nat} (h : lo ≤ hi) (ht : hi ≤ tmax) : PidWf (Alloc.new lo hi tmax) :=
  ⟨_, Alloc.R.new lo hi tmax h ht⟩

theorem PidWf.step {a : Alloc.A} (h : PidWf a) (op : Alloc.Op) : PidWf (Alloc.step a op).1 := by
  obtain ⟨sp, r⟩ := h
  exact ⟨_, (Alloc.step_refines r op).2⟩

theorem PidWf.allocate {a : Alloc.A} (h : PidWf a) : PidWf (Alloc.allocate a).2 := h.step .allocate
theorem PidWf.useValue {a : Alloc.A} (h : PidWf a) (v : Nat) : PidWf (Alloc.useValue a v).2 :=
  h.step (.useValue v)
theorem PidWf.clear {a : Alloc.A} (h : PidWf a) : PidWf (Alloc.clear a) := h.step .clear
theorem PidWf.deallocate {a : Alloc.A} (h : PidWf a) (v : Nat) : PidWf (Alloc.deallocate a v).2 :=
  h.step (.deallocate v)

theorem PidWf.wf {a : Alloc.A} (h : PidWf a) : Alloc.Wf a ∧ a.highest ≤ a.tmax :=
  let ⟨_, r⟩ := h; ⟨r.wf, r.tm⟩

/-- **site `releaseId`** (allocator range assertion / `value + 1` overflow): unreachable for an
    identifier that `is_used_id` reports as used -/
theorem PidWf.dealloc_none {a : Alloc.A} (h : PidWf a) {v : Nat} (hu : Alloc.isUsed a v = true) :
    (Alloc.deallocate a v).1 = none :=
  (h.wf.1.deallocate h.wf.2 v).2.1 (Alloc.isUsed_range hu)

/-! ## updating one group of fields of a `Good` state

Everything is stated on record updates; by definitional unfolding the lemmas also apply to
states that differ in further, irrelevant fields. -/

theorem Good.setPid {s : St} (h : Good s) {a : Alloc.A} (ha : PidWf a) : Good { s with pidMan := a } :=
  ⟨⟨ha, h.1.2⟩, h.2⟩
theorem Good.setStore {s : St} (h : Good s) {st : List (Nat × Pkt)} {pa pr pc : List Nat}
    (hs : StoreInv s.ver st pa pr pc) :
    Good { s with store := st, puback := pa, pubrec := pr, pubcomp := pc } :=
  ⟨⟨h.1.1, hs, h.1.2.2⟩, h.2⟩
theorem Good.setTas {s : St} (h : Good s) {o : Option TAS} (ho : TasOptInv o) : Good { s with tas := o } :=
  ⟨⟨h.1.1, h.1.2.1, ho, h.1.2.2.2⟩, h.2⟩
theorem Good.setPb {s : St} (h : Good s) {pb : Framing.PB} (hp : Framing.Inv pb) : Good { s with pb := pb } :=
  ⟨⟨h.1.1, h.1.2.1, h.1.2.2.1, h.1.2.2.2.1, hp, h.1.2.2.2.2.2⟩, h.2⟩

theorem TasOptInv.none : TasOptInv none := by intro t h; cases h
theorem Credit.none : Credit none := by intro t h; cases h
theorem TasOptInv.some {t : TAS} (h : TasInv t) : TasOptInv (some t) := fun _ e => Option.some.inj e ▸ h
theorem Credit.some {m : Nat} (h : m ≤ 65535) : Credit (some m) := fun _ e => Option.some.inj e ▸ h

theorem GoodV.store {s : St} (h : GoodV s) : StoreInv s.ver s.store s.puback s.pubrec s.pubcomp := h.1.2.1
theorem GoodV.credit {s : St} (h : GoodV s) : Credit s.sendMax := h.1.2.2.2.1
theorem GoodV.np {s : St} (h : GoodV s) : s.panic = none := h.1.2.2.2.2.2
theorem GoodV.ver {s : St} (h : GoodV s) : s.ver = 4 ∨ s.ver = 5 := h.2
theorem Good.pid {s : St} (h : Good s) : PidWf s.pidMan := h.1.1
theorem Good.store {s : St} (h : Good s) : StoreInv s.ver s.store s.puback s.pubrec s.pubcomp := h.1.2.1
theorem Good.np {s : St} (h : Good s) : s.panic = none := h.1.2.2.2.2.2

attribute [simp] push_s push_cfg err_s err_cfg releaseId_cfg releaseIfUsed_cfg cancelTimers_cfg

/-- **site `releaseId`** unreachable after `is_used_id`; only the allocator changes -/
theorem releaseId_s {c : C} (hp : PidWf c.s.pidMan) {id : Nat} (hu : isUsed c.s id = true) :
    (releaseId c id).s = { c.s with pidMan := (Alloc.deallocate c.s.pidMan id).2 } := by
  have := hp.dealloc_none hu
  unfold releaseId
  simp only [this]

theorem releaseIfUsed_s {c : C} (hp : PidWf c.s.pidMan) (id : Nat) :
    ∃ a, PidWf a ∧ (releaseIfUsed c id).s = { c.s with pidMan := a } := by
  unfold releaseIfUsed
  split
  · rename_i hu
    exact ⟨_, hp.deallocate id, by rw [push_s, releaseId_s hp hu]⟩
  · exact ⟨_, hp, rfl⟩

/-- the two fields the footprint of `releaseAll` leaves open; stated relative to an earlier state `c0` so that
    successive stages compose -/
theorem releaseAll_pid {c0 c : C} (h : PidWf c.s.pidMan ∧ c.s.panic = c0.s.panic) (ids : List Nat) :
    PidWf (releaseAll c ids).s.pidMan ∧ (releaseAll c ids).s.panic = c0.s.panic := by
  induction ids generalizing c with
  | nil => exact h
  | cons id rest ih =>
    obtain ⟨a, ha, e⟩ := releaseIfUsed_s h.1 id
    exact ih (by rw [e]; exact ⟨ha, h.2⟩)

theorem drain_pid {c0 c : C} (get : St → List Nat) (clr : St → St)
    (hclr : (clr c.s).pidMan = c.s.pidMan ∧ (clr c.s).panic = c.s.panic)
    (h : PidWf c.s.pidMan ∧ c.s.panic = c0.s.panic) :
    PidWf (Fp.drain c get clr).s.pidMan ∧ (Fp.drain c get clr).s.panic = c0.s.panic :=
  releaseAll_pid (c := { c with s := clr c.s }) ⟨hclr.1 ▸ h.1, hclr.2.trans h.2⟩ (get c.s)

theorem closeConn_pid {c0 c : C} (h : PidWf c.s.pidMan ∧ c.s.panic = c0.s.panic) :
    PidWf (Fp.closeConn c).s.pidMan ∧ (Fp.closeConn c).s.panic = c0.s.panic :=
  drain_pid _ _ ⟨rfl, rfl⟩ (drain_pid _ _ ⟨rfl, rfl⟩ h)

theorem closeSession_pid {c0 c : C} (h : PidWf c.s.pidMan ∧ c.s.panic = c0.s.panic) :
    PidWf (Fp.closeSession c).s.pidMan ∧ (Fp.closeSession c).s.panic = c0.s.panic := by
  unfold Fp.closeSession
  dsimp only
  exact drain_pid _ _ ⟨rfl, rfl⟩ (drain_pid _ _ ⟨rfl, rfl⟩ (drain_pid _ _ ⟨rfl, rfl⟩ h))

theorem notifyClosed_pid {c : C} (hp : PidWf c.s.pidMan) :
    PidWf (notifyClosed c).s.pidMan ∧ (notifyClosed c).s.panic = c.s.panic := by
  have hA := closeConn_pid (c0 := c) ⟨hp, rfl⟩
  cases h : c.s.needStore
  · have hB := closeSession_pid hA
    rw [Fp.notifyClosed_of_drop h]
    generalize Fp.closeSession (Fp.closeConn c) = B at hB ⊢
    rw [Fp.cancelTimers_s]
    exact hB
  · rw [Fp.notifyClosed_of_keep h]
    generalize Fp.closeConn c = A at hA ⊢
    rw [Fp.cancelTimers_s]
    exact hA

theorem releaseIfUsed_good {c : C} (h : Good c.s) (id : Nat) : Good (releaseIfUsed c id).s := by
  obtain ⟨a, ha, e⟩ := releaseIfUsed_s h.pid id
  rw [e]; exact h.setPid ha

theorem cancelTimers_goodV {c : C} (h : GoodV c.s) : GoodV (cancelTimers c).s := by
  rw [Fp.cancelTimers_s]; exact h

theorem decSendCount_good {c : C} (h : Good c.s) : Good (decSendCount c).s := by
  unfold decSendCount
  split <;> exact h

/-- the bound under which `send_stored` cannot overflow `publish_send_count` (a `u32` since fix
    ab9a1ec); a consequence of the invariant, see `StoreRange.headroom` in `NoPanicStep.lean` -/
def Headroom (s : St) : Prop := s.store.length ≤ 4294967295

theorem TasInv.new {v : Nat} (hv : v ≠ 0) : TasInv (TAS.new v) := by
  refine ⟨Nat.pos_of_ne_zero hv, ?_, ?_, ?_⟩
  · exact ⟨Nat.le_refl _, Nat.pos_of_ne_zero hv, trivial⟩
  · intro w hw; simp [TAS.new, Alloc.new] at hw ⊢; omega
  · intro a topic hm; simp [TAS.new] at hm

theorem useValue_pool {a : Alloc.A} {v : Nat} {ub : Nat} (h1 : Alloc.Ok 1 a.pool)
    (h2 : ∀ w, Alloc.Free a.pool w → w ≤ ub) :
    Alloc.Ok 1 (Alloc.useValue a v).2.pool ∧ ∀ w, Alloc.Free (Alloc.useValue a v).2.pool w → w ≤ ub := by
  unfold Alloc.useValue
  cases hu : Alloc.useValueP v a.pool with
  | none => exact ⟨h1, h2⟩
  | some p' =>
    obtain ⟨f1, f2, f3⟩ := Alloc.useValueP_some h1 hu
    exact ⟨f3, fun w hw => h2 w ((f2 w).1 hw).1⟩

theorem insertOrUpdate_alloc (t : TAS) (topic : List Nat) (a : Nat) :
    (t.insertOrUpdate topic a).alloc = (Alloc.useValue t.alloc a).2 := by
  unfold TAS.insertOrUpdate
  cases Alloc.useValue t.alloc a with
  | mk isNew alloc' => rfl

theorem insertOrUpdate_a2t (t : TAS) (topic : List Nat) (a : Nat) :
    ∀ x, x ∈ (t.insertOrUpdate topic a).a2t → x ∈ t.a2t ∨ x = (a, topic) := by
  unfold TAS.insertOrUpdate
  cases Alloc.useValue t.alloc a with
  | mk isNew alloc' =>
    simp only
    intro x
    (repeat' split) <;> simp_all [erase] <;> grind

theorem TasInv.insertOrUpdate {t : TAS} {topic : List Nat} {a : Nat} (h : TasInv t)
    (ha : 1 ≤ a ∧ a ≤ t.max) (hw : hasWildcard topic = false) : TasInv (t.insertOrUpdate topic a) := by
  obtain ⟨h1, h2, h3, h4⟩ := h
  have hp := useValue_pool (v := a) h2 h3
  refine ⟨by rw [insertOrUpdate_max]; exact h1, by rw [insertOrUpdate_alloc]; exact hp.1,
    by rw [insertOrUpdate_alloc, insertOrUpdate_max]; exact hp.2, ?_⟩
  intro a' topic' hm
  rw [insertOrUpdate_max]
  rcases insertOrUpdate_a2t t topic a _ hm with hm | hm
  · exact h4 a' topic' hm
  · simp only [Prod.mk.injEq] at hm
    obtain ⟨rfl, rfl⟩ := hm
    exact ⟨ha.1, ha.2, hw⟩

theorem TasInv.get {t : TAS} (h : TasInv t) (a : Nat) :
    TasInv (t.get a).2 ∧ ∀ topic, (t.get a).1 = some topic → hasWildcard topic = false := by
  obtain ⟨h1, h2, h3, h4⟩ := h
  unfold TAS.get
  split
  · cases hl : lookup a t.a2t with
    | none => exact ⟨⟨h1, h2, h3, h4⟩, by simp⟩
    | some topic =>
      have hm := lookup_some_mem hl
      have := h4 a topic hm
      refine ⟨⟨h1, h2, h3, ?_⟩, by simp; exact this.2.2⟩
      intro a' topic' hm'
      simp only [List.mem_append, List.mem_singleton, Prod.mk.injEq] at hm'
      rcases hm' with hm' | ⟨rfl, rfl⟩
      · exact h4 a' topic' (mem_erase.1 hm').1
      · exact this
  · exact ⟨⟨h1, h2, h3, h4⟩, by simp⟩

theorem TasInv.lruAlias {t : TAS} (h : TasInv t) : 1 ≤ t.lruAlias ∧ t.lruAlias ≤ t.max := by
  obtain ⟨h1, h2, h3, h4⟩ := h
  unfold TAS.lruAlias Alloc.firstVacant
  cases hp : t.alloc.pool with
  | nil =>
    simp only [List.head?_nil, Option.map_none]
    cases ha : t.a2t with
    | nil => simp; omega
    | cons x rest =>
      obtain ⟨a, topic⟩ := x
      have := h4 a topic (by rw [ha]; simp)
      simp; omega
  | cons iv rest =>
    rw [hp] at h2 h3
    obtain ⟨o1, o2, o3⟩ := h2
    have := h3 iv.lo (by simp; omega)
    simp; omega

/-- the ownership contract of `send`: the identifier is not awaiting any response -/
def IdFresh (s : St) (id : Nat) : Prop := id ∉ s.puback ∧ id ∉ s.pubrec ∧ id ∉ s.pubcomp

/-- **site `store.add().unwrap()`** is unreachable for an identifier that is not stored -/
theorem storeAdd_s {c : C} {id : Nat} (hn : storeHas id c.s.store = false) (q : Pkt) (site : String) :
    storeAdd c id q site = { c with s := { c.s with store := c.s.store ++ [(id, q)] } } := by
  simp [storeAdd, hn]

theorem GoodV.ver_ne {s : St} (h : GoodV s) : s.ver ≠ 0 := by have := h.2; omega

theorem StoreInv.ack {v : Nat} {st : List (Nat × Pkt)} {pa pr pc : List Nat} {id : Nat} {k : Kind}
    (h : StoreInv v st pa pr pc)
    (hk : (k = .puback ∧ id ∈ pa) ∨ (k = .pubrec ∧ id ∈ pr) ∨ (k = .pubcomp ∧ id ∈ pc)) :
    StoreInv v (storeErase v k id st)
      (if k = .puback then del id pa else pa) (if k = .pubrec then del id pr else pr)
      (if k = .pubcomp then del id pc else pc) := by
  have hg := storeErase_gone h hk
  apply h.shrink storeErase_sub
  · intro i hi; split at hi
    · exact (mem_del.1 hi).1
    · exact hi
  · intro i hi; split at hi
    · exact (mem_del.1 hi).1
    · exact hi
  · intro i hi; split at hi
    · exact (mem_del.1 hi).1
    · exact hi
  · intro i q hm
    have hne : i ≠ id := by intro e; subst e; exact hg q hm
    refine ⟨?_, ?_, ?_⟩ <;> intro hi <;> split <;> simp [mem_del, hi, hne]

theorem StoreInv.refuse {v : Nat} {st : List (Nat × Pkt)} {pa pr pc : List Nat}
    (h : StoreInv v st pa pr pc) (id : Nat) :
    StoreInv v (storeErasePublish id st).2 (del id pa) (del id pr) pc := by
  apply h.shrink (storeErasePublish_sublist id st) (fun i hi => (mem_del.1 hi).1)
    (fun i hi => (mem_del.1 hi).1) (fun _ x => x)
  intro i q hm
  simp only [mem_del]
  by_cases hi : i = id
  · subst hi
    suffices hx : i ∉ pa ∧ i ∉ pr by grind
    unfold storeErasePublish at hm
    cases hl : lookup i st with
    | none =>
      simp only [hl] at hm
      exact absurd hm (lookup_none_mem hl q)
    | some q0 =>
      have hm0 := lookup_some_mem hl
      have a0 := h.1 i q0 hm0
      simp only [hl] at hm
      by_cases hk0 : q0.kind = .publish
      · simp only [hk0, if_true, mem_erase] at hm
        exact absurd rfl hm.2
      · have hk1 : q0.kind = .pubrel := by grind
        have hr : respOf q0 = .pubcomp := by simp [respOf, hk1]
        have := h.2.1 i; have := h.2.2.1 i; have := h.2.2.2.1 i
        grind
  · grind

/-! ## `StoreInv` is an invariant of the identifier group -/

/-- `StoreInv` of a state with this group, for protocol version `v` -/
def SI (v : Nat) (x : Ids) : Prop := StoreInv v x.store x.puback x.pubrec x.pubcomp

theorem IdPrim.drops_owned (l : List (Nat × Pkt)) (y : Ids) :
    (runAll (l.flatMap fun e => drop e.1) y).1.store = y.store ∧ ∀ k, k = .puback ∨ k = .pubrec ∨ k = .pubcomp →
      ∀ i, i ∈ (runAll (l.flatMap fun e => drop e.1) y).1.wait k ↔ i ∈ y.wait k ∧ i ∉ l.map (·.1) := by
  induction l generalizing y with
  | nil => exact ⟨rfl, fun k _ i => by simp [runAll]⟩
  | cons e l ih =>
    obtain ⟨a, ea⟩ := drop_run e.1 y
    obtain ⟨h1, h2⟩ := ih (runAll (drop e.1) y).1
    rw [List.flatMap_cons, runAll_append]
    refine ⟨h1.trans (by rw [ea]), fun k hk i => (h2 k hk i).trans ?_⟩
    rw [List.map_cons, List.mem_cons, not_or, ← and_assoc, ea]
    refine and_congr_left fun _ => ?_
    rcases hk with rfl | rfl | rfl
    · exact mem_del
    · exact mem_del
    · exact mem_del

namespace SI
variable {v : Nat} {x : Ids}

theorem release (h : SI v x) (id : Nat) : SI v ((IdPrim.release id).run x).1 := by
  rw [IdPrim.release_run]
  exact Fp.ite_both (Q := fun r : Ids × List Nat => SI v r.1) h h

theorem released {l : List IdPrim} (h : SI v (IdPrim.runAll l x).1) (id : Nat) :
    SI v (IdPrim.runAll (l ++ [.release id]) x).1 := by
  rw [IdPrim.runAll_append, IdPrim.runAll_singleton]
  exact h.release id

/-- `pubRefuseCleanup`, `erase_stored_publish`: what stays under the identifier is a PUBREL, which awaits a PUBCOMP -/
theorem refused (h : SI v x) (id : Nat) :
    SI v (IdPrim.runAll [.erasePublish id, .unwait .puback id, .unwait .pubrec id] x).1 := StoreInv.refuse h id

theorem cleanup (h : SI v x) (id : Nat) : SI v (IdPrim.runAll (IdPrim.cleanup id) x).1 := (h.release id).refused id

theorem clear (v : Nat) (x : Ids) : SI v (IdPrim.clearSession.run x).1 := StoreInv.empty v

theorem openConn (h : SI v x) (clean : Bool) :
    SI v (IdPrim.runAll (IdPrim.openConn ++ if clean then [.clearSession] else []) x).1 := by
  rw [IdPrim.runAll_append]
  cases clean
  · exact h
  · exact clear _ _

theorem begin (h : SI v x) {id : Nat} {k : Kind} (f1 : id ∉ x.puback) (f2 : id ∉ x.pubrec) (f3 : id ∉ x.pubcomp)
    (hk : k = .pubcomp ∨ k = .pubrec ∨ k = .puback) (stored : Bool) {q : Pkt}
    (hq : stored = true → q.ver = v ∧ v ≠ 0 ∧ (q.kind = .publish ∨ q.kind = .pubrel) ∧ respOf q = k) :
    SI v (IdPrim.runAll ((if stored then [.store id q] else []) ++ [.await k id]) x).1 := by
  -- `st'`: the store once the packet is in it, if it is
  obtain ⟨st', hst, e⟩ : ∃ st', (st' = x.store ∨ ∃ q, st' = x.store ++ [(id, q)] ∧
        q.ver = v ∧ v ≠ 0 ∧ (q.kind = .publish ∨ q.kind = .pubrel) ∧ respOf q = k) ∧
      (IdPrim.runAll ((if stored then [.store id q] else []) ++ [.await k id]) x).1 =
        ((IdPrim.await k id).run { x with store := st' }).1 := by
    cases stored
    · exact ⟨_, .inl rfl, rfl⟩
    · refine ⟨_, .inr ⟨q, rfl, hq rfl⟩, ?_⟩
      rw [if_pos rfl, IdPrim.runAll_append, IdPrim.runAll_singleton, IdPrim.runAll_singleton]
      simp only [IdPrim.run, StoreInv.fresh_not_stored h f1 f2 f3, Bool.false_eq_true, if_false]
  rw [e]
  rcases hk with rfl | rfl | rfl
  · exact StoreInv.grow h f1 f2 f3 hst
  · exact StoreInv.grow h f1 f2 f3 hst
  · exact StoreInv.grow h f1 f2 f3 hst

theorem ack (h : SI v x) {k : Kind} {id : Nat} (hw : id ∈ x.wait k) (hk : k = .puback ∨ k = .pubrec ∨ k = .pubcomp) :
    SI v (IdPrim.runAll [.unwait k id, .storeErase v k id] x).1 := by
  rcases hk with rfl | rfl | rfl
  · exact StoreInv.ack h (.inl ⟨rfl, hw⟩)
  · exact StoreInv.ack h (.inr (.inl ⟨rfl, hw⟩))
  · exact StoreInv.ack h (.inr (.inr ⟨rfl, hw⟩))

/-- `send_stored`: an entry that stays has the key of no entry that is given up, the keys being distinct -/
theorem resend (h : SI v x) (pw mps : Nat) : SI v (IdPrim.runAll (IdPrim.resend pw mps x.store) x).1 := by
  obtain ⟨e, hw⟩ := IdPrim.drops_owned (x.store.filter (oversize pw mps)) x
  rw [IdPrim.resend, IdPrim.runAll_append]
  generalize (IdPrim.runAll _ x).1 = z at e hw
  show StoreInv v (z.store.filter fun e => !oversize pw mps e) z.puback z.pubrec z.pubcomp
  rw [e]
  refine StoreInv.shrink h List.filter_sublist (fun i hi => ((hw .puback (.inl rfl) i).1 hi).1)
    (fun i hi => ((hw .pubrec (.inr (.inl rfl)) i).1 hi).1) (fun i hi => ((hw .pubcomp (.inr (.inr rfl)) i).1 hi).1)
    fun i q hm => ?_
  obtain ⟨hm, hfit⟩ := List.mem_filter.1 hm
  have hnd : i ∉ (x.store.filter (oversize pw mps)).map (·.1) := by
    intro hd
    obtain ⟨⟨i', q'⟩, he', rfl⟩ := List.mem_map.1 hd
    obtain ⟨hm', hov⟩ := List.mem_filter.1 he'
    rw [eq_of_key h.2.2.2.2 hm' hm rfl] at hov
    rw [hov] at hfit
    cases hfit
  exact ⟨fun hi => (hw .puback (.inl rfl) i).2 ⟨hi, hnd⟩, fun hi => (hw .pubrec (.inr (.inl rfl)) i).2 ⟨hi, hnd⟩,
    fun hi => (hw .pubcomp (.inr (.inr rfl)) i).2 ⟨hi, hnd⟩⟩

theorem established (h : SI v x) (sp : Bool) (pw mps : Nat) :
    SI v (IdPrim.runAll (if sp then IdPrim.resend pw mps x.store else [.clearSession]) x).1 := by
  cases sp
  · exact clear _ _
  · exact h.resend _ _

end SI

/-- What the panic sites rely on apart from the ownership of identifiers (`StoreInv`, an invariant of the identifier
    group): the other conjuncts of `Base`.  Stated of a context, so that the case principles of the base apply to it. -/
def Sane (c : C) : Prop :=
  PidWf c.s.pidMan ∧ TasOptInv c.s.tas ∧ Credit c.s.sendMax ∧ Framing.Inv c.s.pb ∧ c.s.panic = none

theorem GoodV.sane {c : C} (h : GoodV c.s) : Sane c := ⟨h.1.1, h.1.2.2⟩

namespace Sane
variable {c r : C}

theorem congr (h : Sane c) (e : r.s = c.s) : Sane r := by
  unfold Sane
  rw [e]
  exact h

theorem setPid (h : Sane c) {a : Alloc.A} (ha : PidWf a) : Sane { c with s := { c.s with pidMan := a } } := ⟨ha, h.2⟩

theorem setTas (h : Sane c) {o : Option TAS} (ho : TasOptInv o) : Sane { c with s := { c.s with tas := o } } :=
  ⟨h.1, ho, h.2.2⟩

theorem setSendMax (h : Sane c) {o : Option Nat} (ho : Credit o) : Sane { c with s := { c.s with sendMax := o } } :=
  ⟨h.1, h.2.1, ho, h.2.2.2⟩

theorem of_fp {T : List EvTag} {w : St → St → St} (h : Sane c) (k : Fp.Footprint T w c r)
    (hw : ∀ a x, Sane ⟨c.cfg, w a x, []⟩ = Sane ⟨c.cfg, a, []⟩ := by exact fun _ _ => rfl) : Sane r :=
  (k.view (fun s => Sane ⟨c.cfg, s, []⟩) hw).mpr h

theorem push (h : Sane c) (e : Ev) : Sane (c.push e) := h

theorem release (h : Sane c) (id : Nat) : Sane (releaseIfUsed c id) := by
  obtain ⟨a, ha, e⟩ := releaseIfUsed_s h.1 id
  exact (h.setPid ha).congr e

theorem post (h : Sane c) : Sane (sendPostProcess c) := h.of_fp (Fp.sendPostProcess_fp c)

theorem refresh (h : Sane c) : Sane (refreshPingreqRecv c) := h.of_fp (Fp.refreshPingreqRecv_fp c)

theorem dec (h : Sane c) : Sane (decSendCount c) := h.of_fp (Fp.decSendCount_fp c)

theorem sendIfConnected (h : Sane c) (p : Pkt) (rel : Option Nat) : Sane (Fp.sendIfConnected c p rel) :=
  h.of_fp (Fp.sendIfConnected_fp c p rel)

theorem init (h : Sane c) (b : Bool) : Sane (initConn c b) :=
  ⟨h.1, TasOptInv.none, Credit.none, h.2.2.2⟩

theorem clear (h : Sane c) : Sane (clearStoreRelated c) := ⟨h.1.clear, h.2⟩

end Sane

/-- **site `publish_send_count += 1`** of the `send_stored` loop is unreachable when the counter has
    room for the entries still to be resent -/
theorem sendStoredLoop_sane {c : C} (h : Sane c) (l : List (Nat × Pkt))
    (hb : c.s.sendMax.isSome → c.s.sendCount + l.length ≤ 4294967295) : Sane (sendStoredLoop c l).1 := by
  induction l generalizing c with
  | nil => exact h
  | cons e rest ih =>
    obtain ⟨id, p⟩ := e
    rw [List.length_cons] at hb
    rw [sendStoredLoop]
    refine Fp.ite_ind (Q := fun r : C × List (Nat × Pkt) => Sane r.1) (fun _ => ?_) (fun _ => ?_)
    · refine ih (Sane.release (c := dropWait c id) h id) fun hs => ?_
      rw [Fp.releaseIfUsed_s] at hs ⊢
      exact Nat.le_trans (Nat.add_le_add_left (Nat.le_succ _) _) (hb hs)
    · by_cases hs : c.s.sendMax.isSome = true
      · have hlt := hb hs
        dsimp only
        rw [if_pos hs, if_neg (by omega : ¬c.s.sendCount ≥ 4294967295),
          Nat.mod_eq_of_lt (by omega : c.s.sendCount + 1 < 4294967296)]
        exact ih (c := C.push { c with s := { c.s with sendCount := c.s.sendCount + 1 } } (.send p none)) h
          fun _ => show c.s.sendCount + 1 + rest.length ≤ 4294967295 by omega
      · dsimp only
        rw [if_neg hs]
        exact ih (c := c.push (.send p none)) h fun hs' => absurd hs' hs

theorem sendStored_sane {c : C} (h : Sane c) (hb : Headroom c.s) : Sane (sendStored c) := by
  unfold sendStored
  by_cases hs : c.s.sendMax.isSome = true
  · rw [if_pos hs]
    exact sendStoredLoop_sane (c := { c with s := { c.s with sendCount := 0 } }) h c.s.store
      fun _ => (Nat.zero_add _).symm ▸ hb
  · rw [if_neg hs]
    exact sendStoredLoop_sane h c.s.store fun hs' => absurd hs' hs

theorem resendStored_sane {c : C} (h : Sane c) (hb : Headroom c.s) : Sane (resendStored c) :=
  resendStored_ind c (sendStored_sane h hb) Sane.post

end MqttVerif.Conn
