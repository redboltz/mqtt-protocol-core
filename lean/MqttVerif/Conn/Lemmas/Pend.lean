import MqttVerif.Conn.Step
import MqttVerif.Monitors
import MqttVerif.Conn.Lemmas.FootprintSites
/-!
# C08 — the driver's ghost `pend` (outbound exchanges of this connection) against the model

The driver's monitor `C08 completion_not_released` keeps a ghost list `pend` of
`(id, nibble of the awaited acknowledgement)` built from the events of every call.  Here: the ghost update
(`pendStep`, `pendReset`) exactly as the driver computes it, and the frame relation `Fr` — what a model
function does when it touches neither the wait sets, the store, the version nor (but for the worse) the
status, and every event it adds shrinks the ghost (`Shrinks`: no PUBLISH / PUBREL is requested) — with its
instances: the helpers by their footprints (`Fr.of_fp`), the senders of other packets by `Fp.f_adds`
(`Fr.of_emits`), and the functions that give the connection up, the receive handlers that only deliver and the
timers, which may set the status to `disconnected`, by `Fp.f_mild` and `Fp.f_orCloses` besides (`Fr.of_closes`) or
by `Fp.f_processed` (`fr_processed`).
-/
namespace MqttVerif.Conn.Pend
open MqttVerif MqttVerif.Conn

/-- the ghost: (identifier, type nibble of the awaited acknowledgement) -/
abbrev Gh := List (Nat × Nat)

/-- the ghost update over the events of one call — verbatim the fold of
    `Driver/ConnDrv.lean` (`monitorCall`, `let pend := evs.foldl …`) -/
def pendStep (pend0 : Gh) (evs : List Ev) : Gh :=
  evs.foldl (fun (acc : List (Nat × Nat)) (e : Ev) => match e with
      | .send q _ =>
        let id := q.pid.getD 0
        if q.kind = Kind.publish ∧ q.qos = 1 then (id, 4) :: acc.filter (fun (x : Nat × Nat) => x.1 ≠ id)
        else if q.kind = Kind.publish ∧ q.qos = 2 then (id, 5) :: acc.filter (fun (x : Nat × Nat) => x.1 ≠ id)
        else if q.kind = Kind.pubrel then (id, 7) :: acc.filter (fun (x : Nat × Nat) => x.1 ≠ id)
        else acc
      | .recv q =>
        if q.kind = Kind.puback ∨ q.kind = Kind.pubcomp ∨ q.kind = Kind.pubrec then acc.filter (fun (x : Nat × Nat) => x.1 ≠ q.pid.getD 0)
        else acc
      | .released id => acc.filter (fun (x : Nat × Nat) => x.1 ≠ id)
      | _ => acc) pend0

/-- the ghost the monitor reads and folds from (`pend0` of the driver): emptied by `closed`, by a
    call whose events start a new session or a new connection — judged on the WHOLE event list of
    the call, before folding -/
def pendReset (op : Op) (evs : List Ev) (pend : Gh) : Gh :=
  match op with
  | .closed => []
  | _ => if Mon.startsNewSession evs ∨ (Mon.connectionStart evs).isSome then [] else pend

def pendNext (op : Op) (evs : List Ev) (pend : Gh) : Gh := pendStep (pendReset op evs pend) evs

def rm (id : Nat) (g : Gh) : Gh := g.filter (fun (x : Nat × Nat) => x.1 ≠ id)

/-- the ghost entry a sent packet creates -/
def nibOf (q : Pkt) : Option Nat :=
  if q.kind = Kind.publish ∧ q.qos = 1 then some 4
  else if q.kind = Kind.publish ∧ q.qos = 2 then some 5
  else if q.kind = Kind.pubrel then some 7
  else none

def addP (q : Pkt) (acc : Gh) : Gh :=
  match nibOf q with
  | some n => (q.pid.getD 0, n) :: rm (q.pid.getD 0) acc
  | none => acc

def isAck (q : Pkt) : Bool := q.kind = Kind.puback ∨ q.kind = Kind.pubcomp ∨ q.kind = Kind.pubrec

def pendEv (acc : Gh) : Ev → Gh
  | .send q _ => addP q acc
  | .recv q => if isAck q then rm (q.pid.getD 0) acc else acc
  | .released id => rm id acc
  | _ => acc

theorem pendStep_eq (g : Gh) (l : List Ev) : pendStep g l = l.foldl pendEv g := by
  unfold pendStep
  congr 1
  funext acc e
  cases e <;> simp only [pendEv]
  · rename_i q r
    unfold addP nibOf rm
    (repeat' split) <;> simp_all
  · rename_i q
    unfold isAck rm
    simp only [Bool.decide_or, Bool.or_eq_true, decide_eq_true_eq]
  · rfl

@[simp] theorem pendStep_nil (g : Gh) : pendStep g [] = g := rfl
@[simp] theorem pendStep_append (g : Gh) (a b : List Ev) : pendStep g (a ++ b) = pendStep (pendStep g a) b := by
  simp [pendStep_eq]
@[simp] theorem pendStep_cons (g : Gh) (e : Ev) (l : List Ev) : pendStep g (e :: l) = pendStep (pendEv g e) l := by
  simp [pendStep_eq]

@[simp] theorem pendEv_error (g : Gh) (e : Nat) : pendEv g (.error e) = g := rfl
@[simp] theorem pendEv_close (g : Gh) : pendEv g .close = g := rfl
@[simp] theorem pendEv_tr (g : Gh) (k : Timer) (ms : Nat) : pendEv g (.timerReset k ms) = g := rfl
@[simp] theorem pendEv_tc (g : Gh) (k : Timer) : pendEv g (.timerCancel k) = g := rfl
@[simp] theorem pendEv_released (g : Gh) (id : Nat) : pendEv g (.released id) = rm id g := rfl
@[simp] theorem pendEv_send (g : Gh) (q : Pkt) (r : Option Nat) : pendEv g (.send q r) = addP q g := rfl
theorem pendEv_recv (g : Gh) (q : Pkt) : pendEv g (.recv q) = if isAck q then rm (q.pid.getD 0) g else g := rfl

theorem addP_none {q : Pkt} (h : nibOf q = none) (g : Gh) : addP q g = g := by simp [addP, h]
theorem addP_some {q : Pkt} {n : Nat} (h : nibOf q = some n) (g : Gh) :
    addP q g = (q.pid.getD 0, n) :: rm (q.pid.getD 0) g := by simp [addP, h]

theorem nibOf_kind {q : Pkt} (h1 : q.kind ≠ .publish) (h2 : q.kind ≠ .pubrel) : nibOf q = none := by
  simp [nibOf, h1, h2]
theorem nibOf_qos0 {q : Pkt} (h1 : q.kind = .publish) (h2 : ¬ q.qos > 0) : nibOf q = none := by
  have : q.qos = 0 := by omega
  simp [nibOf, h1, this]

/-- the packets the library builds itself (acknowledgements but PUBREL, PINGREQ, PINGRESP, CONNACK, DISCONNECT)
    create no ghost entry: the kind is read off the builder -/
theorem nibOf_built {q : Pkt} (h : q.kind ≠ .publish ∧ q.kind ≠ .pubrel := by exact ⟨nofun, nofun⟩) : nibOf q = none :=
  nibOf_kind h.1 h.2
@[simp] theorem nibOf_mkAck_pubrel (cfg : Cfg) (v : Nat) (id : Nat) : nibOf (mkAck cfg v .pubrel id) = some 7 := by
  simp [nibOf, mkAck]

theorem mem_rm {x : Nat × Nat} {id : Nat} {g : Gh} : x ∈ rm id g ↔ x ∈ g ∧ x.1 ≠ id := by
  simp [rm]
theorem rm_subset (id : Nat) (g : Gh) : rm id g ⊆ g := fun _ h => (mem_rm.1 h).1
theorem sub_rm {id : Nat} {a b : Gh} (h : a ⊆ b) : rm id a ⊆ b := fun _ hx => h (rm_subset _ _ hx)
@[simp] theorem rm_nil (id : Nat) : rm id [] = [] := rfl
theorem pendEv_recv_sub (g : Gh) (q : Pkt) : pendEv g (.recv q) ⊆ g := by
  rw [pendEv_recv]; split
  · exact rm_subset _ _
  · exact List.Subset.refl _

theorem pendStep_singleton (g : Gh) (e : Ev) : pendStep g [e] = pendEv g e := by simp

@[simp] theorem push_ev (c : C) (e : Ev) : (c.push e).ev = c.ev ++ [e] := rfl
@[simp] theorem push_s (c : C) (e : Ev) : (c.push e).s = c.s := rfl
@[simp] theorem push_cfg (c : C) (e : Ev) : (c.push e).cfg = c.cfg := rfl
@[simp] theorem err_ev (c : C) (e : Nat) : (c.err e).ev = c.ev ++ [.error e] := rfl
@[simp] theorem err_s (c : C) (e : Nat) : (c.err e).s = c.s := rfl
@[simp] theorem err_cfg (c : C) (e : Nat) : (c.err e).cfg = c.cfg := rfl
@[simp] theorem setPanic_ev (c : C) (x : String) : (c.setPanic x).ev = c.ev := rfl
@[simp] theorem setPanic_cfg (c : C) (x : String) : (c.setPanic x).cfg = c.cfg := rfl

theorem ite_ev (p : Prop) {_ : Decidable p} (a b : C) : (if p then a else b).ev = if p then a.ev else b.ev :=
  apply_ite _ _ _ _
theorem ite_s (p : Prop) {_ : Decidable p} (a b : C) : (if p then a else b).s = if p then a.s else b.s :=
  apply_ite _ _ _ _
theorem ite_pendStep (g : Gh) (p : Prop) {_ : Decidable p} (a b : List Ev) :
    pendStep g (if p then a else b) = if p then pendStep g a else pendStep g b := apply_ite _ _ _ _

/-- the part of the state the invariant reads, apart from `status` -/
def W (c : C) : List Nat × List Nat × List Nat × List (Nat × Pkt) × Nat :=
  (c.s.puback, c.s.pubrec, c.s.pubcomp, c.s.store, c.s.ver)

/-- **frame**: the wait sets, the store and the version are unchanged; the status is unchanged or
    became `disconnected`; whatever the ghost was, folding the new events only removed entries -/
structure Fr (c c' : C) : Prop where
  w : W c' = W c
  status : c'.s.status = c.s.status ∨ c'.s.status = .disconnected
  gh : ∀ g, pendStep g c'.ev ⊆ pendStep g c.ev

theorem Fr.refl (c : C) : Fr c c := ⟨rfl, .inl rfl, fun _ => List.Subset.refl _⟩
theorem Fr.trans {a b c : C} (h1 : Fr a b) (h2 : Fr b c) : Fr a c := by
  refine ⟨h2.w.trans h1.w, ?_, fun g => List.Subset.trans (h2.gh g) (h1.gh g)⟩
  rcases h2.status with e | e
  · rw [e]; exact h1.status
  · exact .inr e

theorem Fr.nil {c c' : C} (f : Fr c c') {g : Gh} (h : pendStep g c.ev = []) : pendStep g c'.ev = [] :=
  List.eq_nil_of_subset_nil (h ▸ f.gh g)

theorem Fr.puback {c c' : C} (h : Fr c c') : c'.s.puback = c.s.puback := congrArg (·.1) h.w
theorem Fr.pubrec {c c' : C} (h : Fr c c') : c'.s.pubrec = c.s.pubrec := congrArg (·.2.1) h.w
theorem Fr.pubcomp {c c' : C} (h : Fr c c') : c'.s.pubcomp = c.s.pubcomp := congrArg (·.2.2.1) h.w
theorem Fr.store {c c' : C} (h : Fr c c') : c'.s.store = c.s.store := congrArg (·.2.2.2.1) h.w
theorem Fr.ver {c c' : C} (h : Fr c c') : c'.s.ver = c.s.ver := congrArg (·.2.2.2.2) h.w

/-- what a frame keeps of the state: after `rw [Fp.f_s]` an equation `Kept (f c).s = Kept c.s` holds by `rfl`
    when `f` writes none of these fields -/
abbrev Kept (s : St) := ((s.puback, s.pubrec, s.pubcomp, s.store, s.ver), s.status)

/-- folding the event into the ghost removes entries at most -/
def Shrinks (e : Ev) : Prop := ∀ g, pendEv g e ⊆ g

theorem Shrinks.of_tag {e : Ev} (h : e.tag ≠ .send) : Shrinks e := fun g => by
  cases e with
  | send q r => exact absurd rfl h
  | recv q => exact pendEv_recv_sub g q
  | released id => exact rm_subset id g
  | _ => exact List.Subset.refl _

theorem Shrinks.send {p : Pkt} (h : nibOf p = none) (r : Option Nat) : Shrinks (.send p r) := fun g => by
  rw [pendEv_send, addP_none h]
  exact List.Subset.refl _

theorem pendStep_emits {c c' : C} (h : Emits Shrinks c c') (g : Gh) : pendStep g c'.ev ⊆ pendStep g c.ev := by
  obtain ⟨l, e, hl⟩ := h
  rw [e, pendStep_append]
  clear e
  generalize pendStep g c.ev = g0
  induction l generalizing g0 with
  | nil => exact List.Subset.refl _
  | cons x t ih =>
    rw [pendStep_cons]
    exact List.Subset.trans (ih (fun y hy => hl y (.tail _ hy)) _) (hl x (.head _) g0)

theorem emits_shrinks {T : List EvTag} {c c' : C} (hev : Appends T c c') (hT : EvTag.send ∉ T) : Emits Shrinks c c' := by
  obtain ⟨l, e, hl⟩ := hev
  exact ⟨l, e, fun x hx => .of_tag fun h => hT (h ▸ hl x hx)⟩

theorem pendStep_nil_of_appends {T : List EvTag} {c c' : C} (hev : Appends T c c') (hT : EvTag.send ∉ T) {g : Gh}
    (h : pendStep g c.ev = []) : pendStep g c'.ev = [] :=
  List.eq_nil_of_subset_nil (h ▸ pendStep_emits (emits_shrinks hev hT) g)

theorem Fr.of_closes {c c' : C} (hs : (Kept c'.s).1 = (Kept c.s).1) (hst : Fp.Closes c c') (he : Emits Shrinks c c') :
    Fr c c' :=
  ⟨hs, hst.status, pendStep_emits he⟩

theorem Fr.of_emits {c c' : C} (hs : Kept c'.s = Kept c.s) (he : Emits Shrinks c c') : Fr c c' :=
  .of_closes (congrArg Prod.fst hs) (.inl (congrArg Prod.snd hs)) he

theorem Fr.of_fp {T : List EvTag} {c c' : C} (hs : Kept c'.s = Kept c.s) (hev : Appends T c c')
    (hT : EvTag.send ∉ T := by decide) : Fr c c' :=
  .of_emits hs (emits_shrinks hev hT)

theorem fr_of_eq {c c' : C} (hs : Kept c'.s = Kept c.s) (he : c'.ev = c.ev) : Fr c c' :=
  .of_fp (T := []) hs (.of_ev_eq he)

theorem fr_push {c : C} {e : Ev} (h : Shrinks e) : Fr c (c.push e) := .of_emits rfl ((Emits.refl c).push h)
theorem fr_push_send (c : C) {p : Pkt} (r : Option Nat) (h : nibOf p = none) : Fr c (c.push (.send p r)) :=
  fr_push (.send h r)
theorem fr_push_recv (c : C) (p : Pkt) : Fr c (c.push (.recv p)) := fr_push (.of_tag nofun)
theorem fr_push_close (c : C) : Fr c (c.push .close) := fr_push (.of_tag nofun)
theorem fr_err (c : C) (e : Nat) : Fr c (c.err e) := fr_push (e := .error e) (.of_tag nofun)
theorem fr_setPanic (c : C) (x : String) : Fr c (c.setPanic x) := fr_of_eq rfl rfl

theorem fr_cancelTimers (c : C) : Fr c (cancelTimers c) :=
  .of_fp (by rw [Fp.cancelTimers_s]) (Fp.cancelTimers_ev c)
theorem fr_sendPostProcess (c : C) : Fr c (sendPostProcess c) :=
  .of_fp (by rw [Fp.sendPostProcess_s]) (Fp.sendPostProcess_ev c)
theorem fr_refreshPingreqRecv (c : C) : Fr c (refreshPingreqRecv c) :=
  .of_fp (by rw [Fp.refreshPingreqRecv_s]) (Fp.refreshPingreqRecv_ev c)
theorem fr_initConn (c : C) (b : Bool) : Fr c (initConn c b) := fr_of_eq rfl rfl
theorem fr_decSendCount (c : C) : Fr c (decSendCount c) :=
  fr_of_eq (by rw [Fp.decSendCount_s]) (Fp.decSendCount_ev c)
theorem fr_releaseId (c : C) (id : Nat) : Fr c (releaseId c id) :=
  fr_of_eq (by rw [Fp.releaseId_s]) (Fp.releaseId_ev c id)
theorem fr_releaseIfUsed (c : C) (id : Nat) : Fr c (releaseIfUsed c id) :=
  .of_fp (by rw [Fp.releaseIfUsed_s]) (Fp.releaseIfUsed_ev c id)
theorem fr_validateTopicAlias (c : C) (ao : Option Nat) : Fr c (validateTopicAlias c ao).2 :=
  fr_of_eq (by rw [Fp.validateTopicAlias_s]) (Fp.validateTopicAlias_ev c ao)
theorem fr_tasInsert (c : C) (t : List Nat) (a : Nat) (x : String) : Fr c (tasInsert c t a x) :=
  fr_of_eq (by rw [Fp.tasInsert_s]) (Fp.tasInsert_ev c t a x)
theorem fr_autoAlias (c : C) (p : Pkt) : Fr c (autoAlias c p).1 :=
  fr_of_eq (by rw [Fp.autoAlias_s]) (Fp.autoAlias_ev c p)
theorem autoAlias_snd (c : C) (p : Pkt) : ∃ t a, (autoAlias c p).2 = { p with topic := t, alias := a } := by
  have h := Fp.autoAlias_aliased c p
  generalize (autoAlias c p).2 = q at h ⊢
  cases h <;> exact ⟨_, _, rfl⟩
theorem autoAlias_pid (c : C) (p : Pkt) : (autoAlias c p).2.pid = p.pid := by
  obtain ⟨t, a, h⟩ := autoAlias_snd c p; rw [h]
theorem nibOf_autoAlias (c : C) (p : Pkt) : nibOf (autoAlias c p).2 = nibOf p := by
  obtain ⟨t, a, h⟩ := autoAlias_snd c p; rw [h]; rfl
theorem fr_connectSendProp (c : C) (id v : Nat) : Fr c (connectSendProp c id v) :=
  fr_of_eq (by rw [Fp.connectSendProp_s]) (Fp.connectSendProp_ev c id v)
theorem fr_connectRecvProp (c : C) (id v : Nat) : Fr c (connectRecvProp c id v) :=
  fr_of_eq (by rw [Fp.connectRecvProp_s]) (Fp.connectRecvProp_ev c id v)
theorem fr_connackSendProp (c : C) (id v : Nat) : Fr c (connackSendProp c id v) :=
  .of_fp (by rw [Fp.connackSendProp_s]) (Fp.connackSendProp_ev c id v)

theorem fr_propsFold (f : C → Nat → Nat → C) (hf : ∀ c id v, Fr c (f c id v)) (c : C)
    (l : List (Nat × Nat)) : Fr c (propsFold f c l) :=
  Fp.propsFold_rel f Fr.refl (fun _ _ _ h1 h2 => h1.trans h2) hf c l

/-! ## error handling and DISCONNECT

A function that may give the connection up is a frame by three facts of the base: its write set, `Fp.Closes`, and its
events, among which the DISCONNECT it may send makes no ghost entry. -/

theorem shrinks_quiet : Emits.Quiet Shrinks := fun e he => .of_tag fun h => by
  rw [h] at he
  exact absurd he (by decide)

theorem shrinks_own (c : C) : Emits.Own Shrinks True c :=
  ⟨shrinks_quiet, fun q ha _ _ => .send (nibOf_kind (fun e => absurd (e ▸ ha.kind) (by decide))
    (fun e => absurd (e ▸ ha.kind) (by decide))) none⟩

theorem shrinks_closing (c : C) : Emits.Closing (fun d => nibOf d = none) c := fun _ _ => nibOf_built

theorem shrinks_orCloses {c r : C} (h : Emits.OrCloses Shrinks (fun d => nibOf d = none) c r) : Emits Shrinks c r :=
  h.emits shrinks_quiet (.of_tag nofun) fun _ hd => .send hd none

theorem fr_psV5Disconnect (c : C) (p : Pkt) (h : nibOf p = none) : Fr c (psV5Disconnect c p) :=
  .of_closes (by rw [Fp.psV5Disconnect_s]) (Fp.psV5Disconnect_mild c p).closes
    (shrinks_orCloses (Fp.psV5Disconnect_orCloses shrinks_quiet c p fun _ => h))
theorem fr_psV3Disconnect (c : C) (p : Pkt) (h : nibOf p = none) : Fr c (psV3Disconnect c p) :=
  .of_closes (by rw [Fp.psV3Disconnect_s]) (Fp.psV3Disconnect_mild c p).closes
    (shrinks_orCloses (Fp.psV3Disconnect_orCloses shrinks_quiet c p h))
theorem fr_handleV3Error (c : C) (e : Nat) : Fr c (handleV3Error c e) := .of_fp rfl (Fp.handleV3Error_ev c e)
theorem fr_v5DisconnectOrClose (c : C) (p : Pkt) (h : nibOf p = none) : Fr c (v5DisconnectOrClose c p) :=
  .of_closes (by rw [Fp.v5DisconnectOrClose_s]) (Fp.v5DisconnectOrClose_mild c p).closes
    (shrinks_orCloses (Fp.v5DisconnectOrClose_orCloses shrinks_quiet c p fun _ => h))
theorem fr_handleV5Error (c : C) (e : Nat) : Fr c (handleV5Error c e) :=
  .of_closes (by rw [Fp.handleV5Error_s]) (Fp.handleV5Error_mild c e).closes
    (shrinks_orCloses (Fp.handleV5Error_orCloses shrinks_quiet (shrinks_closing c) e))
theorem fr_vErr (c : C) (e : Nat) : Fr c (vErr c e) :=
  .of_closes (by rw [Fp.vErr_s]) (Fp.vErr_mild c e).closes
    (shrinks_orCloses (Fp.vErr_orCloses shrinks_quiet (shrinks_closing c) e))

theorem fr_send_tail (c : C) (p : Pkt) (r : Option Nat) (h : nibOf p = none) :
    Fr c (sendPostProcess (c.push (.send p r))) :=
  (fr_push_send c r h).trans (fr_sendPostProcess _)

theorem fr_psV3Simple (c : C) (p : Pkt) (h : nibOf p = none) : Fr c (psV3Simple c p) :=
  .of_emits (by rw [Fp.psV3Simple_s]) (Fp.psV3Simple_adds shrinks_quiet c p (.send h none))
theorem fr_psV5Simple (c : C) (p : Pkt) (h : nibOf p = none) : Fr c (psV5Simple c p) :=
  .of_emits (by rw [Fp.psV5Simple_s]) (Fp.psV5Simple_adds shrinks_quiet c p fun _ => .send h none)
theorem fr_psV5Puback (c : C) (p : Pkt) (h : nibOf p = none) : Fr c (psV5Puback c p) :=
  .of_emits (by rw [Fp.psV5Puback_s]) (Fp.psV5Puback_adds shrinks_quiet c p fun _ => .send h none)
theorem fr_psV5Pubcomp (c : C) (p : Pkt) (h : nibOf p = none) : Fr c (psV5Pubcomp c p) := fr_psV5Puback c p h
theorem fr_psV5Pubrec (c : C) (p : Pkt) (h : nibOf p = none) : Fr c (psV5Pubrec c p) :=
  .of_emits (by rw [Fp.psV5Pubrec_s]) (Fp.psV5Pubrec_adds shrinks_quiet c p fun _ => .send h none)
theorem fr_psSubUnsub (c : C) (p : Pkt) (h : nibOf p = none) : Fr c (psSubUnsub c p) :=
  .of_emits (by rw [Fp.psSubUnsub_s]) (Fp.psSubUnsub_adds shrinks_quiet c p fun _ => .send h)
theorem fr_psPingreq (c : C) (p : Pkt) (h : nibOf p = none) : Fr c (psPingreq c p) :=
  .of_emits (by rw [Fp.psPingreq_s]) (Fp.psPingreq_adds shrinks_quiet c p fun _ => .send h none)
theorem fr_psV5Auth (c : C) (p : Pkt) (h : nibOf p = none) : Fr c (psV5Auth c p) :=
  .of_emits (by rw [Fp.psV5Auth_s]) (Fp.psV5Auth_adds shrinks_quiet c p fun _ => .send h none)
theorem fr_refuseSend (c : C) (e : Nat) (p : Pkt) : Fr c (refuseSend c e p) :=
  .of_fp (by rw [Fp.refuseSend_s]) (Fp.refuseSend_ev c e p)

theorem fr_recvTail {c c1 : C} (f : Fr c c1) (p : Pkt) : Fr c ((refreshPingreqRecv c1).push (.recv p)) :=
  f.trans ((fr_refreshPingreqRecv c1).trans (fr_push_recv _ p))

theorem fr_prV3Publish (c : C) (x : Except Nat Pkt) : Fr c (prV3Publish c x) :=
  .of_closes (by rw [Fp.prV3Publish_s]) (Fp.prV3Publish_mild (S := fun _ => True) trivial trivial trivial c x).closes
    (shrinks_orCloses (Fp.prV3Publish_orCloses (shrinks_own c) trivial x fun _ _ => .of_tag nofun))

theorem fr_prV5Publish (c : C) (x : Except Nat Pkt) : Fr c (prV5Publish c x) :=
  .of_closes (by rw [Fp.prV5Publish_s]) (Fp.prV5Publish_mild (S := fun _ => True) trivial trivial trivial c x).closes
    (shrinks_orCloses (Fp.prV5Publish_orCloses (shrinks_own c) (shrinks_closing c) x fun _ _ _ _ => .of_tag nofun))

/-- a handler of a packet other than CONNECT, CONNACK and PUBLISH that writes neither a wait set nor the store (`hs`):
    off its error path it leaves the status -/
theorem fr_processed {c r : C} {x : Except Nat Pkt} (hs : (Kept r.s).1 = (Kept c.s).1)
    (h : Fp.Processed Shrinks c x r) : Fr c r := by
  cases h with
  | refused e => exact fr_vErr c e
  | delivered p m _ hm hm' => exact .of_emits (Prod.ext hs (by rw [push_s, hm'])) (hm.push (.of_tag nofun))

theorem fr_prPubrel (c : C) (x : Except Nat Pkt) : Fr c (prPubrel c x) :=
  fr_processed (by rw [Fp.prPubrel_s]) (Fp.prPubrel_processed (shrinks_own c) x fun _ _ _ => trivial)
theorem fr_prPlain (c : C) (x : Except Nat Pkt) : Fr c (prPlain c x) :=
  fr_processed (by rw [Fp.prPlain_s]) (Fp.prPlain_processed shrinks_quiet c x)
theorem fr_prSubUnsuback (c : C) (b : Bool) (x : Except Nat Pkt) : Fr c (prSubUnsuback c b x) :=
  fr_processed (by rw [Fp.prSubUnsuback_s]) (Fp.prSubUnsuback_processed shrinks_quiet c b x)
theorem fr_prPingreq (c : C) (x : Except Nat Pkt) : Fr c (prPingreq c x) :=
  fr_processed (by rw [Fp.prPingreq_s]) (Fp.prPingreq_processed (shrinks_own c) x fun _ _ _ => trivial)
theorem fr_prPingresp (c : C) (x : Except Nat Pkt) : Fr c (prPingresp c x) :=
  fr_processed (by rw [Fp.prPingresp_s]) (Fp.prPingresp_processed shrinks_quiet c x)
theorem fr_prDisconnect (c : C) (x : Except Nat Pkt) : Fr c (prDisconnect c x) :=
  fr_processed (by rw [Fp.prDisconnect_s]) (Fp.prDisconnect_processed shrinks_quiet c x)

theorem fr_notifyTimerFired (c : C) (k : Timer) : Fr c (notifyTimerFired c k) :=
  .of_closes (by rw [Fp.notifyTimerFired_s]) (Fp.notifyTimerFired_mild (S := fun _ => True) trivial c k).closes
    (shrinks_orCloses (Fp.notifyTimerFired_orCloses (shrinks_own c) (shrinks_closing c) (fun _ => trivial) k))

theorem fr_setPingreqSendInterval (c : C) (d : Option Nat) : Fr c (setPingreqSendInterval c d) :=
  .of_fp (by rw [Fp.setPingreqSendInterval_s]) (Fp.setPingreqSendInterval_ev c d)

end MqttVerif.Conn.Pend
