import MqttVerif.Conn.Lemmas.PairAbs
/-!
# Generated phase table (helper for `Props/C01L2c.lean`)

Two OPPOSITE exchanges in flight: `startBoth v P1 P2`, `P1` QoS 1 client→server, `P2` QoS 2 server→client.
`Ph`: the 31 phases that ANY schedule of `Act4` actions passes through (found by a breadth-first search on concrete
packets; a phase is a shape of the pair together with how often each message has been notified and each identifier
released so far, so a shape may occur in several phases).
`sysOf`: the shape; `next`: the successor; `nS nC rC rS`: the PUBLISH notifications at the server / client application and
the identifiers released by the client / server in that step.  `tab` collects them; `ok`, `counts`, `loss` (`PairAbs.lean`):
the kernel reads the table in tokens, runs the machine `astep` on every phase and action and finds the table's successor
and outputs - so the table is right for arbitrary packets and both versions (`closure`) - and checks that the outputs
follow the progress of the two exchanges as the shapes show it (`Counted`), and the runs with one loss.
-/
set_option linter.unusedVariables false
namespace MqttVerif.Conn.Pair.G6_12
open MqttVerif MqttVerif.Conn MqttVerif.Conn.Pair

inductive Ph
  | p0
  | p1
  | p2
  | p3
  | p4
  | p5
  | p6
  | p7
  | p8
  | p9
  | p10
  | p11
  | p12
  | p13
  | p14
  | p15
  | p16
  | p17
  | p18
  | p19
  | p20
  | p21
  | p22
  | p23
  | p24
  | p25
  | p26
  | p27
  | p28
  | p29
  | p30
deriving DecidableEq, Repr

def sysOf (v : Nat) (P1 P2 : Pkt) : Ph → Sys
  | .p0 =>
    { c := mkSt v true .connected [⟨2, 65535⟩] [(1, P1.asDup)] [1] [] [] [] [],
      s := mkSt v false .connected [⟨2, 65535⟩] [(1, P2.asDup)] [] [1] [] [] [],
      c2s := [P1], s2c := [P2] }
  | .p1 =>
    { c := mkSt v true .connected [⟨2, 65535⟩] [(1, P1.asDup)] [1] [] [] [] [],
      s := mkSt v false .connected [⟨2, 65535⟩] [(1, P2.asDup)] [] [1] [] [] [],
      c2s := [], s2c := [P2, (ackN v .puback 1)] }
  | .p2 =>
    { c := mkSt v true .connected [⟨2, 65535⟩] [(1, P1.asDup)] [1] [] [] [1] (prl v [1]),
      s := mkSt v false .connected [⟨2, 65535⟩] [(1, P2.asDup)] [] [1] [] [] [],
      c2s := [P1, (ackN v .pubrec 1)], s2c := [] }
  | .p3 =>
    { c := mkSt v true .connected [⟨2, 65535⟩] [(1, P1.asDup)] [1] [] [] [] [],
      s := mkSt v false .connected [⟨2, 65535⟩] [(1, P2.asDup)] [] [1] [] [] [],
      c2s := [P1.asDup], s2c := [P2.asDup] }
  | .p4 =>
    { c := mkSt v true .connected [⟨2, 65535⟩] [(1, P1.asDup)] [1] [] [] [1] (prl v [1]),
      s := mkSt v false .connected [⟨2, 65535⟩] [(1, P2.asDup)] [] [1] [] [] [],
      c2s := [(ackN v .pubrec 1)], s2c := [(ackN v .puback 1)] }
  | .p5 =>
    { c := mkSt v true .connected [⟨2, 65535⟩] [(1, P1.asDup)] [1] [] [] [] [],
      s := mkSt v false .connected [⟨2, 65535⟩] [(1, P2.asDup)] [] [1] [] [] [],
      c2s := [P1.asDup], s2c := [P2.asDup] }
  | .p6 =>
    { c := mkSt v true .connected [⟨2, 65535⟩] [(1, P1.asDup)] [1] [] [] [1] [],
      s := mkSt v false .connected [⟨2, 65535⟩] [(1, P2.asDup)] [] [1] [] [] [],
      c2s := [P1.asDup], s2c := [P2.asDup] }
  | .p7 =>
    { c := mkSt v true .connected [⟨2, 65535⟩] [(1, P1.asDup)] [1] [] [] [] [],
      s := mkSt v false .connected [⟨2, 65535⟩] [(1, P2.asDup)] [] [1] [] [] [],
      c2s := [], s2c := [P2.asDup, (ackN v .puback 1)] }
  | .p8 =>
    { c := mkSt v true .connected [⟨2, 65535⟩] [(1, P1.asDup)] [1] [] [] [1] (prl v [1]),
      s := mkSt v false .connected [⟨2, 65535⟩] [(1, P2.asDup)] [] [1] [] [] [],
      c2s := [P1.asDup, (ackN v .pubrec 1)], s2c := [] }
  | .p9 =>
    { c := mkSt v true .connected [⟨2, 65535⟩] [(1, P1.asDup)] [1] [] [] [1] (prl v [1]),
      s := mkSt v false .connected [⟨2, 65535⟩] [(1, (ackN v .pubrel 1))] [] [] [1] [] [],
      c2s := [], s2c := [(ackN v .puback 1), (ackN v .pubrel 1)] }
  | .p10 =>
    { c := mkSt v true .connected [⟨1, 65535⟩] [] [] [] [] [1] (prl v [1]),
      s := mkSt v false .connected [⟨2, 65535⟩] [(1, P2.asDup)] [] [1] [] [] [],
      c2s := [(ackN v .pubrec 1)], s2c := [] }
  | .p11 =>
    { c := mkSt v true .connected [⟨2, 65535⟩] [(1, P1.asDup)] [1] [] [] [1] [],
      s := mkSt v false .connected [⟨2, 65535⟩] [(1, P2.asDup)] [] [1] [] [] [],
      c2s := [P1.asDup], s2c := [P2.asDup] }
  | .p12 =>
    { c := mkSt v true .connected [⟨2, 65535⟩] [(1, P1.asDup)] [1] [] [] [1] (prl v [1]),
      s := mkSt v false .connected [⟨2, 65535⟩] [(1, P2.asDup)] [] [1] [] [] [],
      c2s := [P1.asDup, (ackN v .pubrec 1)], s2c := [] }
  | .p13 =>
    { c := mkSt v true .connected [⟨2, 65535⟩] [(1, P1.asDup)] [1] [] [] [1] [],
      s := mkSt v false .connected [⟨2, 65535⟩] [(1, P2.asDup)] [] [1] [] [] [],
      c2s := [], s2c := [P2.asDup, (ackN v .puback 1)] }
  | .p14 =>
    { c := mkSt v true .connected [⟨1, 65535⟩] [] [] [] [] [1] (prl v [1]),
      s := mkSt v false .connected [⟨2, 65535⟩] [(1, (ackN v .pubrel 1))] [] [] [1] [] [],
      c2s := [], s2c := [(ackN v .pubrel 1)] }
  | .p15 =>
    { c := mkSt v true .connected [⟨2, 65535⟩] [(1, P1.asDup)] [1] [] [] [1] [],
      s := mkSt v false .connected [⟨2, 65535⟩] [(1, (ackN v .pubrel 1))] [] [] [1] [] [],
      c2s := [P1.asDup], s2c := [(ackN v .pubrel 1)] }
  | .p16 =>
    { c := mkSt v true .connected [⟨1, 65535⟩] [] [] [] [] [1] [],
      s := mkSt v false .connected [⟨2, 65535⟩] [(1, P2.asDup)] [] [1] [] [] [],
      c2s := [], s2c := [P2.asDup] }
  | .p17 =>
    { c := mkSt v true .connected [⟨1, 65535⟩] [] [] [] [] [] [],
      s := mkSt v false .connected [⟨2, 65535⟩] [(1, (ackN v .pubrel 1))] [] [] [1] [] [],
      c2s := [(ackN v .pubcomp 1)], s2c := [] }
  | .p18 =>
    { c := mkSt v true .connected [⟨1, 65535⟩] [] [] [] [] [1] [],
      s := mkSt v false .connected [⟨2, 65535⟩] [(1, (ackN v .pubrel 1))] [] [] [1] [] [],
      c2s := [], s2c := [(ackN v .pubrel 1)] }
  | .p19 =>
    { c := mkSt v true .connected [⟨2, 65535⟩] [(1, P1.asDup)] [1] [] [] [1] [],
      s := mkSt v false .connected [⟨2, 65535⟩] [(1, (ackN v .pubrel 1))] [] [] [1] [] [],
      c2s := [], s2c := [(ackN v .pubrel 1), (ackN v .puback 1)] }
  | .p20 =>
    { c := mkSt v true .connected [⟨2, 65535⟩] [(1, P1.asDup)] [1] [] [] [] [],
      s := mkSt v false .connected [⟨2, 65535⟩] [(1, (ackN v .pubrel 1))] [] [] [1] [] [],
      c2s := [P1.asDup, (ackN v .pubcomp 1)], s2c := [] }
  | .p21 =>
    { c := mkSt v true .connected [⟨1, 65535⟩] [] [] [] [] [] [],
      s := mkSt v false .connected [⟨1, 65535⟩] [] [] [] [] [] [],
      c2s := [], s2c := [] }
  | .p22 =>
    { c := mkSt v true .connected [⟨1, 65535⟩] [] [] [] [] [] [],
      s := mkSt v false .connected [⟨2, 65535⟩] [(1, (ackN v .pubrel 1))] [] [] [1] [] [],
      c2s := [], s2c := [(ackN v .pubrel 1)] }
  | .p23 =>
    { c := mkSt v true .connected [⟨2, 65535⟩] [(1, P1.asDup)] [1] [] [] [] [],
      s := mkSt v false .connected [⟨2, 65535⟩] [(1, (ackN v .pubrel 1))] [] [] [1] [] [],
      c2s := [(ackN v .pubcomp 1)], s2c := [(ackN v .puback 1)] }
  | .p24 =>
    { c := mkSt v true .connected [⟨2, 65535⟩] [(1, P1.asDup)] [1] [] [] [] [],
      s := mkSt v false .connected [⟨2, 65535⟩] [(1, (ackN v .pubrel 1))] [] [] [1] [] [],
      c2s := [P1.asDup], s2c := [(ackN v .pubrel 1)] }
  | .p25 =>
    { c := mkSt v true .connected [⟨1, 65535⟩] [] [] [] [] [] [],
      s := mkSt v false .connected [⟨2, 65535⟩] [(1, (ackN v .pubrel 1))] [] [] [1] [] [],
      c2s := [(pcA v 1)], s2c := [] }
  | .p26 =>
    { c := mkSt v true .connected [⟨2, 65535⟩] [(1, P1.asDup)] [1] [] [] [] [],
      s := mkSt v false .connected [⟨1, 65535⟩] [] [] [] [] [] [],
      c2s := [], s2c := [(ackN v .puback 1)] }
  | .p27 =>
    { c := mkSt v true .connected [⟨2, 65535⟩] [(1, P1.asDup)] [1] [] [] [] [],
      s := mkSt v false .connected [⟨2, 65535⟩] [(1, (ackN v .pubrel 1))] [] [] [1] [] [],
      c2s := [], s2c := [(ackN v .pubrel 1), (ackN v .puback 1)] }
  | .p28 =>
    { c := mkSt v true .connected [⟨2, 65535⟩] [(1, P1.asDup)] [1] [] [] [] [],
      s := mkSt v false .connected [⟨2, 65535⟩] [(1, (ackN v .pubrel 1))] [] [] [1] [] [],
      c2s := [P1.asDup, (pcA v 1)], s2c := [] }
  | .p29 =>
    { c := mkSt v true .connected [⟨2, 65535⟩] [(1, P1.asDup)] [1] [] [] [] [],
      s := mkSt v false .connected [⟨1, 65535⟩] [] [] [] [] [] [],
      c2s := [P1.asDup], s2c := [] }
  | .p30 =>
    { c := mkSt v true .connected [⟨2, 65535⟩] [(1, P1.asDup)] [1] [] [] [] [],
      s := mkSt v false .connected [⟨2, 65535⟩] [(1, (ackN v .pubrel 1))] [] [] [1] [] [],
      c2s := [(pcA v 1)], s2c := [(ackN v .puback 1)] }

def next (ph : Ph) (a : Act4) : Ph :=
  match ph with
  | .p0 => sel a .p1 .p2 .p1 .p3
  | .p1 => sel a .p1 .p4 .p4 .p5
  | .p2 => sel a .p4 .p2 .p4 .p6
  | .p3 => sel a .p7 .p8 .p7 .p3
  | .p4 => sel a .p9 .p10 .p9 .p11
  | .p5 => sel a .p7 .p12 .p7 .p5
  | .p6 => sel a .p13 .p8 .p13 .p6
  | .p7 => sel a .p7 .p4 .p4 .p5
  | .p8 => sel a .p4 .p8 .p4 .p6
  | .p9 => sel a .p9 .p14 .p14 .p15
  | .p10 => sel a .p14 .p10 .p14 .p16
  | .p11 => sel a .p13 .p12 .p13 .p11
  | .p12 => sel a .p4 .p12 .p4 .p11
  | .p13 => sel a .p13 .p4 .p4 .p11
  | .p14 => sel a .p14 .p17 .p17 .p18
  | .p15 => sel a .p19 .p20 .p19 .p15
  | .p16 => sel a .p16 .p10 .p10 .p16
  | .p17 => sel a .p21 .p17 .p21 .p22
  | .p18 => sel a .p18 .p17 .p17 .p18
  | .p19 => sel a .p19 .p23 .p23 .p15
  | .p20 => sel a .p23 .p20 .p23 .p24
  | .p21 => sel a .p21 .p21 .p21 .p21
  | .p22 => sel a .p22 .p25 .p25 .p22
  | .p23 => sel a .p26 .p17 .p26 .p24
  | .p24 => sel a .p27 .p28 .p27 .p24
  | .p25 => sel a .p21 .p25 .p21 .p22
  | .p26 => sel a .p26 .p21 .p21 .p29
  | .p27 => sel a .p27 .p30 .p30 .p24
  | .p28 => sel a .p30 .p28 .p30 .p24
  | .p29 => sel a .p26 .p29 .p26 .p29
  | .p30 => sel a .p26 .p25 .p26 .p24

def nS (P1 P2 : Pkt) (ph : Ph) (a : Act4) : List Pkt :=
  match ph with
  | .p0 => sel a [P1] [] [P1] []
  | .p2 => sel a [P1] [] [P1] []
  | .p3 => sel a [P1.asDup] [] [P1.asDup] []
  | .p5 => sel a [P1.asDup] [] [P1.asDup] []
  | .p6 => sel a [P1.asDup] [] [P1.asDup] []
  | .p8 => sel a [P1.asDup] [] [P1.asDup] []
  | .p11 => sel a [P1.asDup] [] [P1.asDup] []
  | .p12 => sel a [P1.asDup] [] [P1.asDup] []
  | .p15 => sel a [P1.asDup] [] [P1.asDup] []
  | .p20 => sel a [P1.asDup] [] [P1.asDup] []
  | .p24 => sel a [P1.asDup] [] [P1.asDup] []
  | .p28 => sel a [P1.asDup] [] [P1.asDup] []
  | .p29 => sel a [P1.asDup] [] [P1.asDup] []
  | _ => []

def nC (P1 P2 : Pkt) (ph : Ph) (a : Act4) : List Pkt :=
  match ph with
  | .p0 => sel a [] [P2] [] []
  | .p1 => sel a [] [P2] [P2] []
  | .p3 => sel a [] [P2.asDup] [] []
  | .p5 => sel a [] [P2.asDup] [] []
  | .p7 => sel a [] [P2.asDup] [P2.asDup] []
  | _ => []

def rC (ph : Ph) (a : Act4) : List Nat :=
  match ph with
  | .p4 => sel a [] [1] [] []
  | .p9 => sel a [] [1] [1] []
  | .p23 => sel a [] [1] [] []
  | .p26 => sel a [] [1] [1] []
  | .p30 => sel a [] [1] [] []
  | _ => []

def rS (ph : Ph) (a : Act4) : List Nat :=
  match ph with
  | .p17 => sel a [1] [] [1] []
  | .p23 => sel a [1] [] [1] []
  | .p25 => sel a [1] [] [1] []
  | .p30 => sel a [1] [] [1] []
  | _ => []

abbrev tab : PhaseData := ⟨Ph, sysOf, next, nS, nC, rC, rS, .p0, .p21⟩

instance (p : Ph → Prop) [DecidablePred p] : Decidable (∀ ph, p ph) :=
  decidableForallEnum Ph.ofNat Ph.ctorIdx Ph.ofNat_ctorIdx 31 (by intro ph; cases ph <;> decide) p

theorem ok : tab.Ok 1 2 1 (astartBoth 1 2) where
  sys_abs v P1 P2 ph := by cases ph <;> rfl
  nS_abs v P1 P2 ph a := by cases ph <;> exact row_abs rfl a
  nC_abs v P1 P2 ph a := by cases ph <;> exact row_abs rfl a
  steps := by decide +kernel

theorem counts : tab.Counts6 1 2 := by
  decide +kernel

theorem loss : tab.Loss6 1 2 := by
  decide +kernel

section
variable {v : Nat} {P1 P2 : Pkt} (hv : v = 4 ∨ v = 5) (hA : IsPub v 1 P1) (hB : IsPub v 2 P2)
include hv hA hB

theorem closure (ph : Ph) (a : Act4) :
    Obs2 (sysOf v P1 P2 (next ph a)) (nS P1 P2 ph a) (nC P1 P2 ph a) (rC ph a) (rS ph a) (act4 v (sysOf v P1 P2 ph) a) :=
  ok.closure hv hA hB.isPubN ph a
end

end MqttVerif.Conn.Pair.G6_12
