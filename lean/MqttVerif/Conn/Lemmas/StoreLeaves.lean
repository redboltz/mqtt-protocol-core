import MqttVerif.Conn.Lemmas.P7Store
import MqttVerif.Conn.Lemmas.FootprintIdsStep
/-!
# C06 lemmas: how entries leave the store — what the store column of the identifier primitives (`IdPrim.onStore`) says
of the sequences that a received packet, a send and the other calls run
-/
namespace MqttVerif.Conn
open MqttVerif

def waitSet (s : St) : Nat → List Nat
  | 4 => s.puback
  | 5 => s.pubrec
  | 7 => s.pubcomp
  | _ => []

def ackKind : Nat → Kind
  | 4 => .puback
  | 5 => .pubrec
  | _ => .pubcomp

/-- An entry leaves the store while a packet is received only if the packet is parsed and (i) it is an awaited
    acknowledgement and `Store::erase` removes the entry, (ii) it is a CONNACK that resumes the session and the entry
    does not fit, or (iii) it starts a new session. -/
theorem RecvOut.leaves {cfg : Cfg} {s : St} {t : Nat} {x : Except Nat Pkt} {mps : Nat} {l : List IdPrim}
    (h : RecvOut cfg s t x mps l) {e : Nat × Pkt} (h1 : e ∈ s.store) (h2 : e ∉ (IdPrim.runAll l s.ids).1.store) :
    ∃ p, x = .ok p ∧
      ((∃ k, t = k.nibble ∧ (k = .puback ∨ k = .pubrec ∨ k = .pubcomp) ∧ p.pid.getD 0 ∈ s.ids.wait k ∧
          e ∉ storeErase p.ver k (p.pid.getD 0) s.store) ∨
        (t = 2 ∧ p.rc = some 0 ∧ p.sp = true ∧ (IdPrim.runAll l s.ids).1.store = fits cfg.pw mps s.store) ∨
        (NewSess t p ∧ (IdPrim.runAll l s.ids).1.store = [])) := by
  rw [IdPrim.runAll_store_eq l s.ids fun _ => h.not_mem_restore] at h2 ⊢
  change e ∉ l.foldl _ s.store at h2
  cases h with
  | keep => exact absurd h1 h2
  | connect p ht hx hs =>
    cases hc : p.clean with
    | false => rw [hc] at h2; exact absurd h1 h2
    | true => exact ⟨p, hx, .inr (.inr ⟨.inl ⟨ht, hc⟩, rfl⟩)⟩
  | connack p cleared ht hx hs hrc hc =>
    refine ⟨p, hx, .inr ?_⟩
    rw [List.foldl_append]
    cases hsp : p.sp with
    | false => exact .inr ⟨.inr ⟨ht, hrc, .inl hsp⟩, rfl⟩
    | true =>
      rw [if_pos rfl, IdPrim.foldl_onStore_resend]
      cases cleared with
      | false => exact .inl ⟨ht, hrc, rfl, rfl⟩
      | true =>
        obtain ⟨-, y, hy, hy1, hy2⟩ := hc.1 rfl
        exact .inr ⟨.inr ⟨ht, hrc, .inr (by rw [← hy1, ← hy2]; exact hy)⟩, rfl⟩
  | ack p k id ht hx hid hw hk =>
    subst hid
    exact ⟨p, hx, .inl ⟨k, ht, hk.elim .inl fun h => h.elim (.inr ∘ .inr) fun h => .inr (.inl h.1), hw, h2⟩⟩
  | pubrec p id rel ht hx hid hw hok hu =>
    subst hid
    refine ⟨p, hx, .inl ⟨.pubrec, ht, .inr (.inl rfl), hw, fun hm => h2 ?_⟩⟩
    -- the PUBREL that answers is added to what the erasure left
    cases rel with
    | false => exact hm
    | true =>
      cases s.needStore with
      | false => exact hm
      | true =>
        exact Fp.ite_ind (Q := fun r => e ∈ r) (fun _ => hm) (fun _ => List.mem_append_left _ hm)
  | suback p k id ht hx hid hw hk => exact absurd h1 h2

theorem Q2Sum.delivered {t : Nat} {x : Except Nat Pkt} {c c' : C} {p : Pkt} (h : Q2Sum t x c c') (hx : x = .ok p)
    (ht : t ≠ 3) (hs : c'.s.store ≠ c.s.store) : recvs c'.ev = recvs c.ev ++ [p] := by
  subst hx
  cases h with
  | quiet _ _ a => exact absurd a hs
  | plain p0 p' hx a _ e => rw [a, e ht, Except.ok.inj hx]
  | pubrel p0 hx _ a => rw [a, Except.ok.inj hx]
  | newSess p0 hx _ a => rw [a, Except.ok.inj hx]
  | notify _ _ _ _ h3 => exact absurd h3 ht

/-- The causes by which the entry `e` has left the store when a `recv` call went from `c` to `c'` (`RecvOut.leaves`),
    with the packet the call parsed and handed to the application. -/
def RecvLeaves (parse : Nat → Nat → List Nat → Except Nat Pkt) (c : C) (e : Nat × Pkt) (c' : C) : Prop :=
  ∃ v fh d p, parse v fh d = .ok p ∧ recvs c'.ev = recvs c.ev ++ [p] ∧
    ((∃ k, fh / 16 = k.nibble ∧ (k = .puback ∨ k = .pubrec ∨ k = .pubcomp) ∧ p.pid.getD 0 ∈ c.s.ids.wait k ∧
        e ∉ storeErase p.ver k (p.pid.getD 0) c.s.store) ∨
      (fh / 16 = 2 ∧ p.rc = some 0 ∧ p.sp = true ∧ c'.s.store = fits c.cfg.pw c'.s.mpsSend c.s.store) ∨
      (NewSess (fh / 16) p ∧ c'.s.store = []))

theorem recv_leaves (c : C) (inp : List Nat) (parse : Nat → Nat → List Nat → Except Nat Pkt)
    (hq : ∀ v fh d p, parse v fh d = .ok p → p.qos ≤ 2) {e : Nat × Pkt} (h1 : e ∈ c.s.store)
    (h2 : e ∉ (recv c inp parse).1.s.store) : RecvLeaves parse c e (recv c inp parse).1 := by
  revert h2
  refine Fp.recv_frame (Q := fun c' => e ∉ c'.s.store → RecvLeaves parse c e c') c inp parse
    (fun c' h h2 => absurd (by rw [h.s]; exact h1) h2) (fun c0 fh d hc he hs h2 => ?_)
  have hst : c0.s.store = c.s.store := by rw [← hs]
  obtain ⟨l, ho, hr⟩ := Fp.dispatchRecv_ids c0 (fh / 16) (parse c0.s.ver fh d)
  have hstore := congrArg Ids.store hr.ids
  change (dispatchRecv c0 _ _).s.store = _ at hstore
  rw [hstore] at h2
  obtain ⟨p, hx, hcase⟩ := ho.leaves (hst ▸ h1) h2
  have ht : fh / 16 ≠ 3 := by
    rcases hcase with ⟨k, hk, hk' | hk' | hk', -⟩ | ⟨hk, -⟩ | ⟨⟨hk, -⟩ | ⟨hk, -⟩, -⟩ <;> rw [hk]
    · rw [hk']; decide
    · rw [hk']; decide
    · rw [hk']; decide
    · decide
    · decide
    · decide
  refine ⟨c0.s.ver, fh, d, p, hx, ?_, ?_⟩
  · rw [← he]
    refine (dispatchRecv_sum c0 _ _ (hq _ fh d)).delivered hx ht fun h => h2 ?_
    rw [← hstore, h, hst]
    exact h1
  · rw [hc, hst, ← hstore] at hcase
    rw [show c0.s.ids.wait = c.s.ids.wait by rw [← hs]; rfl] at hcase
    exact hcase

/-- An entry leaves the store while a packet is sent only if the packet (i) is a CONNECT with clean start, (ii) is
    an accepted CONNACK — the session is resumed and the entry does not fit, or a new session begins — or (iii) is a
    v5.0 PUBLISH with the identifier of the entry (`pubRefuseCleanup`). -/
theorem SendOut.leaves {cfg : Cfg} {s : St} {p : Pkt} {l : List IdPrim} (h : SendOut cfg s p l) {e : Nat × Pkt}
    (h1 : e ∈ s.store) (h2 : e ∉ (IdPrim.runAll l s.ids).1.store) :
    (p.kind = .connect ∧ p.clean = true ∧ (IdPrim.runAll l s.ids).1.store = []) ∨
      (p.kind = .connack ∧ p.rc = some 0 ∧
        ((p.sp = true ∧ (IdPrim.runAll l s.ids).1.store = fits cfg.pw s.mpsSend s.store) ∨
          (p.sp = false ∧ (IdPrim.runAll l s.ids).1.store = []))) ∨
      (p.kind = .publish ∧ p.ver ≠ 4 ∧ p.pid = some e.1) := by
  rw [IdPrim.runAll_store_eq l s.ids fun _ => h.not_mem_restore] at h2 ⊢
  change e ∉ l.foldl _ s.store at h2
  have add : ∀ (b : Bool) (id : Nat) (q : Pkt),
      e ∈ (if b then [IdPrim.store id q] else []).foldl (fun st a => a.onStore st) s.store := fun b id q => by
    cases b
    · exact h1
    · exact Fp.ite_ind (Q := fun r => e ∈ r) (fun _ => h1) (fun _ => List.mem_append_left _ h1)
  -- the refusal cleanup of the identifier `id` removes an entry with another identifier from no store
  have cleanup : ∀ (id : Nat) (st : List (Nat × Pkt)), e ∈ st →
      e ∉ (IdPrim.cleanup id).foldl (fun st a => a.onStore st) st → e.1 = id := fun id st hm hn =>
    (storeErasePublish_removed hm hn).1
  cases h with
  | keep => exact absurd h1 h2
  | refuse id hk hid hp => exact absurd h1 h2
  | exchange id q stored hk hid hu hq hs =>
    rw [List.foldl_append] at h2
    exact absurd (add stored id q) h2
  | exchangeRefused id q stored hk hid hu hq hs hv =>
    rw [List.foldl_append, List.foldl_append] at h2
    exact .inr (.inr ⟨hk.1, hv, by rw [hid, cleanup id _ (add stored id q) h2]⟩)
  | cleanup id hk hid hu hv => exact .inr (.inr ⟨hk.1, hv, by rw [hid, cleanup id _ h1 h2]⟩)
  | subscribe id hk hid hu => exact absurd h1 h2
  | connect hk hs =>
    cases hc : p.clean with
    | false => rw [hc] at h2; exact absurd h1 h2
    | true => exact .inl ⟨hk, rfl, rfl⟩
  | connack hk hs hrc =>
    refine .inr (.inl ⟨hk, hrc, ?_⟩)
    cases hsp : p.sp with
    | false => exact .inr ⟨rfl, rfl⟩
    | true => exact .inl ⟨rfl, IdPrim.foldl_onStore_resend ..⟩

theorem send_publish_sent (c : C) (p : Pkt) (hk : p.kind = .publish) : PubSent p c (send c p) := by
  have refused : ∀ e, PubSent p c (refuseSend c e p) := fun e =>
    .refused fun h => by
      have hl := congrArg List.length h
      rw [refuseSend_errs, List.length_append] at hl
      exact absurd hl (by simp)
  refine Fp.send_cases c p (fun _ => refused _) (fun _ _ => refused _) (fun _ _ => ?_)
  rw [Fp.processSend_publish c hk]
  exact Fp.ite_ind (fun _ => psV3Publish_sent c p) (fun _ => psV5Publish_sent c p)

theorem send_leaves (c : C) (p : Pkt) {e : Nat × Pkt} (h1 : e ∈ c.s.store) (h2 : e ∉ (send c p).s.store) :
    (p.kind = .connect ∧ p.clean = true ∧ (send c p).s.store = []) ∨
    (p.kind = .connack ∧ p.rc = some 0 ∧ p.sp = true ∧ p ∈ sends (send c p).ev ∧
      (send c p).s.store = fits c.cfg.pw (send c p).s.mpsSend c.s.store) ∨
    (p.kind = .publish ∧ p.ver ≠ 4 ∧ errs (send c p).ev ≠ errs c.ev ∧ p.pid = some e.1) ∨
    (p.kind = .connack ∧ p.rc = some 0 ∧ p.sp = false ∧ (send c p).s.store = []) := by
  obtain ⟨l, ho, hr⟩ := Fp.send_ids c p
  have hst : (send c p).s.store = (IdPrim.runAll l c.s.ids).1.store := congrArg Ids.store hr.ids
  rw [hst] at h2 ⊢
  rcases ho.leaves h1 h2 with ⟨hk, hc, hs⟩ | ⟨hk, hrc, ⟨hsp, hs⟩ | ⟨hsp, hs⟩⟩ | ⟨hk, hv, hid⟩
  · exact .inl ⟨hk, hc, hs⟩
  · refine .inr (.inl ⟨hk, hrc, hsp, ?_, by rw [hs, Fp.send_s]⟩)
    rcases send_conn_sent c p (.inr hk) with h | h
    · exact absurd (by rw [← hst, h]; exact h1) h2
    · exact mem_sends.2 ⟨none, h⟩
  · exact .inr (.inr (.inr ⟨hk, hrc, hsp, hs⟩))
  · cases send_publish_sent c p hk with
    | refused he => exact .inr (.inr (.inl ⟨hk, hv, he, hid⟩))
    | accepted _ hs => exact absurd (hst ▸ hs e h1) h2

/-- An entry leaves the store during a call that neither sends nor receives only by a non-persistent
    `notify_closed` or by `erase_stored_publish` for its identifier. -/
theorem StepOut.leaves {cfg : Cfg} {s : St} {mps : Nat} {op : Op} {l : List IdPrim} (h : StepOut cfg s mps op l)
    (hs : ∀ p, op ≠ .send p) (hr : ∀ i q, op ≠ .recv i q) {e : Nat × Pkt} (h1 : e ∈ s.store)
    (h2 : e ∉ (IdPrim.runAll l s.ids).1.store) :
    (op = .closed ∧ s.needStore = false ∧ (IdPrim.runAll l s.ids).1.store = []) ∨
      ∃ q, op = .erase e.1 ∧ lookup e.1 s.store = some q ∧ q.kind = .publish := by
  by_cases hps : ∃ ps, op = .restorePackets ps
  · obtain ⟨ps, rfl⟩ := hps
    cases h with
    | keep => exact absurd h1 h2
    | restore => exact absurd (IdPrim.restore_mono ps s.ids h1) h2
  rw [IdPrim.runAll_store_eq l s.ids fun r hm => hps ((h.mem_restore hm).imp fun _ h => h.1)] at h2 ⊢
  change e ∉ l.foldl _ s.store at h2
  cases h with
  | keep => exact absurd h1 h2
  | send p => exact absurd rfl (hs p)
  | recv inp parse => exact absurd rfl (hr inp parse)
  | restore ps => exact absurd ⟨ps, rfl⟩ hps
  | closed =>
    rw [IdPrim.foldl_onStore_close] at h2 ⊢
    cases hn : s.needStore with
    | true => rw [hn] at h2; exact absurd h1 h2
    | false => exact .inl ⟨rfl, rfl, rfl⟩
  | acquire => exact absurd h1 h2
  | register id => exact absurd h1 h2
  | release id hu => exact absurd h1 h2
  | erase id he =>
    obtain ⟨rfl, q, hl, hk⟩ := storeErasePublish_removed h1 h2
    exact .inr ⟨q, rfl, hl, hk⟩

end MqttVerif.Conn
