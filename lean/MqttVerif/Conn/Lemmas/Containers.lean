import MqttVerif.Conn.Step
/-!
# The list containers of `Conn/Model.lean`

`ins`/`del` (identifier sets), `lookup`/`erase` (keyed lists) and the store functions built on them, each
through its membership fact; the acknowledgement a stored packet awaits (`respOf`) and the type nibble of a packet kind;
keyed lists whose keys are pairwise distinct (`KN`).
-/
namespace MqttVerif.Conn
open MqttVerif

theorem mem_ins {x y : Nat} {l : List Nat} : x ∈ ins y l ↔ x = y ∨ x ∈ l := by
  unfold ins; split <;> simp_all

theorem mem_ite_ins {b : Prop} [Decidable b] {x y : Nat} {l : List Nat} (h : x ∈ if b then ins y l else l) :
    x = y ∨ x ∈ l := by
  by_cases hb : b
  · rw [if_pos hb] at h
    exact mem_ins.1 h
  · rw [if_neg hb] at h
    exact .inr h

theorem mem_del {x y : Nat} {l : List Nat} : x ∈ del y l ↔ x ∈ l ∧ x ≠ y := by
  simp [del]

theorem mem_erase {α : Type} {k : Nat} {l : List (Nat × α)} {e : Nat × α} : e ∈ erase k l ↔ e ∈ l ∧ e.1 ≠ k := by
  simp [erase]

theorem erase_sublist {α : Type} (k : Nat) (l : List (Nat × α)) : (erase k l).Sublist l := List.filter_sublist

theorem mem_of_lookup {α : Type} {k : Nat} {l : List (Nat × α)} {v : α} (h : lookup k l = some v) : (k, v) ∈ l := by
  induction l with
  | nil => simp [lookup] at h
  | cons a t ih =>
    obtain ⟨k', v'⟩ := a
    simp only [lookup] at h
    split at h
    · simp_all
    · simp [ih h]

theorem lookup_map {α β : Type} (f : α → β) (k : Nat) (l : List (Nat × α)) :
    lookup k (l.map fun x => (x.1, f x.2)) = (lookup k l).map f := by
  induction l with
  | nil => rfl
  | cons x l ih => simp only [List.map_cons, lookup]; split <;> simp [ih]

theorem erase_map {α β : Type} (f : α → β) (k : Nat) (l : List (Nat × α)) :
    erase k (l.map fun x => (x.1, f x.2)) = (erase k l).map fun x => (x.1, f x.2) := by
  simp [erase, List.filter_map, Function.comp_def]

theorem storeHas_iff {id : Nat} {st : List (Nat × Pkt)} : storeHas id st = true ↔ ∃ q, (id, q) ∈ st := by
  simp [storeHas]

theorem respOf_cases (q : Pkt) : respOf q = .pubcomp ∨ respOf q = .pubrec ∨ respOf q = .puback := by
  unfold respOf
  by_cases h1 : q.kind = .pubrel
  · exact .inl (if_pos h1)
  · rw [if_neg h1]
    by_cases h2 : q.qos = 2
    · exact .inr (.inl (if_pos h2))
    · exact .inr (.inr (if_neg h2))

theorem publish_ne_pubrel {p : Pkt} (hk : p.kind = .publish) : p.kind ≠ .pubrel := by
  rw [hk]
  decide

theorem respOf_publish {p : Pkt} (hk : p.kind = .publish) : respOf p = if p.qos = 2 then .pubrec else .puback := by
  unfold respOf
  rw [if_neg (publish_ne_pubrel hk)]

theorem respOf_pubrel {p : Pkt} (hk : p.kind = .pubrel) : respOf p = .pubcomp := by
  unfold respOf
  rw [if_pos hk]

theorem Kind.ofNibble_nibble (k : Kind) : Kind.ofNibble k.nibble = some k := by cases k <;> rfl

theorem Kind.nibble_inj {k k' : Kind} (h : k.nibble = k'.nibble) : k = k' :=
  Option.some.inj (by rw [← Kind.ofNibble_nibble k, h, Kind.ofNibble_nibble])

theorem storeErase_sublist (v : Nat) (k : Kind) (id : Nat) (st : List (Nat × Pkt)) :
    (storeErase v k id st).Sublist st := by
  unfold storeErase
  cases lookup id st with
  | none => exact .refl _
  | some q =>
    dsimp only
    split
    · exact erase_sublist _ _
    · exact .refl _

theorem storeErasePublish_sublist (id : Nat) (st : List (Nat × Pkt)) : (storeErasePublish id st).2.Sublist st := by
  unfold storeErasePublish
  cases lookup id st with
  | none => exact .refl _
  | some q =>
    dsimp only
    split
    · exact erase_sublist _ _
    · exact .refl _

def KN (l : List (Nat × Pkt)) : Prop := (l.map (·.1)).Nodup

theorem KN_nil : KN [] := List.nodup_nil

theorem KN.sublist {l l' : List (Nat × Pkt)} (h : KN l) (hs : l'.Sublist l) : KN l' :=
  List.Pairwise.sublist (hs.map _) h

theorem KN.snoc {l : List (Nat × Pkt)} (h : KN l) {id : Nat} (hn : storeHas id l = false) (p : Pkt) :
    KN (l ++ [(id, p)]) := by
  unfold KN at *
  rw [List.map_append, List.nodup_append]
  refine ⟨h, List.pairwise_singleton _ _, fun a ha b hb e => ?_⟩
  obtain ⟨x, hx, rfl⟩ := List.mem_map.1 ha
  obtain rfl : x.1 = id := e.trans (List.mem_singleton.1 hb)
  exact Bool.false_ne_true (hn.symm.trans (storeHas_iff.2 ⟨x.2, hx⟩))

theorem eq_of_key {α : Type} {l : List (Nat × α)} (hn : (l.map (·.1)).Nodup) {a b : Nat × α} (ha : a ∈ l) (hb : b ∈ l)
    (h : a.1 = b.1) : a = b := by
  induction l with
  | nil => cases ha
  | cons y l ih =>
    rw [List.map_cons, List.nodup_cons] at hn
    rcases List.mem_cons.1 ha with rfl | ha'
    · rcases List.mem_cons.1 hb with rfl | hb'
      · rfl
      · exact absurd (List.mem_map.2 ⟨b, hb', h.symm⟩) hn.1
    · rcases List.mem_cons.1 hb with rfl | hb'
      · exact absurd (List.mem_map.2 ⟨a, ha', h⟩) hn.1
      · exact ih hn.2 ha' hb'

/-! ## a search or a fold that ignores the elements outside a class sees the filtered list -/

theorem findSome?_filter_of {α β : Type} (f : α → Option β) (p : α → Bool) (h : ∀ a, p a = false → f a = none)
    (l : List α) : l.findSome? f = (l.filter p).findSome? f := by
  induction l with
  | nil => rfl
  | cons a r ih =>
    cases hp : p a
    · rw [List.filter_cons_of_neg (by rw [hp]; exact Bool.false_ne_true), List.findSome?_cons, h a hp]; exact ih
    · rw [List.filter_cons_of_pos hp, List.findSome?_cons, List.findSome?_cons, ih]

theorem foldl_filter_of {α β : Type} (g : β → α → β) (p : α → Bool) (h : ∀ b a, p a = false → g b a = b)
    (l : List α) (b : β) : l.foldl g b = (l.filter p).foldl g b := by
  induction l generalizing b with
  | nil => rfl
  | cons a r ih =>
    cases hp : p a
    · rw [List.filter_cons_of_neg (by rw [hp]; exact Bool.false_ne_true), List.foldl_cons, h b a hp]; exact ih b
    · rw [List.filter_cons_of_pos hp, List.foldl_cons, List.foldl_cons]; exact ih _

theorem del_not_mem {id : Nat} {l : List Nat} (h : id ∉ l) : del id l = l := by
  unfold del; rw [List.filter_eq_self]; intro a ha; simp; intro e; subst e; exact h ha

theorem kind_of_nibble {k : Kind} {t : Nat} (h : k.nibble = t) :
    (t = 1 → k = .connect) ∧ (t = 2 → k = .connack) ∧ (t = 3 → k = .publish) ∧
    (t ≠ 1 → k ≠ .connect) ∧ (t ≠ 2 → k ≠ .connack) := by
  cases k <;> simp [Kind.nibble] at h <;> subst h <;> simp

end MqttVerif.Conn
