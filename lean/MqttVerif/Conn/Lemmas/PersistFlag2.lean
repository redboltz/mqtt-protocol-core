import MqttVerif.Conn.Lemmas.PersistFlag
import MqttVerif.Conn.Lemmas.Store
/-!
# C11 helper — `need_store` vs. the ghost: the CONNECT / CONNACK handlers and the `step` level
-/
namespace MqttVerif.Conn.PF
open MqttVerif MqttVerif.Conn

/-! ## the Session Expiry Interval property: what the handlers compute vs. what `findProp` sees -/

/-- at most one Session Expiry Interval property (it is a protocol error to include it twice) -/
def SeiOnce (props : List (Nat × Nat)) : Prop := (props.filter (fun x => x.1 = pSEI)).length ≤ 1

instance (props : List (Nat × Nat)) : Decidable (SeiOnce props) := by unfold SeiOnce; infer_instance

/-- `connect*Prop` over a property list: any non-zero Session Expiry Interval sets the flag -/
def seiSet (b : Bool) (l : List (Nat × Nat)) : Bool :=
  l.foldl (fun b x => if x.1 = pSEI ∧ x.2 ≠ 0 then true else b) b

/-- `connackRecvProp` over a property list: every Session Expiry Interval overrides the flag -/
def seiOver (b : Bool) (l : List (Nat × Nat)) : Bool :=
  l.foldl (fun b x => if x.1 = pSEI then decide (x.2 ≠ 0) else b) b

theorem foldl_noSei {g : Bool → Nat × Nat → Bool} (hg : ∀ b x, x.1 ≠ pSEI → g b x = b) (l : List (Nat × Nat))
    (h : l.filter (fun x => x.1 = pSEI) = []) (b : Bool) : l.foldl g b = b := by
  induction l generalizing b with
  | nil => rfl
  | cons x rest ih =>
    simp only [List.filter_cons] at h
    split at h
    · cases h
    · rename_i hx
      simp only [decide_eq_true_eq] at hx
      rw [List.foldl_cons, hg b x hx]
      exact ih h b

theorem find_noSei (l : List (Nat × Nat)) (h : l.filter (fun x => x.1 = pSEI) = []) :
    l.find? (fun x => x.1 = pSEI) = none := by
  rw [List.find?_eq_none]
  intro x hx hp
  have : x ∈ l.filter (fun x => x.1 = pSEI) := List.mem_filter.2 ⟨hx, hp⟩
  rw [h] at this; cases this

theorem seiSet_once (l : List (Nat × Nat)) (h : SeiOnce l) :
    seiSet false l = decide (((l.find? (fun x => x.1 = pSEI)).map (·.2)).getD 0 > 0) := by
  induction l with
  | nil => rfl
  | cons x rest ih =>
    unfold SeiOnce at h
    simp only [List.filter_cons] at h
    by_cases hx : x.1 = pSEI
    · simp only [hx, decide_true, if_true, List.length_cons] at h
      have hr : rest.filter (fun x => x.1 = pSEI) = [] := List.eq_nil_of_length_eq_zero (by omega)
      simp only [seiSet, List.foldl_cons, hx, true_and, List.find?_cons, decide_true, Option.map_some, Option.getD_some]
      rw [foldl_noSei (fun b x hx => by simp [hx]) rest hr]
      by_cases hv : x.2 = 0
      · simp [hv]
      · simp [hv]; omega
    · simp only [hx, decide_false, Bool.false_eq_true, if_false] at h
      simp only [seiSet, List.foldl_cons, hx, false_and, if_false, List.find?_cons, decide_false]
      exact ih h

theorem seiOver_once (l : List (Nat × Nat)) (h : SeiOnce l) (b : Bool) :
    seiOver b l = (match (l.find? (fun x => x.1 = pSEI)).map (·.2) with | some v => decide (v > 0) | none => b) := by
  induction l generalizing b with
  | nil => rfl
  | cons x rest ih =>
    unfold SeiOnce at h
    simp only [List.filter_cons] at h
    by_cases hx : x.1 = pSEI
    · simp only [hx, decide_true, if_true, List.length_cons] at h
      have hr : rest.filter (fun x => x.1 = pSEI) = [] := List.eq_nil_of_length_eq_zero (by omega)
      simp only [seiOver, List.foldl_cons, hx, if_true, List.find?_cons, decide_true, Option.map_some]
      rw [foldl_noSei (fun b x hx => by simp [hx]) rest hr]
      by_cases hv : x.2 = 0
      · simp [hv]
      · simp [hv]; omega
    · simp only [hx, decide_false, Bool.false_eq_true, if_false] at h
      simp only [seiOver, List.foldl_cons, hx, if_false, List.find?_cons, decide_false]
      exact ih h b

theorem findProp_eq (p : Pkt) (id : Nat) : Mon.findProp p id = (p.props.find? (fun x => x.1 = id)).map (·.2) := rfl

theorem needStore_propsFold (f : C → Nat → Nat → C) (g : Bool → Nat × Nat → Bool)
    (hf : ∀ c id v, (f c id v).s.needStore = g c.s.needStore (id, v)) (c : C) (l : List (Nat × Nat)) :
    (propsFold f c l).s.needStore = l.foldl g c.s.needStore := by
  induction l generalizing c with
  | nil => rfl
  | cons x rest ih => rw [propsFold, ih, hf, List.foldl_cons]

theorem needStore_ite {p : Prop} [Decidable p] {a b : C} {n : Bool} (ha : p → a.s.needStore = n)
    (hb : ¬p → b.s.needStore = n) : (if p then a else b).s.needStore = n :=
  Fp.ite_ind (Q := fun r : C => r.s.needStore = n) ha hb

/-- the shape of `connectSendProp` and `connectRecvProp`: `a`, `r`, `m` are what a Topic Alias Maximum, a Receive
    Maximum and a Maximum Packet Size do; only a non-zero Session Expiry Interval sets the flag -/
theorem needStore_connectProp (c a r m : C) (id v : Nat) (ha : a.s.needStore = c.s.needStore)
    (hr : r.s.needStore = c.s.needStore) (hm : m.s.needStore = c.s.needStore) :
    (if id = pTAM then a else if id = pRM then r else if id = pMPS then m
      else if id = pSEI then (if v ≠ 0 then { c with s := { c.s with needStore := true } } else c) else c).s.needStore =
      if id = pSEI ∧ v ≠ 0 then true else c.s.needStore := by
  by_cases h : id = pSEI
  · subst h
    rw [if_neg (by decide), if_neg (by decide), if_neg (by decide), if_pos rfl]
    by_cases hv : v = 0 <;> simp [hv]
  · rw [if_neg (c := id = pSEI ∧ v ≠ 0) fun h' => h h'.1]
    exact needStore_ite (fun _ => ha) fun _ => needStore_ite (fun _ => hr) fun _ => needStore_ite (fun _ => hm) fun _ =>
      needStore_ite (fun h' => absurd h' h) fun _ => rfl

theorem needStore_connectSendProp (c : C) (id v : Nat) :
    (connectSendProp c id v).s.needStore = if id = pSEI ∧ v ≠ 0 then true else c.s.needStore :=
  needStore_connectProp c _ _ _ id v (needStore_ite (fun _ => rfl) fun _ => rfl) rfl rfl

theorem needStore_connectRecvProp (c : C) (id v : Nat) :
    (connectRecvProp c id v).s.needStore = if id = pSEI ∧ v ≠ 0 then true else c.s.needStore :=
  needStore_connectProp c _ _ _ id v (needStore_ite (fun _ => rfl) fun _ => rfl) rfl rfl

theorem needStore_connackRecvProp (c : C) (id v : Nat) :
    (connackRecvProp c id v).s.needStore = if id = pSEI then decide (v ≠ 0) else c.s.needStore := by
  by_cases h : id = pSEI
  · subst h
    unfold connackRecvProp
    rw [if_neg (by decide), if_neg (by decide), if_neg (by decide), if_neg (by decide), if_pos rfl, if_pos rfl]
    by_cases hv : v = 0 <;> simp [hv, clearStoreRelated]
  · rw [if_neg h]
    unfold connackRecvProp
    refine needStore_ite (fun _ => needStore_ite (fun _ => rfl) fun _ => rfl) fun _ =>
      needStore_ite (fun _ => ?_) fun _ => needStore_ite (fun _ => ?_) fun _ => needStore_ite (fun _ => ?_) fun _ =>
        needStore_ite (fun h' => absurd h' h) fun _ => rfl
    · exact needStore_ite (a := c.setPanic _) (fun _ => rfl) fun _ => rfl
    · exact needStore_ite (a := c.setPanic _) (fun _ => rfl) fun _ => rfl
    · exact needStore_ite (fun _ => needStore_ite (fun _ => needStore_ite (fun _ => rfl) fun _ => rfl) fun _ => rfl)
        fun _ => rfl

theorem needStore_fold_connectSendProp (c : C) (l : List (Nat × Nat)) :
    (propsFold connectSendProp c l).s.needStore = seiSet c.s.needStore l :=
  needStore_propsFold _ _ needStore_connectSendProp c l
theorem needStore_fold_connectRecvProp (c : C) (l : List (Nat × Nat)) :
    (propsFold connectRecvProp c l).s.needStore = seiSet c.s.needStore l :=
  needStore_propsFold _ _ needStore_connectRecvProp c l
theorem needStore_fold_connackRecvProp (c : C) (l : List (Nat × Nat)) :
    (propsFold connackRecvProp c l).s.needStore = seiOver c.s.needStore l :=
  needStore_propsFold _ _ needStore_connackRecvProp c l

/-- what a CONNECT says once its properties are applied to a flag that `initConn` has reset -/
theorem seiSet_connectNs {p : Pkt} (hv : p.ver ≠ 4) (hs : SeiOnce p.props) : seiSet false p.props = connectNs p := by
  rw [seiSet_once _ hs]; simp [connectNs, hv, findProp_eq]

/-! ## CONNECT: the flag is set to what the packet says -/

theorem gk_ite {b0 : Bool} {p : Prop} [Decidable p] {a b : C} (ha : p → GK b0 (K a)) (hb : ¬p → GK b0 (K b)) :
    GK b0 (K (if p then a else b)) := Fp.ite_ind (Q := fun x => GK b0 (K x)) ha hb

theorem gk_connect {b0 : Bool} {c1 : C} {p : Pkt} (e : Ev) (he : e = .send p none ∨ e = .recv p)
    (hk : p.kind = .connect) (hn : c1.s.needStore = connectNs p) : GK b0 (K (c1.push e)) := by
  rw [K_push_rel _ _ (by rcases he with rfl | rfl <;> simp [rel, relRecv, hk])]
  rcases he with rfl | rfl <;> simp only [GK, nsStep_append, nsEv, hk, if_true] <;> exact hn

/-- a CONNECT sent, or refused at the gate: `settle` leaves in the flag, which `initConn` has reset, what the packet
    says -/
theorem g_connectOut {b0 : Bool} {c : C} (g : GK b0 (K c)) {p : Pkt} {settle : C → C} {large refuse : Prop}
    [Decidable large] [Decidable refuse] (hk : p.kind = .connect)
    (hs : ∀ c1 : C, c1.s.needStore = false → (settle c1).s.needStore = connectNs p) :
    GK b0 (K (Fp.guarded c large refuse none (Fp.connectOut c p settle))) :=
  Fp.guarded_ind (Q := fun r => GK b0 (K r)) (fun _ => gk_congr (K_err c _) g) (fun _ _ => gk_congr (K_err c _) g)
    fun _ _ => gk_congr (K_sendPostProcess _) (gk_connect _ (.inl rfl) hk (hs _ rfl))

/-- a CONNECT received: neither the protocol error nor the refusing CONNACK shows the ghost anything; `settle` leaves in
    the flag, which `initConn` has reset, what the packet says -/
theorem g_connectIn {b0 : Bool} {c busy : C} (g : GK b0 (K c)) {x : Except Nat Pkt} {nack : C → Nat → C}
    {settle : Pkt → C → C} (hk : ∀ p, x = .ok p → p.kind = .connect) (hb : K busy = K c)
    (hn : ∀ e, K (nack { c with s := { c.s with status := .connecting } } e) = K c)
    (hs : ∀ p, x = .ok p → ∀ c1 : C, c1.s.needStore = false → (settle p c1).s.needStore = connectNs p) :
    GK b0 (K (Fp.connectIn c x busy nack settle)) := by
  refine Fp.connectIn_ind (Q := fun r => GK b0 (K r)) (fun _ => gk_congr hb g)
    (fun _ e _ => gk_congr ((K_err _ e).trans (hn e)) g) (fun _ p hp => gk_connect _ (.inr rfl) (hk p hp) ?_)
  rw [Fp.refreshPingreqRecv_s]
  exact hs p hp _ rfl

theorem needStore_v3Settle {p : Pkt} (hv : p.ver = 4) {c1 : C} (h1 : c1.s.needStore = false) :
    (if p.clean then clearStoreRelated c1 else { c1 with s := { c1.s with needStore := true } }).s.needStore =
      connectNs p := by
  unfold connectNs
  rw [if_pos hv]
  cases p.clean
  · rfl
  · exact h1

theorem seiSet_v5Settle {p : Pkt} (hv : p.ver ≠ 4) (hs : SeiOnce p.props) {c1 : C} (h1 : c1.s.needStore = false) :
    seiSet (if p.clean then clearStoreRelated c1 else c1).s.needStore p.props = connectNs p :=
  have h0 := Fp.ite_both (Q := fun r : C => r.s.needStore = false) (p := p.clean) (a := clearStoreRelated c1) h1 h1
  (congrArg (seiSet · p.props) h0).trans (seiSet_connectNs hv hs)

theorem g_prV3Connect {b0 : Bool} {c : C} (g : GK b0 (K c)) (x : Except Nat Pkt)
    (hx : ∀ p, x = .ok p → p.kind = .connect ∧ p.ver = 4)
    (hl : ∀ x ∈ c.s.store, x.2.kind ≠ .connect) : GK b0 (K (prV3Connect c x)) :=
  Fp.prV3Connect_eq c x ▸ g_connectIn g (fun p hp => (hx p hp).1) (K_handleV3Error c _)
    (fun _ => K_psV3Connack _ _ (by nofun) hl) fun p hp _ h1 => needStore_v3Settle (hx p hp).2 h1

theorem g_prV5Connect {b0 : Bool} {c : C} (g : GK b0 (K c)) (x : Except Nat Pkt)
    (hx : ∀ p, x = .ok p → p.kind = .connect ∧ p.ver ≠ 4 ∧ SeiOnce p.props)
    (hl : ∀ x ∈ c.s.store, x.2.kind ≠ .connect) : GK b0 (K (prV5Connect c x)) :=
  Fp.prV5Connect_eq c x ▸ g_connectIn g (fun p hp => (hx p hp).1) (K_handleV5Error c _)
    (fun _ => K_psV5Connack _ _ (by nofun) hl) fun p hp _ h1 =>
      (needStore_fold_connectRecvProp _ _).trans (seiSet_v5Settle (hx p hp).2.1 (hx p hp).2.2 h1)

/-! ## the v5.0 CONNACK: a Session Expiry Interval overrides the flag -/

theorem g_prV5Connack {b0 : Bool} {c : C} (g : GK b0 (K c)) (x : Except Nat Pkt)
    (hx : ∀ p, x = .ok p → p.kind = .connack ∧ p.ver = 5 ∧ SeiOnce p.props)
    (hl : ∀ x ∈ c.s.store, x.2.kind ≠ .connect) : GK b0 (K (prV5Connack c x)) := by
  unfold prV5Connack
  refine gk_ite (fun _ => gk_congr (K_handleV5Error c _) g) fun _ => ?_
  cases x with
  | error e => exact gk_ite (fun _ => gk_congr (K_handleV5Error c e) g) fun _ => gk_congr (K_err c e) g
  | ok p =>
    obtain ⟨hk, hv, hs⟩ := hx p rfl
    by_cases hrc : p.rc = some 0
    · simp only [hrc, if_true]
      -- `c1`: the properties applied; `c2`: the stored packets resent or the session cleared
      have hn := needStore_fold_connackRecvProp { c with s := { c.s with status := .connected } } p.props
      have hev := Fp.propsFold_connackRecvProp_ev { c with s := { c.s with status := .connected } } p.props
      have hl1 := (propsFold_connackRecvProp_sl (K := fun q => q.kind ≠ .connect)
        { c with s := { c.s with status := .connected } } p.props ⟨hl⟩).h
      generalize propsFold connackRecvProp { c with s := { c.s with status := .connected } } p.props = c1
        at hn hev hl1
      have h2 : K (if p.sp = true then resendStored c1 else clearStoreRelated c1) = K c1 :=
        K_ite (fun _ => K_resendStored c1 hl1) fun _ => rfl
      generalize (if p.sp = true then resendStored c1 else clearStoreRelated c1) = c2 at h2
      obtain ⟨e1, e23⟩ := Prod.mk.inj h2
      rw [K_push_rel _ _ (by simp [rel, relRecv, hk, hrc, hv])]
      simp only [GK, nsStep_append, nsEv, hk, hrc, hv, and_self, if_true, e1, (Prod.mk.inj e23).2, hn]
      rw [seiOver_once _ hs, findProp_eq, show relOf c1.ev = relOf c.ev from
        (hev.emits rel_base).filter_eq rel fun _ h => h, show c.s.needStore = _ from g]
      generalize Option.map (fun x => x.snd) (List.find? (fun x => decide (x.fst = pSEI)) p.props) = o
      cases o <;> rfl
    · simp only [hrc, if_false]
      exact gk_congr (K_push_recv _ _ (by simp [relRecv, hk, hrc])) g

theorem g_send {b0 : Bool} {c : C} (g : GK b0 (K c)) (p : Pkt) (hs : p.kind = .connect → SeiOnce p.props)
    (hl : ∀ x ∈ c.s.store, x.2.kind ≠ .connect) : GK b0 (K (send c p)) := by
  refine Fp.send_cases (Q := fun x => GK b0 (K x)) c p (fun _ => gk_congr (K_refuseSend ..) g) (fun _ _ => gk_congr (K_refuseSend ..) g) fun _ _ => ?_
  by_cases hk : p.kind = .connect
  · rw [Fp.processSend_connect c hk]
    exact gk_ite (fun hv => Fp.psV3Connect_eq c p ▸ g_connectOut g hk fun _ h1 => needStore_v3Settle hv h1)
      fun hv => Fp.psV5Connect_eq c p ▸ g_connectOut g hk fun _ h1 =>
        (needStore_fold_connectSendProp _ _).trans (seiSet_v5Settle hv (hs hk) h1)
  · exact gk_congr (K_processSend_other c p hk hl) g

/-- what the ghost needs of the parser of a `recv`: a successful result has the packet type of the
    frame it was parsed from; a CONNECT / CONNACK has the version it was parsed for and at most one
    Session Expiry Interval property -/
def ParsePF (parse : Nat → Nat → List Nat → Except Nat Pkt) : Prop :=
  ∀ v fh d p, parse v fh d = .ok p →
    p.kind.nibble = fh / 16 ∧ ((p.kind = .connect ∨ p.kind = .connack) → p.ver = v ∧ SeiOnce p.props)

theorem g_dispatchRecv {b0 : Bool} {c : C} (g : GK b0 (K c)) (t : Nat) (x : Except Nat Pkt)
    (hx : ∀ p, x = .ok p → p.kind.nibble = t ∧ ((p.kind = .connect ∨ p.kind = .connack) → p.ver = c.s.ver ∧ SeiOnce p.props))
    (hver : c.s.ver = 4 ∨ c.s.ver = 5)
    (hl : ∀ x ∈ c.s.store, x.2.kind ≠ .connect) : GK b0 (K (dispatchRecv c t x)) := by
  by_cases ht : 3 ≤ t
  · -- neither CONNECT nor CONNACK: no packet the ghost looks at
    have hk : ∀ p, x = .ok p → relRecv p = false := fun p hp => by
      have := kind_of_nibble (hx p hp).1
      simp [relRecv, this.2.2.2.1 (by omega), this.2.2.2.2 (by omega)]
    have no : ∀ {n : Nat} {A : Prop}, ¬ 3 ≤ n → t = n → A := fun hn h => absurd (h ▸ ht) hn
    exact Fp.dispatchRecv_processed (J := fun r => GK b0 (K r)) (rel_base.own c) t x (fun _ _ _ => trivial)
      (fun _ _ _ _ => rel_base.pubrel ..) (fun h => no (by decide) h) (fun h => no (by decide) h)
      (fun h => no (by decide) h) (fun h => no (by decide) h)
      (fun _ _ => gk_congr (K_emits ((Fp.prV3Publish_orCloses (rel_base.own c) trivial x hk).emits' rel_base)
        (by rw [Fp.prV3Publish_s])) g)
      (fun h3 _ => gk_congr (K_prV5Publish c x fun p hp => (kind_of_nibble (hx p hp).1).2.2.1 h3) g)
      (fun _ k => gk_congr (K_processed k hk) g) (gk_congr (K_err c _) g)
  · have hc : t = 1 → ∀ p, x = .ok p → p.kind = .connect ∧ p.ver = c.s.ver ∧ SeiOnce p.props := fun ht p hp =>
      have hc := (kind_of_nibble (hx p hp).1).1 ht
      ⟨hc, (hx p hp).2 (.inl hc)⟩
    have ha : t = 2 → ∀ p, x = .ok p → p.kind = .connack ∧ p.ver = c.s.ver ∧ SeiOnce p.props := fun ht p hp =>
      have hc := (kind_of_nibble (hx p hp).1).2.1 ht
      ⟨hc, (hx p hp).2 (.inr hc)⟩
    exact Fp.dispatchRecv_lt3 (J := fun r => GK b0 (K r)) c t x ht
      (fun ht hv => g_prV3Connect g x (fun p hp => ⟨(hc ht p hp).1, (hc ht p hp).2.1.trans hv⟩) hl)
      (fun ht hv => g_prV5Connect g x (fun p hp => ⟨(hc ht p hp).1, by rw [(hc ht p hp).2.1]; exact hv, (hc ht p hp).2.2⟩) hl)
      (fun ht hv => gk_congr (K_prV3Connack c x (fun p hp => by simp [relRecv, (ha ht p hp).1, (ha ht p hp).2.1, hv]) hl) g)
      (fun ht hv => g_prV5Connack g x (fun p hp => ⟨(ha ht p hp).1, by rw [(ha ht p hp).2.1]; omega, (ha ht p hp).2.2⟩) hl)
      (gk_congr (K_err c _) g)

def VerOk (v : Nat) : Prop := v = 0 ∨ v = 4 ∨ v = 5

theorem g_processRecvPacket {b0 : Bool} {c : C} (g : GK b0 (K c)) (fh : Nat) (data : List Nat)
    (parse : Nat → Except Nat Pkt)
    (hx : ∀ v p, parse v = .ok p → p.kind.nibble = fh / 16 ∧ ((p.kind = .connect ∨ p.kind = .connack) → p.ver = v ∧ SeiOnce p.props))
    (hver : VerOk c.s.ver)
    (hl : ∀ x ∈ c.s.store, x.2.kind ≠ .connect) :
    GK b0 (K (processRecvPacket c fh data parse)) ∧ VerOk (processRecvPacket c fh data parse).s.ver := by
  have same : ∀ c' : C, K c' = K c → GK b0 (K c') ∧ VerOk c'.s.ver := fun c' h =>
    ⟨gk_congr h g, by rw [ver_of_K h]; exact hver⟩
  have first : ∀ v p, fh / 16 = 1 → parse v = .ok p → p.kind = .connect ∧ p.ver = v ∧ SeiOnce p.props :=
    fun v p h1 hp =>
      have hc := (kind_of_nibble (hx v p hp).1).1 h1
      ⟨hc, (hx v p hp).2 (.inl hc)⟩
  refine Fp.processRecvPacket_cases (Q := fun r => GK b0 (K r) ∧ VerOk r.s.ver) c fh data parse
    (fun _ => same _ ((K_err _ _).trans (K_v5DisconnectOrClose c _ (by nofun)))) (fun e _ _ => same _ (K_err c e))
    (fun _ _ _ h1 _ _ => ?_) (fun _ _ _ h1 _ _ => ?_) (fun _ _ h0 => ?_)
  · have o := g_prV3Connect (b0 := b0) (c := { c with s := { c.s with ver := 4 } }) g (parse 4)
      (fun p hp => ⟨(first 4 p h1 hp).1, (first 4 p h1 hp).2.1⟩) hl
    exact ⟨o, by rw [Fp.prV3Connect_s]; exact .inr (.inl rfl)⟩
  · have o := g_prV5Connect (b0 := b0) (c := { c with s := { c.s with ver := 5 } }) g (parse 5)
      (fun p hp => ⟨(first 5 p h1 hp).1, by rw [(first 5 p h1 hp).2.1]; decide, (first 5 p h1 hp).2.2⟩) hl
    exact ⟨o, by rw [Fp.prV5Connect_s]; exact .inr (.inr rfl)⟩
  · have o := g_dispatchRecv g (fh / 16) (parse c.s.ver) (fun p hp => hx _ p hp)
      (hver.resolve_left h0) hl
    exact ⟨o, by rw [Fp.dispatchRecv_s]; exact hver⟩

theorem g_recv {b0 : Bool} {c : C} (g : GK b0 (K c)) (inp : List Nat)
    (parse : Nat → Nat → List Nat → Except Nat Pkt) (hp : ParsePF parse) (hver : VerOk c.s.ver)
    (hl : ∀ x ∈ c.s.store, x.2.kind ≠ .connect) :
    GK b0 (K (recv c inp parse).1) ∧ VerOk (recv c inp parse).1.s.ver := by
  refine Fp.recv_cases (Q := fun r => GK b0 (K r) ∧ VerOk r.s.ver) c inp parse (fun _ _ _ => ⟨g, hver⟩)
    (fun pb fh data _ _ => g_processRecvPacket (c := { c with s := { c.s with pb := pb } }) g fh data _
      (fun v p h => hp v fh data p h) hver hl)
    (fun pb _ _ => ?_)
  have hk : K (((cancelTimers ({ c with s := { c.s with pb := pb } } : C)).push .close).err eMalformed) = K c :=
    (K_err _ _).trans ((K_push_irrel _ _ rfl).trans (K_cancelTimers _))
  exact ⟨gk_congr hk g, by rw [ver_of_K hk]; exact hver⟩

end MqttVerif.Conn.PF
