import MqttVerif.Conn.Lemmas.FootprintIds
import MqttVerif.Conn.Lemmas.FootprintSites
/-!
# What the send-side functions do to the packet identifiers

One lemma `f_ids` per function below `send`: the sequence of primitives it is, with the tests the model made, as an
outcome of `SendOut`.  Where a handler is also called for a packet of another kind, or where the sequence is a function
of the tests (CONNECT, CONNACK), `f_run` states the sequence without `SendOut` and `f_ids` reads the outcome off it.
-/
namespace MqttVerif.Conn.Fp
open MqttVerif

theorem refuse_ids (c : C) (e id : Nat) : IdRun [.release id] c (releaseIfUsed (c.err e) id) :=
  ((IdRun.refl c).err e).trans (releaseIfUsed_ids _ id)

/-- the packet goes out and the keep-alive timer restarts -/
theorem sent_ids (c : C) (p : Pkt) (rel : Option Nat) : IdRun [] c (sendPostProcess (c.push (.send p rel))) :=
  ((IdRun.refl c).send p rel).post (.of_fp (sendPostProcess_fp _))

theorem sentIfConnected_ids (c : C) (p : Pkt) (rel : Option Nat) :
    IdRun [] c (sendIfConnected c p rel) :=
  sendIfConnected_cases c p rel (fun _ => sent_ids c p rel) (fun _ => .refl c)

theorem storeAdd_ids (c : C) (id : Nat) (q : Pkt) (x : String) : IdRun [.store id q] c (storeAdd c id q x) :=
  ite_ind (fun h => .quiet (hi := (if_pos h).symm)) (fun h => .quiet (hi := (if_neg h).symm))

theorem storeAddIf_ids (b : Bool) (c : C) (id : Nat) (q : Pkt) (x : String) :
    IdRun (if b then [.store id q] else []) c (if b then storeAdd c id q x else c) := by
  cases b
  · exact .refl c
  · exact storeAdd_ids c id q x

theorem addWait_ids (c : C) (qos id : Nat) :
    IdRun [.await (if qos = 2 then .pubrec else .puback) id] c (addWait c qos id) :=
  .iteOf (fun k => [.await k id]) (fun _ => .quiet) (fun _ => .quiet)

/-- the identifier of a PUBLISH enters the wait set of its QoS -/
theorem wait_ids (c : C) (p : Pkt) (id : Nat) (hk : p.kind = .publish) :
    IdRun [.await (respOf p) id] c (addWait c p.qos id) := by
  rw [respOf_publish hk]
  exact addWait_ids c p.qos id

theorem psSubUnsub_ids (c : C) (p : Pkt) (hk : p.kind = .subscribe ∨ p.kind = .unsubscribe) :
    ∃ l, SendOut c.cfg c.s p l ∧ IdRun l c (psSubUnsub c p) := by
  have hk' : p.kind = .publish ∨ p.kind = .subscribe ∨ p.kind = .unsubscribe := .inr hk
  have key := @ite_ind C (fun r => ∃ l, SendOut c.cfg c.s p l ∧ IdRun l c r)
  unfold psSubUnsub
  dsimp only
  have hn : p.kind = .publish → p.pid = some (p.pid.getD 0) := fun h => by rcases hk with h' | h' <;> simp [h] at h'
  refine key (fun _ => ⟨_, .refuse _ hk' rfl hn, refuse_ids c _ _⟩) (fun _ => ?_)
  refine key (fun _ => ⟨_, .refuse _ hk' rfl hn, refuse_ids c _ _⟩) (fun _ => ?_)
  refine key (fun _ => ⟨_, .keep, (IdRun.refl c).err _⟩) (fun hu => ?_)
  refine ⟨_, .subscribe _ hk rfl (by simpa using hu), ?_⟩
  refine IdRun.post (IdRun.send ?_ p _) (.of_fp (sendPostProcess_fp _))
  exact .iteOf (fun k => [.await k _]) (fun _ => .quiet) (fun _ => .quiet)

theorem refuseSend_ids (c : C) (e : Nat) (p : Pkt) : ∃ l, SendOut c.cfg c.s p l ∧ IdRun l c (refuseSend c e p) := by
  unfold refuseSend initiatingId
  by_cases hk : p.kind = .publish ∨ p.kind = .subscribe ∨ p.kind = .unsubscribe
  · rw [if_pos hk]
    cases hp : p.pid with
    | none => exact ⟨_, .keep, (IdRun.refl c).err e⟩
    | some id => exact ⟨_, .refuse id hk (by rw [hp]; rfl) (fun _ => hp), refuse_ids c e id⟩
  · rw [if_neg hk]
    exact ⟨_, .keep, (IdRun.refl c).err e⟩

/-- the handler whatever the packet is: it stores `{ p with dup := true }` and awaits the response of `p`'s QoS -/
theorem psV3Publish_run (c : C) (p : Pkt) :
    IdRun [] c (psV3Publish c p) ∨ (∃ id, p.pid = some id ∧ IdRun [.release id] c (psV3Publish c p)) ∨
      ∃ id, p.qos > 0 ∧ p.pid = some id ∧ isUsed c.s id = true ∧
        IdRun ((if willStore c.s then [.store id { p with pid := some id, dup := true }] else []) ++
          [.await (if p.qos = 2 then .pubrec else .puback) id]) c (psV3Publish c p) := by
  refine psV3Publish_paths (Q := fun r => IdRun [] c r ∨ (∃ id, p.pid = some id ∧ IdRun [.release id] c r) ∨
      ∃ id, p.qos > 0 ∧ p.pid = some id ∧ isUsed c.s id = true ∧
        IdRun ((if willStore c.s then [.store id { p with pid := some id, dup := true }] else []) ++
          [.await (if p.qos = 2 then .pubrec else .puback) id]) c r)
    c p (fun _ _ => .inl (IdRun.refl c).set) (fun id _ hp _ => .inr (.inl ⟨id, hp, refuse_ids c _ id⟩))
    (fun _ _ _ _ _ => .inl ((IdRun.refl c).err _))
    (fun id k hw => .inr (.inr ⟨id, k.qos, k.pid, k.used, ?_⟩)) (fun id k hw => .inr (.inr ⟨id, k.qos, k.pid, k.used, ?_⟩))
    (fun _ _ => .inl ((IdRun.refl c).err _)) (fun _ _ => .inl (sent_ids c p none))
  · rw [hw, ← k.pid]
    exact ((storeAdd_ids ..).trans (addWait_ids _ p.qos id)).post (sentIfConnected_ids ..)
  · rw [hw]
    exact (addWait_ids c p.qos id).post (sentIfConnected_ids ..)

theorem psV3Publish_ids (c : C) (p : Pkt) (hk : p.kind = .publish) (hv : p.ver = 4) :
    ∃ l, SendOut c.cfg c.s p l ∧ IdRun l c (psV3Publish c p) := by
  rcases psV3Publish_run c p with h | ⟨id, hp, h⟩ | ⟨id, hq, hp, hu, h⟩
  · exact ⟨_, .keep, h⟩
  · exact ⟨_, .refuse id (.inl hk) (by rw [hp]; rfl) (fun _ => hp), h⟩
  · rw [← respOf_publish hk] at h
    exact ⟨_, .exchange id _ (willStore c.s) (.inl ⟨hk, hq⟩) (by rw [hp]; rfl) hu
      (fun _ => (StoredAs.v3 hk hv).congr_pid hp) (if_neg (publish_ne_pubrel hk)).symm, h⟩

/-- a refusal after the identifier has entered its wait set (and the packet the store) undoes both -/
theorem pubRefuseCleanup_ids (c : C) (pid : Option Nat) :
    IdRun [] c (pubRefuseCleanup c pid) ∨
      ∃ id, pid = some id ∧ isUsed c.s id = true ∧ IdRun (IdPrim.cleanup id) c (pubRefuseCleanup c pid) := by
  unfold pubRefuseCleanup
  cases pid with
  | none => exact .inl (.refl c)
  | some id =>
    dsimp only
    by_cases hu : isUsed c.s id = true
    · rw [if_pos hu]
      -- the event is pushed last in the model, after the release in `releaseIfUsed`: the same context
      have h := releaseIfUsed_ids c id
      rw [releaseIfUsed, if_pos hu] at h
      exact .inr ⟨id, rfl, hu, h.trans (l' := [.erasePublish id, .unwait .puback id, .unwait .pubrec id]) .quiet⟩
    · rw [if_neg hu]
      exact .inl (.refl c)

theorem psV5PublishAlias_ids (c : C) (p : Pkt) (rel : Option Nat) (v : Bool) :
    IdRun [] c (psV5PublishAlias c p rel v) ∨
      ∃ id, p.pid = some id ∧ isUsed c.s id = true ∧ IdRun (IdPrim.cleanup id) c (psV5PublishAlias c p rel v) := by
  refine psV5PublishAlias_cases (Q := fun r => IdRun [] c r ∨
    ∃ id, p.pid = some id ∧ isUsed c.s id = true ∧ IdRun (IdPrim.cleanup id) c r) c p rel v
    (fun c' e k => ?_) (fun c' q k _ _ => .inl ((IdRun.of_fp k).post (.of_fp (psV5PublishTail_fp c' q rel))))
  have h : IdRun [] c (c'.err e) := (IdRun.of_fp k).err e
  rcases pubRefuseCleanup_ids (c'.err e) p.pid with h' | ⟨id, hp, hu, h'⟩
  · exact .inl (h.post h')
  · refine .inr ⟨id, hp, ?_, h.pre h'⟩
    rw [← hu]
    unfold isUsed
    rw [err_s, k.s]

/-- the alias is looked up in the state alone -/
theorem validateTopicAlias_fst (c : C) (ao : Option Nat) :
    (validateTopicAlias c ao).1 = (validateTopicAlias ⟨c.cfg, c.s, []⟩ ao).1 := by
  unfold validateTopicAlias
  cases ao with
  | none => rfl
  | some a =>
    dsimp only
    by_cases h : (!validateTopicAliasRange c.s a) = true
    · rw [if_pos h, if_pos h]
    · rw [if_neg h, if_neg h]
      cases c.s.tas with
      | none => rfl
      | some t => rfl

theorem psV5Publish_ids (c : C) (p : Pkt) (hk : p.kind = .publish) (hv : p.ver ≠ 4) :
    ∃ l, SendOut c.cfg c.s p l ∧ IdRun l c (psV5Publish c p) := by
  have refuse : ∀ {c1 : C} (e id : Nat), p.pid = some id → IdRun [] c c1 →
      ∃ l, SendOut c.cfg c.s p l ∧ IdRun l c (releaseIfUsed (c1.err e) id) := fun e id hp h =>
    ⟨_, .refuse id (.inl hk) (by rw [hp]; rfl) (fun _ => hp), (h.err e).pre (releaseIfUsed_ids _ id)⟩
  -- the packet is stored as `q` if the session asks for it, and awaited; then the alias stage refuses it or not
  have stage : ∀ (id : Nat) (stored : Bool) (q : Pkt) {c1 : C} (rel : Option Nat) (v : Bool), p.pid = some id →
      p.qos > 0 → isUsed c.s id = true → willStore c.s = stored → (stored = true → StoredAs c.cfg c.s p q) →
      IdRun ((if stored then [.store id q] else []) ++ [.await (respOf p) id]) c c1 →
      ∃ l, SendOut c.cfg c.s p l ∧ IdRun l c (psV5PublishAlias c1 p rel v) := by
    intro id stored q c1 rel v hp hq hu hs hst h
    rcases psV5PublishAlias_ids c1 p rel v with h' | ⟨id', hp', _, h'⟩
    · exact ⟨_, .exchange id q stored (.inl ⟨hk, hq⟩) (by rw [hp]; rfl) hu hst
        (hs.symm.trans (if_neg (publish_ne_pubrel hk)).symm), h.post h'⟩
    · obtain rfl : id' = id := Option.some.inj (hp'.symm.trans hp)
      exact ⟨_, .exchangeRefused id' q stored ⟨hk, hq⟩ hp hu hst hs.symm hv, h.trans h'⟩
  have hal : IdRun [] c (validateTopicAlias c p.alias).2 := .of_fp (validateTopicAlias_fp c p.alias)
  refine psV5Publish_paths (Q := fun r => ∃ l, SendOut c.cfg c.s p l ∧ IdRun l c r) c p
    (fun _ _ => ⟨_, .keep, (IdRun.refl c).err _⟩) (fun id _ hp => refuse _ id hp (.refl c))
    (fun _ _ _ => ⟨_, .keep, .quiet⟩) (fun id _ _ hp _ => refuse _ id hp (.refl c))
    (fun _ _ _ _ _ _ => ⟨_, .keep, (IdRun.refl c).err _⟩) (fun id k _ _ _ => refuse _ id k.pid hal)
    (fun id t k hw ht hr => ?_) (fun id k hw ht => ?_) (fun id k hw => ?_)
    (fun _ _ _ => ⟨_, .keep, (IdRun.refl c).err _⟩) (fun _ hq _ => ?_)
  · have hl := (validateTopicAlias_fst c p.alias).symm.trans hr
    refine stage id true _ none true k.pid k.qos k.used hw
      (fun _ => .v5topic t hk hv (List.isEmpty_iff.2 ht) hl) ?_
    exact ((hal.post (.of_fp (wildcardCheck_fp _ t))).pre (storeAdd_ids ..)).trans (wait_ids _ p id hk)
  · refine stage id true _ none false k.pid k.qos k.used hw (fun _ => .v5 hk hv ?_)
      ((storeAdd_ids ..).trans (wait_ids _ p id hk))
    exact Bool.eq_false_iff.2 fun h => ht (List.isEmpty_iff.1 h)
  · exact stage id false p (some id) false k.pid k.qos k.used hw (fun h => nomatch h) (wait_ids c p id hk)
  · rcases psV5PublishAlias_ids c p none false with h | ⟨id, hp, hu, h⟩
    · exact ⟨_, .keep, h⟩
    · exact ⟨_, .cleanup id ⟨hk, by omega⟩ hp hu hv, h⟩

theorem psPubrel_run (c : C) (p : Pkt) :
    IdRun [] c (psPubrel c p) ∨ isUsed c.s (p.pid.getD 0) = true ∧
      IdRun ((if c.s.needStore then [.store (p.pid.getD 0) p] else []) ++ [.await .pubcomp (p.pid.getD 0)]) c
        (psPubrel c p) := by
  have key := @ite_ind C (fun r => IdRun [] c r ∨ isUsed c.s (p.pid.getD 0) = true ∧
    IdRun ((if c.s.needStore then [.store (p.pid.getD 0) p] else []) ++ [.await .pubcomp (p.pid.getD 0)]) c r)
  unfold psPubrel
  refine key (fun _ => .inl ((IdRun.refl c).err _)) (fun _ => ?_)
  refine key (fun _ => .inl ((IdRun.refl c).err _)) (fun _ => ?_)
  refine key (fun _ => .inl ((IdRun.refl c).err _)) (fun hu => .inr ⟨by simpa using hu, ?_⟩)
  refine IdRun.post ?_ (sentIfConnected_ids ..)
  exact (storeAddIf_ids ..).trans (.quiet)

/-- also for the PUBREL that `prPubrec` sends of its own accord -/
theorem psPubrel_ids (c : C) (p : Pkt) (hk : p.kind = .pubrel) :
    ∃ l, SendOut c.cfg c.s p l ∧ IdRun l c (psPubrel c p) := by
  rcases psPubrel_run c p with h | ⟨hu, h⟩
  · exact ⟨_, .keep, h⟩
  · rw [← respOf_pubrel hk] at h
    exact ⟨_, .exchange _ p c.s.needStore (.inr hk) rfl hu (fun _ => .pubrel hk) (by rw [if_pos hk]), h⟩

/-! ## CONNECT -/

theorem initConn_ids (c : C) (b : Bool) : IdRun IdPrim.openConn c (initConn c b) := .quiet

/-- a clean start clears the session; otherwise the connection goes on in a context `c'` with the same group -/
theorem clearIf_ids (b : Bool) {c c' : C} (h : IdRun [] c c') :
    IdRun (if b then [.clearSession] else []) c (if b then clearStoreRelated c else c') := by
  cases b
  · exact h
  · exact .quiet

theorem psV3Connect_run (c : C) (p : Pkt) :
    IdRun (if c.s.status = .disconnected then IdPrim.openConn ++ if p.clean then [.clearSession] else [] else []) c
      (psV3Connect c p) := by
  unfold psV3Connect
  refine .guard .rfl (fun _ => (IdRun.refl c).err _) fun _ => ?_
  refine IdRun.post (IdRun.set ?_) (sent_ids _ p none)
  exact (initConn_ids c true).set.trans (clearIf_ids p.clean (IdRun.refl _).set)

theorem psV5Connect_run (c : C) (p : Pkt) :
    IdRun (if sizeOk c p then if c.s.status = .disconnected then
      IdPrim.openConn ++ if p.clean then [.clearSession] else [] else [] else []) c (psV5Connect c p) := by
  unfold psV5Connect
  refine .guard (by simp) (fun _ => (IdRun.refl c).err _) fun _ => ?_
  refine .guard .rfl (fun _ => (IdRun.refl c).err _) fun _ => ?_
  refine IdRun.post (IdRun.post ?_ (.of_fp (propsFold_connectSendProp_fp _ p.props))) (sent_ids _ p none)
  exact (initConn_ids c true).set.trans (clearIf_ids p.clean (.refl _))

theorem psV3Connect_ids (c : C) (p : Pkt) (hk : p.kind = .connect) :
    ∃ l, SendOut c.cfg c.s p l ∧ IdRun l c (psV3Connect c p) :=
  ⟨_, ite_ind (fun hs => .connect hk hs) fun _ => .keep, psV3Connect_run c p⟩

theorem psV5Connect_ids (c : C) (p : Pkt) (hk : p.kind = .connect) :
    ∃ l, SendOut c.cfg c.s p l ∧ IdRun l c (psV5Connect c p) :=
  ⟨_, ite_ind (fun _ => ite_ind (fun hs => .connect hk hs) fun _ => .keep) fun _ => .keep, psV5Connect_run c p⟩

/-! ## `send_stored` -/

/-- an oversize stored packet is given up -/
theorem drop_ids (c : C) (id : Nat) : IdRun (IdPrim.drop id) c (releaseIfUsed (dropWait c id) id) :=
  IdRun.trans (l := [.unwait .puback id, .unwait .pubrec id, .unwait .pubcomp id]) .quiet (releaseIfUsed_ids _ id)

/-- one round of `sendStoredLoop`, which goes on in the context `c2`: an entry too large for the peer is given up,
    any other is sent again and kept -/
theorem sendStoredLoop_step (c : C) (id : Nat) (q : Pkt) :
    ∃ c2 : C, c2.cfg = c.cfg ∧ c2.s.mpsSend = c.s.mpsSend ∧
      ((oversize c.cfg.pw c.s.mpsSend (id, q) = true ∧ IdRun (IdPrim.drop id) c c2 ∧
          ∀ rest, sendStoredLoop c ((id, q) :: rest) = sendStoredLoop c2 rest) ∨
        (oversize c.cfg.pw c.s.mpsSend (id, q) = false ∧ IdRun [] c c2 ∧
          ∀ rest, sendStoredLoop c ((id, q) :: rest) =
            ((sendStoredLoop c2 rest).1, (id, q) :: (sendStoredLoop c2 rest).2))) := by
  by_cases h : q.sz c.cfg.pw > c.s.mpsSend
  · refine ⟨releaseIfUsed (dropWait c id) id, releaseIfUsed_cfg .., ?_,
      .inl ⟨decide_eq_true h, drop_ids c id, fun rest => ?_⟩⟩
    · rw [releaseIfUsed_s]
      rfl
    · rw [sendStoredLoop, if_pos h]
      rfl
  · obtain ⟨c1, e, hc, he, hs⟩ :=
      (ite_count_fp (c.s.sendMax.isSome = true) c "core.rs:send_stored:publish_send_count+=1").named
    refine ⟨c1.push (.send q none), hc, ?_,
      .inr ⟨decide_eq_false h, (IdRun.quiet hc he (by rw [hs]; rfl)).send q none, fun rest => ?_⟩⟩
    · rw [push_s, hs]
    · rw [sendStoredLoop, if_neg h, ← e]

/-- `sendStoredLoop` keeps the entries that fit -/
theorem sendStoredLoop_snd (c : C) (l : List (Nat × Pkt)) :
    (sendStoredLoop c l).2 = l.filter (fun e => !oversize c.cfg.pw c.s.mpsSend e) := by
  induction l generalizing c with
  | nil => rfl
  | cons x rest ih =>
    obtain ⟨id, q⟩ := x
    obtain ⟨c2, hc, hm, ⟨ho, -, e⟩ | ⟨ho, -, e⟩⟩ := sendStoredLoop_step c id q
    · rw [e, ih, hc, hm, List.filter_cons_of_neg (by simp [ho])]
    · rw [e, ih, hc, hm, List.filter_cons_of_pos (by simp [ho])]

theorem sendStoredLoop_ids (c : C) (l : List (Nat × Pkt)) :
    IdRun ((l.filter (oversize c.cfg.pw c.s.mpsSend)).flatMap (fun e => IdPrim.drop e.1)) c
      (sendStoredLoop c l).1 := by
  induction l generalizing c with
  | nil => exact .refl c
  | cons x rest ih =>
    obtain ⟨id, q⟩ := x
    obtain ⟨c2, hc, hm, ⟨ho, h, e⟩ | ⟨ho, h, e⟩⟩ := sendStoredLoop_step c id q
    · rw [e, List.filter_cons_of_pos ho, List.flatMap_cons, ← hc, ← hm]
      exact h.trans (ih c2)
    · rw [e, List.filter_cons_of_neg (by simp [ho]), ← hc, ← hm]
      exact h.pre (ih c2)

theorem keepFits_ids (c : C) (pw mps : Nat) (l : List (Nat × Pkt))
    (h : l = c.s.store.filter (fun e => !oversize pw mps e)) :
    IdRun [.keepFits pw mps] c { c with s := { c.s with store := l } } := by
  subst h
  exact .quiet

/-- `sendStored` once the send quota has started afresh -/
theorem sendStoredFrom_ids (c : C) (pw mps : Nat) (l : List (Nat × Pkt)) (hp : c.cfg.pw = pw) (hm : c.s.mpsSend = mps)
    (hl : c.s.store = l) :
    IdRun (IdPrim.resend pw mps l) c
      { (sendStoredLoop c c.s.store).1 with
        s := { (sendStoredLoop c c.s.store).1.s with store := (sendStoredLoop c c.s.store).2 } } := by
  subst hp hm hl
  exact (sendStoredLoop_ids c c.s.store).trans
    (keepFits_ids _ _ _ _ (by rw [sendStoredLoop_snd, sendStoredLoop_s]))

theorem sendStored_ids (c : C) : IdRun (IdPrim.resend c.cfg.pw c.s.mpsSend c.s.store) c (sendStored c) :=
  (IdRun.of_fp (resetCount_fp c)).pre (sendStoredFrom_ids (resetCount c) _ _ _ (by rw [(resetCount_fp c).cfg])
    (by rw [resetCount_s]) (by rw [resetCount_s]))

theorem resendStored_ids (c : C) : IdRun (IdPrim.resend c.cfg.pw c.s.mpsSend c.s.store) c (resendStored c) :=
  resendStored_ind c (sendStored_ids c) (fun h => h.post (.of_fp (sendPostProcess_fp _)))

/-! ## CONNACK -/

/-- a CONNACK that refuses the connection closes it; one that accepts it resumes the session or clears it -/
theorem connackTail_run (c : C) (p : Pkt) (pw mps : Nat) (l : List (Nat × Pkt))
    (hp : c.cfg.pw = pw) (hm : c.s.mpsSend = mps) (hl : c.s.store = l) :
    IdRun (if p.rc = some 0 then if p.sp then IdPrim.resend pw mps l else [.clearSession] else []) c
      (connackTail c p) := by
  subst hp hm hl
  unfold connackTail
  refine .guard .rfl (fun _ => (IdRun.of_fp (disconnected_fp c)).close) fun _ => ?_
  refine IdRun.post ?_ (.of_fp (sendPostProcess_fp _))
  exact .ite (fun _ => (IdRun.refl c).set.pre (sendStored_ids { c with s := { c.s with status := .connected } }))
    fun _ => .quiet

theorem psV3Connack_run (c : C) (p : Pkt) :
    IdRun (if c.s.status = .connecting then if p.rc = some 0 then
      if p.sp then IdPrim.resend c.cfg.pw c.s.mpsSend c.s.store else [.clearSession] else [] else []) c
      (psV3Connack c p) := by
  rw [psV3Connack_eq]
  refine .guard .rfl (fun _ => (IdRun.refl c).err _) fun _ => ?_
  exact ((IdRun.refl c).send p none).pre (connackTail_run (c.push (.send p none)) p _ _ _ rfl rfl rfl)

theorem psV5Connack_run (c : C) (p : Pkt) :
    IdRun (if sizeOk c p then if c.s.status = .connecting then if p.rc = some 0 then
      if p.sp then IdPrim.resend c.cfg.pw c.s.mpsSend c.s.store else [.clearSession] else [] else [] else []) c
      (psV5Connack c p) := by
  rw [psV5Connack_eq]
  refine .guard (by simp) (fun _ => (IdRun.refl c).err _) fun _ => ?_
  refine .guard .rfl (fun _ => (IdRun.refl c).err _) fun _ => ?_
  -- the properties of the CONNACK leave the peer's Maximum Packet Size and the store alone
  have h : Footprint [.timerCancel, .timerReset] wConnackSendProp c
      (if p.rc = some 0 then propsFold connackSendProp c p.props else c) :=
    ite_ind (fun _ => propsFold_connackSendProp_fp c p.props) fun _ => .of_s rfl
  refine ((IdRun.of_fp h).send p none).pre (connackTail_run _ p _ _ _ (congrArg Cfg.pw h.cfg) ?_ ?_)
  · rw [push_s, h.s]
  · rw [push_s, h.s]

theorem psV3Connack_ids (c : C) (p : Pkt) (hk : p.kind = .connack) :
    ∃ l, SendOut c.cfg c.s p l ∧ IdRun l c (psV3Connack c p) :=
  ⟨_, ite_ind (fun hs => ite_ind (fun hrc => .connack hk hs hrc) fun _ => .keep) fun _ => .keep, psV3Connack_run c p⟩

theorem psV5Connack_ids (c : C) (p : Pkt) (hk : p.kind = .connack) :
    ∃ l, SendOut c.cfg c.s p l ∧ IdRun l c (psV5Connack c p) :=
  ⟨_, ite_ind (fun _ => ite_ind (fun hs => ite_ind (fun hrc => .connack hk hs hrc) fun _ => .keep) fun _ => .keep)
    fun _ => .keep, psV5Connack_run c p⟩

/-- a handler that neither touches the group nor releases an identifier -/
theorem keep_ids {T : List EvTag} {w : St → St → St} {c r : C} (p : Pkt) (h : Footprint T w c r)
    (hw : ∀ a x, (w a x).ids = a.ids := by exact fun _ _ => rfl) (hT : EvTag.released ∉ T := by decide) :
    ∃ l, SendOut c.cfg c.s p l ∧ IdRun l c r := ⟨_, .keep, .of_fp h hw hT⟩

theorem processSend_ids (c : C) (p : Pkt) : ∃ l, SendOut c.cfg c.s p l ∧ IdRun l c (processSend c p) :=
  processSend_cases (Q := fun r => ∃ l, SendOut c.cfg c.s p l ∧ IdRun l c r) c p
    (fun _ hk => psV3Connect_ids c p hk)
    (fun _ hk => psV3Connack_ids c p hk)
    (fun hv hk => psV3Publish_ids c p hk hv)
    (fun _ _ => keep_ids p (psV3Simple_fp c p))
    (fun _ _ => keep_ids p (psV3Disconnect_fp c p))
    (fun _ _ => ⟨_, .keep, .refl c⟩)
    (fun hk => psPubrel_ids c p hk)
    (fun hk => psSubUnsub_ids c p hk)
    (fun _ => keep_ids p (psPingreq_fp c p))
    (fun _ hk => psV5Connect_ids c p hk)
    (fun _ hk => psV5Connack_ids c p hk)
    (fun hv hk => psV5Publish_ids c p hk hv)
    (fun _ _ => keep_ids p (psV5Puback_fp c p))
    (fun _ _ => keep_ids p (psV5Pubrec_fp c p))
    (fun _ _ => keep_ids p (psV5Pubcomp_fp c p))
    (fun _ _ => keep_ids p (psV5Disconnect_fp c p))
    (fun _ _ => keep_ids p (psV5Auth_fp c p))
    (fun _ _ => keep_ids p (psV5Simple_fp c p))

theorem send_ids (c : C) (p : Pkt) : ∃ l, SendOut c.cfg c.s p l ∧ IdRun l c (send c p) :=
  send_cases (Q := fun r => ∃ l, SendOut c.cfg c.s p l ∧ IdRun l c r) c p (fun _ => refuseSend_ids c _ p)
    (fun _ _ => refuseSend_ids c _ p) (fun _ _ => processSend_ids c p)

end MqttVerif.Conn.Fp
