import MqttVerif.Conn.Lemmas.NoPanic
import MqttVerif.Conn.Lemmas.FootprintIdsSend
import MqttVerif.Conn.Lemmas.FootprintGate
import MqttVerif.Conn.Lemmas.FootprintSites
/-!
# C05 helpers — the `process_send_*` tree keeps `GoodV` (invariant + no panic)

Every handler keeps `Sane` (the walks, which give the reason why each panic site is unreachable); `StoreInv` comes from
what a send does to the identifier group (`SendOut.si`).
-/
namespace MqttVerif.Conn
open MqttVerif

@[simp] theorem handleV3Error_s (c : C) (e : Nat) : (handleV3Error c e).s = c.s := rfl

theorem Sane.refusal {c : C} (h : Sane c) (e : Nat) (rel : Option Nat) : Sane (Fp.refusal c e rel) := by
  cases rel with
  | none => exact h
  | some id => exact release (c := c.err e) h id

theorem validateTopicAliasRange_spec {s : St} {a : Nat} (h : validateTopicAliasRange s a = true) :
    ∀ t, s.tas = some t → 1 ≤ a ∧ a ≤ t.max := by
  intro t ht
  simp only [validateTopicAliasRange, ht, Bool.not_eq_true', decide_eq_false_iff_not, not_or] at h
  omega

/-- what `send` needs to know about a QoS>0 PUBLISH: it carries an identifier (the
    `packet_id().unwrap()` **site**) and that identifier awaits no response -/
def PubIdOk (s : St) (p : Pkt) : Prop := p.qos > 0 → ∃ id, p.pid = some id ∧ IdFresh s id

/-! ## CONNECT, CONNACK -/

theorem Sane.connectOut {c : C} (h : Sane c) (p : Pkt) {settle : C → C} (hs : ∀ m, Sane m → Sane (settle m)) :
    Sane (Fp.connectOut c p settle) :=
  Sane.post (hs _ (h.init true))

theorem psV3Connect_sane {c : C} (h : Sane c) (p : Pkt) : Sane (psV3Connect c p) := by
  rw [Fp.psV3Connect_eq]
  refine Fp.guarded_ind (fun _ => h.refusal _ _) (fun _ _ => h.refusal _ _) fun _ _ => h.connectOut p fun m hm => ?_
  have hm' : Sane { m with s := { m.s with needStore := true } } := hm
  exact (Fp.ite_both hm.clear hm').setTas TasOptInv.none

theorem psV5Connect_sane {c : C} (h : Sane c) (p : Pkt) : Sane (psV5Connect c p) := by
  rw [Fp.psV5Connect_eq]
  exact Fp.guarded_ind (fun _ => h.refusal _ _) (fun _ _ => h.refusal _ _)
    fun _ _ => h.connectOut p fun m hm => (Fp.ite_both hm.clear hm).of_fp (Fp.propsFold_connectSendProp_fp _ p.props)

/-- what the two `psV…Connack` do once the packet is accepted -/
theorem connackTail_sane {c : C} (h : Sane c) (hb : Headroom c.s) (p : Pkt) : Sane (Fp.connackTail c p) := by
  unfold Fp.connackTail
  refine Fp.ite_both ((h.of_fp (Fp.disconnected_fp c)).push _) (Sane.post (Fp.ite_both ?_ ?_))
  · exact sendStored_sane (c := { c with s := { c.s with status := .connected } }) h hb
  · exact Sane.clear (c := { c with s := { c.s with status := .connected } }) h

theorem psV3Connack_sane {c : C} (h : Sane c) (hb : Headroom c.s) (p : Pkt) : Sane (psV3Connack c p) := by
  rw [Fp.psV3Connack_guarded]
  exact Fp.guarded_ind (fun _ => h.refusal _ _) (fun _ _ => h.refusal _ _)
    fun _ _ => connackTail_sane (c := c.push (.send p none)) h hb p

theorem psV5Connack_sane {c : C} (h : Sane c) (hb : Headroom c.s) (p : Pkt) : Sane (psV5Connack c p) := by
  rw [Fp.psV5Connack_guarded]
  refine Fp.guarded_ind (fun _ => h.refusal _ _) (fun _ _ => h.refusal _ _) fun _ _ => ?_
  have hf := Fp.propsFold_connackSendProp_fp c p.props
  obtain ⟨h1, h2⟩ := Fp.ite_both (Q := fun r : C => Sane r ∧ Headroom r.s) (p := p.rc = some 0)
    ⟨h.of_fp hf, hf.view Headroom ▸ hb⟩ ⟨h, hb⟩
  exact connackTail_sane (c := C.push _ (.send p none)) h1 h2 p

/-! ## PUBLISH -/

/-- **site `store.add().unwrap()`** is unreachable for an identifier that is not stored -/
theorem Sane.storeAdd {c : C} (h : Sane c) {id : Nat} (hn : storeHas id c.s.store = false) (q : Pkt) (site : String) :
    Sane (storeAdd c id q site) := by
  rw [storeAdd_s hn]
  exact h

theorem Sane.addWait {c : C} (h : Sane c) (qos id : Nat) : Sane (addWait c qos id) := h.of_fp (Fp.addWait_fp c qos id)

/-- **site `releaseId`** in `pubRefuseCleanup` stands behind `is_used_id` -/
theorem Sane.pubRefuse {c : C} (h : Sane c) (pid : Option Nat) : Sane (pubRefuseCleanup c pid) := by
  unfold pubRefuseCleanup
  cases pid with
  | none => exact h
  | some id =>
    refine Fp.ite_ind (fun hu => ?_) fun _ => h
    rw [Sane, Fp.push_s, releaseId_s h.1 hu]
    exact h.setPid (h.1.deallocate id)

/-- what the handlers need of `PubIdOk`: a QoS>0 PUBLISH carries an identifier (the `packet_id().unwrap()` **site**)
    under which nothing is stored -/
def PubIdNew (s : St) (p : Pkt) : Prop := p.qos > 0 → ∃ id, p.pid = some id ∧ storeHas id s.store = false

theorem PubIdNew.fresh {s : St} {p : Pkt} {id : Nat} (hw : PubIdNew s p) (hq : p.qos > 0) (hp : p.pid = some id) :
    storeHas id s.store = false := by
  obtain ⟨id', e, hn⟩ := hw hq
  exact Option.some.inj (e.symm.trans hp) ▸ hn

theorem PubIdNew.pid_ne_none {s : St} {p : Pkt} (hw : PubIdNew s p) (hq : p.qos > 0) : p.pid ≠ none := fun hp => by
  obtain ⟨id, e, _⟩ := hw hq
  exact nomatch hp.symm.trans e

theorem psV3Publish_sane {c : C} {p : Pkt} (h : Sane c) (hw : PubIdNew c.s p) : Sane (psV3Publish c p) :=
  Fp.psV3Publish_paths c p (fun hq hp => absurd hp (hw.pid_ne_none hq)) (fun id _ _ _ => Sane.release (c := c.err _) h id)
    (fun _ _ _ _ _ => h) (fun id k _ => ((h.storeAdd (hw.fresh k.qos k.pid) _ _).addWait p.qos id).sendIfConnected p _)
    (fun id _ _ => (h.addWait p.qos id).sendIfConnected p _) (fun _ _ => h) (fun _ _ => Sane.post (c := c.push _) h)

/-- **site `TopicAliasSend::insert_or_update` assert** is unreachable for a non-empty topic and an
    alias in range -/
theorem Sane.tasInsert {c : C} (h : Sane c) {topic : List Nat} {a : Nat} (site : String)
    (hne : topic.isEmpty = false) (hw : hasWildcard topic = false)
    (ha : ∀ t, c.s.tas = some t → 1 ≤ a ∧ a ≤ t.max) : Sane (tasInsert c topic a site) := by
  unfold Conn.tasInsert
  cases ht : c.s.tas with
  | none => exact h
  | some t =>
    have hr := ha t ht
    have hc : ¬(topic.isEmpty = true ∨ a < 1 ∨ a > t.max) := by
      rw [hne]
      exact fun e => e.elim Bool.false_ne_true (by omega)
    dsimp only
    rw [if_neg hc]
    exact h.setTas (.some ((h.2.1 t ht).insertOrUpdate hr hw))

/-- the topic that `validate_topic_alias` finds has no wildcard (`TasInv.get`) -/
theorem validateTopicAlias_sane {c : C} (h : Sane c) (ao : Option Nat) :
    Sane (validateTopicAlias c ao).2 ∧ ∀ t, (validateTopicAlias c ao).1 = some t → hasWildcard t = false := by
  unfold validateTopicAlias
  cases ao with
  | none => exact ⟨h, nofun⟩
  | some a =>
    refine Fp.ite_ind (Q := fun r : Option (List Nat) × C => Sane r.2 ∧ ∀ t, r.1 = some t → hasWildcard t = false)
      (fun _ => ⟨h, nofun⟩) fun _ => ?_
    cases ht : c.s.tas with
    | none => exact ⟨h, nofun⟩
    | some t => exact ⟨h.setTas (.some ((h.2.1 t ht).get a).1), ((h.2.1 t ht).get a).2⟩

/-- the alias that `autoAlias` binds is the least recently used one, which is in range (`TasInv.lruAlias`) -/
theorem autoAlias_sane {c : C} {p : Pkt} (h : Sane c) (hne : p.topic.isEmpty = false)
    (hw : hasWildcard p.topic = false) : Sane (autoAlias c p).1 ∧ (autoAlias c p).2.qos = p.qos :=
  Fp.autoAlias_outcomes (Q := fun r => Sane r.1 ∧ r.2.qos = p.qos) c p ⟨h, rfl⟩ (fun _ _ _ _ _ _ _ => ⟨h, rfl⟩)
    fun _ _ t ht _ _ => ⟨h.tasInsert _ hne hw fun _ e => Option.some.inj (ht.symm.trans e) ▸ (h.2.1 t ht).lruAlias, rfl⟩

/-- **site `publish_send_count += 1`**: past the gate the counter is below the peer's Receive Maximum, a `u16` -/
theorem psV5PublishTail_sane {c : C} {p : Pkt} (h : Sane c) (rel : Option Nat)
    (hc : p.qos > 0 → ∀ m, c.s.sendMax = some m → c.s.sendCount < m) : Sane (psV5PublishTail c p rel) := by
  rw [Fp.psV5PublishTail_eq]
  refine (h.of_fp (Fp.countSend_counts c p fun hq hm => ?_)).sendIfConnected p rel
  obtain ⟨m, hm⟩ := Option.isSome_iff_exists.1 hm
  have := hc hq m hm
  have := h.2.2.1 m hm
  omega

theorem sendBlocked_false {s : St} {p : Pkt} (h : sendBlocked s p = false) :
    p.qos > 0 → ∀ m, s.sendMax = some m → s.sendCount < m := by
  intro hq m hm
  simp only [sendBlocked, hm, hq, decide_true, Bool.true_and, decide_eq_false_iff_not] at h
  omega

theorem psV5PublishAlias_sane {c : C} {p : Pkt} (h : Sane c) (rel : Option Nat) (v : Bool)
    (hw : hasWildcard p.topic = false) : Sane (psV5PublishAlias c p rel v) := by
  -- the tail, entered from a context that differs from `c` in the alias table
  have tail : sendBlocked c.s p = false → ∀ {c1 : C} {q : Pkt}, Sane c1 → c1.s = Fp.wAlias c.s c1.s → q.qos = p.qos →
      Sane (psV5PublishTail c1 q rel) := fun hb c1 q h1 e eq =>
    psV5PublishTail_sane h1 rel (by rw [e, eq]; exact sendBlocked_false hb)
  have hv := validateTopicAlias_sane h p.alias
  have hne : p.topic ≠ [] → p.topic.isEmpty = false := fun ht => by simpa using ht
  refine Fp.psV5PublishAlias_paths c p rel v (fun _ => Sane.pubRefuse (c := c.err _) h _)
    (fun _ _ _ _ _ => Sane.pubRefuse (c := c.err _) h _) (fun _ _ _ _ => Sane.pubRefuse (c := C.err _ _) hv.1 _)
    (fun hb _ _ => tail hb h rfl rfl) (fun hb _ _ _ _ => tail hb hv.1 (by rw [Fp.validateTopicAlias_s]) rfl)
    (fun hb ht a _ hr => ?_) (fun hb ht _ => ?_)
  · refine Fp.ite_ind (Q := fun c1 : C => Sane (psV5PublishTail c1 p rel)) (fun _ => ?_) (fun _ => tail hb h rfl rfl)
    exact tail hb (h.tasInsert _ (hne ht) hw (validateTopicAliasRange_spec hr)) (Fp.tasInsert_s ..) rfl
  · obtain ⟨h1, eq⟩ := autoAlias_sane (p := p) h (hne ht) hw
    exact tail hb h1 (Fp.autoAlias_s c p) eq

/-- **site `remove_topic_alias_add_topic().unwrap()`**: the topic that `validate_topic_alias` finds has no wildcard
    (`TasInv.get`) -/
theorem psV5Publish_sane {c : C} {p : Pkt} (h : Sane c) (hwild : hasWildcard p.topic = false) (hw : PubIdNew c.s p) :
    Sane (psV5Publish c p) := by
  have alias : ∀ {c1 : C} rel v, Sane c1 → Sane (psV5PublishAlias c1 p rel v) :=
    fun rel v h1 => psV5PublishAlias_sane h1 rel v hwild
  obtain ⟨hv, hwt⟩ := validateTopicAlias_sane h p.alias
  refine Fp.psV5Publish_paths c p (fun _ _ => h) (fun id _ _ => Sane.release (c := c.err _) h id)
    (fun _ hq hp => absurd hp (hw.pid_ne_none hq))
    (fun id _ _ _ _ => Sane.release (c := c.err _) h id) (fun _ _ _ _ _ _ => h)
    (fun id _ _ _ _ => Sane.release (c := C.err _ _) hv id)
    (fun id t k _ _ hr => alias _ _ (Sane.addWait (Sane.storeAdd ?_ ?_ _ _) _ _))
    (fun id k _ _ => alias _ _ ((h.storeAdd (hw.fresh k.qos k.pid) _ _).addWait _ _))
    (fun id _ _ => alias _ _ (h.addWait _ _)) (fun _ _ _ => h) (fun _ _ _ => alias none false h)
  · unfold wildcardCheck
    rw [if_neg (by rw [hwt t hr]; exact Bool.false_ne_true)]
    exact hv
  · rw [Fp.wildcardCheck_s, Fp.validateTopicAlias_s]
    exact hw.fresh k.qos k.pid

/-! ## the other packets -/

/-- PUBREL (sent by the application, or automatically on PUBREC): nothing is stored under its identifier (the
    `store.add().unwrap()` **site**) -/
theorem psPubrel_sane {c : C} {p : Pkt} (h : Sane c) (hn : storeHas (p.pid.getD 0) c.s.store = false) :
    Sane (psPubrel c p) := by
  rw [Fp.psPubrel_eq]
  refine Fp.guarded_ind (fun _ => h.refusal _ _) (fun _ _ => h.refusal _ _) fun _ _ => Fp.ite_both h ?_
  have h1 : Sane (if c.s.needStore = true then
      storeAdd c (p.pid.getD 0) p "core.rs:process_send_pubrel:store.add().unwrap()" else c) :=
    Fp.ite_both (h.storeAdd hn p _) h
  refine Sane.sendIfConnected ?_ _ _
  exact h1

theorem psSubUnsub_sane {c : C} (h : Sane c) (p : Pkt) : Sane (psSubUnsub c p) := by
  rw [Fp.psSubUnsub_eq]
  refine Fp.guarded_ind (fun _ => h.refusal _ _) (fun _ _ => h.refusal _ _)
    fun _ _ => Fp.ite_both h (Sane.post (Sane.push ?_ _))
  exact Fp.ite_both h h

/-! ## `send` -/

def WfSent (p : Pkt) : Prop :=
  (p.ver = 4 ∨ p.ver = 5) ∧ (p.kind = .publish → hasWildcard p.topic = false)

/-- the local contract of `send` in state `s` -/
def SendOk (s : St) (p : Pkt) : Prop :=
  WfSent p ∧ (p.kind = .publish → PubIdOk s p) ∧
  (p.kind = .pubrel → IdFresh s (p.pid.getD 0))

theorem processSend_sane {c : C} {p : Pkt} (h : Sane c) (hb : Headroom c.s)
    (hwild : p.kind = .publish → hasWildcard p.topic = false) (hpub : p.kind = .publish → PubIdNew c.s p)
    (hrel : p.kind = .pubrel → storeHas (p.pid.getD 0) c.s.store = false) : Sane (processSend c p) :=
  Fp.processSend_cases c p
    (fun _ _ => psV3Connect_sane h p) (fun _ _ => psV3Connack_sane h hb p)
    (fun _ hk => psV3Publish_sane h (hpub hk)) (fun _ _ => h.of_fp (Fp.psV3Simple_fp c p))
    (fun _ _ => h.of_fp (Fp.psV3Disconnect_fp c p)) (fun _ _ => h) (fun hk => psPubrel_sane h (hrel hk))
    (fun _ => psSubUnsub_sane h p) (fun _ => h.of_fp (Fp.psPingreq_fp c p))
    (fun _ _ => psV5Connect_sane h p) (fun _ _ => psV5Connack_sane h hb p)
    (fun _ hk => psV5Publish_sane h (hwild hk) (hpub hk)) (fun _ _ => h.of_fp (Fp.psV5Puback_fp c p))
    (fun _ _ => h.of_fp (Fp.psV5Pubrec_fp c p)) (fun _ _ => h.of_fp (Fp.psV5Pubcomp_fp c p))
    (fun _ _ => h.of_fp (Fp.psV5Disconnect_fp c p)) (fun _ _ => h.of_fp (Fp.psV5Auth_fp c p))
    (fun _ _ => h.of_fp (Fp.psV5Simple_fp c p))

section
variable {cfg : Cfg} {s : St} {p : Pkt} {l : List IdPrim}

/-- `hv`, `hne`: `send` has compared the versions; `hpub`, `hrel`: the contract `SendOk` -/
theorem SendOut.si (ho : SendOut cfg s p l) (h : SI s.ver s.ids) (hv : p.ver = s.ver) (hne : s.ver ≠ 0)
    (hpub : p.kind = .publish → PubIdOk s p) (hrel : p.kind = .pubrel → IdFresh s (p.pid.getD 0)) :
    SI s.ver (IdPrim.runAll l s.ids).1 := by
  -- the identifier of a packet that begins an exchange awaits no response
  have fresh : (p.kind = .publish ∧ p.qos > 0 ∨ p.kind = .pubrel) → IdFresh s (p.pid.getD 0) := by
    rintro (⟨hk, hq⟩ | hk)
    · obtain ⟨id, e, hf⟩ := hpub hk hq
      rw [e]
      exact hf
    · exact hrel hk
  have begin : ∀ {id : Nat} {q : Pkt} (stored : Bool), (p.kind = .publish ∧ p.qos > 0 ∨ p.kind = .pubrel) →
      id = p.pid.getD 0 → (stored = true → StoredAs cfg s p q) →
      SI s.ver (IdPrim.runAll ((if stored then [.store id q] else []) ++ [.await (respOf p) id]) s.ids).1 := by
    rintro id q stored hk rfl hq
    obtain ⟨f1, f2, f3⟩ := fresh hk
    refine h.begin f1 f2 f3 (respOf_cases p) stored fun hst => ⟨(hq hst).ver.trans hv, hne, ?_, (hq hst).respOf⟩
    rw [(hq hst).kind]
    exact hk.imp And.left fun e => e
  cases ho with
  | keep => exact h
  | refuse id => exact SI.released (l := []) h id
  | exchange id q stored hk hid hu hq hs => exact begin stored hk hid hq
  | exchangeRefused id q stored hk hid hu hq hs =>
    rw [IdPrim.runAll_append]
    dsimp only
    exact (begin stored (.inl hk) (by rw [hid]; rfl) hq).cleanup id
  | cleanup id => exact h.cleanup id
  | subscribe id hk =>
    by_cases hs : p.kind = .subscribe
    · rw [if_pos hs]
      exact h
    · rw [if_neg hs]
      exact h
  | connect => exact h.openConn p.clean
  | connack => exact h.established p.sp _ _

end

theorem GoodV.of_sane {c : C} (h : Sane c) (hs : StoreInv c.s.ver c.s.store c.s.puback c.s.pubrec c.s.pubcomp)
    (hv : c.s.ver = 4 ∨ c.s.ver = 5) : GoodV c.s :=
  ⟨⟨h.1, hs, h.2⟩, hv⟩

theorem processSend_goodV {c : C} {p : Pkt} (h : GoodV c.s) (hb : Headroom c.s) (hv : p.ver = c.s.ver)
    (hs : SendOk c.s p) : GoodV (processSend c p).s := by
  obtain ⟨⟨_, hw⟩, hpub, hrel⟩ := hs
  obtain ⟨l, ho, hr⟩ := Fp.processSend_ids c p
  have hver : (processSend c p).s.ver = c.s.ver := (Fp.processSend_fp c p).view (·.ver)
  refine .of_sane ?_ ?_ (hver ▸ h.ver)
  · refine processSend_sane h.sane hb hw (fun hk hq => ?_) fun hk => ?_
    · obtain ⟨id, e, hf⟩ := hpub hk hq
      exact ⟨id, e, h.store.fresh_not_stored hf.1 hf.2.1 hf.2.2⟩
    · exact h.store.fresh_not_stored (hrel hk).1 (hrel hk).2.1 (hrel hk).2.2
  · rw [hver]
    show SI c.s.ver (processSend c p).s.ids
    rw [hr.ids]
    exact ho.si h.store hv h.ver_ne hpub hrel

theorem psV5Disconnect_s_of_not_connected {c : C} (hs : c.s.status ≠ .connected) (p : Pkt) :
    (psV5Disconnect c p).s = c.s := by
  unfold psV5Disconnect
  refine Fp.ite_ind (Q := fun r : C => r.s = c.s) (fun _ => rfl) fun _ => ?_
  rw [if_pos hs]
  rfl

theorem v5DisconnectOrClose_s_of_not_connected {c : C} (hs : c.s.status ≠ .connected) (d : Pkt) :
    (v5DisconnectOrClose c d).s = c.s := by
  unfold v5DisconnectOrClose
  split
  · rename_i h'; exact absurd h'.1 hs
  · exact psV5Disconnect_s_of_not_connected hs d

theorem refuseSend_good {c : C} (h : Good c.s) (e : Nat) (p : Pkt) : Good (refuseSend c e p).s := by
  unfold refuseSend
  cases initiatingId p with
  | none => exact h
  | some id => exact releaseIfUsed_good (c := c.err e) h id

theorem send_good {c : C} {p : Pkt} (h : Good c.s) (hb : Headroom c.s) (hs : SendOk c.s p) :
    Good (send c p).s :=
  Fp.send_cases (Q := fun r : C => Good r.s) c p (fun _ => refuseSend_good h _ p) (fun _ _ => refuseSend_good h _ p)
    fun hv _ => (processSend_goodV (h.goodV (by have := hs.1.1; omega)) hb hv.symm hs).good

end MqttVerif.Conn
