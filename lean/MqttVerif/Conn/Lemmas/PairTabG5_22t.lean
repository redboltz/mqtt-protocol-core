import MqttVerif.Conn.Lemmas.PairAbs
/-!
# Generated phase table (helper for `Props/C01L2c.lean`)

Two SAME-direction exchanges in flight: `startTwo v true P1 P2`, `P1` QoS 2 (identifier 1), `P2` QoS 2 (identifier 2).
`Ph`: the 39 phases that ANY schedule of `Act4` actions passes through (found by a breadth-first search on concrete
packets; a phase is a shape of the pair together with how often each message has been notified and each identifier
released so far, so a shape may occur in several phases).
`sysOf`: the shape; `next`: the successor; `nS nC rC rS`: the PUBLISH notifications at the server / client application and
the identifiers released by the client / server in that step.  `tab` collects them; `ok`, `counts`, `loss` (`PairAbs.lean`):
the kernel reads the table in tokens, runs the machine `astep` on every phase and action and finds the table's successor
and outputs - so the table is right for arbitrary packets and both versions (`closure`) - and checks that the outputs
follow the progress of the two exchanges as the shapes show it (`Counted`), and the runs with one loss.
-/
set_option linter.unusedVariables false
namespace MqttVerif.Conn.Pair.G5_22t
open MqttVerif MqttVerif.Conn MqttVerif.Conn.Pair

inductive Ph
  | p0
  | p1
  | p2
  | p3
  | p4
  | p5
  | p6
  | p7
  | p8
  | p9
  | p10
  | p11
  | p12
  | p13
  | p14
  | p15
  | p16
  | p17
  | p18
  | p19
  | p20
  | p21
  | p22
  | p23
  | p24
  | p25
  | p26
  | p27
  | p28
  | p29
  | p30
  | p31
  | p32
  | p33
  | p34
  | p35
  | p36
  | p37
  | p38
deriving DecidableEq, Repr

def sysOf (v : Nat) (P1 P2 : Pkt) : Ph → Sys
  | .p0 =>
    { c := mkSt v true .connected [⟨3, 65535⟩] [(1, P1.asDup), (2, P2.asDup)] [] [2, 1] [] [] [],
      s := mkSt v false .connected [⟨1, 65535⟩] [] [] [] [] [] [],
      c2s := [P1, P2], s2c := [] }
  | .p1 =>
    { c := mkSt v true .connected [⟨3, 65535⟩] [(1, P1.asDup), (2, P2.asDup)] [] [2, 1] [] [] [],
      s := mkSt v false .connected [⟨1, 65535⟩] [] [] [] [] [1] (prl v [1]),
      c2s := [P2], s2c := [(ackN v .pubrec 1)] }
  | .p2 =>
    { c := mkSt v true .connected [⟨3, 65535⟩] [(1, P1.asDup), (2, P2.asDup)] [] [2, 1] [] [] [],
      s := mkSt v false .connected [⟨1, 65535⟩] [] [] [] [] [] [],
      c2s := [P1.asDup, P2.asDup], s2c := [] }
  | .p3 =>
    { c := mkSt v true .connected [⟨3, 65535⟩] [(1, P1.asDup), (2, P2.asDup)] [] [2, 1] [] [] [],
      s := mkSt v false .connected [⟨1, 65535⟩] [] [] [] [] [2, 1] (prl v [2, 1]),
      c2s := [], s2c := [(ackN v .pubrec 1), (ackN v .pubrec 2)] }
  | .p4 =>
    { c := mkSt v true .connected [⟨3, 65535⟩] [(2, P2.asDup), (1, (ackN v .pubrel 1))] [] [2] [1] [] [],
      s := mkSt v false .connected [⟨1, 65535⟩] [] [] [] [] [1] (prl v [1]),
      c2s := [P2, (ackN v .pubrel 1)], s2c := [] }
  | .p5 =>
    { c := mkSt v true .connected [⟨3, 65535⟩] [(1, P1.asDup), (2, P2.asDup)] [] [2, 1] [] [] [],
      s := mkSt v false .connected [⟨1, 65535⟩] [] [] [] [] [1] [],
      c2s := [P1.asDup, P2.asDup], s2c := [] }
  | .p6 =>
    { c := mkSt v true .connected [⟨3, 65535⟩] [(1, P1.asDup), (2, P2.asDup)] [] [2, 1] [] [] [],
      s := mkSt v false .connected [⟨1, 65535⟩] [] [] [] [] [1] (prl v [1]),
      c2s := [P2.asDup], s2c := [(ackN v .pubrec 1)] }
  | .p7 =>
    { c := mkSt v true .connected [⟨3, 65535⟩] [(2, P2.asDup), (1, (ackN v .pubrel 1))] [] [2] [1] [] [],
      s := mkSt v false .connected [⟨1, 65535⟩] [] [] [] [] [2, 1] (prl v [2, 1]),
      c2s := [(ackN v .pubrel 1)], s2c := [(ackN v .pubrec 2)] }
  | .p8 =>
    { c := mkSt v true .connected [⟨3, 65535⟩] [(1, P1.asDup), (2, P2.asDup)] [] [2, 1] [] [] [],
      s := mkSt v false .connected [⟨1, 65535⟩] [] [] [] [] [2, 1] [],
      c2s := [P1.asDup, P2.asDup], s2c := [] }
  | .p9 =>
    { c := mkSt v true .connected [⟨3, 65535⟩] [(2, P2.asDup), (1, (ackN v .pubrel 1))] [] [2] [1] [] [],
      s := mkSt v false .connected [⟨1, 65535⟩] [] [] [] [] [1] [],
      c2s := [P2.asDup, (ackN v .pubrel 1)], s2c := [] }
  | .p10 =>
    { c := mkSt v true .connected [⟨3, 65535⟩] [(2, P2.asDup), (1, (ackN v .pubrel 1))] [] [2] [1] [] [],
      s := mkSt v false .connected [⟨1, 65535⟩] [] [] [] [] [1] (prl v [1]),
      c2s := [P2.asDup, (ackN v .pubrel 1)], s2c := [] }
  | .p11 =>
    { c := mkSt v true .connected [⟨3, 65535⟩] [(2, P2.asDup), (1, (ackN v .pubrel 1))] [] [2] [1] [] [],
      s := mkSt v false .connected [⟨1, 65535⟩] [] [] [] [] [2] (prl v [2]),
      c2s := [], s2c := [(ackN v .pubrec 2), (ackN v .pubcomp 1)] }
  | .p12 =>
    { c := mkSt v true .connected [⟨3, 65535⟩] [(1, (ackN v .pubrel 1)), (2, (ackN v .pubrel 2))] [] [] [2, 1] [] [],
      s := mkSt v false .connected [⟨1, 65535⟩] [] [] [] [] [2, 1] (prl v [2, 1]),
      c2s := [(ackN v .pubrel 1), (ackN v .pubrel 2)], s2c := [] }
  | .p13 =>
    { c := mkSt v true .connected [⟨3, 65535⟩] [(2, P2.asDup), (1, (ackN v .pubrel 1))] [] [2] [1] [] [],
      s := mkSt v false .connected [⟨1, 65535⟩] [] [] [] [] [2, 1] [],
      c2s := [P2.asDup, (ackN v .pubrel 1)], s2c := [] }
  | .p14 =>
    { c := mkSt v true .connected [⟨3, 65535⟩] [(1, P1.asDup), (2, P2.asDup)] [] [2, 1] [] [] [],
      s := mkSt v false .connected [⟨1, 65535⟩] [] [] [] [] [2, 1] (prl v [1]),
      c2s := [P2.asDup], s2c := [(ackN v .pubrec 1)] }
  | .p15 =>
    { c := mkSt v true .connected [⟨3, 65535⟩] [(2, P2.asDup), (1, (ackN v .pubrel 1))] [] [2] [1] [] [],
      s := mkSt v false .connected [⟨1, 65535⟩] [] [] [] [] [2, 1] (prl v [2]),
      c2s := [(ackN v .pubrel 1)], s2c := [(ackN v .pubrec 2)] }
  | .p16 =>
    { c := mkSt v true .connected [⟨3, 65535⟩] [(1, (ackN v .pubrel 1)), (2, (ackN v .pubrel 2))] [] [] [2, 1] [] [],
      s := mkSt v false .connected [⟨1, 65535⟩] [] [] [] [] [2] (prl v [2]),
      c2s := [(ackN v .pubrel 2)], s2c := [(ackN v .pubcomp 1)] }
  | .p17 =>
    { c := mkSt v true .connected [⟨3, 65535⟩] [(2, P2.asDup), (1, (ackN v .pubrel 1))] [] [2] [1] [] [],
      s := mkSt v false .connected [⟨1, 65535⟩] [] [] [] [] [2] [],
      c2s := [P2.asDup, (ackN v .pubrel 1)], s2c := [] }
  | .p18 =>
    { c := mkSt v true .connected [⟨3, 65535⟩] [(1, (ackN v .pubrel 1)), (2, (ackN v .pubrel 2))] [] [] [2, 1] [] [],
      s := mkSt v false .connected [⟨1, 65535⟩] [] [] [] [] [2, 1] [],
      c2s := [(ackN v .pubrel 1), (ackN v .pubrel 2)], s2c := [] }
  | .p19 =>
    { c := mkSt v true .connected [⟨3, 65535⟩] [(2, P2.asDup), (1, (ackN v .pubrel 1))] [] [2] [1] [] [],
      s := mkSt v false .connected [⟨1, 65535⟩] [] [] [] [] [2, 1] (prl v [1]),
      c2s := [P2.asDup, (ackN v .pubrel 1)], s2c := [] }
  | .p20 =>
    { c := mkSt v true .connected [⟨3, 65535⟩] [(1, (ackN v .pubrel 1)), (2, (ackN v .pubrel 2))] [] [] [2, 1] [] [],
      s := mkSt v false .connected [⟨1, 65535⟩] [] [] [] [] [2, 1] (prl v [2]),
      c2s := [(ackN v .pubrel 1), (ackN v .pubrel 2)], s2c := [] }
  | .p21 =>
    { c := mkSt v true .connected [⟨3, 65535⟩] [(1, (ackN v .pubrel 1)), (2, (ackN v .pubrel 2))] [] [] [2, 1] [] [],
      s := mkSt v false .connected [⟨1, 65535⟩] [] [] [] [] [] [],
      c2s := [], s2c := [(ackN v .pubcomp 1), (ackN v .pubcomp 2)] }
  | .p22 =>
    { c := mkSt v true .connected [⟨1, 1⟩, ⟨3, 65535⟩] [(2, (ackN v .pubrel 2))] [] [] [2] [] [],
      s := mkSt v false .connected [⟨1, 65535⟩] [] [] [] [] [2] (prl v [2]),
      c2s := [(ackN v .pubrel 2)], s2c := [] }
  | .p23 =>
    { c := mkSt v true .connected [⟨3, 65535⟩] [(1, (ackN v .pubrel 1)), (2, (ackN v .pubrel 2))] [] [] [2, 1] [] [],
      s := mkSt v false .connected [⟨1, 65535⟩] [] [] [] [] [2] [],
      c2s := [(ackN v .pubrel 1), (ackN v .pubrel 2)], s2c := [] }
  | .p24 =>
    { c := mkSt v true .connected [⟨3, 65535⟩] [(2, P2.asDup), (1, (ackN v .pubrel 1))] [] [2] [1] [] [],
      s := mkSt v false .connected [⟨1, 65535⟩] [] [] [] [] [2] (prl v [2]),
      c2s := [(ackN v .pubrel 1)], s2c := [(ackN v .pubrec 2)] }
  | .p25 =>
    { c := mkSt v true .connected [⟨3, 65535⟩] [(1, (ackN v .pubrel 1)), (2, (ackN v .pubrel 2))] [] [] [2, 1] [] [],
      s := mkSt v false .connected [⟨1, 65535⟩] [] [] [] [] [2] [],
      c2s := [(ackN v .pubrel 2)], s2c := [(ackN v .pubcomp 1)] }
  | .p26 =>
    { c := mkSt v true .connected [⟨1, 1⟩, ⟨3, 65535⟩] [(2, (ackN v .pubrel 2))] [] [] [2] [] [],
      s := mkSt v false .connected [⟨1, 65535⟩] [] [] [] [] [] [],
      c2s := [], s2c := [(ackN v .pubcomp 2)] }
  | .p27 =>
    { c := mkSt v true .connected [⟨3, 65535⟩] [(1, (ackN v .pubrel 1)), (2, (ackN v .pubrel 2))] [] [] [2, 1] [] [],
      s := mkSt v false .connected [⟨1, 65535⟩] [] [] [] [] [] [],
      c2s := [(ackN v .pubrel 1), (ackN v .pubrel 2)], s2c := [] }
  | .p28 =>
    { c := mkSt v true .connected [⟨1, 1⟩, ⟨3, 65535⟩] [(2, (ackN v .pubrel 2))] [] [] [2] [] [],
      s := mkSt v false .connected [⟨1, 65535⟩] [] [] [] [] [2] [],
      c2s := [(ackN v .pubrel 2)], s2c := [] }
  | .p29 =>
    { c := mkSt v true .connected [⟨3, 65535⟩] [(1, (ackN v .pubrel 1)), (2, (ackN v .pubrel 2))] [] [] [2, 1] [] [],
      s := mkSt v false .connected [⟨1, 65535⟩] [] [] [] [] [2] [],
      c2s := [(ackN v .pubrel 2)], s2c := [(pcA v 1)] }
  | .p30 =>
    { c := mkSt v true .connected [⟨3, 65535⟩] [(2, P2.asDup), (1, (ackN v .pubrel 1))] [] [2] [1] [] [],
      s := mkSt v false .connected [⟨1, 65535⟩] [] [] [] [] [2] (prl v [2]),
      c2s := [], s2c := [(ackN v .pubrec 2), (pcA v 1)] }
  | .p31 =>
    { c := mkSt v true .connected [⟨3, 65535⟩] [(1, (ackN v .pubrel 1)), (2, (ackN v .pubrel 2))] [] [] [2, 1] [] [],
      s := mkSt v false .connected [⟨1, 65535⟩] [] [] [] [] [2] (prl v [2]),
      c2s := [(ackN v .pubrel 1), (ackN v .pubrel 2)], s2c := [] }
  | .p32 =>
    { c := mkSt v true .connected [⟨1, 65535⟩] [] [] [] [] [] [],
      s := mkSt v false .connected [⟨1, 65535⟩] [] [] [] [] [] [],
      c2s := [], s2c := [] }
  | .p33 =>
    { c := mkSt v true .connected [⟨1, 1⟩, ⟨3, 65535⟩] [(2, (ackN v .pubrel 2))] [] [] [2] [] [],
      s := mkSt v false .connected [⟨1, 65535⟩] [] [] [] [] [] [],
      c2s := [(ackN v .pubrel 2)], s2c := [] }
  | .p34 =>
    { c := mkSt v true .connected [⟨3, 65535⟩] [(1, (ackN v .pubrel 1)), (2, (ackN v .pubrel 2))] [] [] [2, 1] [] [],
      s := mkSt v false .connected [⟨1, 65535⟩] [] [] [] [] [] [],
      c2s := [(ackN v .pubrel 2)], s2c := [(pcA v 1)] }
  | .p35 =>
    { c := mkSt v true .connected [⟨3, 65535⟩] [(1, (ackN v .pubrel 1)), (2, (ackN v .pubrel 2))] [] [] [2, 1] [] [],
      s := mkSt v false .connected [⟨1, 65535⟩] [] [] [] [] [] [],
      c2s := [], s2c := [(pcA v 1), (ackN v .pubcomp 2)] }
  | .p36 =>
    { c := mkSt v true .connected [⟨3, 65535⟩] [(1, (ackN v .pubrel 1)), (2, (ackN v .pubrel 2))] [] [] [2, 1] [] [],
      s := mkSt v false .connected [⟨1, 65535⟩] [] [] [] [] [2] (prl v [2]),
      c2s := [(ackN v .pubrel 2)], s2c := [(pcA v 1)] }
  | .p37 =>
    { c := mkSt v true .connected [⟨1, 1⟩, ⟨3, 65535⟩] [(2, (ackN v .pubrel 2))] [] [] [2] [] [],
      s := mkSt v false .connected [⟨1, 65535⟩] [] [] [] [] [] [],
      c2s := [], s2c := [(pcA v 2)] }
  | .p38 =>
    { c := mkSt v true .connected [⟨3, 65535⟩] [(1, (ackN v .pubrel 1)), (2, (ackN v .pubrel 2))] [] [] [2, 1] [] [],
      s := mkSt v false .connected [⟨1, 65535⟩] [] [] [] [] [] [],
      c2s := [], s2c := [(pcA v 1), (pcA v 2)] }

def next (ph : Ph) (a : Act4) : Ph :=
  match ph with
  | .p0 => sel a .p1 .p0 .p1 .p2
  | .p1 => sel a .p3 .p4 .p3 .p5
  | .p2 => sel a .p6 .p2 .p6 .p2
  | .p3 => sel a .p3 .p7 .p7 .p8
  | .p4 => sel a .p7 .p4 .p7 .p9
  | .p5 => sel a .p6 .p5 .p6 .p5
  | .p6 => sel a .p3 .p10 .p3 .p5
  | .p7 => sel a .p11 .p12 .p11 .p13
  | .p8 => sel a .p14 .p8 .p14 .p8
  | .p9 => sel a .p15 .p9 .p15 .p9
  | .p10 => sel a .p7 .p10 .p7 .p9
  | .p11 => sel a .p11 .p16 .p16 .p17
  | .p12 => sel a .p16 .p12 .p16 .p18
  | .p13 => sel a .p15 .p13 .p15 .p13
  | .p14 => sel a .p3 .p19 .p3 .p8
  | .p15 => sel a .p11 .p20 .p11 .p13
  | .p16 => sel a .p21 .p22 .p21 .p23
  | .p17 => sel a .p24 .p17 .p24 .p17
  | .p18 => sel a .p25 .p18 .p25 .p18
  | .p19 => sel a .p7 .p19 .p7 .p13
  | .p20 => sel a .p16 .p20 .p16 .p18
  | .p21 => sel a .p21 .p26 .p26 .p27
  | .p22 => sel a .p26 .p22 .p26 .p28
  | .p23 => sel a .p29 .p23 .p29 .p23
  | .p24 => sel a .p30 .p31 .p30 .p17
  | .p25 => sel a .p21 .p28 .p21 .p23
  | .p26 => sel a .p26 .p32 .p32 .p33
  | .p27 => sel a .p34 .p27 .p34 .p27
  | .p28 => sel a .p26 .p28 .p26 .p28
  | .p29 => sel a .p35 .p28 .p35 .p23
  | .p30 => sel a .p30 .p36 .p36 .p17
  | .p31 => sel a .p36 .p31 .p36 .p23
  | .p32 => sel a .p32 .p32 .p32 .p32
  | .p33 => sel a .p37 .p33 .p37 .p33
  | .p34 => sel a .p38 .p33 .p38 .p27
  | .p35 => sel a .p35 .p26 .p26 .p27
  | .p36 => sel a .p35 .p22 .p35 .p23
  | .p37 => sel a .p37 .p32 .p32 .p33
  | .p38 => sel a .p38 .p37 .p37 .p27

def nS (P1 P2 : Pkt) (ph : Ph) (a : Act4) : List Pkt :=
  match ph with
  | .p0 => sel a [P1] [] [P1] []
  | .p1 => sel a [P2] [] [P2] []
  | .p2 => sel a [P1.asDup] [] [P1.asDup] []
  | .p4 => sel a [P2] [] [P2] []
  | .p6 => sel a [P2.asDup] [] [P2.asDup] []
  | .p9 => sel a [P2.asDup] [] [P2.asDup] []
  | .p10 => sel a [P2.asDup] [] [P2.asDup] []
  | _ => []

def nC (P1 P2 : Pkt) (ph : Ph) (a : Act4) : List Pkt := []

def rC (ph : Ph) (a : Act4) : List Nat :=
  match ph with
  | .p16 => sel a [] [1] [] []
  | .p21 => sel a [] [1] [1] []
  | .p25 => sel a [] [1] [] []
  | .p26 => sel a [] [2] [2] []
  | .p29 => sel a [] [1] [] []
  | .p34 => sel a [] [1] [] []
  | .p35 => sel a [] [1] [1] []
  | .p36 => sel a [] [1] [] []
  | .p37 => sel a [] [2] [2] []
  | .p38 => sel a [] [1] [1] []
  | _ => []

def rS (ph : Ph) (a : Act4) : List Nat := []

abbrev tab : PhaseData := ⟨Ph, sysOf, next, nS, nC, rC, rS, .p0, .p32⟩

instance (p : Ph → Prop) [DecidablePred p] : Decidable (∀ ph, p ph) :=
  decidableForallEnum Ph.ofNat Ph.ctorIdx Ph.ofNat_ctorIdx 39 (by intro ph; cases ph <;> decide) p

theorem ok : tab.Ok 2 2 2 (astartTwo 2 2 true) where
  sys_abs v P1 P2 ph := by cases ph <;> rfl
  nS_abs v P1 P2 ph a := by cases ph <;> exact row_abs rfl a
  nC_abs v P1 P2 ph a := rfl
  steps := by decide +kernel

theorem counts : tab.Counts5 true 2 2 := by
  decide +kernel

theorem loss : tab.Loss5 true 2 2 := by
  decide +kernel

section
variable {v : Nat} {P1 P2 : Pkt} (hv : v = 4 ∨ v = 5) (hA : IsPub v 2 P1) (hB : IsPubN v 2 2 P2)
include hv hA hB

theorem closure (ph : Ph) (a : Act4) :
    Obs2 (sysOf v P1 P2 (next ph a)) (nS P1 P2 ph a) (nC P1 P2 ph a) (rC ph a) (rS ph a) (act4 v (sysOf v P1 P2 ph) a) :=
  ok.closure hv hA hB ph a
end

end MqttVerif.Conn.Pair.G5_22t
