import MqttVerif.Conn.Lemmas.Pend3
/-!
# C08 — the ghost `pend` against the model: `recv` and everything below it
-/
namespace MqttVerif.Conn.Pend
open MqttVerif MqttVerif.Conn

/-! ## PUBACK / PUBREC / PUBCOMP received -/

theorem erase_survivor {c : C} (hs : StoreOk c.s) {v : Nat} {k : Kind} {id : Nat} (hv : v = c.s.ver)
    {x : Nat × Pkt} (hx : x ∈ storeErase v k id c.s.store) (hid : x.1 = id)
    (hk : x.2.kind = .publish ∨ x.2.kind = .pubrel) :
    respOf x.2 ≠ k ∧ x.1 ∈ waitOf c.s (respOf x.2) := by
  have hm := (storeErase_sublist v k id c.s.store).subset hx
  obtain ⟨_, e3, _, e5⟩ := hs.ent x hm hk
  have := storeErase_keeps hs.nodup hx hid
  refine ⟨fun e => this ⟨e, e3.trans hv.symm⟩, e5⟩

/-- the acknowledgement `k` of `id` is accepted: `id` leaves the wait set of `k` (`hpa`, `hpr`, `hpc`: and no other),
    the stored packet awaiting `k` is erased -/
theorem inv_acked {g : Gh} {c c' : C} (h : Inv g c) {k : Kind} {id v : Nat} (hv : v = c.s.ver)
    (hev : c'.ev = c.ev) (hst : c'.s.status = c.s.status) (hver : c'.s.ver = c.s.ver)
    (hstore : c'.s.store = storeErase v k id c.s.store)
    (hpa : c'.s.puback = if k = .puback then del id c.s.puback else c.s.puback)
    (hpr : c'.s.pubrec = if k = .pubrec then del id c.s.pubrec else c.s.pubrec)
    (hpc : c'.s.pubcomp = if k = .pubcomp then del id c.s.pubcomp else c.s.pubcomp) : InvM (some id) g c' := by
  have keep : ∀ {b : Prop} [Decidable b] {l : List Nat} {i : Nat}, i ≠ id → i ∈ l → i ∈ if b then del id l else l :=
    fun hi hm => Fp.ite_ind (Q := fun l' => _ ∈ l') (fun _ => mem_del.2 ⟨hm, hi⟩) (fun _ => hm)
  refine InvM.del h hev hst hver (fun i hi hm => hpa ▸ keep hi hm) (fun i hi hm => hpr ▸ keep hi hm)
    (fun i hi hm => hpc ▸ keep hi hm) (hstore ▸ storeErase_sublist _ _ _ _) ?_
  intro y hy hid hky
  obtain ⟨a, b⟩ := erase_survivor h.store hv (hstore ▸ hy) hid hky
  rcases respOf_cases y.2 with e | e | e <;> rw [e] at a b ⊢ <;> simp only [waitOf] at b ⊢
  · rw [hpc, if_neg (Ne.symm a)]; exact b
  · rw [hpr, if_neg (Ne.symm a)]; exact b
  · rw [hpa, if_neg (Ne.symm a)]; exact b

/-- an awaited acknowledgement: its identifier stays masked through `taken`; the delivery unmasks it -/
theorem inv_ackIn {g : Gh} {c : C} (h : Inv g c) {x : Except Nat Pkt} {set : List Nat} {taken : Pkt → Nat → C}
    (hx : ∀ p, x = .ok p → isAck p = true)
    (ht : ∀ p, x = .ok p → InvM (some (p.pid.getD 0)) g (taken p (p.pid.getD 0))) :
    Inv g (Fp.ackIn c x set taken) :=
  Fp.ackIn_ind (fun _ _ => h.fr (fr_vErr _ _)) (fun _ _ _ => h.fr (fr_vErr _ _)) fun p hp _ =>
    (InvM.fr (fr_refreshPingreqRecv _) (ht p hp)).unmask_recv p (hx p hp) rfl

/-- `h` comes last so that the goal decides `c` -/
theorem InvM.pubDone (p : Pkt) (id : Nat) {m : Option Nat} {g : Gh} {c : C} (h : InvM m g c) :
    InvM m g (Fp.pubDone c p id) :=
  h.fr (Fp.ite_ind (fun _ => (fr_releaseIfUsed _ _).trans (fr_decSendCount _)) (fun _ => fr_releaseIfUsed _ _))

theorem inv_prPuback {g : Gh} {c : C} (h : Inv g c) (x : Except Nat Pkt)
    (hx : ∀ p, x = .ok p → p.ver = c.s.ver ∧ isAck p = true) : Inv g (prPuback c x) :=
  Fp.prPuback_eq c x ▸ inv_ackIn h (fun p hp => (hx p hp).2) fun p hp =>
    InvM.pubDone p _ (inv_acked h (hx p hp).1 rfl rfl rfl rfl rfl rfl rfl)

theorem inv_prPubcomp {g : Gh} {c : C} (h : Inv g c) (x : Except Nat Pkt)
    (hx : ∀ p, x = .ok p → p.ver = c.s.ver ∧ isAck p = true) : Inv g (prPubcomp c x) :=
  Fp.prPubcomp_eq c x ▸ inv_ackIn h (fun p hp => (hx p hp).2) fun p hp =>
    InvM.pubDone p _ (inv_acked h (hx p hp).1 rfl rfl rfl rfl rfl rfl rfl)

theorem inv_prPubrec {g : Gh} {c : C} (h : Inv g c) (x : Except Nat Pkt) (hv0 : c.s.ver ≠ 0)
    (hx : ∀ p, x = .ok p → p.ver = c.s.ver ∧ isAck p = true) : Inv g (prPubrec c x) := by
  refine Fp.prPubrec_eq c x ▸ inv_ackIn h (fun p hp => (hx p hp).2) fun p hp => ?_
  have hv := (hx p hp).1
  have h1 := inv_acked (c' := { c with s := { c.s with pubrec := del (p.pid.getD 0) c.s.pubrec, store := storeErase p.ver .pubrec (p.pid.getD 0) c.s.store } })
    h hv rfl rfl rfl rfl rfl rfl rfl
  exact Fp.pubrecDone_cases (fun _ _ _ => inv_psPubrel h1 _ rfl hv hv0) (fun _ _ => h1)
    (fun _ => h1.fr ((fr_releaseIfUsed _ _).trans (fr_decSendCount _)))

/-! ## CONNECT / CONNACK received -/

/-- `Good` relative to a restriction `P` on the ghost the call starts from -/
def GoodP (P : Gh → Prop) (c c' : C) : Prop :=
  (∀ g, P g → Inv g c → Inv g c') ∨ (Resets c'.ev ∧ (StoreOk c.s → Inv [] c'))

theorem Good.toP {P : Gh → Prop} {c c' : C} (h : Good c c') : GoodP P c c' := by
  rcases h with h | h
  · exact .inl (fun g _ => h g)
  · exact .inr h

theorem GoodP.of_fr {P : Gh → Prop} {c c' : C} (f : Fr c c') : GoodP P c c' := (Good.of_fr f).toP

/-- A CONNECT received by a connection without events.  The refusing CONNACK, sent from `connecting`, keeps the invariant
    of a ghost in `P` (`hn`); an accepted CONNECT starts a connection, and `settle` leaves the invariant of the empty
    ghost (`hs`). -/
theorem good_connectIn {P : Gh → Prop} {c busy : C} {x : Except Nat Pkt} {nack : C → Nat → C} {settle : Pkt → C → C}
    (hev : c.ev = []) (hx : ∀ p, x = .ok p → p.kind = .connect) (hb : Fr c busy)
    (hn : c.s.status = .disconnected → ∀ e g, P g → Inv g c →
      Inv g (nack { c with s := { c.s with status := .connecting } } e))
    (hs : ∀ p Y, pendStep [] Y.ev = [] → StoreOk Y.s → Inv [] (settle p Y)) :
    GoodP P c (Fp.connectIn c x busy nack settle) := by
  refine Fp.connectIn_ind (fun _ => .of_fr hb) (fun hst e _ => ?_) (fun _ p hp => ?_)
  · exact .inl fun g hP h => InvM.fr (fr_err _ _) (hn hst e g hP h)
  · refine .inr ⟨.inr (connectionStart_of_mem_recv (.inl (hx p hp)) (mem_push_self _ _)), fun hst => ?_⟩
    refine InvM.fr (fr_recvTail (Fr.refl _) p) (hs p _ ?_ (hst.congr ?_))
    · rw [show (Fp.accepting c p.keepAlive).ev = c.ev from rfl, hev]
      rfl
    · rfl

theorem good_prV3Connect {P : Gh → Prop} (c : C) (x : Except Nat Pkt) (hev : c.ev = [])
    (hx : ∀ p, x = .ok p → p.kind = .connect) : GoodP P c (prV3Connect c x) := by
  refine Fp.prV3Connect_eq c x ▸ good_connectIn hev hx (fr_handleV3Error _ _) (fun _ e g _ h => ?_)
    (fun p Y hg hs => ?_)
  · refine inv_psV3Connack _ nibOf_built h.agree (h.store.congr (c := c) rfl) fun _ hrc => ?_
    simp only [mkV3Connack, Option.some.injEq] at hrc
    exact absurd hrc (v3ConnectErrRc_ne_zero e)
  · exact Fp.ite_ind (fun _ => inv_clear hg)
      (fun _ => inv_of_empty (c := { Y with s := { Y.s with needStore := true } }) hg (hs.congr (c := Y) rfl))

abbrev RecvP (c : C) : Gh → Prop := fun g => c.s.status = .disconnected → g = [] ∨ 5 ≤ c.s.mpsSend

/-- the refusing CONNACK is never too large for a peer whose Maximum Packet Size is at least 5 -/
theorem good_prV5Connect (c : C) (x : Except Nat Pkt) (hev : c.ev = [])
    (hx : ∀ p, x = .ok p → p.kind = .connect) : GoodP (RecvP c) c (prV5Connect c x) := by
  refine Fp.prV5Connect_eq c x ▸ good_connectIn hev hx (fr_handleV5Error _ _) (fun hst e g hP h => ?_)
    (fun p Y hg hs => ?_)
  · refine inv_psV5Connack _ nibOf_built h.agree (h.store.congr (c := c) rfl) fun _ hrc => ?_
    rcases hrc with hrc | hsz
    · simp only [mkV5Connack, Option.some.injEq] at hrc
      exact absurd hrc (v5ConnectErrRc_ne_zero e)
    · rcases hP hst with rfl | hP
      · rw [hev]
        rfl
      · exfalso
        simp only [sizeOk, Pkt.sz, mkV5Connack, Bool.not_eq_false', decide_eq_true_eq] at hsz
        simp at hsz
        omega
  · exact InvM.fr (fr_propsFold _ fr_connectRecvProp _ _) (inv_clearIf _ hg hs)

theorem storeOk_of_nil {s : St} (h : s.store = []) : StoreOk s :=
  ⟨by rw [h]; simp, fun x hx => by rw [h] at hx; cases hx⟩

/-- the properties of a CONNACK leave the session alone or reset it (Session Expiry Interval 0) -/
theorem storeOk_connackRecvProps {c : C} (hs : StoreOk c.s) (props : List (Nat × Nat)) :
    StoreOk (propsFold connackRecvProp c props).s := by
  obtain ⟨cleared, -, hr⟩ := Fp.propsFold_connackRecvProp_ids c props
  cases cleared
  · refine hs.congr (c := c) ?_
    unfold W
    rw [Fp.propsFold_keeps (fun r => r.s.ver) _ (fun r id v => by rw [Fp.connackRecvProp_s]) c props]
    exact congrArg (fun x : Ids => (x.puback, x.pubrec, x.pubcomp, x.store, c.s.ver)) hr.ids
  · exact storeOk_of_nil (congrArg Ids.store hr.ids)

/-- A CONNACK received by a connection without events: an accepted one starts a connection, on which the session is
    resumed or cleared once the properties are applied; they send nothing and keep the status and `StoreOk` (`hp`). -/
theorem good_connackIn {c busy : C} {x : Except Nat Pkt} {bad : Nat → C} {props : Pkt → C → C}
    (hev : c.ev = []) (hx : ∀ p, x = .ok p → p.kind = .connack) (hb : Fr c busy) (hbad : ∀ e, Fr c (bad e))
    (hp : ∀ p c1, pendStep [] c1.ev = [] → pendStep [] (props p c1).ev = [] ∧
      (props p c1).s.status = c1.s.status ∧ (StoreOk c1.s → StoreOk (props p c1).s)) :
    Good c (Fp.connackIn c x busy bad props) := by
  have start : ∀ p, x = .ok p → p.rc = some 0 → ∀ m : C, Resets (m.push (.recv p)).ev := fun p hp hrc m =>
    .inr (connectionStart_of_mem_recv (.inr ⟨hx p hp, hrc⟩) (mem_push_self _ _))
  have hc := fun p => hp p { c with s := { c.s with status := .connected } } (by rw [hev]; rfl)
  refine Fp.connackIn_ind (fun _ => .of_fr hb) (fun _ e _ => .of_fr (hbad e)) (fun _ p _ _ => .of_fr (fr_push_recv _ p))
    (fun _ p hx hrc _ => .inr ⟨start p hx hrc _, fun hs => InvM.fr (fr_push_recv _ p) ?_⟩)
    (fun _ p hx hrc _ => .inr ⟨start p hx hrc _, fun _ => InvM.fr (fr_push_recv _ p) (inv_clear (hc p).1)⟩)
  exact inv_resendStored (inv_of_empty (hc p).1 ((hc p).2.2 (hs.congr (c := c) rfl))) (hc p).2.1 (hc p).1

theorem good_prV3Connack (c : C) (x : Except Nat Pkt) (hev : c.ev = [])
    (hx : ∀ p, x = .ok p → p.kind = .connack) : Good c (prV3Connack c x) :=
  Fp.prV3Connack_eq c x ▸ good_connackIn hev hx (fr_handleV3Error _ _) (fr_handleV3Error _)
    fun _ _ hg => ⟨hg, rfl, id⟩

theorem good_prV5Connack (c : C) (x : Except Nat Pkt) (hev : c.ev = [])
    (hx : ∀ p, x = .ok p → p.kind = .connack) : Good c (prV5Connack c x) :=
  Fp.prV5Connack_eq c x ▸ good_connackIn hev hx (fr_handleV5Error _ _) (fr_err _) fun p c1 hg =>
    ⟨pendStep_nil_of_appends (Fp.propsFold_connackRecvProp_ev c1 p.props) (by decide) hg,
      Fp.propsFold_keeps (fun r => r.s.status) _ (fun r id v => by rw [Fp.connackRecvProp_s]) _ _,
      fun hs => storeOk_connackRecvProps hs _⟩

/-! ## `recv` -/

/-- what the L1 parser guarantees about a parsed packet: it is a packet of the protocol version
    the frame was parsed for, and its kind is the frame's type nibble -/
def ParseOk (parse : Nat → Nat → List Nat → Except Nat Pkt) : Prop :=
  ∀ v fh data p, parse v fh data = .ok p → p.ver = v ∧ p.kind.nibble = fh / 16

theorem GoodP.pre {P : Gh → Prop} {c c1 c' : C} (h : GoodP P c1 c') (h1 : ∀ g, Inv g c → Inv g c1)
    (h2 : StoreOk c.s → StoreOk c1.s) : GoodP P c c' := by
  rcases h with h | ⟨r, h⟩
  · exact .inl (fun g hg hi => h g hg (h1 g hi))
  · exact .inr ⟨r, fun hs => h (h2 hs)⟩

theorem good_dispatchRecv (c : C) (t : Nat) (x : Except Nat Pkt) (hev : c.ev = []) (hv0 : c.s.ver ≠ 0)
    (hx : ∀ p, x = .ok p → p.ver = c.s.ver ∧ p.kind.nibble = t) : GoodP (RecvP c) c (dispatchRecv c t x) := by
  have hk : ∀ k : Kind, t = k.nibble → ∀ p, x = .ok p → p.kind = k := by
    intro k hk p hp
    exact Kind.nibble_inj ((hx p hp).2.trans hk)
  have hack : ∀ k : Kind, t = k.nibble → k = .puback ∨ k = .pubcomp ∨ k = .pubrec →
      ∀ p, x = .ok p → p.ver = c.s.ver ∧ isAck p = true := by
    intro k ht hk3 p hp
    refine ⟨(hx p hp).1, ?_⟩
    rw [isAck, hk k ht p hp]
    rcases hk3 with rfl | rfl | rfl <;> rfl
  exact Fp.dispatchRecv_cases c t x
    (hconnect3 := fun ht _ => good_prV3Connect c x hev (hk .connect ht))
    (hconnect5 := fun ht _ => good_prV5Connect c x hev (hk .connect ht))
    (hconnack3 := fun ht _ => (good_prV3Connack c x hev (hk .connack ht)).toP)
    (hconnack5 := fun ht _ => (good_prV5Connack c x hev (hk .connack ht)).toP)
    (hpublish3 := fun _ _ => .of_fr (fr_prV3Publish c x))
    (hpublish5 := fun _ _ => .of_fr (fr_prV5Publish c x))
    (hpuback := fun ht => .inl fun g _ h => inv_prPuback h x (hack .puback ht (.inl rfl)))
    (hpubrec := fun ht => .inl fun g _ h => inv_prPubrec h x hv0 (hack .pubrec ht (.inr (.inr rfl))))
    (hpubrel := fun _ => .of_fr (fr_prPubrel c x))
    (hpubcomp := fun ht => .inl fun g _ h => inv_prPubcomp h x (hack .pubcomp ht (.inr (.inl rfl))))
    (hplain := fun _ => .of_fr (fr_prPlain c x))
    (hsuback := fun _ => .of_fr (fr_prSubUnsuback c true x))
    (hunsuback := fun _ => .of_fr (fr_prSubUnsuback c false x))
    (hpingreq := fun _ => .of_fr (fr_prPingreq c x))
    (hpingresp := fun _ => .of_fr (fr_prPingresp c x))
    (hdisconnect := fun _ => .of_fr (fr_prDisconnect c x))
    (herr := fun _ => .of_fr (fr_err _ _))

/-- an undetermined connection stores no PUBLISH / PUBREL, so fixing the version keeps the invariant -/
theorem storeOk_setVer {c : C} (h0 : c.s.ver = 0) (v : Nat) (hs : StoreOk c.s) :
    StoreOk ({ c with s := { c.s with ver := v } } : C).s := by
  refine ⟨hs.nodup, ?_⟩
  intro y hy hk
  exact absurd h0 (hs.ent y hy hk).2.2.1

theorem inv_setVer {g : Gh} {c : C} (h0 : c.s.ver = 0) (v : Nat) (h : Inv g c) :
    Inv g ({ c with s := { c.s with ver := v } } : C) :=
  ⟨h.agree, storeOk_setVer h0 v h.store, h.conn⟩

theorem good_processRecvPacket (c : C) (fh : Nat) (data : List Nat) (parse : Nat → Except Nat Pkt)
    (hev : c.ev = []) (hx : ∀ v p, parse v = .ok p → p.ver = v ∧ p.kind.nibble = fh / 16) :
    GoodP (RecvP c) c (processRecvPacket c fh data parse) := by
  have connect : ∀ v, fh / 16 = 1 → ∀ p, parse v = .ok p → p.kind = .connect := by
    intro v ht p hp
    exact Kind.nibble_inj ((hx v p hp).2.trans ht)
  exact Fp.processRecvPacket_cases c fh data parse
    (hlarge := fun _ => .of_fr ((fr_v5DisconnectOrClose _ _ nibOf_built).trans (fr_err _ _)))
    (herr := fun _ _ _ => .of_fr (fr_err _ _))
    (hfirst3 := fun _ _ h0 ht _ _ => GoodP.pre (c1 := { c with s := { c.s with ver := 4 } })
      (good_prV3Connect { c with s := { c.s with ver := 4 } } _ hev (connect 4 ht)) (fun g h => inv_setVer h0 4 h) (storeOk_setVer h0 4))
    (hfirst5 := fun _ _ h0 ht _ _ => GoodP.pre (c1 := { c with s := { c.s with ver := 5 } })
      (good_prV5Connect { c with s := { c.s with ver := 5 } } _ hev (connect 5 ht)) (fun g h => inv_setVer h0 5 h) (storeOk_setVer h0 5))
    (hdispatch := fun _ _ h0 => good_dispatchRecv c _ _ hev h0 (fun p hp => hx _ p hp))

theorem good_recv (c : C) (inp : List Nat) (parse : Nat → Nat → List Nat → Except Nat Pkt)
    (hev : c.ev = []) (hp : ParseOk parse) : GoodP (RecvP c) c (recv c inp parse).1 :=
  Fp.recv_cases c inp parse
    (hnone := fun _ _ _ => .of_fr (fr_of_eq rfl rfl))
    (hpacket := fun pb fh data _ _ => GoodP.pre (c1 := { c with s := { c.s with pb := pb } })
      (good_processRecvPacket { c with s := { c.s with pb := pb } } fh data _ hev (fun v p h => hp v fh data p h))
      (fun _ h => h.fr (fr_of_eq (c := c) rfl rfl)) (fun hs => hs.congr (c := c) rfl))
    (hbad := fun pb _ _ => .of_fr (Fr.trans (b := { c with s := { c.s with pb := pb } }) (fr_of_eq rfl rfl)
      ((fr_cancelTimers _).trans ((fr_push_close _).trans (fr_err _ _)))))

end MqttVerif.Conn.Pend
