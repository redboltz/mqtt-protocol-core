import MqttVerif.Conn.Lemmas.PairExchange
/-!
# Observations and nondeterministic schedules over the two-endpoint system (for `Props/C01L2b.lean`)

A schedule is a list of deliveries and losses, a loss followed at once by the resumption.  The operations of the pair
never read the logs, so they commute with prepending history (`prep`), and an observation (`Obs`; `Obs2` for both
directions at once) made on a log-free shape carries over to any system with that shape (`Obs2.step`, `Obs.step`).
Transducers over any kind of action and what follows for all their outputs from facts about single steps (`phRunG`,
`outRunG_*`).  The shapes the pair passes through during one exchange with
identifier 1 under any schedule form a finite transducer (`Ph2` / `Ph1`): every action maps the shape of a phase to the
shape of the next and emits the transducer's output (`closure2` / `closure1`, proved in `PairAbs.lean` by running the token
machine on the shapes), hence a whole schedule is a run of the transducer (`run_obs`).
-/
set_option linter.unusedSimpArgs false
set_option linter.unusedVariables false
namespace MqttVerif.Conn.Pair
open MqttVerif MqttVerif.Conn

inductive Act | deliver | lose
deriving DecidableEq, Repr

/-- one scheduled action: `deliver` = deliver the head of a non-empty channel (client→server
    first; during one exchange at most one channel is non-empty anyway);
    `lose` = transport loss noticed by both endpoints, then the client reconnects with
    clean = false and the server answers session present -/
def act (v : Nat) (y : Sys) : Act → Sys
  | .deliver => deliver1 y
  | .lose => resume v (lose y)

def runActs (v : Nat) : Sys → List Act → Sys
  | y, [] => y
  | y, a :: as => runActs v (act v y a) as

theorem runActs_append (v : Nat) (y : Sys) (a b : List Act) :
    runActs v y (a ++ b) = runActs v (runActs v y a) b := by
  induction a generalizing y with
  | nil => rfl
  | cons x a ih => simp only [List.cons_append, runActs]; exact ih _

theorem drain_eq_runActs (v n : Nat) (y : Sys) : drain n y = runActs v y (List.replicate n .deliver) := by
  induction n generalizing y with
  | zero => rfl
  | succ n ih => simp only [drain, List.replicate_succ, runActs, act]; exact ih _

/-! ## the logs are write-only -/

def prep (lc ls : List Ev) (y : Sys) : Sys := { y with logC := lc ++ y.logC, logS := ls ++ y.logS }

theorem appC_prep (lc ls : List Ev) (y : Sys) (op : Op) : appC (prep lc ls y) op = prep lc ls (appC y op) := by
  simp [appC, prep]
theorem appS_prep (lc ls : List Ev) (y : Sys) (op : Op) : appS (prep lc ls y) op = prep lc ls (appS y op) := by
  simp [appS, prep]
theorem deliverS_prep (lc ls : List Ev) (y : Sys) : deliverS (prep lc ls y) = prep lc ls (deliverS y) := by
  rcases y with ⟨c, s, c2s, s2c, lC, lS⟩
  cases c2s <;> simp [deliverS, prep]
theorem deliverC_prep (lc ls : List Ev) (y : Sys) : deliverC (prep lc ls y) = prep lc ls (deliverC y) := by
  rcases y with ⟨c, s, c2s, s2c, lC, lS⟩
  cases s2c <;> simp [deliverC, prep]
theorem lose_prep (lc ls : List Ev) (y : Sys) : lose (prep lc ls y) = prep lc ls (lose y) := by
  simp [lose, prep]
theorem deliver1_prep (lc ls : List Ev) (y : Sys) : deliver1 (prep lc ls y) = prep lc ls (deliver1 y) := by
  unfold deliver1
  rw [deliverS_prep, deliverC_prep]
  have : (prep lc ls y).c2s = y.c2s := rfl
  rw [this]; split <;> rfl
theorem drain_prep (lc ls : List Ev) (n : Nat) (y : Sys) : drain n (prep lc ls y) = prep lc ls (drain n y) := by
  induction n generalizing y with
  | zero => rfl
  | succ n ih => simp only [drain, deliver1_prep]; exact ih _
theorem resume_prep (v : Nat) (lc ls : List Ev) (y : Sys) : resume v (prep lc ls y) = prep lc ls (resume v y) := by
  simp only [resume, handshake, appC_prep, deliverS_prep, appS_prep, deliverC_prep]
theorem act_prep (v : Nat) (lc ls : List Ev) (y : Sys) (a : Act) : act v (prep lc ls y) a = prep lc ls (act v y a) := by
  cases a <;> simp only [act, deliver1_prep, lose_prep, resume_prep]
theorem runActs_prep (v : Nat) (lc ls : List Ev) (y : Sys) (acts : List Act) :
    runActs v (prep lc ls y) acts = prep lc ls (runActs v y acts) := by
  induction acts generalizing y with
  | nil => rfl
  | cons a as ih => simp only [runActs, act_prep]; exact ih _

def pubNotes : List Ev → List Pkt
  | [] => []
  | .recv p :: rest => if p.kind = .publish then p :: pubNotes rest else pubNotes rest
  | _ :: rest => pubNotes rest

def releasedIds : List Ev → List Nat
  | [] => []
  | .released id :: rest => id :: releasedIds rest
  | _ :: rest => releasedIds rest

def isErr : Ev → Bool
  | .error _ => true
  | _ => false

def errFree (l : List Ev) : Prop := l.all (fun e => !isErr e) = true

def sameMsg (P Q : Pkt) : Prop := Q = P ∨ Q = P.asDup

/-- the outcome clauses of C01 for one exchange with identifier 1; `toServer` = the client is
    the publisher; the logs hold every event of every call since the session was established -/
structure Good (v : Nat) (toServer : Bool) (notes : List Pkt) (y : Sys) : Prop where
  c2s : y.c2s = []
  s2c : y.s2c = []
  /-- both endpoints are back in the idle state of the established session: connected, stores
      and wait sets and `handled` and `publish_recv` empty, all identifiers free, no panic
      (`Good.quiescent`) -/
  cIdle : y.c = idle v true
  sIdle : y.s = idle v false
  errC : errFree y.logC
  errS : errFree y.logS
  notes : pubNotes (if toServer then y.logS else y.logC) = notes
  noEcho : pubNotes (if toServer then y.logC else y.logS) = []
  released : releasedIds (if toServer then y.logC else y.logS) = [1]
  releasedR : releasedIds (if toServer then y.logS else y.logC) = []

def goodB (v : Nat) (toServer : Bool) (notes : List Pkt) (y : Sys) : Bool :=
  y.c2s = [] ∧ y.s2c = [] ∧ y.c = idle v true ∧ y.s = idle v false ∧
  y.logC.all (fun e => !isErr e) ∧ y.logS.all (fun e => !isErr e) ∧
  pubNotes (if toServer then y.logS else y.logC) = notes ∧
  releasedIds (if toServer then y.logC else y.logS) = [1]

theorem errFree_append (a b : List Ev) : errFree (a ++ b) ↔ errFree a ∧ errFree b := by
  simp [errFree, List.all_append]

theorem pubNotes_append (a b : List Ev) : pubNotes (a ++ b) = pubNotes a ++ pubNotes b := by
  induction a with
  | nil => rfl
  | cons e a ih =>
    cases e <;> simp only [List.cons_append, pubNotes, ih]
    split <;> simp

theorem releasedIds_append (a b : List Ev) : releasedIds (a ++ b) = releasedIds a ++ releasedIds b := by
  induction a with
  | nil => rfl
  | cons e a ih => cases e <;> simp [releasedIds, ih]

theorem pubNotes_resent (st : List (Nat × Pkt)) : pubNotes (resent st) = [] := by
  induction st with
  | nil => rfl
  | cons e st ih => simpa [resent, pubNotes] using ih
theorem releasedIds_resent (st : List (Nat × Pkt)) : releasedIds (resent st) = [] := by
  induction st with
  | nil => rfl
  | cons e st ih => simpa [resent, releasedIds] using ih

/-- `z` has the endpoint states and channels of `tgt`; its logs show no error, the receiving
    application (`d` = the client publishes) was notified of the PUBLISH packets `N`, the
    publishing one of none, the publisher released the identifiers `R`, the receiver none -/
structure Obs (d : Bool) (tgt : Sys) (N : List Pkt) (R : List Nat) (z : Sys) : Prop where
  c : z.c = tgt.c
  s : z.s = tgt.s
  c2s : z.c2s = tgt.c2s
  s2c : z.s2c = tgt.s2c
  errC : errFree z.logC
  errS : errFree z.logS
  notes : pubNotes (if d then z.logS else z.logC) = N
  noEcho : pubNotes (if d then z.logC else z.logS) = []
  released : releasedIds (if d then z.logC else z.logS) = R
  releasedR : releasedIds (if d then z.logS else z.logC) = []

theorem eq_prep_of_core {y t : Sys} (hc : y.c = t.c) (hs : y.s = t.s) (h1 : y.c2s = t.c2s) (h2 : y.s2c = t.s2c)
    (hl : t.logC = [] ∧ t.logS = []) : y = prep y.logC y.logS t := by
  rcases y with ⟨c, s, c2s, s2c, lC, lS⟩
  rcases t with ⟨c', s', c2s', s2c', lC', lS'⟩
  simp only at hc hs h1 h2 hl
  simp [prep, hc, hs, h1, h2, hl.1, hl.2]

/-- the same for both directions at once: the server application was notified of `NS`, the client application of `NC`, the
    client released the identifiers `RC`, the server `RS`; `Obs` is the one-directional case (`Obs.obs2`, `Obs2.obs`) -/
structure Obs2 (tgt : Sys) (NS NC : List Pkt) (RC RS : List Nat) (z : Sys) : Prop where
  c : z.c = tgt.c
  s : z.s = tgt.s
  c2s : z.c2s = tgt.c2s
  s2c : z.s2c = tgt.s2c
  errC : errFree z.logC
  errS : errFree z.logS
  notesS : pubNotes z.logS = NS
  notesC : pubNotes z.logC = NC
  /-- the identifiers the client released (`NotifyPacketIdReleased`), in order -/
  relC : releasedIds z.logC = RC
  relS : releasedIds z.logS = RS

theorem Obs2.obs {d : Bool} {tgt : Sys} {N : List Pkt} {R : List Nat} {z : Sys}
    (h : Obs2 tgt (if d then N else []) (if d then [] else N) (if d then R else []) (if d then [] else R) z) :
    Obs d tgt N R z := by
  cases d
  · exact ⟨h.c, h.s, h.c2s, h.s2c, h.errC, h.errS, h.notesC, h.notesS, h.relS, h.relC⟩
  · exact ⟨h.c, h.s, h.c2s, h.s2c, h.errC, h.errS, h.notesS, h.notesC, h.relC, h.relS⟩

theorem obs2_established (v : Nat) : Obs2 (established v) [] [] [] [] (established v) :=
  ⟨rfl, rfl, rfl, rfl, rfl, rfl, rfl, rfl, rfl, rfl⟩

theorem Obs.obs2 {d : Bool} {tgt : Sys} {N : List Pkt} {R : List Nat} {z : Sys} (h : Obs d tgt N R z) :
    Obs2 tgt (if d then N else []) (if d then [] else N) (if d then R else []) (if d then [] else R) z := by
  cases d
  · exact ⟨h.c, h.s, h.c2s, h.s2c, h.errC, h.errS, h.noEcho, h.notes, h.releasedR, h.released⟩
  · exact ⟨h.c, h.s, h.c2s, h.s2c, h.errC, h.errS, h.notes, h.noEcho, h.released, h.releasedR⟩

theorem Obs2.step {t t' y : Sys} {NS NC dnS dnC : List Pkt} {RC RS drC drS : List Nat} (f : Sys → Sys)
    (hf : ∀ lc ls z, f (prep lc ls z) = prep lc ls (f z))
    (hl : t.logC = [] ∧ t.logS = []) (hy : Obs2 t NS NC RC RS y) (ht : Obs2 t' dnS dnC drC drS (f t)) :
    Obs2 t' (NS ++ dnS) (NC ++ dnC) (RC ++ drC) (RS ++ drS) (f y) := by
  have e := eq_prep_of_core hy.c hy.s hy.c2s hy.s2c hl
  rw [e, hf]
  refine ⟨ht.c, ht.s, ht.c2s, ht.s2c, (errFree_append _ _).2 ⟨hy.errC, ht.errC⟩,
    (errFree_append _ _).2 ⟨hy.errS, ht.errS⟩, ?_, ?_, ?_, ?_⟩
  · show pubNotes (y.logS ++ (f t).logS) = _; rw [pubNotes_append, hy.notesS, ht.notesS]
  · show pubNotes (y.logC ++ (f t).logC) = _; rw [pubNotes_append, hy.notesC, ht.notesC]
  · show releasedIds (y.logC ++ (f t).logC) = _; rw [releasedIds_append, hy.relC, ht.relC]
  · show releasedIds (y.logS ++ (f t).logS) = _; rw [releasedIds_append, hy.relS, ht.relS]

theorem Obs.step {d : Bool} {t t' y : Sys} {N dn : List Pkt} {R dr : List Nat} (f : Sys → Sys)
    (hf : ∀ lc ls z, f (prep lc ls z) = prep lc ls (f z))
    (hl : t.logC = [] ∧ t.logS = []) (hy : Obs d t N R y) (ht : Obs d t' dn dr (f t)) :
    Obs d t' (N ++ dn) (R ++ dr) (f y) := by
  have h := Obs2.step f hf hl hy.obs2 ht.obs2
  apply Obs2.obs
  cases d <;> exact h

theorem Good.obs {v : Nat} {d : Bool} {N : List Pkt} {y : Sys} (hv : v = 4 ∨ v = 5) (h : Good v d N y) :
    Obs d (established v) N [1] y := by
  rw [established_eq v hv]
  exact ⟨h.cIdle, h.sIdle, h.c2s, h.s2c, h.errC, h.errS, h.notes, h.noEcho, h.released, h.releasedR⟩

section transducer
variable {Ph A α : Type}

/-- the phase after a list of actions of any kind (`phRun`: deliveries and losses), and the outputs along the way -/
def phRunG (next : Ph → A → Ph) : Ph → List A → Ph
  | ph, [] => ph
  | ph, a :: as => phRunG next (next ph a) as

def outRunG (next : Ph → A → Ph) (out : Ph → A → List α) : Ph → List A → List α
  | _, [] => []
  | ph, a :: as => out ph a ++ outRunG next out (next ph a) as

theorem phRunG_append (next : Ph → A → Ph) (ph : Ph) (a b : List A) :
    phRunG next ph (a ++ b) = phRunG next (phRunG next ph a) b := by
  induction a generalizing ph with
  | nil => rfl
  | cons x a ih => simp only [List.cons_append, phRunG]; exact ih _

theorem outRunG_all (next : Ph → A → Ph) (out : Ph → A → List α) (p : α → Prop)
    (h : ∀ ph a, ∀ x ∈ out ph a, p x) : ∀ acts ph, ∀ x ∈ outRunG next out ph acts, p x := by
  intro acts
  induction acts with
  | nil => intro ph x hx; simp [outRunG] at hx
  | cons a as ih =>
    intro ph x hx
    simp only [outRunG, List.mem_append] at hx
    rcases hx with hx | hx
    · exact h ph a x hx
    · exact ih _ x hx

theorem outRunG_nil (next : Ph → A → Ph) (out : Ph → A → List α) (h : ∀ ph a, out ph a = []) :
    ∀ acts ph, outRunG next out ph acts = [] := by
  intro acts
  induction acts with
  | nil => intro ph; rfl
  | cons a as ih => intro ph; simp only [outRunG, h, ih, List.append_nil]

theorem outRunG_map {β : Type} (next : Ph → A → Ph) (out' : Ph → A → List β) (out : Ph → A → List α) (g : α → β)
    (h : ∀ ph a, out' ph a = (out ph a).map g) : ∀ acts ph, outRunG next out' ph acts = (outRunG next out ph acts).map g := by
  intro acts
  induction acts with
  | nil => intro ph; rfl
  | cons a as ih => intro ph; simp only [outRunG, h, ih, List.map_append]

theorem outRunG_count (next : Ph → A → Ph) (out : Ph → A → List α) (f : List α → Nat)
    (hf0 : f [] = 0) (hf : ∀ a b, f (a ++ b) = f a + f b) (cnt : Ph → Nat)
    (h : ∀ ph a, cnt (next ph a) = cnt ph + f (out ph a)) :
    ∀ acts ph, cnt (phRunG next ph acts) = cnt ph + f (outRunG next out ph acts) := by
  intro acts
  induction acts with
  | nil => intro ph; simp [phRunG, outRunG, hf0]
  | cons a as ih => intro ph; simp only [phRunG, outRunG, ih, h, hf]; omega

theorem outRunG_count_le (next : Ph → A → Ph) (out : Ph → A → List α) (f : List α → Nat)
    (hf : ∀ a b, f (a ++ b) = f a + f b) (cnt : Ph → Nat)
    (h : ∀ ph a, cnt (next ph a) ≤ cnt ph + f (out ph a)) :
    ∀ acts ph, cnt (phRunG next ph acts) ≤ cnt ph + f (outRunG next out ph acts) := by
  intro acts
  induction acts with
  | nil => intro ph; simp [phRunG, outRunG]
  | cons a as ih =>
    intro ph
    have := ih (next ph a)
    have := h ph a
    simp only [phRunG, outRunG, hf]; omega

theorem outRunG_replicate (next : Ph → A → Ph) (out : Ph → A → List α) (x : α) (cnt : Ph → Nat)
    (h : ∀ ph a, cnt (next ph a) = cnt ph + (out ph a).length) (hx : ∀ ph a, ∀ y ∈ out ph a, y = x)
    (acts : List A) (ph : Ph) (h0 : cnt ph = 0) :
    outRunG next out ph acts = List.replicate (cnt (phRunG next ph acts)) x := by
  have := outRunG_count next out List.length rfl (fun _ _ => List.length_append) cnt h acts ph
  exact List.eq_replicate_iff.2 ⟨by omega, outRunG_all next out _ hx acts ph⟩

theorem phRunG_done (next : Ph → A → Ph) (done : Ph) (x : A) (k : Nat)
    (hk : ∀ ph, phRunG next ph (List.replicate k x) = done) (hd : next done x = done)
    (n : Nat) (hn : k ≤ n) (ph : Ph) : phRunG next ph (List.replicate n x) = done := by
  obtain ⟨m, rfl⟩ := Nat.exists_eq_add_of_le hn
  rw [← List.replicate_append_replicate, phRunG_append, hk]
  induction m with
  | zero => rfl
  | succ m ih => simpa [List.replicate_succ, phRunG, hd] using ih

def phRun (next : Ph → Act → Ph) : Ph → List Act → Ph
  | ph, [] => ph
  | ph, a :: as => phRun next (next ph a) as

def outRun (next : Ph → Act → Ph) (out : Ph → Act → List α) : Ph → List Act → List α
  | _, [] => []
  | ph, a :: as => out ph a ++ outRun next out (next ph a) as

theorem phRun_eq (next : Ph → Act → Ph) (ph : Ph) (acts : List Act) : phRun next ph acts = phRunG next ph acts := by
  induction acts generalizing ph with
  | nil => rfl
  | cons a as ih => exact ih _

theorem outRun_eq (next : Ph → Act → Ph) (out : Ph → Act → List α) (ph : Ph) (acts : List Act) :
    outRun next out ph acts = outRunG next out ph acts := by
  induction acts generalizing ph with
  | nil => rfl
  | cons a as ih => exact congrArg (out ph a ++ ·) (ih _)

theorem outRun_append (next : Ph → Act → Ph) (out : Ph → Act → List α) (ph : Ph) (a b : List Act) :
    outRun next out ph (a ++ b) = outRun next out ph a ++ outRun next out (phRun next ph a) b := by
  induction a generalizing ph with
  | nil => rfl
  | cons x a ih => simp only [List.cons_append, outRun, phRun, ih, List.append_assoc]

theorem run_obs {v : Nat} {d : Bool} (sysOf : Ph → Sys) (next : Ph → Act → Ph) (note : Ph → Act → List Pkt)
    (rel : Ph → Act → List Nat) (hlog : ∀ ph, (sysOf ph).logC = [] ∧ (sysOf ph).logS = [])
    (hcl : ∀ ph a, Obs d (sysOf (next ph a)) (note ph a) (rel ph a) (act v (sysOf ph) a)) :
    ∀ acts ph N R y, Obs d (sysOf ph) N R y →
      Obs d (sysOf (phRun next ph acts)) (N ++ outRun next note ph acts) (R ++ outRun next rel ph acts)
        (runActs v y acts) := by
  intro acts
  induction acts with
  | nil => intro ph N R y h; simpa [phRun, outRun, runActs] using h
  | cons a as ih =>
    intro ph N R y h
    have h1 := Obs.step (fun z => act v z a) (fun lc ls z => act_prep v lc ls z a) (hlog ph) h (hcl ph a)
    have := ih _ _ _ _ h1
    simpa [phRun, outRun, runActs, List.append_assoc] using this

end transducer

/-! ## the shapes of one exchange -/

/-- `d` = the client is the publisher: sender state, receiver state, forward channel (towards
    the receiver), backward channel -/
def mkSys (d : Bool) (snd rcv : Bool → St) (fwd bwd : List Pkt) : Sys :=
  match d with
  | true => { c := snd true, s := rcv false, c2s := fwd, s2c := bwd }
  | false => { c := rcv true, s := snd false, c2s := bwd, s2c := fwd }

theorem mkSys_logs (d : Bool) (snd rcv : Bool → St) (fwd bwd : List Pkt) :
    (mkSys d snd rcv fwd bwd).logC = [] ∧ (mkSys d snd rcv fwd bwd).logS = [] := by
  cases d <;> exact ⟨rfl, rfl⟩

/-- sender awaiting PUBREC (QoS 2) / PUBACK (QoS 1): the PUBLISH is stored with DUP set -/
def sPub2 (v : Nat) (P : Pkt) (b : Bool) : St := mkSt v b .connected [⟨2, 65535⟩] [(1, P.asDup)] [] [1] [] [] []
def sPub1 (v : Nat) (P : Pkt) (b : Bool) : St := mkSt v b .connected [⟨2, 65535⟩] [(1, P.asDup)] [1] [] [] [] []
/-- sender awaiting PUBCOMP: the PUBREL is stored -/
def sRel (v : Nat) (b : Bool) : St := mkSt v b .connected [⟨2, 65535⟩] [(1, ack v .pubrel)] [] [] [1] [] []
/-- receiver that has handled identifier 1 and awaits PUBREL -/
def rHandled (v : Nat) (prv : List Nat) (b : Bool) : St := mkSt v b .connected [⟨1, 65535⟩] [] [] [] [] [1] prv

/-- the phases of a QoS 2 exchange under loss -/
inductive Ph2
  | pub (dup : Bool)        -- PUBLISH (first transmission / retransmission with DUP) in flight, receiver idle
  | recd                    -- PUBREC in flight
  | pubAgain                -- PUBLISH(DUP) in flight, receiver already handled it
  | rel (fresh : Bool)      -- PUBREL in flight (`fresh` = not a retransmission), receiver awaits it
  | comp (again : Bool)     -- PUBCOMP in flight (`again` = answer to a PUBREL for a forgotten identifier)
  | relAgain                -- PUBREL retransmitted, receiver has completed
  | done
deriving DecidableEq, Repr

def sysOf2 (v : Nat) (d : Bool) (P : Pkt) : Ph2 → Sys
  | .pub dup => mkSys d (sPub2 v P) (idle v) [if dup then P.asDup else P] []
  | .recd => mkSys d (sPub2 v P) (rHandled v (pr5 v)) [] [ack v .pubrec]
  | .pubAgain => mkSys d (sPub2 v P) (rHandled v []) [P.asDup] []
  | .rel fresh => mkSys d (sRel v) (rHandled v (if fresh then pr5 v else [])) [ack v .pubrel] []
  | .comp again => mkSys d (sRel v) (idle v) [] [if again then pubcompAgain v else ack v .pubcomp]
  | .relAgain => mkSys d (sRel v) (idle v) [ack v .pubrel] []
  | .done => mkSys d (idle v) (idle v) [] []

def next2 : Ph2 → Act → Ph2
  | .pub _, .deliver => .recd
  | .recd, .deliver => .rel true
  | .pubAgain, .deliver => .recd
  | .rel _, .deliver => .comp false
  | .comp _, .deliver => .done
  | .relAgain, .deliver => .comp true
  | .done, .deliver => .done
  | .pub _, .lose => .pub true
  | .recd, .lose => .pubAgain
  | .pubAgain, .lose => .pubAgain
  | .rel _, .lose => .rel false
  | .comp _, .lose => .relAgain
  | .relAgain, .lose => .relAgain
  | .done, .lose => .done

def note2 (P : Pkt) : Ph2 → Act → List Pkt
  | .pub dup, .deliver => [if dup then P.asDup else P]
  | _, _ => []

def rel2 : Ph2 → Act → List Nat
  | .comp _, .deliver => [1]
  | _, _ => []

/-- the phases of a QoS 1 exchange under loss -/
inductive Ph1
  | pub (dup : Bool)
  | ack
  | done
deriving DecidableEq, Repr

def sysOf1 (v : Nat) (d : Bool) (P : Pkt) : Ph1 → Sys
  | .pub dup => mkSys d (sPub1 v P) (idle v) [if dup then P.asDup else P] []
  | .ack => mkSys d (sPub1 v P) (idle v) [] [ack v .puback]
  | .done => mkSys d (idle v) (idle v) [] []

def next1 : Ph1 → Act → Ph1
  | .pub _, .deliver => .ack
  | .ack, .deliver => .done
  | .done, .deliver => .done
  | .pub _, .lose => .pub true
  | .ack, .lose => .pub true
  | .done, .lose => .done

def note1 (P : Pkt) : Ph1 → Act → List Pkt
  | .pub dup, .deliver => [if dup then P.asDup else P]
  | _, _ => []

def rel1 : Ph1 → Act → List Nat
  | .ack, .deliver => [1]
  | _, _ => []

theorem sysOf2_logs (v : Nat) (d : Bool) (P : Pkt) (ph : Ph2) :
    (sysOf2 v d P ph).logC = [] ∧ (sysOf2 v d P ph).logS = [] := by
  cases ph <;> exact mkSys_logs _ _ _ _ _
theorem sysOf1_logs (v : Nat) (d : Bool) (P : Pkt) (ph : Ph1) :
    (sysOf1 v d P ph).logC = [] ∧ (sysOf1 v d P ph).logS = [] := by
  cases ph <;> exact mkSys_logs _ _ _ _ _

def startFromC (y : Sys) (P : Pkt) : Sys := appC (appC y .acquire) (.send P)
def startFromS (y : Sys) (P : Pkt) : Sys := appS (appS y .acquire) (.send P)
def startFrom (d : Bool) (y : Sys) (P : Pkt) : Sys := if d then startFromC y P else startFromS y P
def start (v : Nat) (d : Bool) (P : Pkt) : Sys := startFrom d (established v) P

theorem startFromC_s (y : Sys) (P : Pkt) : (startFromC y P).s = y.s := rfl
theorem startFromS_c (y : Sys) (P : Pkt) : (startFromS y P).c = y.c := rfl

theorem start_true (v : Nat) (P : Pkt) : start v true P = startC v P := rfl
theorem start_false (v : Nat) (P : Pkt) : start v false P = startS v P := rfl

theorem startFrom_prep (d : Bool) (lc ls : List Ev) (y : Sys) (P : Pkt) :
    startFrom d (prep lc ls y) P = prep lc ls (startFrom d y P) := by
  cases d <;> simp only [startFrom, startFromC, startFromS, appC_prep, appS_prep] <;> rfl

theorem obs_start {v q : Nat} (hv : v = 4 ∨ v = 5) (hq : q = 1 ∨ q = 2) {P : Pkt} (hP : IsPub v q P) (d : Bool) :
    Obs d (mkSys d (fun b => mkSt v b .connected [⟨2, 65535⟩] [(1, P.asDup)] (if q = 1 then [1] else [])
      (if q = 2 then [1] else []) [] [] []) (idle v) [P] []) [] [] (start v d P) := by
  cases d <;>
    simp [start, startFrom, startFromC, startFromS, established_eq v hv, appC, appS, cfgC, cfgS, step_acquire,
      step_send_pub _ _ [⟨2, 65535⟩] [] _ _ _ _ _ hv hq hP.isPubN (by decide) rfl, Alloc.allocate, Alloc.allocateP, sends,
      mkSys] <;>
    exact ⟨rfl, rfl, rfl, rfl, rfl, rfl, rfl, rfl, rfl, rfl⟩

section start
variable {v : Nat} {P : Pkt} (hv : v = 4 ∨ v = 5)
include hv

theorem start2 (hP : IsPub v 2 P) (d : Bool) : Obs d (sysOf2 v d P (.pub false)) [] [] (start v d P) :=
  obs_start hv (Or.inr rfl) hP d

theorem start1 (hP : IsPub v 1 P) (d : Bool) : Obs d (sysOf1 v d P (.pub false)) [] [] (start v d P) :=
  obs_start hv (Or.inl rfl) hP d

end start

/-! ## two exchanges in flight (identifiers 1 and 2) -/

/-- the acknowledgements for identifier 2 -/
def ack2 (v : Nat) (k : Kind) : Pkt := { ver := v, kind := k, size := 4, pid := some 2 }
/-- `publish_recv` of a v5.0 receiver (v3.1.1 has no such set) -/
def prl (v : Nat) (l : List Nat) : List Nat := if v = 5 then l else []

theorem acquire2_gives_2 {v : Nat} (r : Role) (b : Bool) (store : List (Nat × Pkt)) (pa pr pc h prv : List Nat) :
    (acquire { cfg := ⟨r, 2⟩, s := mkSt v b .connected [⟨2, 65535⟩] store pa pr pc h prv }).1 = some 2 := by
  simp [acquire, Alloc.allocate, Alloc.allocateP, mkSt]


/-! ## deliveries commute: the pair is a deterministic process network

Each endpoint reads one FIFO channel and appends to the other, so a delivery to the server and
a delivery to the client commute whenever both are enabled.  Hence every interleaving of
deliveries ends, once everything is delivered, in the very state (logs included) the
deterministic schedule `drain` reaches. -/

inductive Side | toS | toC
deriving DecidableEq, Repr

def deliverAt (y : Sys) : Side → Sys
  | .toS => deliverS y
  | .toC => deliverC y

def runSides : Sys → List Side → Sys
  | y, [] => y
  | y, a :: as => runSides (deliverAt y a) as

theorem deliver_comm (y : Sys) (h1 : y.c2s ≠ []) (h2 : y.s2c ≠ []) :
    deliverS (deliverC y) = deliverC (deliverS y) := by
  rcases y with ⟨c, s, c2s, s2c, lC, lS⟩
  cases c2s with
  | nil => exact absurd rfl h1
  | cons p rest =>
    cases s2c with
    | nil => exact absurd rfl h2
    | cons p' rest' => simp [deliverS, deliverC]

theorem deliverC_c2s_ne (y : Sys) (h1 : y.c2s ≠ []) : (deliverC y).c2s ≠ [] := by
  rcases y with ⟨c, s, c2s, s2c, lC, lS⟩
  cases s2c <;> simp [deliverC] <;> intro h <;> exact absurd h h1

theorem drain_succ' (k : Nat) (z : Sys) : drain (k + 1) z = deliver1 (drain k z) := by
  rw [drain_add k 1]; rfl

theorem drain_deliverAt (k : Nat) : ∀ (y : Sys) (a : Side),
    (drain k y).c2s = [] → (drain k y).s2c = [] → drain k (deliverAt y a) = drain k y := by
  induction k with
  | zero =>
    intro y a h1 h2
    simp only [drain] at h1 h2 ⊢
    cases a <;> simp [deliverAt, deliverS, deliverC, h1, h2]
  | succ k ih =>
    intro y a h1 h2
    -- the state after the deterministic first step is quiet after `k` more
    have q1 : (drain k (deliver1 y)).c2s = [] := h1
    have q2 : (drain k (deliver1 y)).s2c = [] := h2
    have same : ∀ z, z = deliver1 y → drain (k + 1) z = drain (k + 1) y := by
      intro z hz
      rw [hz, drain_succ', deliver1_quiet _ q1 q2]; rfl
    by_cases hc : y.c2s = []
    · by_cases hs : y.s2c = []
      · cases a <;> simp [deliverAt, deliverS, deliverC, hc, hs]
      · have d1 : deliver1 y = deliverC y := by simp [deliver1, hc]
        cases a
        · simp [deliverAt, deliverS, hc]
        · exact same _ d1.symm
    · have d1 : deliver1 y = deliverS y := by simp [deliver1, hc]
      cases a
      · exact same _ d1.symm
      · by_cases hs : y.s2c = []
        · simp [deliverAt, deliverC, hs]
        · -- both enabled: commute
          show drain (k + 1) (deliverC y) = drain (k + 1) y
          have e1 : deliver1 (deliverC y) = deliverC (deliverS y) := by
            have : (deliverC y).c2s ≠ [] := deliverC_c2s_ne y hc
            simp only [deliver1, this, ne_eq, not_false_eq_true, if_true]
            exact deliver_comm y hc hs
          show drain k (deliver1 (deliverC y)) = drain k (deliver1 y)
          rw [e1, d1]
          have := ih (deliverS y) .toC (by rw [← d1]; exact q1) (by rw [← d1]; exact q2)
          exact this

theorem drain_runSides (k : Nat) (σ : List Side) : ∀ (y : Sys),
    (drain k y).c2s = [] → (drain k y).s2c = [] → drain k (runSides y σ) = drain k y := by
  induction σ with
  | nil => intro y _ _; rfl
  | cons a as ih =>
    intro y h1 h2
    have e := drain_deliverAt k y a h1 h2
    show drain k (runSides (deliverAt y a) as) = _
    rw [ih (deliverAt y a) (by rw [e]; exact h1) (by rw [e]; exact h2), e]

/-! ## vocabulary for the statements of C01 -/

/-- the log of the receiving / the publishing side (`d` = the client publishes) -/
def recvLog (d : Bool) (y : Sys) : List Ev := if d then y.logS else y.logC
def sendLog (d : Bool) (y : Sys) : List Ev := if d then y.logC else y.logS

def Quiet (v : Nat) (y : Sys) : Prop := y.c = idle v true ∧ y.s = idle v false ∧ y.c2s = [] ∧ y.s2c = []

/-- the publishing application acquires an identifier and sends `P1`, acquires another one and
    sends `P2`, before anything is delivered -/
def startTwo (v : Nat) (d : Bool) (P1 P2 : Pkt) : Sys := startFrom d (start v d P1) P2

theorem Obs.stable {d : Bool} {t : Sys} {N : List Pkt} {R : List Nat} {y : Sys} {a : Nat}
    (h : Obs d t N R (drain a y)) (h1 : t.c2s = []) (h2 : t.s2c = []) (n : Nat) (hn : a ≤ n) :
    drain n y = drain a y :=
  drain_stable (h.c2s.trans h1) (h.s2c.trans h2) n hn

theorem Obs2.stable {t : Sys} {NS NC : List Pkt} {RC RS : List Nat} {y : Sys} {a : Nat}
    (h : Obs2 t NS NC RC RS (drain a y)) (h1 : t.c2s = []) (h2 : t.s2c = []) (n : Nat) (hn : a ≤ n) :
    drain n y = drain a y :=
  drain_stable (h.c2s.trans h1) (h.s2c.trans h2) n hn

end MqttVerif.Conn.Pair
