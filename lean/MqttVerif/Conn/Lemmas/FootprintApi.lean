import MqttVerif.Conn.Lemmas.FootprintRecv
/-!
# What the remaining public calls may change

The footprints, with the projections `f_cfg`, `f_s`, `f_ev` the lemma chains use, of the calls of `Conn/Model.lean`
besides `send` and `recv`; of `step`, its case principle and `step_cfg`.

* `releasePacketId` (fix ba1a812) is `releaseIfUsed`, then the identifier leaves the wait sets, then perhaps
  `decSendCount`: a property that the three keep is kept by the whole (`releasePacketId_ind`).
* `notifyTimerFired_cases`, `eraseStoredPublish_cases`, `restoreOne_cases` and `step_cases` carry a predicate through a
  call, each leaf with its result and the tests that lead to it: give its proof at every leaf and no `split` on the
  model function is needed.
* `notify_closed` runs five `releaseAll` stages.  `drain` is one stage; `closeConn` is the part done for every close,
  `closeSession` the part done when the session is not kept.  `notifyClosed_of_keep` and `notifyClosed_of_drop` rewrite
  `notifyClosed` into these, after which the facts about `closeConn`, `closeSession` and `cancelTimers` apply;
  `notifyClosed_s_eq` gives the resulting state outright.
* About `step` itself, at the end: what a `send` and a `recv` call reduce to once their checks pass (`step_send_eq`,
  `step_recv_feed`, `step_recv_dispatch`), and induction over a sequence of calls (`run_ind`, `Reachable.ind`).

A trap with these terms: in `{ closeConn c with s := … }.cfg`, or under a `rw` whose pattern has holes, the unifier
tries candidates that do not match and unfolds `closeConn`, `closeSession` down to `releaseAll` to find out.  Reduce
the projection with `dsimp only`, give the arguments, or `generalize` the stage first.
-/
namespace MqttVerif.Conn
open MqttVerif

def dropWaits (c : C) (id : Nat) : C :=
  { c with s := { c.s with suback := del id c.s.suback, unsuback := del id c.s.unsuback, puback := del id c.s.puback, pubrec := del id c.s.pubrec } }

theorem releasePacketId_def (c : C) (id : Nat) :
    releasePacketId c id =
      if isUsed c.s id then
        (if id ∈ (releaseIfUsed c id).s.puback ∨ id ∈ (releaseIfUsed c id).s.pubrec then
          decSendCount (dropWaits (releaseIfUsed c id) id)
        else dropWaits (releaseIfUsed c id) id)
      else c := by
  unfold releasePacketId releaseIfUsed dropWaits
  split
  · rfl
  · rfl

theorem releaseIfUsed_unused {c : C} {id : Nat} (h : isUsed c.s id = false) : releaseIfUsed c id = c := by
  unfold releaseIfUsed; rw [h]; rfl

theorem releasePacketId_eq (c : C) (id : Nat) :
    (isUsed c.s id = false ∧ releasePacketId c id = releaseIfUsed c id) ∨
    (isUsed c.s id = true ∧ ¬ (id ∈ (releaseIfUsed c id).s.puback ∨ id ∈ (releaseIfUsed c id).s.pubrec) ∧
      releasePacketId c id = dropWaits (releaseIfUsed c id) id) ∨
    (isUsed c.s id = true ∧ (id ∈ (releaseIfUsed c id).s.puback ∨ id ∈ (releaseIfUsed c id).s.pubrec) ∧
      releasePacketId c id = decSendCount (dropWaits (releaseIfUsed c id) id)) := by
  rw [releasePacketId_def]
  by_cases h : isUsed c.s id = true
  · rw [if_pos h]
    split
    · rename_i h2; exact .inr (.inr ⟨h, h2, rfl⟩)
    · rename_i h2; exact .inr (.inl ⟨h, h2, rfl⟩)
  · rw [if_neg h]
    have h' : isUsed c.s id = false := by simpa using h
    exact .inl ⟨h', (releaseIfUsed_unused h').symm⟩

theorem releasePacketId_ind {Q : C → Prop} (c : C) (id : Nat)
    (h1 : Q (releaseIfUsed c id))
    (h2 : Q (releaseIfUsed c id) → Q (dropWaits (releaseIfUsed c id) id))
    (h3 : Q (dropWaits (releaseIfUsed c id) id) → Q (decSendCount (dropWaits (releaseIfUsed c id) id))) :
    Q (releasePacketId c id) := by
  rcases releasePacketId_eq c id with ⟨_, h⟩ | ⟨_, _, h⟩ | ⟨_, _, h⟩ <;> rw [h]
  · exact h1
  · exact h2 h1
  · exact h3 (h2 h1)

theorem decSendCount_s_cases (c : C) :
    (decSendCount c).s = c.s ∨ (decSendCount c).s = { c.s with sendCount := c.s.sendCount - 1 } := by
  unfold decSendCount
  split
  · exact .inr rfl
  · exact .inl rfl

end MqttVerif.Conn

namespace MqttVerif.Conn.Fp
open MqttVerif MqttVerif.Conn

/-- a change of the state alone; over a variable `c'`, so that the `rfl` unfolds nothing -/
theorem appends_set_s {T : List EvTag} {c c' : C} (h : Appends T c c') (s : St) :
    Appends T c { c' with s := s } := h.congr_ev rfl

/-- what `notify_timer_fired` does first: the expired timer is marked as not set -/
def unsetTimer (c : C) : Timer → C
  | .pingreqSend => { c with s := { c.s with sendSet := false } }
  | .pingreqRecv => { c with s := { c.s with recvSet := false } }
  | .pingrespRecv => { c with s := { c.s with respSet := false } }

theorem unsetTimer_fp (c : C) (k : Timer) : Footprint [] wTimers c (unsetTimer c k) := by
  cases k <;> exact .of_s rfl
theorem unsetTimer_s (c : C) (k : Timer) : (unsetTimer c k).s = wTimers c.s (unsetTimer c k).s := (unsetTimer_fp c k).s
theorem unsetTimer_ev (c : C) (k : Timer) : (unsetTimer c k).ev = c.ev := (unsetTimer_fp c k).ev_eq

/-- timer expiry by cases, each with what `notify_timer_fired` tested to get there: the PINGREQ is due (`ping`), the
    peer missed its PINGREQ or PINGRESP (`close3`, `close5`), nothing is to be done while not connected (`idle`), the
    version is undetermined (`panic`) -/
theorem notifyTimerFired_cases {Q : C → Prop} (c : C) (k : Timer)
    (ping : ∀ v, k = .pingreqSend → c.s.status = .connected → c.s.ver = v → v = 4 ∨ v = 5 →
      Q (psPingreq (unsetTimer c k) (mkPingreq v)))
    (close3 : k ≠ .pingreqSend → c.s.ver = 4 → Q ((unsetTimer c k).push .close))
    (close5 : k ≠ .pingreqSend → c.s.ver = 5 → c.s.status = .connected →
      Q (v5DisconnectOrClose (unsetTimer c k) (mkV5Disconnect eKeepAliveTimeout)))
    (idle : k = .pingreqSend ∨ c.s.ver = 5 → c.s.status ≠ .connected → Q (unsetTimer c k))
    (panic : (k = .pingreqSend → c.s.status = .connected) → c.s.ver ≠ 4 → c.s.ver ≠ 5 →
      Q ((unsetTimer c k).setPanic "core.rs:notify_timer_fired:unreachable!(undetermined)")) :
    Q (notifyTimerFired c k) := by
  have expired : ∀ k, k ≠ .pingreqSend → (c.s.ver = 4 → Q ((unsetTimer c k).push .close)) →
      (c.s.ver = 5 → c.s.status = .connected →
        Q (v5DisconnectOrClose (unsetTimer c k) (mkV5Disconnect eKeepAliveTimeout))) →
      (c.s.ver = 5 → c.s.status ≠ .connected → Q (unsetTimer c k)) →
      (c.s.ver ≠ 4 → c.s.ver ≠ 5 →
        Q ((unsetTimer c k).setPanic "core.rs:notify_timer_fired:unreachable!(undetermined)")) →
      Q (if (unsetTimer c k).s.ver = 4 then (unsetTimer c k).push .close
         else if (unsetTimer c k).s.ver = 5 then
           if (unsetTimer c k).s.status = .connected then
             v5DisconnectOrClose (unsetTimer c k) (mkV5Disconnect eKeepAliveTimeout)
           else unsetTimer c k
         else (unsetTimer c k).setPanic "core.rs:notify_timer_fired:unreachable!(undetermined)") := by
    intro k hk h3 h5 hi hp
    have hv : (unsetTimer c k).s.ver = c.s.ver := by rw [unsetTimer_s]
    have hs : (unsetTimer c k).s.status = c.s.status := by rw [unsetTimer_s]
    rw [hv, hs]
    exact ite_ind h3 fun n4 => ite_ind (fun e5 => ite_ind (h5 e5) (hi e5)) (hp n4)
  cases k with
  | pingreqSend =>
    exact ite_ind (fun hc => ite_ind (fun h4 => ping 4 rfl hc h4 (.inl rfl)) fun n4 =>
      ite_ind (fun h5 => ping 5 rfl hc h5 (.inr rfl)) fun n5 => panic (fun _ => hc) n4 n5) (idle (.inl rfl))
  | pingreqRecv =>
    exact expired .pingreqRecv nofun (close3 nofun) (close5 nofun) (fun e => idle (.inr e)) (panic nofun)
  | pingrespRecv =>
    exact expired .pingrespRecv nofun (close3 nofun) (close5 nofun) (fun e => idle (.inr e)) (panic nofun)

abbrev wTimerFired (a x : St) : St :=
  { a with sendSet := x.sendSet, recvSet := x.recvSet, respSet := x.respSet, status := x.status,
           panic := x.panic }

theorem notifyTimerFired_fp (c : C) (k : Timer) :
    Footprint [.error, .send, .timerReset, .timerCancel, .close] wTimerFired c (notifyTimerFired c k) :=
  have h0 : Footprint [.error, .send, .timerReset, .timerCancel, .close] wTimerFired c (unsetTimer c k) :=
    (unsetTimer_fp c k).widen
  notifyTimerFired_cases c k (fun _ _ _ _ _ => h0.step (psPingreq_fp _ _)) (fun _ _ => h0.close (by decide))
    (fun _ _ _ => h0.step (v5DisconnectOrClose_fp _ _)) (fun _ _ => h0) (fun _ _ _ => h0.set rfl)
theorem notifyTimerFired_cfg (c : C) (k : Timer) : (notifyTimerFired c k).cfg = c.cfg := (notifyTimerFired_fp c k).cfg
theorem notifyTimerFired_s (c : C) (k : Timer) :
    (notifyTimerFired c k).s = wTimerFired c.s (notifyTimerFired c k).s := (notifyTimerFired_fp c k).s

/-! ## `notify_closed` -/

theorem releaseAll_fp (c : C) (l : List Nat) : Footprint [.released] wPid c (releaseAll c l) := by
  induction l generalizing c with
  | nil => exact .of_s rfl
  | cons id rest ih => exact (releaseIfUsed_fp c id).step (ih _)
theorem releaseAll_cfg (c : C) (l : List Nat) : (releaseAll c l).cfg = c.cfg := (releaseAll_fp c l).cfg
theorem releaseAll_s (c : C) (l : List Nat) : (releaseAll c l).s = wPid c.s (releaseAll c l).s := (releaseAll_fp c l).s
theorem releaseAll_ev (c : C) (l : List Nat) : Appends [.released] c (releaseAll c l) := (releaseAll_fp c l).ev

def drain (c : C) (get : St → List Nat) (clr : St → St) : C :=
  releaseAll { c with s := clr c.s } (get c.s)

theorem drain_cfg (c : C) (get : St → List Nat) (clr : St → St) : (drain c get clr).cfg = c.cfg :=
  releaseAll_cfg _ _
theorem drain_s (c : C) (get : St → List Nat) (clr : St → St) :
    (drain c get clr).s = wPid (clr c.s) (drain c get clr).s := releaseAll_s _ _
/-- `drain_s` for a state that is already known, so that the facts of successive stages compose into one `rw` -/
theorem drain_s_of {c : C} {w : St} (get : St → List Nat) (clr : St → St) (h : c.s = w) :
    (drain c get clr).s = wPid (clr w) (drain c get clr).s := h ▸ drain_s c get clr
theorem drain_ev (c : C) (get : St → List Nat) (clr : St → St) : Appends [.released] c (drain c get clr) :=
  releaseAll_ev { c with s := clr c.s } _

def closeConn (c : C) : C :=
  drain (drain { c with s := { c.s with mpsSend := noLimit, mpsRecv := noLimit, status := .disconnected,
                                         tas := none, tar := none } }
    (·.suback) ({ · with suback := [] })) (·.unsuback) ({ · with unsuback := [] })

def closeSession (c : C) : C :=
  let c := drain (drain (drain { c with s := { c.s with handled := [] } }
    (·.puback) ({ · with puback := [] })) (·.pubrec) ({ · with pubrec := [] })) (·.pubcomp) ({ · with pubcomp := [] })
  { c with s := { c.s with store := [] } }

theorem notifyClosed_stages (c : C) :
    notifyClosed c =
      cancelTimers
        (let c' := if !(closeConn c).s.needStore then closeSession (closeConn c) else closeConn c
         { c' with s := { c'.s with pb := Framing.PB.reset } }) := by
  -- `rfl` alone makes the unifier compare the five nested `releaseAll` stages field by field, each stage again for
  -- every field of the next; normalised, the two sides are the same term
  unfold notifyClosed closeConn closeSession drain
  dsimp only

theorem closeConn_cfg (c : C) : (closeConn c).cfg = c.cfg := by
  unfold closeConn
  rw [drain_cfg, drain_cfg]
theorem closeConn_s (c : C) :
    (closeConn c).s =
      { c.s with mpsSend := noLimit, mpsRecv := noLimit, status := .disconnected, tas := none, tar := none,
                 suback := [], unsuback := [],
                 pidMan := (closeConn c).s.pidMan, panic := (closeConn c).s.panic } := by
  unfold closeConn
  rw [drain_s, drain_s]
theorem closeConn_ev (c : C) : Appends [.released] c (closeConn c) := by
  unfold closeConn
  refine Appends.trans (c' := drain _ _ _) ?_ (drain_ev _ _ _)
  exact drain_ev { c with s := _ } _ _

theorem closeSession_cfg (c : C) : (closeSession c).cfg = c.cfg := by
  unfold closeSession
  show (drain _ _ _).cfg = _
  rw [drain_cfg, drain_cfg, drain_cfg]
theorem closeSession_s (c : C) :
    (closeSession c).s =
      { c.s with handled := [], puback := [], pubrec := [], pubcomp := [], store := [],
                 pidMan := (closeSession c).s.pidMan, panic := (closeSession c).s.panic } := by
  unfold closeSession
  dsimp only
  rw [drain_s_of _ _ (drain_s_of _ _ (drain_s _ _ _))]
theorem closeSession_ev (c : C) : Appends [.released] c (closeSession c) := by
  unfold closeSession
  refine Appends.congr_ev (c' := drain (drain (drain _ _ _) _ _) _ _) ?_ rfl
  refine Appends.trans (Appends.trans ?_ (drain_ev _ _ _)) (drain_ev _ _ _)
  exact drain_ev { c with s := _ } _ _

theorem notifyClosed_of_keep {c : C} (h : c.s.needStore = true) :
    notifyClosed c =
      cancelTimers { closeConn c with s := { (closeConn c).s with pb := Framing.PB.reset } } := by
  have hn : (closeConn c).s.needStore = true := by rw [closeConn_s]; exact h
  rw [notifyClosed_stages, hn, if_neg (c := (!true) = true) Bool.false_ne_true]
theorem notifyClosed_of_drop {c : C} (h : c.s.needStore = false) :
    notifyClosed c =
      cancelTimers { closeSession (closeConn c) with
        s := { (closeSession (closeConn c)).s with pb := Framing.PB.reset } } := by
  have hn : (closeConn c).s.needStore = false := by rw [closeConn_s]; exact h
  rw [notifyClosed_stages, hn, if_pos (c := (!false) = true) rfl]

theorem notifyClosed_cfg (c : C) : (notifyClosed c).cfg = c.cfg := by
  cases h : c.s.needStore
  · rw [notifyClosed_of_drop h]
    refine (cancelTimers_cfg _).trans ?_
    dsimp only
    exact (closeSession_cfg (closeConn c)).trans (closeConn_cfg c)
  · rw [notifyClosed_of_keep h]
    refine (cancelTimers_cfg _).trans ?_
    dsimp only
    exact closeConn_cfg c
/-- the state after `notify_closed`, exact but for the identifier pool and `panic` (both left by `releaseAll`) -/
theorem notifyClosed_s_eq (c : C) :
    (notifyClosed c).s =
      { c.s with mpsSend := noLimit, mpsRecv := noLimit, status := .disconnected, tas := none, tar := none,
                 suback := [], unsuback := [], pb := Framing.PB.reset,
                 sendSet := false, recvSet := false, respSet := false,
                 puback := if c.s.needStore then c.s.puback else [],
                 pubrec := if c.s.needStore then c.s.pubrec else [],
                 pubcomp := if c.s.needStore then c.s.pubcomp else [],
                 store := if c.s.needStore then c.s.store else [],
                 handled := if c.s.needStore then c.s.handled else [],
                 pidMan := (notifyClosed c).s.pidMan, panic := (notifyClosed c).s.panic } := by
  -- the stages are made variables before `cancelTimers_s` is rewritten with: see the head of the file
  have hA := closeConn_s c
  cases h : c.s.needStore
  · rw [notifyClosed_of_drop h]
    have hB := closeSession_s (closeConn c)
    generalize closeConn c = A at hA hB ⊢
    generalize closeSession A = B at hB ⊢
    rw [cancelTimers_s]
    dsimp only
    rw [hB, hA]
    rfl
  · rw [notifyClosed_of_keep h]
    generalize closeConn c = A at hA ⊢
    rw [cancelTimers_s]
    dsimp only
    rw [hA]
    rfl
abbrev wNotifyClosed (a x : St) : St :=
  { a with sendSet := x.sendSet, recvSet := x.recvSet, respSet := x.respSet, status := x.status,
           mpsSend := x.mpsSend, mpsRecv := x.mpsRecv, tas := x.tas, tar := x.tar, suback := x.suback,
           unsuback := x.unsuback, pb := x.pb, puback := x.puback, pubrec := x.pubrec, pubcomp := x.pubcomp,
           store := x.store, handled := x.handled, pidMan := x.pidMan, panic := x.panic }

theorem notifyClosed_s (c : C) : (notifyClosed c).s = wNotifyClosed c.s (notifyClosed c).s := by
  rw [notifyClosed_s_eq]
theorem notifyClosed_ev (c : C) : Appends [.released, .timerCancel] c (notifyClosed c) := by
  have hconn : Appends [.released, .timerCancel] c (closeConn c) := (closeConn_ev c).mono (by decide)
  cases h : c.s.needStore
  · rw [notifyClosed_of_drop h]
    have hsess : Appends [.released, .timerCancel] c (closeSession (closeConn c)) :=
      hconn.step (closeSession_ev _) (by decide)
    exact (appends_set_s hsess _).step (cancelTimers_ev _) (by decide)
  · rw [notifyClosed_of_keep h]
    exact (appends_set_s hconn _).step (cancelTimers_ev _) (by decide)

abbrev wSetInterval (a x : St) : St := { a with userInterval := x.userInterval, sendSet := x.sendSet }

theorem setPingreqSendInterval_fp (c : C) (d : Option Nat) :
    Footprint [.timerCancel, .timerReset] wSetInterval c (setPingreqSendInterval c d) := by
  unfold setPingreqSendInterval
  cases d with
  | none => exact .of_s rfl
  | some ms =>
    dsimp only
    refine ite_ind (fun _ => ?_) fun _ => ?_
    · exact ite_ind (fun _ => .timerCancel (.of_s rfl) (by decide) _) fun _ => .of_s rfl
    · exact ite_ind (fun _ => .timerReset (.of_s rfl) (by decide) _ _) fun _ => .of_s rfl
theorem setPingreqSendInterval_cfg (c : C) (d : Option Nat) : (setPingreqSendInterval c d).cfg = c.cfg :=
  (setPingreqSendInterval_fp c d).cfg
theorem setPingreqSendInterval_s (c : C) (d : Option Nat) :
    (setPingreqSendInterval c d).s = wSetInterval c.s (setPingreqSendInterval c d).s :=
  (setPingreqSendInterval_fp c d).s
theorem setPingreqSendInterval_ev (c : C) (d : Option Nat) :
    Appends [.timerCancel, .timerReset] c (setPingreqSendInterval c d) := (setPingreqSendInterval_fp c d).ev

theorem acquire_s (c : C) : (acquire c).2.s = wPidMan c.s (acquire c).2.s := rfl
theorem acquire_ev (c : C) : (acquire c).2.ev = c.ev := rfl

theorem register_s (c : C) (id : Nat) : (register c id).2.s = wPidMan c.s (register c id).2.s := rfl

abbrev wReleasePacketId (a x : St) : St :=
  { a with pidMan := x.pidMan, panic := x.panic, suback := x.suback, unsuback := x.unsuback,
           puback := x.puback, pubrec := x.pubrec, sendCount := x.sendCount }

theorem releasePacketId_fp (c : C) (id : Nat) :
    Footprint [.released] wReleasePacketId c (releasePacketId c id) := by
  refine releasePacketId_ind c id (releaseIfUsed_fp c id).widen (fun h => ?_) (fun h => h.step (decSendCount_fp _))
  unfold dropWaits
  exact h.set rfl
theorem releasePacketId_cfg (c : C) (id : Nat) : (releasePacketId c id).cfg = c.cfg := (releasePacketId_fp c id).cfg
theorem releasePacketId_s (c : C) (id : Nat) :
    (releasePacketId c id).s = wReleasePacketId c.s (releasePacketId c id).s := (releasePacketId_fp c id).s
theorem releasePacketId_ev (c : C) (id : Nat) : Appends [.released] c (releasePacketId c id) :=
  (releasePacketId_fp c id).ev

theorem eraseStoredPublish_cases {Q : C → Prop} (c : C) (id : Nat) (h0 : Q c)
    (h1 : Q (releaseIfUsed (decSendCount { c with s := { c.s with
      store := (storeErasePublish id c.s.store).2, puback := del id c.s.puback,
      pubrec := del id c.s.pubrec } }) id)) :
    Q (eraseStoredPublish c id) := by
  unfold eraseStoredPublish
  exact ite_ind (fun _ => h1) fun _ => h0
abbrev wErase (a x : St) : St :=
  { a with pidMan := x.pidMan, panic := x.panic, store := x.store, puback := x.puback, pubrec := x.pubrec,
           sendCount := x.sendCount }

theorem eraseStoredPublish_fp (c : C) (id : Nat) : Footprint [.released] wErase c (eraseStoredPublish c id) := by
  refine eraseStoredPublish_cases c id (.of_s rfl) (.step (.step ?_ (decSendCount_fp _)) (releaseIfUsed_fp _ id))
  exact .of_s rfl
theorem eraseStoredPublish_cfg (c : C) (id : Nat) : (eraseStoredPublish c id).cfg = c.cfg :=
  (eraseStoredPublish_fp c id).cfg
theorem eraseStoredPublish_s (c : C) (id : Nat) :
    (eraseStoredPublish c id).s = wErase c.s (eraseStoredPublish c id).s := (eraseStoredPublish_fp c id).s
theorem eraseStoredPublish_ev (c : C) (id : Nat) : Appends [.released] c (eraseStoredPublish c id) :=
  (eraseStoredPublish_fp c id).ev

abbrev wRestore (a x : St) : St :=
  { a with pidMan := x.pidMan, puback := x.puback, pubrec := x.pubrec, pubcomp := x.pubcomp, store := x.store }

def storeNew (c : C) (id : Nat) (p : Pkt) : C :=
  if storeHas id c.s.store then c else { c with s := { c.s with store := c.s.store ++ [(id, p)] } }

theorem storeNew_fp (c : C) (id : Nat) (p : Pkt) : Footprint [] wRestore c (storeNew c id p) :=
  ite_ind (fun _ => .of_s rfl) (fun _ => .of_s rfl)

/-- the state after the two stages of a restored packet, in a form that `rw` can use -/
theorem restored_s (c : C) (p : Pkt) (id : Nat) :
    (storeNew (awaitResp c p id) id p).s = { c.s with
      store := if storeHas id c.s.store then c.s.store else c.s.store ++ [(id, p)],
      puback := if respOf p = .puback then ins id c.s.puback else c.s.puback,
      pubrec := if respOf p = .pubrec then ins id c.s.pubrec else c.s.pubrec,
      pubcomp := if respOf p = .pubcomp then ins id c.s.pubcomp else c.s.pubcomp } := by
  have h := awaitResp_s_eq c p id
  have hst : (awaitResp c p id).s.store = c.s.store := by rw [h]
  unfold storeNew
  rw [hst]
  by_cases hh : storeHas id c.s.store = true
  · rw [if_pos hh, if_pos hh, h]
  · rw [if_neg hh, if_neg hh]
    dsimp only
    rw [h]

theorem restoreOne_eq (c : C) (p : Pkt) :
    restoreOne c p =
      if p.kind = .publish ∧ p.qos = 0 then c
      else if (register c (p.pid.getD 0)).1 then
        storeNew (awaitResp (register c (p.pid.getD 0)).2 p (p.pid.getD 0)) (p.pid.getD 0) p
      else (register c (p.pid.getD 0)).2 := rfl

/-- `restore_packets` for one packet: a QoS 0 PUBLISH is skipped; the identifier cannot be registered; or it is, the
    wait set of the packet's response gains it, and the store gains the packet unless it holds the identifier -/
theorem restoreOne_cases {Q : C → Prop} (c : C) (p : Pkt) (skip : p.kind = .publish ∧ p.qos = 0 → Q c)
    (refused : ¬(p.kind = .publish ∧ p.qos = 0) → (register c (p.pid.getD 0)).1 = false →
      Q (register c (p.pid.getD 0)).2)
    (kept : ¬(p.kind = .publish ∧ p.qos = 0) → (register c (p.pid.getD 0)).1 = true →
      Q (storeNew (awaitResp (register c (p.pid.getD 0)).2 p (p.pid.getD 0)) (p.pid.getD 0) p)) :
    Q (restoreOne c p) :=
  restoreOne_eq c p ▸ ite_ind skip fun hs => ite_ind (kept hs) fun hr => refused hs (Bool.eq_false_iff.2 hr)

theorem restoreOne_fp (c : C) (p : Pkt) : Footprint [] wRestore c (restoreOne c p) :=
  restoreOne_cases c p (fun _ => .of_s rfl) (fun _ _ => .of_s rfl) fun _ _ =>
    ((Footprint.of_s rfl : Footprint [] wRestore c (register c (p.pid.getD 0)).2).step (awaitResp_fp ..)).step
      (storeNew_fp ..)
theorem restoreOne_s (c : C) (p : Pkt) : (restoreOne c p).s = wRestore c.s (restoreOne c p).s := (restoreOne_fp c p).s
theorem restoreOne_ev (c : C) (p : Pkt) : (restoreOne c p).ev = c.ev := (restoreOne_fp c p).ev_eq

theorem restorePackets_fp (c : C) (ps : List Pkt) : Footprint [] wRestore c (restorePackets c ps) := by
  induction ps generalizing c with
  | nil => exact .of_s rfl
  | cons p rest ih => exact (restoreOne_fp c p).step (ih _)
theorem restorePackets_cfg (c : C) (ps : List Pkt) : (restorePackets c ps).cfg = c.cfg := (restorePackets_fp c ps).cfg
theorem restorePackets_s (c : C) (ps : List Pkt) : (restorePackets c ps).s = wRestore c.s (restorePackets c ps).s :=
  (restorePackets_fp c ps).s
theorem restorePackets_ev (c : C) (ps : List Pkt) : (restorePackets c ps).ev = c.ev := (restorePackets_fp c ps).ev_eq

/-! ## `step` -/

theorem step_cases {Q : C → Prop} (cfg : Cfg) (s : St) (op : Op)
    (hsend : ∀ p, Q (send ⟨cfg, s, []⟩ p))
    (hrecv : ∀ inp parse, Q (recv ⟨cfg, s, []⟩ inp parse).1)
    (htimer : ∀ k, Q (notifyTimerFired ⟨cfg, s, []⟩ k))
    (hclosed : Q (notifyClosed ⟨cfg, s, []⟩))
    (hinterval : ∀ d, Q (setPingreqSendInterval ⟨cfg, s, []⟩ d))
    (hflag : ∀ f b, Q ⟨cfg, setFlag s f b, []⟩)
    (hresp : ∀ ms, Q ⟨cfg, { s with respTimeoutMs := ms }, []⟩)
    (hacquire : Q (acquire ⟨cfg, s, []⟩).2)
    (hregister : ∀ id, Q (register ⟨cfg, s, []⟩ id).2)
    (hrelease : ∀ id, Q (releasePacketId ⟨cfg, s, []⟩ id))
    (herase : ∀ id, Q (eraseStoredPublish ⟨cfg, s, []⟩ id))
    (hhandled : ∀ ids : List Nat, Q ⟨cfg, { s with handled := ids.foldl (fun acc x => ins x acc) [] }, []⟩)
    (hrestore : ∀ ps, Q (restorePackets ⟨cfg, s, []⟩ ps)) :
    Q (step cfg s op) := by
  cases op with
  | send p => exact hsend p
  | recv inp parse => exact hrecv inp parse
  | timer k => exact htimer k
  | closed => exact hclosed
  | setInterval d => exact hinterval d
  | setFlag f b => exact hflag f b
  | setRespTimeout ms => exact hresp ms
  | acquire => exact hacquire
  | register id => exact hregister id
  | release id => exact hrelease id
  | erase id => exact herase id
  | restoreHandled ids => exact hhandled ids
  | restorePackets ps => exact hrestore ps

theorem step_cfg (cfg : Cfg) (s : St) (op : Op) : (step cfg s op).cfg = cfg :=
  step_cases (Q := fun r => r.cfg = cfg) cfg s op (fun _ => send_cfg _ _) (fun _ _ => (recv_fp _ _ _).cfg)
    (fun _ => notifyTimerFired_cfg _ _) (notifyClosed_cfg _) (fun _ => setPingreqSendInterval_cfg _ _)
    (fun _ _ => rfl) (fun _ => rfl) rfl (fun _ => rfl) (fun _ => releasePacketId_cfg _ _)
    (fun _ => eraseStoredPublish_cfg _ _) (fun _ => rfl) (fun _ => restorePackets_cfg _ _)

end MqttVerif.Conn.Fp

namespace MqttVerif.Conn
open MqttVerif

theorem step_send_eq {cfg : Cfg} {s : St} {p : Pkt} (hv : p.ver = s.ver) (hr : roleMaySend cfg.role p = true) :
    step cfg s (.send p) = processSend { cfg := cfg, s := s } p := by
  simp [step, send, hv, hr]

theorem step_recv_feed {cfg : Cfg} {s : St} {inp : List Nat} {pb : Framing.PB} {fh : Nat} {data rest : List Nat}
    (hf : Framing.feed s.pb inp = (pb, some (.complete fh data), rest))
    (parse : Nat → Nat → List Nat → Except Nat Pkt) :
    step cfg s (.recv inp parse) =
      processRecvPacket { cfg := cfg, s := { s with pb := pb } } fh data (fun v => parse v fh data) := by
  simp only [step, recv, hf]

theorem step_recv_dispatch {cfg : Cfg} {s : St} {inp : List Nat} {pb : Framing.PB} {fh : Nat} {data rest : List Nat}
    (hf : Framing.feed s.pb inp = (pb, some (.complete fh data), rest)) (hs : totalSize data.length ≤ s.mpsRecv)
    (hc : canReceive cfg s (fh / 16) = true) (hv : s.ver ≠ 0) (parse : Nat → Nat → List Nat → Except Nat Pkt) :
    step cfg s (.recv inp parse) =
      dispatchRecv { cfg := cfg, s := { s with pb := pb } } (fh / 16) (parse s.ver fh data) := by
  rw [step_recv_feed hf]
  exact Fp.processRecvPacket_cases (Q := (· = _)) _ fh data _ (fun h => absurd hs (Nat.not_le.2 h))
    (fun _ _ h => h.elim (fun h => absurd (hc.symm.trans h.1) nofun) (fun h => absurd h.2.1 hv))
    (fun _ _ h0 => absurd h0 hv) (fun _ _ h0 => absurd h0 hv) (fun _ _ _ => rfl)

theorem run_ind {cfg : Cfg} {P : St → Prop} (hs : ∀ s op, P s → P (step cfg s op).s) (ops : List Op) :
    ∀ {s : St}, P s → P (run cfg s ops) := by
  induction ops with
  | nil => exact id
  | cons op ops ih => exact fun h => ih (hs _ op h)

theorem Reachable.ind {cfg : Cfg} {ver : Nat} {P : St → Prop} {s : St} (r : Reachable cfg ver s)
    (h0 : P (St.init cfg ver)) (hs : ∀ s op, P s → P (step cfg s op).s) : P s := by
  obtain ⟨ops, rfl⟩ := r
  exact run_ind hs ops h0

theorem run_append (cfg : Cfg) (s : St) (a b : List Op) : run cfg s (a ++ b) = run cfg (run cfg s a) b := by
  induction a generalizing s with
  | nil => rfl
  | cons op a ih => simp only [List.cons_append, run, ih]

end MqttVerif.Conn
