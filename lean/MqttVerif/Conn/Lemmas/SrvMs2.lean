import MqttVerif.Conn.Lemmas.SrvMs
import MqttVerif.Conn.Lemmas.Store
import MqttVerif.Conn.Lemmas.TimersSpec
/-!
# C15 helper — the relation between the driver's ghost `srvMs` and the model, handler by handler

`W g0 c`: at this point of a call that started with ghost `g0`,
* `J`: if the endpoint did not start the connection itself (`is_client = false`), the ghost folded over
  the events pushed so far equals `pingreq_recv_timeout_ms`, or is 0 (after `closed` the ghost is
  0 while the model keeps the timeout of the connection that ended until the next CONNECT);
* `Calm`: no stored packet is `loud` (a successful CONNACK with Server Keep Alive: resending it would move
  the ghost).

`Calm` is `SL` of `Store.lean`, which follows it through every call.  `J` is kept wherever `K3` is: by every
handler but those of a CONNECT, sent or received, and of a sent CONNACK, which this file goes through.  For the
others the state half of `K3` is read off the shapes of `Timers.lean` and `TimersRecv.lean`, the event half off
`Fp.dispatchRecv_emits` (`dispatchRecv_K3`); `recv_K3` walks `recv` once, for any property that holds wherever `K3`
is kept.

The `step` level: `Inv s g` relates the model state and the ghost.  Every call within the contract `Legal` (what is sent
as CONNACK, what the parser answers, what is restored into the store) keeps it, the ghost being reset by `closed` and
then folded over the call's events as the driver does (`step_inv`).  A `recv` of anything but CONNECT / CONNACK on a
connection that is not `disconnected` leaves `is_client`, the receive timeout and the ghost as they are (`recv_keeps`).
-/
set_option linter.unusedSimpArgs false
namespace MqttVerif.Conn.SrvMs
open MqttVerif MqttVerif.Conn

def WK (k : Bool × Nat × List (Nat × Pkt) × Nat) : Prop :=
  (k.1 = false → k.2.2.2 = k.2.1 ∨ k.2.2.2 = 0) ∧ ∀ x ∈ k.2.2.1, loud x.2 = false

def W (g0 : Nat) (c : C) : Prop := WK (K g0 c)

/-- the ghost clause of `W` -/
def J (k : Bool × Nat × Nat) : Prop := k.1 = false → k.2.2 = k.2.1 ∨ k.2.2 = 0

/-- the store clause of `W` -/
abbrev Calm (c : C) : Prop := SL (fun q => loud q = false) c.s.store

theorem W_iff {g0 : Nat} {c : C} : W g0 c ↔ J (K3 g0 c) ∧ Calm c :=
  ⟨fun h => ⟨h.1, ⟨h.2⟩⟩, fun h => ⟨h.1, h.2.h⟩⟩

theorem W.client {g0 : Nat} {c : C} (h1 : c.s.isClient = true) (h3 : ∀ x ∈ c.s.store, loud x.2 = false) :
    W g0 c :=
  ⟨fun h => by simp [K, h1] at h, h3⟩

theorem W.store {g0 : Nat} {c : C} (h : W g0 c) : ∀ x ∈ c.s.store, loud x.2 = false := h.2

theorem W.of_K {g0 : Nat} {c c' : C} (h : W g0 c) (e : K g0 c' = K g0 c) : W g0 c' := by
  unfold W; rw [e]; exact h

theorem kpub : KPub (fun q => loud q = false) :=
  fun q hq => loud_kind (fun e => by rw [e] at hq; rcases hq with h | h <;> cases h)

theorem J.client {g0 : Nat} {c : C} (h : c.s.isClient = true) : J (K3 g0 c) :=
  fun hc => Bool.noConfusion (h.symm.trans hc)

theorem J.keep {g0 : Nat} {c c' : C} (h : J (K3 g0 c)) (e : K3 g0 c' = K3 g0 c) : J (K3 g0 c') := e ▸ h

/-! ## the handlers that are neither CONNECT's nor CONNACK's leave what the relation reads alone

The state half is read off the shapes of `Timers.lean`, the event half off the lemmas of `FootprintEmits`. -/

theorem Calm.quiet {c : C} (h : Calm c) : ∀ y ∈ c.s.store, ∀ r, Quiet (.send y.2 r) := fun y hy r => .send (h.h y hy) r

theorem refusal_quiet (q : Pkt) (r : Option Nat) (h : Fp.Refusal q) : Quiet (.send q r) := by
  cases h with
  | v3 e => exact .send (loud_mkV3Connack _) r
  | v5 e => exact .send (loud_mkV5Connack _) r

theorem kview_fr {T : List EvTag} {c r : C} (k : TFr T c r) : kview r.s = kview c.s := Prod.ext k.isClient k.recvTimeoutMs

theorem kview_sent {c r : C} (k : Sent c r) : kview r.s = kview c.s := Prod.ext k.keeps.2.1 k.keeps.2.2

theorem kview_ended {c r : C} (k : Ended c r) : kview r.s = kview c.s := by
  cases k with
  | kept k => exact kview_fr k
  | shut k => exact (kview_fr k).trans ((Fp.cancelTimers_fp _).view kview)

theorem kview_recvd {c r : C} (k : Recvd c r) : kview r.s = kview c.s := by
  cases k with
  | refused k x e => exact (kview_ended x).trans (kview_fr k)
  | panic m site k => exact kview_fr (k.setPanic site)
  | accepted m p k => exact ((Fp.refreshPingreqRecv_fp m).view kview).trans (Prod.ext k.keeps.2.1 k.keeps.2.2)
  | duplicate m k => exact ((Fp.refreshPingreqRecv_fp m).view kview).trans (Prod.ext k.keeps.2.1 k.keeps.2.2)

theorem kview_greeted {c r : C} (k : Greeted c r) : kview r.s = kview c.s := by
  cases k with
  | declined p => rfl
  | established p l =>
    refine Eq.trans ?_ ((Fp.propsFold_connackRecvProp_fp { c with s := { c.s with status := .connected } } l).view kview)
    exact Fp.ite_ind (Q := fun x : C => kview x.s = _) (fun _ => (Fp.resendStored_fp _).view kview) (fun _ => rfl)

theorem dispatchRecv_K3 (g0 : Nat) {c : C} (hS : Calm c) (t : Nat) (x : Except Nat Pkt) (h1 : t ≠ 1)
    (hx : ∀ p, x = .ok p → p.kind ≠ .connect) : K3 g0 (dispatchRecv c t x) = K3 g0 c :=
  K3.of_emits g0
    (dispatchRecv_walk (Q := fun r => kview r.s = kview c.s) c t x (fun h => absurd h h1) (fun _ _ _ k => kview_greeted k)
      (fun _ p => (Fp.prPingresp_fp c (.ok p)).view kview) (fun _ _ k => (kview_fr k).trans ((Fp.cancelTimers_fp c).view kview))
      (fun _ k => kview_recvd k))
    (Fp.dispatchRecv_emits quiet_base refusal_quiet c t x (fun p p' hp hr => .recv (hr.kind ▸ hx p hp)) hS.quiet)

theorem handleV3Error_K3 (g0 : Nat) (c : C) (e : Nat) : K3 g0 (handleV3Error c e) = K3 g0 c :=
  K3.of_emits g0 rfl (Fp.handleV3Error_ev c e).quiet

theorem handleV5Error_K3 (g0 : Nat) (c : C) (e : Nat) : K3 g0 (handleV5Error c e) = K3 g0 c :=
  K3.of_emits g0 ((Fp.handleV5Error_fp c e).view kview)
    ((Fp.handleV5Error_orCloses quiet_base.quiet (quiet_base.closing c) e).emits' quiet_base)

theorem connackTail_K3 (g0 : Nat) {c : C} (h : Calm c) (p : Pkt) : K3 g0 (Fp.connackTail c p) = K3 g0 c :=
  K3.of_emits g0 ((Fp.connackTail_fp c p).view kview)
    ((Fp.connackTail_orCloses quiet_base.quiet c p fun y hy _ => h.quiet y hy none).emits' quiet_base)

theorem psV3Connack_J {g0 : Nat} {c : C} (h : J (K3 g0 c)) (hS : Calm c) (p : Pkt) (hp : loud p = false) :
    J (K3 g0 (psV3Connack c p)) := by
  rw [Fp.psV3Connack_eq]
  refine Fp.ite_ind (Q := fun r => J (K3 g0 r)) (fun _ => h.keep (K3.err g0 c _)) (fun _ => ?_)
  exact h.keep ((connackTail_K3 g0 (c := c.push (.send p none)) hS p).trans (K3.push g0 c (.send hp none)))

/-- the value of the last Server Keep Alive property of a property list (what the fold of
    `process_send_v5_0_connack` leaves in `pingreq_recv_timeout_ms`) -/
def skaLast : List (Nat × Nat) → Option Nat
  | [] => none
  | (id, v) :: rest =>
    match skaLast rest with
    | some w => some w
    | none => if id = pSKA then some v else none

theorem fold_connackSendProp_rt (l : List (Nat × Nat)) (c : C) :
    (propsFold connackSendProp c l).s.recvTimeoutMs
      = match skaLast l with | some v => v * 1000 * 3 / 2 | none => c.s.recvTimeoutMs := by
  induction l generalizing c with
  | nil => rfl
  | cons x rest ih =>
    rw [propsFold, ih, connackSendProp_rt]
    simp only [skaLast]
    cases skaLast rest with
    | some w => rfl
    | none => by_cases hi : x.1 = pSKA <;> simp [hi]

theorem psV5Connack_J {g0 : Nat} {c : C} (h : J (K3 g0 c)) (hS : Calm c) (p : Pkt) (hk : p.kind = .connack)
    (hc : p.rc = some 0 → skaLast p.props = Mon.findProp p pSKA) : J (K3 g0 (psV5Connack c p)) := by
  rw [Fp.psV5Connack_eq]
  refine Fp.ite_ind (Q := fun r => J (K3 g0 r)) (fun _ => h.keep (K3.err g0 c _)) (fun _ => Fp.ite_ind (Q := fun r => J (K3 g0 r)) (fun _ => h.keep (K3.err g0 c _)) (fun _ => ?_))
  by_cases hrc : p.rc = some 0
  · rw [if_pos hrc]
    have hS' : Calm ((propsFold connackSendProp c p.props).push (.send p none)) :=
      hS.keep (by rw [push_s, Fp.propsFold_connackSendProp_s])
    refine J.keep (fun hcl => ?_) (connackTail_K3 g0 hS' p)
    have hcl' : c.s.isClient = false := by
      rw [← hcl]; show _ = (propsFold connackSendProp c p.props).s.isClient; rw [Fp.propsFold_connackSendProp_s]
    have e : srvStep g0 ((propsFold connackSendProp c p.props).ev ++ [Ev.send p none])
        = match Mon.findProp p pSKA with | some v => v * 1000 * 3 / 2 | none => srvStep g0 c.ev := by
      rw [srvStep_append, srvStep_cons, srvStep_nil, srvStep_emits (Fp.propsFold_connackSendProp_fp c p.props).ev.quiet,
        srvEv_send_connack _ _ hk hrc]
      rfl
    show srvStep g0 ((propsFold connackSendProp c p.props).ev ++ [Ev.send p none]) =
        (propsFold connackSendProp c p.props).s.recvTimeoutMs ∨
      srvStep g0 ((propsFold connackSendProp c p.props).ev ++ [Ev.send p none]) = 0
    rw [e, fold_connackSendProp_rt, hc hrc]
    cases Mon.findProp p pSKA with
    | some v => exact .inl rfl
    | none => exact h hcl'
  · rw [if_neg hrc]
    exact h.keep ((connackTail_K3 g0 (c := c.push (.send p none)) hS p).trans (K3.push g0 c (.send (loud_rc hrc) none)))

theorem ms15_zero : 0 * 1000 * 3 / 2 = 0 := rfl

theorem welcomed_J {g0 : Nat} {c r : C} {x : Except Nat Pkt} (h : J (K3 g0 c)) (hS : Calm c)
    (hx : ∀ p, x = .ok p → p.kind = .connect) (k : Welcomed c x r) : J (K3 g0 r) := by
  cases k with
  | refused3 e =>
    exact (psV3Connack_J (c := { c with s := { c.s with status := .connecting } }) h hS _ (loud_mkV3Connack _)).keep
      (K3.err g0 _ _)
  | refused5 e =>
    refine (psV5Connack_J (c := { c with s := { c.s with status := .connecting } }) h hS _ rfl ?_).keep (K3.err g0 _ _)
    exact fun hrc => absurd (Nat.eq_of_beq_eq_true (by simpa [mkV5Connack] using hrc)) (v5ConnectErrRc_ne_zero e)
  | accepted p m k =>
    obtain ⟨hev, hrt, _⟩ := Welcomed.ok (.accepted p m k)
    refine fun _ => .inl ?_
    show srvStep g0 ((refreshPingreqRecv m).push (.recv p)).ev = ((refreshPingreqRecv m).push (.recv p)).s.recvTimeoutMs
    rw [hev, srvStep_append, srvStep_cons, srvStep_nil, srvEv_recv_connect _ (hx p rfl), hrt]
    rfl

theorem prV3Connect_J {g0 : Nat} {c : C} (h : J (K3 g0 c)) (hS : Calm c) (x : Except Nat Pkt)
    (hx : ∀ p, x = .ok p → p.kind = .connect) : J (K3 g0 (prV3Connect c x)) :=
  prV3Connect_cases c x (fun _ => h.keep (handleV3Error_K3 g0 c _)) (fun _ _ k => welcomed_J h hS hx k)

theorem prV5Connect_J {g0 : Nat} {c : C} (h : J (K3 g0 c)) (hS : Calm c) (x : Except Nat Pkt)
    (hx : ∀ p, x = .ok p → p.kind = .connect) : J (K3 g0 (prV5Connect c x)) :=
  prV5Connect_cases c x (fun _ => h.keep (handleV5Error_K3 g0 c _)) (fun _ _ k => welcomed_J h hS hx k)

/-- `c'` is `c` up to fields that neither the relation nor the guards of the CONNECT handlers read -/
structure Ctx (g0 : Nat) (c c' : C) : Prop where
  k : K3 g0 c' = K3 g0 c
  store : c'.s.store = c.s.store
  status : c'.s.status = c.s.status

/-- the parser contract of the relation: a successful result is a CONNECT exactly when the frame's
    type nibble is 1 (implied by "the result has the packet type of the frame") -/
def ParseKind (parse : Nat → Nat → List Nat → Except Nat Pkt) : Prop :=
  ∀ v fh d p, parse v fh d = .ok p → (p.kind = .connect ↔ fh / 16 = 1)

theorem nibble_eq_one {k : Kind} (h : k.nibble = 1) : k = .connect := by
  cases k <;> first | rfl | exact absurd h (by decide)

theorem ParseKind.of_nibble {parse : Nat → Nat → List Nat → Except Nat Pkt}
    (h : ∀ v fh d p, parse v fh d = .ok p → p.kind.nibble = fh / 16) : ParseKind parse := by
  intro v fh d p hp
  have := h v fh d p hp
  constructor
  · intro hk; rw [← this, hk]; rfl
  · intro h1; exact nibble_eq_one (this.trans h1)

/-- A property that holds wherever `K3` is as in `c` holds after `recv` if it holds after the handlers of CONNECT, which
    run in a context `c'` that is `c` up to `Ctx` on a parser result that is a CONNECT. -/
theorem recv_K3 {Q : C → Prop} (g0 : Nat) (c : C) (inp : List Nat) (parse : Nat → Nat → List Nat → Except Nat Pkt)
    (hp : ParseKind parse) (hS : Calm c) (keep : ∀ r, K3 g0 r = K3 g0 c → Q r)
    (connect : ∀ c' x, Ctx g0 c c' → (∀ p, x = .ok p → p.kind = .connect) → Q (prV3Connect c' x) ∧ Q (prV5Connect c' x)) :
    Q (recv c inp parse).1 := by
  refine Fp.recv_cases c inp parse (fun _ _ _ => keep _ rfl) (fun pb fh data rest hf => ?_) (fun pb _ _ => ?_)
  · have hx : ∀ v p, parse v fh data = .ok p → (p.kind = .connect ↔ fh / 16 = 1) := fun v p hq => hp v fh data p hq
    have first := fun v (h1 : fh / 16 = 1) =>
      connect { c with s := { c.s with pb := pb, ver := v } } (parse v fh data) ⟨rfl, rfl, rfl⟩ (fun p hq => (hx v p hq).2 h1)
    refine Fp.processRecvPacket_cases _ fh data _ (fun _ => keep _ ?_) (fun e _ _ => keep _ (K3.err g0 _ e))
      (fun _ _ _ h1 _ _ => (first 4 h1).1) (fun _ _ _ h1 _ _ => (first 5 h1).2) (fun _ _ _ => ?_)
    · exact (K3.err g0 _ _).trans (K3.of_emits g0 ((Fp.v5DisconnectOrClose_fp _ _).view kview)
        ((Fp.v5DisconnectOrClose_orCloses quiet_base.quiet _ _ (quiet_base.closing _ _)).emits' quiet_base))
    · by_cases h1 : fh / 16 = 1
      · rw [h1]
        have hc := connect { c with s := { c.s with pb := pb } } (parse c.s.ver fh data) ⟨rfl, rfl, rfl⟩
          (fun p hq => (hx _ p hq).2 h1)
        exact Fp.ite_ind (fun _ => hc.1) (fun _ => hc.2)
      · exact keep _ (dispatchRecv_K3 g0 (c := { c with s := { c.s with pb := pb } }) (hS.keep rfl) _ _ h1
          (fun p hq hk => h1 ((hx _ p hq).1 hk)))
  · exact keep _ ((K3.err g0 _ _).trans ((K3.push g0 _ (quiet_base.silent _ (by decide) (by decide))).trans
      (K3.of_emits g0 ((Fp.cancelTimers_fp _).view kview) (Fp.cancelTimers_ev _).quiet)))


/-- what may be sent as a CONNACK that accepts the connection: a v3.1.1 CONNACK carries no Server
    Keep Alive property (it has no properties); in a v5.0 CONNACK the Server Keep Alive the
    connection ends up with (the last one in the property list) is the one an observer reads (the
    first one) — true when the property occurs at most once, as the protocol requires -/
def SendOk (p : Pkt) : Prop :=
  p.kind = .connack → p.rc = some 0 →
    if p.ver = 4 then Mon.findProp p pSKA = none else skaLast p.props = Mon.findProp p pSKA

instance (p : Pkt) : Decidable (SendOk p) := by unfold SendOk; infer_instance

def Legal : Op → Prop
  | .send p => SendOk p
  | .recv _ parse => ParseKind parse
  | .restorePackets ps => ∀ p ∈ ps, loud p = false
  | _ => True

/-- at most one Server Keep Alive property: the protocol's rule implies `SendOk` for v5.0 -/
theorem skaLast_eq_find_of_le_one (l : List (Nat × Nat)) (h : (l.filter (·.1 = pSKA)).length ≤ 1) :
    skaLast l = (l.find? (·.1 = pSKA)).map (·.2) := by
  induction l with
  | nil => rfl
  | cons x rest ih =>
    obtain ⟨id, v⟩ := x
    by_cases hi : id = pSKA
    · subst hi
      have hr : rest.filter (·.1 = pSKA) = [] := by
        simp only [List.filter_cons, decide_true, if_true, List.length_cons] at h
        exact List.length_eq_zero_iff.1 (by omega)
      have hn : skaLast rest = none := by
        clear ih h
        induction rest with
        | nil => rfl
        | cons y r ih2 =>
          obtain ⟨j, w⟩ := y
          by_cases hj : j = pSKA
          · simp [List.filter_cons, hj] at hr
          · have hr' : r.filter (·.1 = pSKA) = [] := by simpa [List.filter_cons, hj] using hr
            simp [skaLast, ih2 hr', hj]
      simp [skaLast, hn]
    · have h' : (rest.filter (·.1 = pSKA)).length ≤ 1 := by simpa [List.filter_cons, hi] using h
      simp only [skaLast, ih h']
      cases hf : rest.find? (·.1 = pSKA) with
      | none => simp [hi, hf]
      | some y => simp [hi, hf]

theorem SendOk.of_le_one {p : Pkt} (h4 : p.ver = 4 → Mon.findProp p pSKA = none)
    (h5 : (p.props.filter (·.1 = pSKA)).length ≤ 1) : SendOk p := by
  intro _ _
  split
  · rename_i hv; exact h4 hv
  · exact skaLast_eq_find_of_le_one p.props h5

theorem loud_of_sendOk_v4 {p : Pkt} (hl : SendOk p) (hv : p.ver = 4) : loud p = false := by
  by_cases hk : p.kind = .connack
  · by_cases hrc : p.rc = some 0
    · have := hl hk hrc
      rw [if_pos hv] at this
      simp [loud, this]
    · exact loud_rc hrc
  · exact loud_kind hk

theorem send_J {g0 : Nat} {c : C} (h : J (K3 g0 c)) (hS : Calm c) (p : Pkt) (hl : SendOk p) : J (K3 g0 (send c p)) := by
  have keep : ∀ {r : C}, kview r.s = kview c.s → Emits Quiet c r → J (K3 g0 r) := fun hv he => h.keep (K3.of_emits g0 hv he)
  by_cases hk : p.kind = .connack
  · refine Fp.send_cases (Q := fun r => J (K3 g0 r)) c p (fun _ => ?_) (fun _ _ => ?_) (fun _ _ => ?_)
    · exact keep ((Fp.refuseSend_fp c _ p).view kview) (Fp.refuseSend_ev c _ p).quiet
    · exact keep ((Fp.refuseSend_fp c _ p).view kview) (Fp.refuseSend_ev c _ p).quiet
    · rw [Fp.processSend_connack c hk]
      exact Fp.ite_ind (Q := fun r => J (K3 g0 r)) (fun hv => psV3Connack_J h hS p (loud_of_sendOk_v4 hl hv))
        (fun hv => psV5Connack_J h hS p hk (fun hrc => (if_neg hv).mp (hl hk hrc)))
  · refine send_walk (Q := fun r => Emits Quiet c r → J (K3 g0 r)) c p (fun r k _ => ?_) (fun q => absurd q hk)
      (fun _ k => keep (kview_ended k)) (keep ((Fp.psPingreq_fp c p).view kview)) (fun _ k => keep (kview_sent k))
      (Fp.send_emits quiet_base c p (fun q r a => .send (loud_kind (a.kind ▸ hk)) r) hS.quiet)
    cases k with
    | refused e => exact h.keep (K3.err g0 c e)
    | opened m _ _ _ hc => exact J.client (by rw [Fp.sendPostProcess_s]; exact hc)

def Inv (s : St) (g : Nat) : Prop :=
  (s.isClient = false → g = s.recvTimeoutMs ∨ g = 0) ∧ ∀ x ∈ s.store, loud x.2 = false

instance (s : St) (g : Nat) : Decidable (Inv s g) := by unfold Inv; infer_instance

theorem inv_iff_W (cfg : Cfg) (s : St) (g : Nat) : Inv s g ↔ W g { cfg := cfg, s := s } := Iff.rfl

theorem inv_of_W {g0 : Nat} {c : C} (h : W g0 c) : Inv c.s (srvStep g0 c.ev) := h

theorem recv_J {g0 : Nat} {c : C} (h : J (K3 g0 c)) (hS : Calm c) (inp : List Nat)
    (parse : Nat → Nat → List Nat → Except Nat Pkt) (hp : ParseKind parse) : J (K3 g0 (recv c inp parse).1) :=
  recv_K3 g0 c inp parse hp hS (fun _ e => h.keep e)
    (fun _ x k hx => ⟨prV3Connect_J (h.keep k.k) (hS.keep k.store) x hx, prV5Connect_J (h.keep k.k) (hS.keep k.store) x hx⟩)

theorem step_W (cfg : Cfg) (s : St) (op : Op) (g0 : Nat) (hl : Legal op) (h : Inv s g0) :
    W g0 (step cfg s op) := by
  obtain ⟨hJ, hS⟩ := (W_iff (c := { cfg := cfg, s := s })).1 h
  have hC : Calm (step cfg s op) := step_sl kpub cfg s op hS fun ps e => by subst e; exact hl
  have fr : ∀ {r : C}, kview r.s = kview s → Emits Quiet { cfg := cfg, s := s } r → J (K3 g0 r) :=
    fun hs he => hJ.keep (K3.of_emits g0 hs he)
  refine W_iff.2 ⟨?_, hC⟩
  cases op with
  | send p => exact send_J hJ hS p hl
  | recv inp parse => exact recv_J hJ hS inp parse hl
  | timer k => exact fr ((Fp.notifyTimerFired_fp _ k).view kview) (Fp.notifyTimerFired_emits quiet_base _ k)
  | closed =>
    exact fr (r := notifyClosed { cfg := cfg, s := s }) (by unfold kview; rw [Fp.notifyClosed_s_eq]) (Fp.notifyClosed_ev _).quiet
  | setInterval d =>
    exact fr ((Fp.setPingreqSendInterval_fp _ d).view kview) (Fp.setPingreqSendInterval_ev _ d).quiet
  | setFlag f b => cases f <;> exact hJ
  | setRespTimeout ms => exact hJ
  | acquire => exact hJ
  | register id => exact hJ
  | release id => exact fr ((Fp.releasePacketId_fp _ id).view kview) (Fp.releasePacketId_ev _ id).quiet
  | erase id => exact fr ((Fp.eraseStoredPublish_fp _ id).view kview) (Fp.eraseStoredPublish_ev _ id).quiet
  | restoreHandled ids => exact hJ
  | restorePackets ps =>
    exact fr ((Fp.restorePackets_fp _ ps).view kview) (.upd (.refl _) (Fp.restorePackets_ev _ ps))

theorem Inv.reset {s : St} {g : Nat} (h : Inv s g) (op : Op) : Inv s (srvReset op g) := by
  cases op <;> first | exact h | exact ⟨fun _ => .inr rfl, h.2⟩

theorem step_inv (cfg : Cfg) (s : St) (op : Op) (g : Nat) (hl : Legal op) (h : Inv s g) :
    Inv (step cfg s op).s (srvStep (srvReset op g) (step cfg s op).ev) :=
  inv_of_W (step_W cfg s op _ hl (h.reset op))

def srvRun (cfg : Cfg) : St → Nat → List Op → Nat
  | _, g, [] => g
  | s, g, op :: ops => srvRun cfg (step cfg s op).s (srvStep (srvReset op g) (step cfg s op).ev) ops

theorem run_inv (cfg : Cfg) : ∀ (ops : List Op) (s : St) (g : Nat), (∀ op ∈ ops, Legal op) → Inv s g →
    Inv (run cfg s ops) (srvRun cfg s g ops)
  | [], _, _, _, h => h
  | op :: ops, s, g, hl, h =>
    run_inv cfg ops _ _ (fun o ho => hl o (by simp [ho])) (step_inv cfg s op g (hl op (by simp)) h)

theorem init_inv (cfg : Cfg) (ver : Nat) : Inv (St.init cfg ver) 0 :=
  ⟨fun _ => .inl rfl, by intro x hx; simp [St.init] at hx⟩

theorem recv_keeps (g0 : Nat) (c : C) (inp : List Nat) (parse : Nat → Nat → List Nat → Except Nat Pkt)
    (hp : ParseKind parse) (hS : Calm c) (hs : c.s.status ≠ .disconnected) : K3 g0 (recv c inp parse).1 = K3 g0 c := by
  refine recv_K3 (Q := fun r => K3 g0 r = K3 g0 c) g0 c inp parse hp hS (fun _ e => e) (fun c' x k _ => ?_)
  have hs' : c'.s.status ≠ .disconnected := k.status ▸ hs
  exact ⟨prV3Connect_cases (Q := fun r => K3 g0 r = _) c' x (fun _ => (handleV3Error_K3 g0 c' _).trans k.k)
      (fun h => absurd h hs'),
    prV5Connect_cases (Q := fun r => K3 g0 r = _) c' x (fun _ => (handleV5Error_K3 g0 c' _).trans k.k)
      (fun h => absurd h hs')⟩

end MqttVerif.Conn.SrvMs
