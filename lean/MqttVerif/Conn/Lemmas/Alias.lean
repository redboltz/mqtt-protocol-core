import MqttVerif.Conn.Lemmas.FrameP6b
import MqttVerif.Conn.Lemmas.Projections
import MqttVerif.Conn.Lemmas.FootprintIdsStep
/-!
# Topic-alias containers: lookup algebra and the `TAS` consistency invariant (C13 helpers)
-/
set_option linter.unusedSimpArgs false
set_option linter.unusedVariables false
namespace MqttVerif.Conn
open MqttVerif

theorem lookup_erase {α : Type} (k a : Nat) (l : List (Nat × α)) :
    lookup k (erase a l) = if k = a then none else lookup k l := by
  induction l with
  | nil => simp [erase, lookup]
  | cons x r ih =>
    obtain ⟨k', v⟩ := x
    simp only [erase, List.filter_cons] at ih ⊢
    by_cases h : k' = a
    · subst h; simp only [ne_eq, not_true_eq_false, decide_false, Bool.false_eq_true, if_false, ih, lookup]
      split <;> simp_all
    · simp only [ne_eq, h, not_false_eq_true, decide_true, if_true, lookup, ih]
      split <;> split <;> simp_all

theorem lookup_append {α : Type} (k : Nat) (l m : List (Nat × α)) :
    lookup k (l ++ m) = match lookup k l with | some v => some v | none => lookup k m := by
  induction l with
  | nil => simp [lookup]
  | cons x r ih =>
    obtain ⟨k', v⟩ := x
    simp only [List.cons_append, lookup]
    split <;> simp_all

theorem lookup_upd {α : Type} (k a : Nat) (v : α) (l : List (Nat × α)) :
    lookup k (erase a l ++ [(a, v)]) = if k = a then some v else lookup k l := by
  rw [lookup_append, lookup_erase]
  by_cases h : k = a
  · simp [h, lookup]
  · simp only [h, if_false]
    cases lookup k l <;> simp [lookup, h]

theorem lookup_some_mem {α : Type} {k : Nat} {v : α} {l : List (Nat × α)} (h : lookup k l = some v) :
    (k, v) ∈ l := mem_of_lookup h

theorem lookup_none_iff {α : Type} (k : Nat) (l : List (Nat × α)) :
    lookup k l = none ↔ ∀ x ∈ l, x.1 ≠ k := by
  induction l with
  | nil => simp [lookup]
  | cons x r ih =>
    obtain ⟨k', v'⟩ := x
    simp only [lookup]
    split
    · simp_all
    · simp_all [eq_comm]

theorem erase_sub {α : Type} {x : Nat × α} {a : Nat} {l : List (Nat × α)} (h : x ∈ erase a l) : x ∈ l :=
  (mem_erase.1 h).1

theorem keys_erase {α : Type} (a : Nat) (l : List (Nat × α)) :
    (erase a l).map (·.1) = (l.map (·.1)).filter (· ≠ a) := by
  induction l with
  | nil => rfl
  | cons x r ih =>
    simp only [erase, List.filter_cons, List.map_cons] at ih ⊢
    split <;> simp_all

theorem keys_nodup_upd {α : Type} (a : Nat) (v : α) (l : List (Nat × α)) (h : (l.map (·.1)).Nodup) :
    ((erase a l ++ [(a, v)]).map (·.1)).Nodup := by
  rw [List.map_append, keys_erase]
  simp only [List.map_cons, List.map_nil]
  rw [List.nodup_append]
  refine ⟨h.filter _, by simp, ?_⟩
  intro x hx y hy
  simp at hx hy
  omega

theorem t2aPush_key {tp : List Nat} {a : Nat} {X : List (List Nat × List Nat)} {x : List Nat}
    (h : x ∈ (t2aPush tp a X).map (·.1)) : x ∈ X.map (·.1) ∨ x = tp := by
  induction X with
  | nil => simp [t2aPush] at h; simp [h]
  | cons e r ih =>
    obtain ⟨t, v⟩ := e
    simp only [t2aPush] at h
    split at h
    · simp at h ⊢; grind
    · simp only [List.map_cons, List.mem_cons] at h ⊢
      rcases h with h | h
      · simp [h]
      · rcases ih h with h | h <;> simp [h]

theorem t2aPush_nodup {tp : List Nat} {a : Nat} {X : List (List Nat × List Nat)}
    (h : (X.map (·.1)).Nodup) : ((t2aPush tp a X).map (·.1)).Nodup := by
  induction X with
  | nil => simp [t2aPush]
  | cons e r ih =>
    obtain ⟨t, v⟩ := e
    simp only [List.map_cons, List.nodup_cons] at h
    simp only [t2aPush]
    split
    · simpa using h
    · rename_i hne
      simp only [List.map_cons, List.nodup_cons]
      refine ⟨?_, ih h.2⟩
      intro hm
      rcases t2aPush_key hm with h' | h'
      · exact h.1 h'
      · exact hne h'

theorem t2aPush_mem {tp : List Nat} {a : Nat} {X : List (List Nat × List Nat)} {t v : List Nat}
    (h : (t, v) ∈ t2aPush tp a X) :
    ∀ a' ∈ v, (a' = a ∧ t = tp) ∨ ∃ v0, (t, v0) ∈ X ∧ a' ∈ v0 := by
  induction X with
  | nil => simp [t2aPush] at h; obtain ⟨rfl, rfl⟩ := h; simp
  | cons e r ih =>
    obtain ⟨t0, v0⟩ := e
    simp only [t2aPush] at h
    split at h
    · rename_i heq
      rcases List.mem_cons.1 h with h | h
      · simp only [Prod.mk.injEq] at h
        obtain ⟨rfl, rfl⟩ := h
        intro a' ha'
        rcases List.mem_append.1 ha' with h1 | h1
        · exact Or.inr ⟨v0, by simp, h1⟩
        · simp at h1; exact Or.inl ⟨h1, heq⟩
      · intro a' ha'; exact Or.inr ⟨v, by simp [h], ha'⟩
    · rcases List.mem_cons.1 h with h | h
      · simp only [Prod.mk.injEq] at h
        obtain ⟨rfl, rfl⟩ := h
        intro a' ha'; exact Or.inr ⟨v, by simp, ha'⟩
      · intro a' ha'
        rcases ih h a' ha' with h1 | ⟨w, hw, hw'⟩
        · exact Or.inl h1
        · exact Or.inr ⟨w, by simp [hw], hw'⟩

theorem t2aRemove_key {old : List Nat} {a : Nat} {X : List (List Nat × List Nat)} {x : List Nat}
    (h : x ∈ (t2aRemove old a X).map (·.1)) : x ∈ X.map (·.1) := by
  induction X with
  | nil => simp [t2aRemove] at h
  | cons e r ih =>
    obtain ⟨t, v⟩ := e
    simp only [t2aRemove] at h
    split at h
    · split at h
      · simp at h ⊢; grind
      · simpa using h
    · simp only [List.map_cons, List.mem_cons] at h ⊢
      rcases h with h | h
      · simp [h]
      · simp [ih h]

theorem t2aRemove_nodup {old : List Nat} {a : Nat} {X : List (List Nat × List Nat)}
    (h : (X.map (·.1)).Nodup) : ((t2aRemove old a X).map (·.1)).Nodup := by
  induction X with
  | nil => simp [t2aRemove]
  | cons e r ih =>
    obtain ⟨t, v⟩ := e
    simp only [List.map_cons, List.nodup_cons] at h
    simp only [t2aRemove]
    split
    · split
      · exact h.2
      · simpa using h
    · simp only [List.map_cons, List.nodup_cons]
      exact ⟨fun hm => h.1 (t2aRemove_key hm), ih h.2⟩

theorem t2aRemove_mem {old : List Nat} {a : Nat} {X : List (List Nat × List Nat)} {t v : List Nat}
    (hn : (X.map (·.1)).Nodup) (h : (t, v) ∈ t2aRemove old a X) :
    (∃ v0, (t, v0) ∈ X ∧ ∀ a' ∈ v, a' ∈ v0) ∧ (t = old → a ∉ v) := by
  induction X with
  | nil => simp [t2aRemove] at h
  | cons e r ih =>
    obtain ⟨t0, v0⟩ := e
    simp only [List.map_cons, List.nodup_cons] at hn
    simp only [t2aRemove] at h
    split at h
    · rename_i heq
      have hrest : (t, v) ∈ r → (∃ v0', (t, v0') ∈ (t0, v0) :: r ∧ ∀ a' ∈ v, a' ∈ v0') ∧ (t = old → a ∉ v) := by
        intro hm
        refine ⟨⟨v, by simp [hm], fun _ h => h⟩, ?_⟩
        intro ht
        exfalso; apply hn.1
        rw [heq, ← ht]
        exact List.mem_map.2 ⟨(t, v), hm, rfl⟩
      split at h
      · exact hrest h
      · rcases List.mem_cons.1 h with h | h
        · simp only [Prod.mk.injEq] at h
          obtain ⟨rfl, rfl⟩ := h
          refine ⟨⟨v0, by simp, ?_⟩, ?_⟩
          · intro a' ha'; exact (List.mem_filter.1 ha').1
          · intro _ hm; simp at hm
        · exact hrest h
    · rename_i hne
      rcases List.mem_cons.1 h with h | h
      · simp only [Prod.mk.injEq] at h
        obtain ⟨rfl, rfl⟩ := h
        exact ⟨⟨v, by simp, fun _ h => h⟩, fun ht => absurd ht hne⟩
      · obtain ⟨⟨w, hw, hw'⟩, h2⟩ := ih hn.2 h
        exact ⟨⟨w, by simp [hw], hw'⟩, h2⟩

/-! ## the `TopicAliasSend` consistency invariant -/

structure TasOk (t : TAS) : Prop where
  max1 : 1 ≤ t.max
  rng : ∀ a tp, (a, tp) ∈ t.a2t → 1 ≤ a ∧ a ≤ t.max ∧ tp ≠ []
  nodup : (t.a2t.map (·.1)).Nodup
  t2a : ∀ tp v a, (tp, v) ∈ t.t2a → a ∈ v → lookup a t.a2t = some tp
  t2aNodup : (t.t2a.map (·.1)).Nodup
  ok : Alloc.Ok 1 t.alloc.pool
  free : ∀ v, Alloc.Free t.alloc.pool v ↔ (1 ≤ v ∧ v ≤ t.max ∧ lookup v t.a2t = none)

theorem TasOk.new (v : Nat) (h : 1 ≤ v) : TasOk (TAS.new v) where
  max1 := h
  rng := by simp [TAS.new]
  nodup := by simp [TAS.new]
  t2a := by simp [TAS.new]
  t2aNodup := by simp [TAS.new]
  ok := ⟨Nat.le_refl _, h, trivial⟩
  free := by intro w; simp [TAS.new, Alloc.new, Alloc.Free, lookup]

attribute [simp] insertOrUpdate_max

theorem insertOrUpdate_lookup (t : TAS) (topic : List Nat) (a k : Nat) :
    lookup k (t.insertOrUpdate topic a).a2t = if k = a then some topic else lookup k t.a2t := by
  unfold TAS.insertOrUpdate; simp only []
  (repeat' split) <;> simp_all [lookup_upd, lookup_erase] <;> (split <;> simp_all)

theorem erase_keys_nodup {α : Type} (a : Nat) (l : List (Nat × α)) (h : (l.map (·.1)).Nodup) :
    ((erase a l).map (·.1)).Nodup := by
  rw [keys_erase]; exact h.filter _

theorem TasOk.insertOrUpdate {t : TAS} (h : TasOk t) {topic : List Nat} {a : Nat}
    (ht : topic ≠ []) (ha : 1 ≤ a ∧ a ≤ t.max) : TasOk (t.insertOrUpdate topic a) := by
  have hlk := insertOrUpdate_lookup t topic a
  cases hu : Alloc.useValueP a t.alloc.pool with
  | some p' =>
    obtain ⟨f1, f2, f3⟩ := Alloc.useValueP_some h.ok hu
    have hnone : lookup a t.a2t = none := ((h.free a).1 f1).2.2
    have heq : t.insertOrUpdate topic a =
        { t with alloc := { t.alloc with pool := p' }, a2t := erase a t.a2t ++ [(a, topic)],
                 t2a := t2aPush topic a t.t2a } := by
      simp [TAS.insertOrUpdate, Alloc.useValue, hu]
    rw [heq] at hlk ⊢
    refine ⟨h.max1, ?_, keys_nodup_upd _ _ _ h.nodup, ?_, t2aPush_nodup h.t2aNodup, f3, ?_⟩
    · intro a' tp hm
      simp only [List.mem_append, List.mem_singleton, Prod.mk.injEq] at hm
      rcases hm with hm | ⟨rfl, rfl⟩
      · exact h.rng _ _ (erase_sub hm)
      · exact ⟨ha.1, ha.2, ht⟩
    · intro tp v a' hm ha'
      simp only at hlk ⊢
      rw [hlk]
      rcases t2aPush_mem hm a' ha' with ⟨rfl, rfl⟩ | ⟨v0, hv0, hv0'⟩
      · simp
      · have := h.t2a _ _ _ hv0 hv0'
        have hne : a' ≠ a := by intro he; subst he; simp [hnone] at this
        simp [hne, this]
    · intro w
      simp only at hlk ⊢
      rw [f2, h.free w, hlk]
      by_cases hw : w = a <;> simp [hw]
  | none =>
    have hnf := Alloc.useValueP_none hu
    have hsome : lookup a t.a2t ≠ none := fun hn => hnf ((h.free a).2 ⟨ha.1, ha.2, hn⟩)
    cases hold : lookup a t.a2t with
    | none => exact absurd hold hsome
    | some old =>
      have heq : t.insertOrUpdate topic a =
          { t with a2t := erase a (erase a t.a2t) ++ [(a, topic)],
                   t2a := t2aPush topic a (t2aRemove old a t.t2a) } := by
        simp [TAS.insertOrUpdate, Alloc.useValue, hu, hold]
      rw [heq] at hlk ⊢
      refine ⟨h.max1, ?_, keys_nodup_upd _ _ _ (erase_keys_nodup _ _ h.nodup), ?_,
        t2aPush_nodup (t2aRemove_nodup h.t2aNodup), h.ok, ?_⟩
      · intro a' tp hm
        simp only [List.mem_append, List.mem_singleton, Prod.mk.injEq] at hm
        rcases hm with hm | ⟨rfl, rfl⟩
        · exact h.rng _ _ (erase_sub (erase_sub hm))
        · exact ⟨ha.1, ha.2, ht⟩
      · intro tp v a' hm ha'
        simp only at hlk ⊢
        rw [hlk]
        rcases t2aPush_mem hm a' ha' with ⟨rfl, rfl⟩ | ⟨v0, hv0, hv0'⟩
        · simp
        · obtain ⟨⟨v1, hv1, hsub⟩, hnot⟩ := t2aRemove_mem h.t2aNodup hv0
          have := h.t2a _ _ _ hv1 (hsub _ hv0')
          have hne : a' ≠ a := by
            intro he; subst he
            rw [hold] at this
            simp only [Option.some.injEq] at this
            exact hnot this.symm hv0'
          simp [hne, this]
      · intro w
        simp only at hlk ⊢
        rw [h.free w, hlk]
        by_cases hw : w = a
        · subst hw; simp [hold]
        · simp [hw]

theorem TAS.get_some {t : TAS} {a : Nat} {tp : List Nat} (h : (t.get a).1 = some tp) :
    1 ≤ a ∧ a ≤ t.max ∧ lookup a t.a2t = some tp ∧
      (t.get a).2 = { t with a2t := erase a t.a2t ++ [(a, tp)] } := by
  unfold TAS.get at h ⊢
  split at h
  · rename_i hr
    split at h
    · rename_i tp' hl
      simp only [Option.some.injEq] at h; subst h
      simp [hr, hl]
    · simp at h
  · simp at h

theorem TAS.get_none {t : TAS} {a : Nat} (h : (t.get a).1 = none) : (t.get a).2 = t := by
  unfold TAS.get at h ⊢
  split
  · split
    · rename_i hr _ tp hl; simp [hr, hl] at h
    · rfl
  · rfl

@[simp] theorem TAS.get_max (t : TAS) (a : Nat) : (t.get a).2.max = t.max := by
  unfold TAS.get; (repeat' split) <;> rfl

theorem TAS.get_lookup (t : TAS) (a k : Nat) : lookup k (t.get a).2.a2t = lookup k t.a2t := by
  cases h : (t.get a).1 with
  | none => rw [TAS.get_none h]
  | some tp =>
    obtain ⟨_, _, hl, he⟩ := TAS.get_some h
    rw [he]; simp only [lookup_upd]
    split
    · rename_i hk; subst hk; exact hl.symm
    · rfl

theorem TasOk.get {t : TAS} (h : TasOk t) (a : Nat) : TasOk (t.get a).2 := by
  cases hg : (t.get a).1 with
  | none => rw [TAS.get_none hg]; exact h
  | some tp =>
    obtain ⟨h1, h2, hl, he⟩ := TAS.get_some hg
    have hlk := TAS.get_lookup t a
    rw [he] at hlk ⊢
    simp only at hlk
    refine ⟨h.max1, ?_, keys_nodup_upd _ _ _ h.nodup, ?_, h.t2aNodup, h.ok, ?_⟩
    · intro a' tp' hm
      simp only [List.mem_append, List.mem_singleton, Prod.mk.injEq] at hm
      rcases hm with hm | ⟨rfl, rfl⟩
      · exact h.rng _ _ (erase_sub hm)
      · exact h.rng _ _ (lookup_some_mem hl)
    · intro tp' v a' hm ha'
      simp only; rw [hlk]; exact h.t2a _ _ _ hm ha'
    · intro w; simp only; rw [hlk]; exact h.free w

theorem TasOk.findByTopic {t : TAS} (h : TasOk t) {topic : List Nat} {a : Nat}
    (hf : t.findByTopic topic = some a) : lookup a t.a2t = some topic := by
  unfold TAS.findByTopic at hf
  split at hf
  · rename_i tp v hfind
    have hm := List.mem_of_find?_eq_some hfind
    have hp := List.find?_some hfind
    simp only [decide_eq_true_eq] at hp
    subst hp
    exact h.t2a _ _ _ hm (List.mem_of_mem_head? hf)
  · simp at hf

theorem TasOk.lookup_range {t : TAS} (h : TasOk t) {a : Nat} {tp : List Nat}
    (hl : lookup a t.a2t = some tp) : 1 ≤ a ∧ a ≤ t.max ∧ tp ≠ [] :=
  h.rng _ _ (lookup_some_mem hl)

theorem TasOk.lruAlias {t : TAS} (h : TasOk t) : 1 ≤ t.lruAlias ∧ t.lruAlias ≤ t.max := by
  unfold TAS.lruAlias
  split
  · rename_i a hv
    unfold Alloc.firstVacant at hv
    cases hp : t.alloc.pool with
    | nil => simp [hp] at hv
    | cons iv rest =>
      simp only [hp, List.head?_cons, Option.map_some, Option.some.injEq] at hv
      have hok := h.ok
      rw [hp] at hok
      have : Alloc.Free t.alloc.pool a := by
        rw [hp]; simp only [Alloc.free_cons]; left; subst hv; exact ⟨Nat.le_refl _, hok.2.1⟩
      have := (h.free a).1 this
      exact ⟨this.1, this.2.1⟩
  · split
    · rename_i a tp hh
      have hm : (a, tp) ∈ t.a2t := List.mem_of_mem_head? hh
      have := h.rng _ _ hm
      exact ⟨this.1, this.2.1⟩
    · exact ⟨Nat.le_refl _, h.max1⟩
/-! ## receive side: the alias stage of `process_recv_v5_0_publish` -/

def RecvAliasBad (s : St) (a : Nat) : Prop :=
  ∀ t, s.tar = some t → (a = 0 ∨ a > t.max)

theorem TAR.get_eq {t : TAR} {a : Nat} (h : ¬ (a = 0 ∨ a > t.max)) : t.get a = lookup a t.m := by
  unfold TAR.get; rw [if_pos]; omega

theorem TAR.insertOrUpdate_lookup (t : TAR) (topic : List Nat) (a k : Nat) :
    lookup k (t.insertOrUpdate topic a).m = if k = a then some topic else lookup k t.m := by
  simp [TAR.insertOrUpdate, lookup_upd]

theorem prvAlias_empty_noalias (c : C) (p : Pkt) (ht : p.topic = []) (ha : p.alias = none) :
    prV5PublishAlias c p = (handleV5Error c eAliasInvalid, none) := by
  unfold prV5PublishAlias; simp [ht, ha]

theorem prvAlias_bad (c : C) (p : Pkt) (a : Nat) (ha : p.alias = some a) (hb : RecvAliasBad c.s a) :
    prV5PublishAlias c p = (handleV5Error c eAliasInvalid, none) := by
  unfold prV5PublishAlias RecvAliasBad at *
  cases htar : c.s.tar with
  | none => simp [ha]
  | some t => have := hb t htar; simp [ha, this]

theorem prvAlias_empty_unbound (c : C) (p : Pkt) (a : Nat) (t : TAR) (ht : p.topic = []) (ha : p.alias = some a)
    (htar : c.s.tar = some t) (hl : lookup a t.m = none) :
    prV5PublishAlias c p = (handleV5Error c eAliasInvalid, none) := by
  by_cases hb : a = 0 ∨ a > t.max
  · exact prvAlias_bad c p a ha (by intro t' h'; rw [htar] at h'; cases h'; exact hb)
  · unfold prV5PublishAlias; simp [ht, ha, htar, hb, TAR.get_eq hb, hl]

theorem prvAlias_empty_wildcard (c : C) (p : Pkt) (a : Nat) (t : TAR) (topic : List Nat) (ht : p.topic = [])
    (ha : p.alias = some a) (htar : c.s.tar = some t) (hl : lookup a t.m = some topic)
    (hw : hasWildcard topic = true) :
    prV5PublishAlias c p = (handleV5Error c eAliasInvalid, none) := by
  by_cases hb : a = 0 ∨ a > t.max
  · exact prvAlias_bad c p a ha (by intro t' h'; rw [htar] at h'; cases h'; exact hb)
  · unfold prV5PublishAlias; simp [ht, ha, htar, hb, TAR.get_eq hb, hl, hw]

theorem prvAlias_empty_bound (c : C) (p : Pkt) (a : Nat) (t : TAR) (topic : List Nat) (ht : p.topic = [])
    (ha : p.alias = some a) (htar : c.s.tar = some t) (h0 : a ≠ 0) (hm : a ≤ t.max)
    (hl : lookup a t.m = some topic) (hw : hasWildcard topic = false) :
    prV5PublishAlias c p = (c, some { p with topic := topic, extracted := true }) := by
  have hb : ¬ (a = 0 ∨ a > t.max) := by omega
  unfold prV5PublishAlias; simp [ht, ha, htar, hb, TAR.get_eq hb, hl, hw]

theorem prvAlias_register (c : C) (p : Pkt) (a : Nat) (t : TAR) (ht : p.topic ≠ [])
    (ha : p.alias = some a) (htar : c.s.tar = some t) (h0 : a ≠ 0) (hm : a ≤ t.max) :
    prV5PublishAlias c p =
      ({ c with s := { c.s with tar := some (t.insertOrUpdate p.topic a) } }, some p) := by
  have hb : ¬ (a = 0 ∨ a > t.max) := by omega
  unfold prV5PublishAlias; simp [ht, ha, htar, hb]

theorem prvAlias_plain (c : C) (p : Pkt) (ht : p.topic ≠ []) (ha : p.alias = none) :
    prV5PublishAlias c p = (c, some p) := by
  unfold prV5PublishAlias; simp [ht, ha]
/-! ## state-level alias invariant and the ghost receiver table -/

def PktQuiet (p : Pkt) : Prop := p.ver = 5 → p.kind = .publish → p.alias = none ∧ p.topic ≠ []
instance (p : Pkt) : Decidable (PktQuiet p) := by unfold PktQuiet; infer_instance

def StoreInv (s : St) : Prop := ∀ e ∈ s.store, PktQuiet e.2
def TasOkS (s : St) : Prop := ∀ t, s.tas = some t → TasOk t
def slookup (s : St) (a : Nat) : Option (List Nat) :=
  match s.tas with
  | some t => lookup a t.a2t
  | none => none
def Agree (s : St) (peer : Mon.PeerTable) : Prop :=
  ∀ a tp, slookup s a = some tp → Mon.peerLookup a peer = some tp
def peerMaxOf (s : St) : Nat :=
  match s.tas with
  | some t => t.max
  | none => 0

/-- **C13 invariant**: the sender's table is internally consistent, the store is alias-free,
    and every binding of the sender is a binding of the (ghost) receiver -/
structure AliasInv (s : St) (peer : Mon.PeerTable) : Prop where
  tasOk : TasOkS s
  store : StoreInv s
  agree : Agree s peer

/-- `Mon.peerStepEvs` only looks at the v5.0 PUBLISH packets -/
def peerPubs (pm : Nat) : Mon.PeerTable → List Pkt → Option Mon.PeerTable
  | t, [] => some t
  | t, p :: rest =>
    match Mon.peerStep pm t p with
    | some t' => peerPubs pm t' rest
    | none => none

theorem peerStepEvs_eq (pm : Nat) (t : Mon.PeerTable) (evs : List Ev) :
    Mon.peerStepEvs pm t evs = peerPubs pm t (pubs evs) := by
  induction evs generalizing t with
  | nil => rfl
  | cons e r ih =>
    cases e with
    | send p rel =>
      simp only [Mon.peerStepEvs, pubs_cons, pubsOf_send]
      split
      · simp only [List.cons_append, List.nil_append, peerPubs]
        split <;> simp_all
      · simp [ih]
    | _ => simp [Mon.peerStepEvs, ih]

theorem peerPubs_append (pm : Nat) (t : Mon.PeerTable) (l m : List Pkt) :
    peerPubs pm t (l ++ m) = match peerPubs pm t l with | some t' => peerPubs pm t' m | none => none := by
  induction l generalizing t with
  | nil => rfl
  | cons p r ih =>
    simp only [List.cons_append, peerPubs]
    split <;> simp_all

theorem peerStep_quiet (pm : Nat) (t : Mon.PeerTable) (p : Pkt) (h : p.alias = none ∧ p.topic ≠ []) :
    Mon.peerStep pm t p = some t := by
  simp [Mon.peerStep, h.1, h.2]

theorem peerPubs_quiet (pm : Nat) (t : Mon.PeerTable) (l : List Pkt)
    (h : ∀ p ∈ l, p.alias = none ∧ p.topic ≠ []) : peerPubs pm t l = some t := by
  induction l with
  | nil => rfl
  | cons p r ih =>
    simp only [peerPubs, peerStep_quiet pm t p (h p (by simp))]
    exact ih (fun q hq => h q (by simp [hq]))

theorem peerLookup_cons_filter (a k : Nat) (v : List Nat) (t : Mon.PeerTable) :
    Mon.peerLookup k ((a, v) :: t.filter (·.1 ≠ a)) = if k = a then some v else Mon.peerLookup k t := by
  by_cases h : k = a
  · subst h; simp [Mon.peerLookup]
  · have h' : ¬ a = k := fun e => h e.symm
    simp only [Mon.peerLookup, h, h', if_false]
    induction t with
    | nil => rfl
    | cons x r ih =>
      obtain ⟨k', v'⟩ := x
      simp only [List.filter_cons]
      by_cases hk : k' = a
      · subst hk; simp only [ne_eq, not_true_eq_false, decide_false, Bool.false_eq_true, if_false, Mon.peerLookup, h']; simpa using ih
      · simp only [ne_eq, hk, not_false_eq_true, decide_true, if_true, Mon.peerLookup, ih]

/-! ## "quiet" calls: no binding is added, only alias-free PUBLISH packets are emitted -/

structure Quiet (c c' : C) : Prop where
  tasOk : TasOkS c.s → TasOkS c'.s
  store : StoreInv c.s → StoreInv c'.s
  look : ∀ a tp, slookup c'.s a = some tp → slookup c.s a = some tp
  evs : ∃ l, pubs c'.ev = pubs c.ev ++ l ∧ (StoreInv c.s → ∀ q ∈ l, q.alias = none ∧ q.topic ≠ [])

theorem Quiet.refl (c : C) : Quiet c c :=
  ⟨id, id, fun _ _ h => h, [], by simp, by simp⟩

theorem Quiet.trans {a b c : C} (h1 : Quiet a b) (h2 : Quiet b c) : Quiet a c := by
  obtain ⟨l1, e1, q1⟩ := h1.evs
  obtain ⟨l2, e2, q2⟩ := h2.evs
  refine ⟨fun h => h2.tasOk (h1.tasOk h), fun h => h2.store (h1.store h),
    fun x tp h => h1.look _ _ (h2.look _ _ h), l1 ++ l2, by rw [e2, e1, List.append_assoc], ?_⟩
  intro hs q hq
  rcases List.mem_append.1 hq with hq | hq
  · exact q1 hs q hq
  · exact q2 (h1.store hs) q hq

theorem Quiet.of_frames {c c' : C} (htas : c'.s.tas = c.s.tas)
    (hstore : ∀ e ∈ c'.s.store, e ∈ c.s.store ∨ PktQuiet e.2) (hpubs : pubs c'.ev = pubs c.ev) :
    Quiet c c' := by
  refine ⟨?_, ?_, ?_, [], by simp [hpubs], by simp⟩
  · intro h t ht; exact h t (by rw [← htas]; exact ht)
  · intro h e he
    rcases hstore e he with h' | h'
    · exact h e h'
    · exact h'
  · intro a tp h; simpa [slookup, htas] using h

theorem Quiet.of_reset {c c' : C} (htas : c'.s.tas = c.s.tas ∨ c'.s.tas = none ∨ ∃ v, 1 ≤ v ∧ c'.s.tas = some (TAS.new v))
    (hstore : ∀ e ∈ c'.s.store, e ∈ c.s.store ∨ PktQuiet e.2)
    (hpubs : ∃ l, pubs c'.ev = pubs c.ev ++ l ∧ (StoreInv c.s → ∀ q ∈ l, q.alias = none ∧ q.topic ≠ [])) :
    Quiet c c' := by
  refine ⟨?_, ?_, ?_, hpubs⟩
  · intro h t ht
    rcases htas with h1 | h1 | ⟨v, hv, h1⟩
    · exact h t (by rw [← h1]; exact ht)
    · rw [h1] at ht; cases ht
    · rw [h1] at ht; cases ht; exact TasOk.new v hv
  · intro h e he
    rcases hstore e he with h' | h'
    · exact h e h'
    · exact h'
  · intro a tp h
    rcases htas with h1 | h1 | ⟨v, hv, h1⟩
    · simpa [slookup, h1] using h
    · simp [slookup, h1] at h
    · simp [slookup, h1, TAS.new, lookup] at h

theorem storeErase_sub {ver : Nat} {k : Kind} {id : Nat} {st : List (Nat × Pkt)} {e : Nat × Pkt}
    (h : e ∈ storeErase ver k id st) : e ∈ st := (storeErase_sublist ver k id st).subset h

theorem storeErasePublish_sub {id : Nat} {st : List (Nat × Pkt)} {e : Nat × Pkt}
    (h : e ∈ (storeErasePublish id st).2) : e ∈ st := (storeErasePublish_sublist id st).subset h

theorem storeAdd_store_sub (c : C) (id : Nat) (p : Pkt) (site : String) :
    ∀ e ∈ (storeAdd c id p site).s.store, e ∈ c.s.store ∨ e.2 = p :=
  (Fp.storeAdd_ids c id p site).store_all (fun _ => .inl)
    (fun _ _ hm => .inr (IdPrim.store.inj (List.mem_singleton.1 hm)).2) (fun _ hm => nomatch hm)

theorem notPub_quiet {p : Pkt} (h : NotPub p) : PktQuiet p := by
  intro h1 h2; exact absurd ⟨h1, h2⟩ h

theorem RecvOut.storeQuiet {c c' : C} {t mps : Nat} {x : Except Nat Pkt}
    (h : ∃ l, RecvOut c.cfg c.s t x mps l ∧ IdRun l c c') : ∀ e ∈ c'.s.store, e ∈ c.s.store ∨ PktQuiet e.2 := by
  obtain ⟨l, ho, hr⟩ := h
  refine hr.store_all (fun _ => .inl) (fun _ _ hm => .inr ?_) (fun _ hm => absurd hm ho.not_mem_restore)
  obtain ⟨-, v, rfl⟩ := ho.mem_store hm
  exact notPub_quiet (notPub_mkAck _ _ _ _ (by decide))

theorem IdRun.storeQuiet {b : Bool} {i : Nat} {q : Pkt} {k : Kind} {c c' : C}
    (hr : IdRun ((if b then [.store i q] else []) ++ [.await k i]) c c') (hq : PktQuiet q) :
    ∀ e ∈ c'.s.store, e ∈ c.s.store ∨ PktQuiet e.2 := by
  refine hr.store_all (fun _ => .inl) (fun id q' hm => .inr ?_) (fun r hm => ?_)
  · obtain ⟨-, -, rfl⟩ : b = true ∧ id = i ∧ q' = q := by simpa using hm
    exact hq
  · simp [apply_ite (IdPrim.restore r ∈ ·)] at hm

theorem Quiet.of_fp {T : List EvTag} {w : St → St → St} {c c' : C} (h : Fp.Footprint T w c c') (he : Emits NoPub c c')
    (hstore : ∀ e ∈ c'.s.store, e ∈ c.s.store ∨ PktQuiet e.2)
    (htas : ∀ a x, (w a x).tas = a.tas := by exact fun _ _ => rfl) : Quiet c c' :=
  .of_frames (by rw [h.s]; exact htas _ _) hstore he.pubs_eq

theorem Quiet.of_kept {T : List EvTag} {w : St → St → St} {c c' : C} (h : Fp.Footprint T w c c') (he : Emits NoPub c c')
    (htas : ∀ a x, (w a x).tas = a.tas := by exact fun _ _ => rfl)
    (hstore : ∀ a x, (w a x).store = a.store := by exact fun _ _ => rfl) : Quiet c c' :=
  .of_fp h he (fun e he' => .inl (by rw [h.s, hstore] at he'; exact he')) htas

theorem Quiet.of_silent {T : List EvTag} {w : St → St → St} {c c' : C} (h : Fp.Footprint T w c c')
    (hT : ∀ t ∈ T, t ≠ .send ∧ t ≠ .recv := by decide)
    (htas : ∀ a x, (w a x).tas = a.tas := by exact fun _ _ => rfl)
    (hstore : ∀ a x, (w a x).store = a.store := by exact fun _ _ => rfl) : Quiet c c' :=
  .of_kept h (h.ev.emits noPub_base hT) htas hstore

theorem quiet_err (c : C) (e : Nat) : Quiet c (c.err e) :=
  .of_frames rfl (fun _ he => .inl he) (by rw [err_ev, pubs_append, pubs_single, pubsOf_error, List.append_nil])
theorem quiet_setPanic (c : C) (x : String) : Quiet c (c.setPanic x) := .of_frames rfl (fun _ he => .inl he) rfl
theorem quiet_releaseIfUsed (c : C) (id : Nat) : Quiet c (releaseIfUsed c id) := .of_silent (Fp.releaseIfUsed_fp c id)
theorem quiet_refuseSend (c : C) (e : Nat) (p : Pkt) : Quiet c (refuseSend c e p) := .of_silent (Fp.refuseSend_fp c e p)
theorem quiet_cancelTimers (c : C) : Quiet c (cancelTimers c) := .of_silent (Fp.cancelTimers_fp c)
theorem quiet_psV3Simple (c : C) (p : Pkt) (h : NotPub p) : Quiet c (psV3Simple c p) :=
  .of_kept (Fp.psV3Simple_fp c p) (Fp.psV3Simple_adds noPub_base.quiet c p (noPub_send h none))
theorem quiet_psV5Simple (c : C) (p : Pkt) (h : NotPub p) : Quiet c (psV5Simple c p) :=
  .of_kept (Fp.psV5Simple_fp c p) (Fp.psV5Simple_adds noPub_base.quiet c p fun _ => noPub_send h none)
theorem quiet_psSubUnsub (c : C) (p : Pkt) (h : NotPub p) : Quiet c (psSubUnsub c p) :=
  .of_kept (Fp.psSubUnsub_fp c p) (Fp.psSubUnsub_adds noPub_base.quiet c p fun _ => noPub_send h)
theorem quiet_psPingreq (c : C) (p : Pkt) (h : NotPub p) : Quiet c (psPingreq c p) :=
  .of_kept (Fp.psPingreq_fp c p) (Fp.psPingreq_adds noPub_base.quiet c p fun _ => noPub_send h none)
theorem quiet_psV5Auth (c : C) (p : Pkt) (h : NotPub p) : Quiet c (psV5Auth c p) :=
  .of_kept (Fp.psV5Auth_fp c p) (Fp.psV5Auth_adds noPub_base.quiet c p fun _ => noPub_send h none)
theorem quiet_psV5Puback (c : C) (p : Pkt) (h : NotPub p) : Quiet c (psV5Puback c p) :=
  .of_kept (Fp.psV5Puback_fp c p) (Fp.psV5Puback_adds noPub_base.quiet c p fun _ => noPub_send h none)
theorem quiet_psV5Pubrec (c : C) (p : Pkt) (h : NotPub p) : Quiet c (psV5Pubrec c p) :=
  .of_kept (Fp.psV5Pubrec_fp c p) (Fp.psV5Pubrec_adds noPub_base.quiet c p fun _ => noPub_send h none)
theorem quiet_psV5Pubcomp (c : C) (p : Pkt) (h : NotPub p) : Quiet c (psV5Pubcomp c p) := quiet_psV5Puback c p h
theorem quiet_psV5Disconnect (c : C) (p : Pkt) (h : NotPub p) : Quiet c (psV5Disconnect c p) :=
  .of_kept (Fp.psV5Disconnect_fp c p)
    ((Fp.psV5Disconnect_orCloses noPub_base.quiet c p fun _ => noPub_send h none).emits' noPub_base)
theorem quiet_psV3Disconnect (c : C) (p : Pkt) (h : NotPub p) : Quiet c (psV3Disconnect c p) :=
  .of_kept (Fp.psV3Disconnect_fp c p)
    ((Fp.psV3Disconnect_orCloses noPub_base.quiet c p (noPub_send h none)).emits' noPub_base)
theorem quiet_v5DisconnectOrClose (c : C) (d : Pkt) (h : NotPub d) : Quiet c (v5DisconnectOrClose c d) :=
  .of_kept (Fp.v5DisconnectOrClose_fp c d)
    ((Fp.v5DisconnectOrClose_orCloses noPub_base.quiet c d fun _ => noPub_send h none).emits' noPub_base)
theorem quiet_vErr (c : C) (e : Nat) : Quiet c (vErr c e) :=
  .of_kept (Fp.vErr_fp c e) ((Fp.vErr_orCloses noPub_base.quiet (noPub_base.closing c) e).emits' noPub_base)
theorem quiet_prPlain (c : C) (x : Except Nat Pkt) : Quiet c (prPlain c x) :=
  .of_kept (Fp.prPlain_fp c x) ((Fp.prPlain_processed noPub_base.quiet c x).emits noPub_base fun _ _ => rfl)
theorem quiet_prSubUnsuback (c : C) (b : Bool) (x : Except Nat Pkt) : Quiet c (prSubUnsuback c b x) :=
  .of_kept (Fp.prSubUnsuback_fp c b x)
    ((Fp.prSubUnsuback_processed noPub_base.quiet c b x).emits noPub_base fun _ _ => rfl)
theorem quiet_prPingreq (c : C) (x : Except Nat Pkt) : Quiet c (prPingreq c x) :=
  .of_kept (Fp.prPingreq_fp c x)
    ((Fp.prPingreq_processed (noPub_base.own c) x fun _ _ _ => trivial).emits noPub_base fun _ _ => rfl)
theorem quiet_prPingresp (c : C) (x : Except Nat Pkt) : Quiet c (prPingresp c x) :=
  .of_kept (Fp.prPingresp_fp c x) ((Fp.prPingresp_processed noPub_base.quiet c x).emits noPub_base fun _ _ => rfl)
theorem quiet_prDisconnect (c : C) (x : Except Nat Pkt) : Quiet c (prDisconnect c x) :=
  .of_kept (Fp.prDisconnect_fp c x) ((Fp.prDisconnect_processed noPub_base.quiet c x).emits noPub_base fun _ _ => rfl)
theorem quiet_prV3Publish (c : C) (x : Except Nat Pkt) : Quiet c (prV3Publish c x) :=
  .of_kept (Fp.prV3Publish_fp c x)
    ((Fp.prV3Publish_orCloses (noPub_base.own c) trivial x fun _ _ => rfl).emits' noPub_base)
theorem quiet_prV5Publish (c : C) (x : Except Nat Pkt) : Quiet c (prV5Publish c x) :=
  .of_kept (Fp.prV5Publish_fp c x)
    ((Fp.prV5Publish_orCloses (noPub_base.own c) (noPub_base.closing c) x fun _ _ _ _ => rfl).emits' noPub_base)
theorem quiet_prPubrel (c : C) (x : Except Nat Pkt) : Quiet c (prPubrel c x) :=
  .of_kept (Fp.prPubrel_fp c x)
    ((Fp.prPubrel_processed (noPub_base.own c) x fun _ _ _ => trivial).emits noPub_base fun _ _ => rfl)
theorem quiet_notifyTimerFired (c : C) (k : Timer) : Quiet c (notifyTimerFired c k) :=
  .of_kept (Fp.notifyTimerFired_fp c k) (Fp.notifyTimerFired_emits noPub_base c k)
theorem quiet_setInterval (c : C) (d : Option Nat) : Quiet c (setPingreqSendInterval c d) :=
  .of_kept (Fp.setPingreqSendInterval_fp c d) ((Fp.setPingreqSendInterval_ev c d).emits noPub_base)
theorem quiet_acquire (c : C) : Quiet c (acquire c).2 := .of_frames rfl (fun _ he => .inl he) rfl
theorem quiet_register (c : C) (id : Nat) : Quiet c (register c id).2 := .of_frames rfl (fun _ he => .inl he) rfl
theorem quiet_release (c : C) (id : Nat) : Quiet c (releasePacketId c id) := .of_silent (Fp.releasePacketId_fp c id)

theorem quiet_prPuback (c : C) (x : Except Nat Pkt) : Quiet c (prPuback c x) :=
  .of_fp (Fp.prPuback_fp c x) ((Fp.prPuback_processed noPub_base.quiet c x).emits noPub_base fun _ _ => rfl)
    (RecvOut.storeQuiet (Fp.prPuback_ids c x 0))
theorem quiet_prPubcomp (c : C) (x : Except Nat Pkt) : Quiet c (prPubcomp c x) :=
  .of_fp (Fp.prPubcomp_fp c x) ((Fp.prPubcomp_processed noPub_base.quiet c x).emits noPub_base fun _ _ => rfl)
    (RecvOut.storeQuiet (Fp.prPubcomp_ids c x 0))
theorem quiet_prPubrec (c : C) (x : Except Nat Pkt) : Quiet c (prPubrec c x) :=
  .of_fp (Fp.prPubrec_fp c x)
    ((Fp.prPubrec_processed noPub_base.quiet c x fun _ _ _ _ => noPub_base.pubrel ..).emits noPub_base fun _ _ => rfl)
    (RecvOut.storeQuiet (Fp.prPubrec_ids c x 0))
theorem quiet_psPubrel (c : C) (p : Pkt) (h : NotPub p) : Quiet c (psPubrel c p) := by
  refine .of_fp (Fp.psPubrel_fp c p) (Fp.psPubrel_adds noPub_base.quiet c p fun _ => noPub_send h none) ?_
  rcases Fp.psPubrel_run c p with hr | ⟨-, hr⟩
  · exact hr.store_all (fun _ => .inl) (fun _ _ hm => nomatch hm) (fun _ hm => nomatch hm)
  · exact hr.storeQuiet (notPub_quiet h)
theorem quiet_psV3Publish (c : C) (p : Pkt) (h : NotPub p) : Quiet c (psV3Publish c p) := by
  refine .of_fp (Fp.psV3Publish_fp c p) (Fp.psV3Publish_adds noPub_base.quiet c p (noPub_send h)) ?_
  rcases Fp.psV3Publish_run c p with hr | ⟨_, -, hr⟩ | ⟨i, -, -, -, hr⟩
  · exact hr.store_all (fun _ => .inl) (fun _ _ hm => nomatch hm) (fun _ hm => nomatch hm)
  · exact hr.store_all (fun _ => .inl) (by simp) (by simp)
  · exact hr.storeQuiet (notPub_quiet (p := { p with pid := some i, dup := true }) h)
theorem quiet_erase (c : C) (id : Nat) : Quiet c (eraseStoredPublish c id) :=
  .of_fp (Fp.eraseStoredPublish_fp c id) ((Fp.eraseStoredPublish_ev c id).emits noPub_base)
    (Fp.eraseStoredPublish_cases (Q := fun r : C => ∀ e ∈ r.s.store, e ∈ c.s.store ∨ PktQuiet e.2) c id (fun _ => .inl)
      fun e he => .inl (storeErasePublish_sub (by rw [Fp.releaseIfUsed_s, Fp.decSendCount_s] at he; exact he)))
/-! ## quiet: connection establishment, close, restore -/

/-- an event `Quiet` allows: no v5.0 PUBLISH with an alias or without a topic -/
def QuietEv (e : Ev) : Prop := ∀ q ∈ pubsOf e, q.alias = none ∧ q.topic ≠ []

theorem quietEv_of_noPub {e : Ev} (h : NoPub e) : QuietEv e := fun q hq => by rw [h] at hq; cases hq

theorem quietEv_quiet : Emits.Quiet QuietEv := fun e he => quietEv_of_noPub (noPub_base.quiet e he)

theorem PktQuiet.send {p : Pkt} (h : PktQuiet p) (r : Option Nat) : QuietEv (.send p r) := fun q hq => by
  rw [pubsOf_send] at hq
  by_cases hp : p.ver = 5 ∧ p.kind = .publish
  · rw [if_pos hp] at hq
    rw [List.mem_singleton.1 hq]
    exact h hp.1 hp.2
  · rw [if_neg hp] at hq
    cases hq

theorem mem_pubs {q : Pkt} {l : List Ev} (h : q ∈ pubs l) : ∃ e ∈ l, q ∈ pubsOf e := by
  induction l with
  | nil => cases h
  | cons x r ih =>
    rcases List.mem_append.1 h with h | h
    · exact ⟨x, List.mem_cons_self, h⟩
    · obtain ⟨e, he, hq⟩ := ih h
      exact ⟨e, List.mem_cons_of_mem _ he, hq⟩

/-- the events clause of `Quiet`: what the call appends is known without the store invariant, that it is allowed
    only with it -/
theorem Quiet.evs_of_emits {T : List EvTag} {c c' : C} (ha : Appends T c c') (he : StoreInv c.s → Emits QuietEv c c') :
    ∃ l, pubs c'.ev = pubs c.ev ++ l ∧ (StoreInv c.s → ∀ q ∈ l, q.alias = none ∧ q.topic ≠ []) := by
  obtain ⟨l, e, -⟩ := ha
  refine ⟨pubs l, by rw [e, pubs_append], fun hs q hq => ?_⟩
  obtain ⟨l', e', hl'⟩ := he hs
  obtain ⟨x, hx, hq⟩ := mem_pubs hq
  exact hl' x (List.append_cancel_left (e'.symm.trans e) ▸ hx) q hq

theorem quiet_sendStored (c : C) : Quiet c (sendStored c) := by
  refine .of_reset (.inl (by rw [Fp.sendStored_s])) (fun e he => .inl ?_)
    (Quiet.evs_of_emits (Fp.sendStored_ev c) fun hs =>
      Fp.sendStored_adds quietEv_quiet c fun y hy _ => (hs y hy).send none)
  rw [sendStored_eq] at he
  exact (Fp.sendStoredLoop_sublist _ _).subset he

theorem Quiet.of_calm {c c' : C} (h : Calm c c') : Quiet c c' := by
  refine .of_reset h.tas (fun e he => .inl ?_) ⟨[], by rw [h.noPub, List.append_nil], fun _ _ hq => nomatch hq⟩
  rcases h.store with hs | hs <;> rw [hs] at he
  · exact he
  · nomatch he

theorem quietWalk : Walk Quiet := ⟨Quiet.trans, Quiet.of_calm, quiet_sendStored⟩

theorem Quiet.upd {a c : C} (s' : St) (h : Quiet a c) (h1 : s'.tas = c.s.tas ∨ s'.tas = none) (h2 : s'.store = c.s.store) :
    Quiet a { cfg := c.cfg, s := s', ev := c.ev } :=
  Quiet.trans h (Quiet.of_reset (h1.imp id Or.inl) (fun e he => Or.inl (by simpa [h2] using he)) ⟨[], by simp, by simp⟩)

theorem quiet_push_other (c : C) (e : Ev) (h : pubsOf e = []) : Quiet c (c.push e) := .of_calm (.push h (.refl c))

theorem quiet_psV3Connect (c : C) (p : Pkt) (h : NotPub p) : Quiet c (psV3Connect c p) := .of_calm (calm_psV3Connect c p h)
theorem quiet_psV5Connect (c : C) (p : Pkt) (h : NotPub p) : Quiet c (psV5Connect c p) := .of_calm (calm_psV5Connect c p h)
theorem quiet_psV3Connack (c : C) (p : Pkt) (h : NotPub p) : Quiet c (psV3Connack c p) := walk_psV3Connack quietWalk c p h
theorem quiet_psV5Connack (c : C) (p : Pkt) (h : NotPub p) : Quiet c (psV5Connack c p) := walk_psV5Connack quietWalk c p h
theorem quiet_prV3Connect (c : C) (x : Except Nat Pkt) : Quiet c (prV3Connect c x) := walk_prV3Connect quietWalk c x
theorem quiet_prV5Connect (c : C) (x : Except Nat Pkt) : Quiet c (prV5Connect c x) := walk_prV5Connect quietWalk c x
theorem quiet_prV3Connack (c : C) (x : Except Nat Pkt) : Quiet c (prV3Connack c x) := walk_prV3Connack quietWalk c x
theorem quiet_prV5Connack (c : C) (x : Except Nat Pkt) : Quiet c (prV5Connack c x) := walk_prV5Connack quietWalk c x

theorem notifyClosed_tas_none (c : C) : (notifyClosed c).s.tas = none := by rw [Fp.notifyClosed_s_eq]
theorem notifyClosed_tar_none (c : C) : (notifyClosed c).s.tar = none := by rw [Fp.notifyClosed_s_eq]

theorem calm_notifyClosed (c : C) : Calm c (notifyClosed c) := by
  refine ⟨.inr (.inl (notifyClosed_tas_none c)), ?_, Fp.notifyClosed_raises dealloc_site c, notifyClosed_pubs c⟩
  rw [Fp.notifyClosed_s_eq]
  exact Fp.ite_ind (Q := fun l => l = c.s.store ∨ l = []) (fun _ => .inl rfl) (fun _ => .inr rfl)

theorem quiet_notifyClosed (c : C) : Quiet c (notifyClosed c) := .of_calm (calm_notifyClosed c)

theorem quiet_restorePackets (c : C) (ps : List Pkt) (h : ∀ p ∈ ps, PktQuiet p) :
    Quiet c (restorePackets c ps) :=
  .of_fp (Fp.restorePackets_fp c ps) ((Emits.refl c).upd (Fp.restorePackets_ev c ps))
    ((Fp.restorePackets_ids c ps).store_all (fun _ => .inl) (by simp) (fun p hm => .inr (h p (by simpa using hm))))
end MqttVerif.Conn
