import MqttVerif.Monitors
import MqttVerif.Conn.Lemmas.FootprintEmits
/-!
# C15 helper — the driver's ghost `srvMs` (a server's receive timeout) against the model

`srvEv` / `srvStep` / `srvReset`: the ghost the driver's monitor `C15 no_recv_rearm` keeps (reset
by `closed`, set by a delivered CONNECT to 1.5 × keep-alive, by a sent successful CONNACK with a
Server Keep Alive property to 1.5 × that).

`K3 g0 c`: what the relation between ghost and model reads — `is_client`, `pingreq_recv_timeout_ms`
and the ghost folded over the events pushed so far (`K` has the store as well: a resent stored packet
is a `RequestSendPacket` event too).  A model function keeps `K3` when its footprint avoids the two
fields and it adds only events the ghost ignores (`Quiet`; `K3.of_emits`, from `Fp.f_s` and the lemmas of
`FootprintEmits`).
-/
set_option linter.unusedSimpArgs false

namespace MqttVerif.Conn.SrvMs
open MqttVerif MqttVerif.Conn

/-- 1.5 × seconds, in ms -/
def ms15 (sec : Nat) : Nat := sec * 1000 * 3 / 2

/-- one event (the lambda of the driver's fold) -/
def srvEv (acc : Nat) : Ev → Nat
  | .recv q => if q.kind = .connect then q.keepAlive * 1000 * 3 / 2 else acc
  | .send q _ =>
    if q.kind = .connack ∧ q.rc = some 0 then
      (match Mon.findProp q pSKA with | some v => v * 1000 * 3 / 2 | none => acc)
    else acc
  | _ => acc

def srvStep (g : Nat) (evs : List Ev) : Nat := evs.foldl srvEv g

/-- before the call: `closed` forgets the timeout -/
def srvReset : Op → Nat → Nat
  | .closed, _ => 0
  | _, g => g

/-- a packet whose `RequestSendPacket` changes the ghost: a successful CONNACK with a Server Keep
    Alive property -/
def loud (q : Pkt) : Bool := q.kind = .connack ∧ q.rc = some 0 ∧ (Mon.findProp q pSKA).isSome

theorem loud_kind {q : Pkt} (h : q.kind ≠ .connack) : loud q = false := by simp [loud, h]
theorem loud_rc {q : Pkt} (h : q.rc ≠ some 0) : loud q = false := by simp [loud, h]

@[scoped simp] theorem srvStep_nil (g : Nat) : srvStep g [] = g := rfl
@[scoped simp] theorem srvStep_append (g : Nat) (a b : List Ev) : srvStep g (a ++ b) = srvStep (srvStep g a) b := by
  simp [srvStep, List.foldl_append]
@[scoped simp] theorem srvStep_cons (g : Nat) (e : Ev) (l : List Ev) : srvStep g (e :: l) = srvStep (srvEv g e) l := rfl

@[scoped simp] theorem srvEv_error (g e : Nat) : srvEv g (.error e) = g := rfl
@[scoped simp] theorem srvEv_close (g : Nat) : srvEv g .close = g := rfl
@[scoped simp] theorem srvEv_released (g id : Nat) : srvEv g (.released id) = g := rfl
@[scoped simp] theorem srvEv_tr (g : Nat) (k : Timer) (ms : Nat) : srvEv g (.timerReset k ms) = g := rfl
@[scoped simp] theorem srvEv_tc (g : Nat) (k : Timer) : srvEv g (.timerCancel k) = g := rfl

theorem srvEv_send_quiet {q : Pkt} (g : Nat) (r : Option Nat) (h : loud q = false) : srvEv g (.send q r) = g := by
  show (if q.kind = .connack ∧ q.rc = some 0 then
      (match Mon.findProp q pSKA with | some v => v * 1000 * 3 / 2 | none => g) else g) = g
  split
  · rename_i hc
    cases hf : Mon.findProp q pSKA with
    | none => rfl
    | some v => simp [loud, hc.1, hc.2, hf] at h
  · rfl

theorem srvEv_send_connack {q : Pkt} (g : Nat) (r : Option Nat) (hk : q.kind = .connack) (hrc : q.rc = some 0) :
    srvEv g (.send q r) = match Mon.findProp q pSKA with | some v => v * 1000 * 3 / 2 | none => g :=
  if_pos ⟨hk, hrc⟩

theorem srvEv_recv_other {q : Pkt} (g : Nat) (h : q.kind ≠ .connect) : srvEv g (.recv q) = g := if_neg h

theorem srvEv_recv_connect {q : Pkt} (g : Nat) (h : q.kind = .connect) :
    srvEv g (.recv q) = q.keepAlive * 1000 * 3 / 2 := if_pos h

@[scoped simp] theorem loud_mkV3Connack (rc : Nat) : loud (mkV3Connack rc) = false := by
  simp [loud, mkV3Connack, Mon.findProp]
@[scoped simp] theorem loud_mkV5Connack (rc : Nat) : loud (mkV5Connack rc) = false := by
  simp [loud, mkV5Connack, Mon.findProp]

def Quiet (e : Ev) : Prop := ∀ g, srvEv g e = g

theorem Quiet.send {q : Pkt} (h : loud q = false) (r : Option Nat) : Quiet (.send q r) :=
  fun g => srvEv_send_quiet g r h

theorem Quiet.recv {q : Pkt} (h : q.kind ≠ .connect) : Quiet (.recv q) := fun g => srvEv_recv_other g h

theorem quiet_base : Emits.Base Quiet where
  silent e hs hr := by
    cases e with
    | send => exact absurd rfl hs
    | recv => exact absurd rfl hr
    | _ => exact fun _ => rfl
  reply _ r h := .send (loud_kind h.kind_ne) r

theorem srvStep_quiet (l : List Ev) (hl : ∀ e ∈ l, Quiet e) (g : Nat) : srvStep g l = g := by
  induction l generalizing g with
  | nil => rfl
  | cons x l ih => rw [srvStep_cons, hl x List.mem_cons_self, ih (fun y hy => hl y (List.mem_cons_of_mem _ hy))]

theorem srvStep_emits {c c' : C} (h : Emits Quiet c c') (g0 : Nat) : srvStep g0 c'.ev = srvStep g0 c.ev := by
  obtain ⟨l, e, hl⟩ := h
  rw [e, srvStep_append, srvStep_quiet l hl]

theorem _root_.MqttVerif.Conn.Appends.quiet {T : List EvTag} {c c' : C} (h : Appends T c c')
    (hT : ∀ t ∈ T, t ≠ .send ∧ t ≠ .recv := by decide) : Emits Quiet c c' := h.emits quiet_base hT

def K (g0 : Nat) (c : C) : Bool × Nat × List (Nat × Pkt) × Nat :=
  (c.s.isClient, c.s.recvTimeoutMs, c.s.store, srvStep g0 c.ev)

theorem K_push (g0 : Nat) (c : C) (e : Ev) :
    K g0 (c.push e) = (c.s.isClient, c.s.recvTimeoutMs, c.s.store, srvEv (srvStep g0 c.ev) e) := by
  simp [K, C.push]

@[scoped simp] theorem K_setPanic (g0 : Nat) (c : C) (x : String) : K g0 (c.setPanic x) = K g0 c := rfl
@[scoped simp] theorem K_push_error (g0 : Nat) (c : C) (e : Nat) : K g0 (c.push (.error e)) = K g0 c := by
  rw [K_push]; rfl

theorem K_eq_of (g0 : Nat) {c c' : C} (h1 : c'.s.isClient = c.s.isClient)
    (h2 : c'.s.recvTimeoutMs = c.s.recvTimeoutMs) (h3 : c'.s.store = c.s.store) (h4 : c'.ev = c.ev) :
    K g0 c' = K g0 c := by
  simp [K, h1, h2, h3, h4]

@[scoped simp] theorem push_ev (c : C) (e : Ev) : (c.push e).ev = c.ev ++ [e] := rfl
@[scoped simp] theorem err_ev (c : C) (e : Nat) : (c.err e).ev = c.ev ++ [.error e] := rfl
@[scoped simp] theorem err_s (c : C) (e : Nat) : (c.err e).s = c.s := rfl
@[scoped simp] theorem setPanic_ev (c : C) (x : String) : (c.setPanic x).ev = c.ev := rfl

def K3 (g0 : Nat) (c : C) : Bool × Nat × Nat := (c.s.isClient, c.s.recvTimeoutMs, srvStep g0 c.ev)

def kview (s : St) : Bool × Nat := (s.isClient, s.recvTimeoutMs)

theorem K3.of_emits (g0 : Nat) {c c' : C} (hs : kview c'.s = kview c.s) (he : Emits Quiet c c') :
    K3 g0 c' = K3 g0 c := by
  have h1 : c'.s.isClient = c.s.isClient := congrArg (·.1) hs
  have h2 : c'.s.recvTimeoutMs = c.s.recvTimeoutMs := congrArg (·.2) hs
  unfold K3; rw [h1, h2, srvStep_emits he]

theorem K3.push (g0 : Nat) (c : C) {e : Ev} (he : Quiet e) : K3 g0 (c.push e) = K3 g0 c :=
  K3.of_emits g0 rfl ((Emits.refl c).push he)

theorem K3.err (g0 : Nat) (c : C) (e : Nat) : K3 g0 (c.err e) = K3 g0 c :=
  K3.of_emits g0 rfl ((Emits.refl c).err quiet_base e)

end MqttVerif.Conn.SrvMs
