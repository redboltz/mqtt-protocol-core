import MqttVerif.Conn.Lemmas.NoPanicRecv
import MqttVerif.Conn.Lemmas.NoPanicRange
/-!
# C05 helpers — the remaining public calls, the contract `Legal`, and `step` keeps `Good`
-/
namespace MqttVerif.Conn
open MqttVerif

/-- `Good` without the ownership part (which `notify_closed` breaks and re-establishes) -/
def GoodNS (s : St) : Prop :=
  PidWf s.pidMan ∧ TasOptInv s.tas ∧ Credit s.sendMax ∧ Framing.Inv s.pb ∧ s.panic = none ∧
  VerTimer s.ver s.status s.sendSet s.recvSet s.respSet

theorem Good.ns {s : St} (h : Good s) : GoodNS s :=
  ⟨h.1.1, h.1.2.2.1, h.1.2.2.2.1, h.1.2.2.2.2.1, h.1.2.2.2.2.2, h.2⟩

theorem VerTimer.disconnect {v : Nat} {st : Status} {a b d : Bool} (h : VerTimer v st a b d) :
    VerTimer v .disconnected a b d := by
  unfold VerTimer at *
  rcases h with e | e | e
  · exact Or.inl e
  · exact Or.inr (Or.inl e)
  · exact Or.inr (Or.inr ⟨e.1, rfl, e.2.2⟩)

theorem VerTimer.clear {v : Nat} {st : Status} {a b d : Bool} (h : VerTimer v st a b d) :
    VerTimer v st false false false := by
  unfold VerTimer at *
  rcases h with e | e | e
  · exact Or.inl e
  · exact Or.inr (Or.inl e)
  · exact Or.inr (Or.inr ⟨e.1, e.2.1, rfl, rfl, rfl⟩)

theorem notifyClosed_good {c : C} (h : Good c.s) : Good (notifyClosed c).s := by
  obtain ⟨hp, hn⟩ := notifyClosed_pid h.pid
  have hs : StoreInv c.s.ver (if c.s.needStore then c.s.store else []) (if c.s.needStore then c.s.puback else [])
      (if c.s.needStore then c.s.pubrec else []) (if c.s.needStore then c.s.pubcomp else []) := by
    cases c.s.needStore
    · exact StoreInv.empty _
    · exact h.store
  rw [Fp.notifyClosed_s_eq]
  exact ⟨⟨hp, hs, TasOptInv.none, h.1.2.2.2.1, Framing.inv_reset, hn.trans h.np⟩, h.2.disconnect.clear⟩

def timerFlag (s : St) : Timer → Bool
  | .pingreqSend => s.sendSet | .pingreqRecv => s.recvSet | .pingrespRecv => s.respSet

/-- a timer that is armed implies a determined version (the `unreachable!` **site**) -/
theorem Good.ver_of_flag {s : St} (h : Good s) {k : Timer} (hk : timerFlag s k = true) : s.ver ≠ 0 := by
  intro h0
  have := h.2
  unfold VerTimer at this
  rcases this with e | e | e
  · omega
  · omega
  · cases k <;> simp_all [timerFlag]

/-- **site `unreachable!()`**: with the version determined, the expiry sends a PINGREQ or gives the connection up -/
theorem notifyTimerFired_good {c : C} {k : Timer} (h : Good c.s) (hk : timerFlag c.s k = true) :
    Good (notifyTimerFired c k).s := by
  have hg := h.goodV (h.ver_of_flag hk)
  have hv := hg.ver
  have hver : (notifyTimerFired c k).s.ver = c.s.ver := (Fp.notifyTimerFired_fp c k).view (·.ver)
  refine (GoodV.of_sane ?_ ?_ (hver ▸ hv)).good
  · have h0 : Sane (Fp.unsetTimer c k) := hg.sane.of_fp (Fp.unsetTimer_fp c k)
    exact Fp.notifyTimerFired_cases c k (fun _ _ _ _ _ => h0.of_fp (Fp.psPingreq_fp _ _)) (fun _ _ => h0)
      (fun _ _ _ => h0.of_fp (Fp.v5DisconnectOrClose_fp _ _)) (fun _ _ => h0)
      (fun _ h4 h5 => absurd hv (not_or.2 ⟨h4, h5⟩))
  · rw [Fp.notifyTimerFired_s]
    exact hg.store

theorem setPingreqSendInterval_good {c : C} (h : Good c.s) (d : Option Nat) :
    Good (setPingreqSendInterval c d).s := by
  unfold setPingreqSendInterval
  dsimp only
  split
  · exact h
  · split
    · split
      · refine ⟨h.1, ?_⟩
        have := h.2; unfold VerTimer at *
        rcases this with e | e | e
        · exact Or.inl e
        · exact Or.inr (Or.inl e)
        · exact Or.inr (Or.inr ⟨e.1, e.2.1, rfl, e.2.2.2⟩)
      · exact h
    · split
      · rename_i hs
        refine ⟨h.1, ?_⟩
        have := h.2; unfold VerTimer at *
        rcases this with e | e | e
        · exact Or.inl e
        · exact Or.inr (Or.inl e)
        · have := e.2.1; simp_all
      · exact h

theorem eraseStoredPublish_good {c : C} (h : Good c.s) (id : Nat) : Good (eraseStoredPublish c id).s := by
  unfold eraseStoredPublish
  dsimp only
  split
  · apply releaseIfUsed_good
    apply decSendCount_good
    exact h.setStore (h.store.refuse id)
  · exact h

/-- contract of `restore_packets` for one packet (a QoS 0 PUBLISH is skipped) -/
def RestoreOne (s : St) (p : Pkt) : Prop :=
  (p.kind = .publish ∧ p.qos = 0) ∨
  (p.ver = s.ver ∧ s.ver ≠ 0 ∧ (p.kind = .publish ∨ p.kind = .pubrel) ∧ IdFresh s (p.pid.getD 0))

theorem restoreOne_good {c : C} {p : Pkt} (h : Good c.s) (hr : RestoreOne c.s p) :
    Good (restoreOne c p).s := by
  have hp : PidWf (register c (p.pid.getD 0)).2.s.pidMan := h.pid.useValue _
  refine Fp.restoreOne_cases (Q := fun r => Good r.s) c p (fun _ => h) (fun _ _ => h.setPid hp) (fun hs _ => ?_)
  obtain ⟨hv, hne, hk, hf⟩ := hr.resolve_left hs
  rw [Fp.restored_s]
  refine (h.setPid hp).setStore (h.store.grow hf.1 hf.2.1 hf.2.2 ?_)
  by_cases hh : storeHas (p.pid.getD 0) c.s.store = true
  · exact .inl (if_pos hh)
  · exact .inr ⟨p, if_neg hh, hv, hne, hk, rfl⟩

def RestoreOk (c : C) : List Pkt → Prop
  | [] => True
  | p :: ps => RestoreOne c.s p ∧ RestoreOk (restoreOne c p) ps

theorem restorePackets_good {c : C} (h : Good c.s) (ps : List Pkt) (hr : RestoreOk c ps) :
    Good (restorePackets c ps).s := by
  induction ps generalizing c with
  | nil => exact h
  | cons p rest ih =>
    simp only [restorePackets]
    exact ih (restoreOne_good h hr.1) hr.2

/-- **the range invariant**: the packet-id allocator manages a sub-range of `[1, u32::MAX]`
    and every stored packet's identifier lies in the allocator's range.  With "stored
    identifiers are pairwise distinct" (`StoreInv`) it bounds the number of stored packets
    (`StoreRange.headroom`): the `u32` counter `publish_send_count` cannot overflow in
    `send_stored`. -/
def StoreRange (s : St) : Prop :=
  1 ≤ s.pidMan.lowest ∧ s.pidMan.highest ≤ 4294967295 ∧
  ∀ x ∈ s.store, s.pidMan.lowest ≤ x.1 ∧ x.1 ≤ s.pidMan.highest

theorem StoreRange.sr {s : St} (h : StoreRange s) (cfg : Cfg) :
    Rng.SR s.pidMan.lowest s.pidMan.highest (Rng.K { cfg := cfg, s := s }) := ⟨rfl, rfl, h.2.2⟩

/-- **pigeonhole**: at most `highest ≤ u32::MAX` packets are stored -/
theorem StoreRange.headroom {s : St} (h : Good s) (hr : StoreRange s) : Headroom s := by
  have hn := h.store.2.2.2.2
  have := Pigeon.keys_length_le (m := s.pidMan.highest) hn (fun x hx => by
    have := hr.2.2 x hx
    have := hr.1
    omega)
  unfold Headroom
  have := hr.2.1
  omega

theorem StoreRange.length_le {s : St} (h : Good s) (hr : StoreRange s) (hl : s.pidMan.lowest = 1) :
    s.store.length ≤ s.pidMan.highest :=
  Pigeon.keys_length_le h.store.2.2.2.2 (fun x hx => by have := hr.2.2 x hx; omega)

theorem step_range {cfg : Cfg} {s : St} (h : Good s) (hr : StoreRange s) (op : Op) :
    StoreRange (step cfg s op).s := by
  obtain ⟨e1, e2, e3⟩ := Rng.sr_step h.pid (hr.sr cfg) op
  simp only [Rng.K] at e1 e2 e3
  refine ⟨by rw [e1]; exact hr.1, by rw [e2]; exact hr.2.1, ?_⟩
  rw [e1, e2]; exact e3

/-- **contract-respecting local calls, arbitrary peer input.**
    * `send p`: `SendOk` (a v3.1.1/v5.0 packet; PUBLISH topic without wildcard; a QoS>0 PUBLISH
      carries an identifier; the identifier of a QoS>0 PUBLISH / PUBREL awaits no response);
    * `recv inp parse`: **every** `inp`, every parser whose successful results are well formed;
    * `timer k`: the timer is armed;
    * `restorePackets ps`: `RestoreOk`;
    * `release id`: no stored packet carries `id` (since fix ba1a812 `release_packet_id` removes the
      identifier from the wait sets `puback` / `pubrec` but not its packet from the store: a stored
      packet would be left without wait-set entry, and a later stored PUBLISH with the re-acquired
      identifier hits `store.add().unwrap()` — `Props/C05.lean`, `C05_release_stored_then_reuse_panics`);
    * every other call (closed, options, acquire / register / erase of ANY id,
      restoreHandled): unrestricted. -/
def Legal (cfg : Cfg) (s : St) : Op → Prop
  | .send p => SendOk s p
  | .recv _ parse => ParserOk parse
  | .timer k => timerFlag s k = true
  | .restorePackets ps => RestoreOk { cfg := cfg, s := s } ps
  | .release id => storeHas id s.store = false
  | _ => True

/-- `release_packet_id` (fix ba1a812) of an identifier no stored packet carries: the wait sets
    shrink, every stored packet keeps its entry -/
theorem releasePacketId_good {c : C} (h : Good c.s) (id : Nat) (hst : storeHas id c.s.store = false) :
    Good (releasePacketId c id).s := by
  have h1 := releaseIfUsed_good h id
  obtain ⟨a, ha, e⟩ := releaseIfUsed_s h.pid id
  have hs : (releaseIfUsed c id).s.store = c.s.store := by rw [e]
  refine releasePacketId_ind (Q := fun c' => Good c'.s) c id h1 (fun _ => ?_) (fun h2 => decSendCount_good h2)
  have hst' : ∀ q, (id, q) ∉ (releaseIfUsed c id).s.store := by rw [hs]; exact storeHas_false.1 hst
  have hsi : StoreInv (releaseIfUsed c id).s.ver (releaseIfUsed c id).s.store
      (del id (releaseIfUsed c id).s.puback) (del id (releaseIfUsed c id).s.pubrec) (releaseIfUsed c id).s.pubcomp :=
    h1.store.shrink (List.Sublist.refl _) (fun i hi => (mem_del.1 hi).1) (fun i hi => (mem_del.1 hi).1)
      (fun i hi => hi) (fun i q hm => by
        have hne : i ≠ id := by rintro rfl; exact hst' q hm
        exact ⟨fun hi => mem_del.2 ⟨hi, hne⟩, fun hi => mem_del.2 ⟨hi, hne⟩, fun hi => hi⟩)
  exact ⟨⟨h1.1.1, hsi, h1.1.2.2⟩, h1.2⟩

theorem step_good {cfg : Cfg} {s : St} {op : Op} (h : Good s) (hr : StoreRange s) (hl : Legal cfg s op) :
    Good (step cfg s op).s := by
  have hb := hr.headroom h
  cases op with
  | send p => exact send_good (c := { cfg := cfg, s := s }) h hb hl
  | recv inp parse => exact recv_good (c := { cfg := cfg, s := s }) h hb hl
  | timer k => exact notifyTimerFired_good (c := { cfg := cfg, s := s }) h hl
  | closed => exact notifyClosed_good (c := { cfg := cfg, s := s }) h
  | setInterval d => exact setPingreqSendInterval_good (c := { cfg := cfg, s := s }) h d
  | setFlag f b => cases f <;> exact h
  | setRespTimeout ms => exact h
  | acquire => exact h.setPid (h.pid.allocate)
  | register id => exact h.setPid (h.pid.useValue id)
  | release id => exact releasePacketId_good (c := { cfg := cfg, s := s }) h id hl
  | erase id => exact eraseStoredPublish_good (c := { cfg := cfg, s := s }) h id
  | restoreHandled ids => exact h
  | restorePackets ps => exact restorePackets_good (c := { cfg := cfg, s := s }) h ps hl

theorem idMax_pos {cfg : Cfg} (h : 1 ≤ cfg.pw) : 1 ≤ cfg.idMax := by
  unfold Cfg.idMax
  have : 256 ^ 1 ≤ 256 ^ cfg.pw := Nat.pow_le_pow_right (by omega) h
  omega

theorem init_good {cfg : Cfg} {ver : Nat} (hpw : 1 ≤ cfg.pw) (hv : ver = 0 ∨ ver = 4 ∨ ver = 5) :
    Good (St.init cfg ver) := by
  refine ⟨⟨PidWf.new (idMax_pos hpw) (Nat.le_refl _), StoreInv.empty _, TasOptInv.none, Credit.none,
    Framing.inv_reset, rfl⟩, ?_⟩
  unfold VerTimer
  rcases hv with e | e | e
  · exact Or.inr (Or.inr ⟨e, rfl, rfl, rfl, rfl⟩)
  · exact Or.inl e
  · exact Or.inr (Or.inl e)

/-- the identifier range of a `u16` / `u32` (any ≤ 4-byte) identifier type fits the counter -/
theorem init_range {cfg : Cfg} {ver : Nat} (h4 : cfg.pw ≤ 4) :
    StoreRange (St.init cfg ver) :=
  ⟨Nat.le_refl 1, Pigeon.idMax_le_u32 h4, by simp [St.init]⟩

def LegalSeq (cfg : Cfg) : St → List Op → Prop
  | _, [] => True
  | s, op :: ops => Legal cfg s op ∧ LegalSeq cfg (step cfg s op).s ops

theorem run_good {cfg : Cfg} {s : St} (h : Good s) (hr : StoreRange s) (ops : List Op)
    (hl : LegalSeq cfg s ops) : Good (run cfg s ops) ∧ StoreRange (run cfg s ops) := by
  induction ops generalizing s with
  | nil => exact ⟨h, hr⟩
  | cons op ops ih => exact ih (step_good h hr hl.1) (step_range h hr op) hl.2

end MqttVerif.Conn
