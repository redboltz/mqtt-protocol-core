import MqttVerif.Conn.Lemmas.PidsEff
/-!
# C08 — `Eff` for the receive side and the acknowledgements that complete an exchange; the calls that take
identifiers (`Grow`), and `Eff` / `Grow` for `step`
-/
namespace MqttVerif.Conn
open MqttVerif

/-- `clearStoreRelated` runs in `prV3Connect` / `prV5Connect`: accepted CONNECT, clean start -/
def prConnectClears (c : C) (parsed : Except Nat Pkt) : Bool :=
  decide (c.s.status = .disconnected) && (match parsed with | .ok p => p.clean | .error _ => false)

theorem recvConnect_eff {c c' : C} {parsed : Except Nat Pkt} (h : Wf c) (r : IdRun (IdPrim.recvConnect c.s parsed) c c') :
    Eff (prConnectClears c parsed) c c' := by
  unfold IdPrim.recvConnect at r
  cases parsed with
  | ok p => exact (r.sess h (all_guard (connect_tame _))).cast (by rw [any_guard, connect_clears]; rfl)
  | error e => exact (r.sess h (all_guard rfl)).cast (by rw [any_guard]; rfl)

theorem prV3Connect_eff {c : C} (h : Wf c) (parsed : Except Nat Pkt) :
    Eff (prConnectClears c parsed) c (prV3Connect c parsed) := recvConnect_eff h (Fp.prV3Connect_run c parsed)

theorem prV5Connect_eff {c : C} (h : Wf c) (parsed : Except Nat Pkt) :
    Eff (prConnectClears c parsed) c (prV5Connect c parsed) := recvConnect_eff h (Fp.prV5Connect_run c parsed)

/-- `clearStoreRelated` runs in `prV3Connack`: accepted CONNACK(success) without session present -/
def prV3ConnackClears (c : C) (parsed : Except Nat Pkt) : Bool :=
  decide (c.s.status ≠ .connected) &&
    (match parsed with | .ok p => decide (p.rc = some 0) && !p.sp | .error _ => false)

/-- `clearStoreRelated` runs in `prV5Connack`: accepted CONNACK(success) without session
    present, or carrying Session Expiry Interval 0 -/
def prV5ConnackClears (c : C) (parsed : Except Nat Pkt) : Bool :=
  decide (c.s.status ≠ .connected) &&
    (match parsed with
     | .ok p => decide (p.rc = some 0) && (p.props.any seiZero || !p.sp)
     | .error _ => false)

/-- a Session Expiry Interval of 0 among the properties (`cl`) has cleared the session before it is resumed or
    cleared -/
theorem session5_tame (cl sp : Bool) (pw mps : Nat) (st : List (Nat × Pkt)) :
    ((if cl then [IdPrim.clearSession] else []) ++ if sp then IdPrim.resend pw mps st else [.clearSession]).all
      (fun a => a.mild || a.clears) = true := by
  cases cl
  · exact session_tame ..
  · exact session_tame ..

theorem session5_clears (cl sp : Bool) (pw mps : Nat) (st : List (Nat × Pkt)) :
    ((if cl then [IdPrim.clearSession] else []) ++ if sp then IdPrim.resend pw mps st else [.clearSession]).any
      IdPrim.clears = (cl || !sp) := by
  cases cl
  · exact session_clears ..
  · rfl

theorem recvConnack_eff {c c' : C} {parsed : Except Nat Pkt} {cleared : Pkt → Bool} {mps : Nat} (h : Wf c) :
    IdRun (IdPrim.recvConnack c.cfg c.s parsed cleared mps) c c' →
    Eff (decide (c.s.status ≠ .connected) &&
      (match parsed with | .ok p => decide (p.rc = some 0) && (cleared p || !p.sp) | .error _ => false)) c c' := by
  intro r
  unfold IdPrim.recvConnack at r
  cases parsed with
  | ok p => exact (r.sess h (all_guard (all_guard (session5_tame ..)))).cast (by rw [any_guard, any_guard, session5_clears])
  | error e => exact (r.sess h (all_guard rfl)).cast (by rw [any_guard]; rfl)

theorem prV3Connack_eff {c : C} (h : Wf c) (parsed : Except Nat Pkt) :
    Eff (prV3ConnackClears c parsed) c (prV3Connack c parsed) := recvConnack_eff h (Fp.prV3Connack_run c parsed)

theorem prV5Connack_eff {c : C} (h : Wf c) (parsed : Except Nat Pkt) :
    Eff (prV5ConnackClears c parsed) c (prV5Connack c parsed) := recvConnack_eff h (Fp.prV5Connack_run c parsed)

/-! ## acknowledgements

An acknowledgement that completes an exchange (its identifier is in the wait set): the wait-set entry and the
stored packet go (`q1`), the identifier is released, the rest is quiet (`q2`): what the call announces follows. -/

def Releases (c c' : C) (id : Nat) : Prop := ∃ c1, Quiet c c1 ∧ Quiet (releaseIfUsed c1 id) c'

theorem Releases.rel {c c' : C} {id : Nat} (r : Releases c c' id) :
    Mon.releasedIds c'.ev = Mon.releasedIds c.ev ++ (if isUsed c.s id = true then [id] else []) := by
  obtain ⟨c1, q1, q2⟩ := r
  rw [q2.2.2, releaseIfUsed_rel, q1.2.2, isUsed_congr q1.2.1]

theorem Quiet.push_recv {c c' : C} (q : Quiet c c') (p : Pkt) : Quiet c (c'.push (.recv p)) :=
  q.push (fun h => nomatch h)

theorem Releases.ackIn {c c1 : C} {p : Pkt} {set : List Nat} {taken : Pkt → Nat → C} (hm : p.pid.getD 0 ∈ set)
    (q2 : Quiet (releaseIfUsed c1 (p.pid.getD 0)) (taken p (p.pid.getD 0))) (q1 : Quiet c c1) :
    Releases c (Fp.ackIn c (.ok p) set taken) (p.pid.getD 0) :=
  Fp.ackIn_awaited hm taken ▸ ⟨c1, q1, Quiet.push_recv (q2.trans (refreshPingreqRecv_q _)) p⟩

theorem pubDone_q (c : C) (p : Pkt) (id : Nat) : Quiet (releaseIfUsed c id) (Fp.pubDone c p id) :=
  Fp.ite_both (decSendCount_q _) (.refl _)

theorem prPuback_ok {c : C} {p : Pkt} (hm : p.pid.getD 0 ∈ c.s.puback) :
    Releases c (prPuback c (.ok p)) (p.pid.getD 0) :=
  Fp.prPuback_eq c _ ▸ Releases.ackIn hm (pubDone_q ..) .of_eq

theorem prPubcomp_ok {c : C} {p : Pkt} (hm : p.pid.getD 0 ∈ c.s.pubcomp) :
    Releases c (prPubcomp c (.ok p)) (p.pid.getD 0) :=
  Fp.prPubcomp_eq c _ ▸ Releases.ackIn hm (pubDone_q ..) .of_eq

theorem prSubUnsuback_ok {c : C} {isSub : Bool} {p : Pkt}
    (hm : p.pid.getD 0 ∈ if isSub = true then c.s.suback else c.s.unsuback) :
    Releases c (prSubUnsuback c isSub (.ok p)) (p.pid.getD 0) := by
  rw [Fp.prSubUnsuback_eq]
  refine Releases.ackIn hm (.refl _) ?_
  cases isSub <;> exact .of_eq

/-- a PUBREC that reports failure ends the exchange -/
theorem prPubrec_fail {c : C} {p : Pkt} (hm : p.pid.getD 0 ∈ c.s.pubrec)
    (hf : ¬ (p.ver = 4 ∨ p.rc = none ∨ p.rc = some 0)) : Releases c (prPubrec c (.ok p)) (p.pid.getD 0) := by
  rw [Fp.prPubrec_eq]
  apply Releases.ackIn hm
  · rw [Fp.pubrecDone, if_neg hf]
    exact decSendCount_q _
  · exact .of_eq

/-! ## dispatch -/
def dispatchRecvClears (c : C) (t : Nat) (parsed : Except Nat Pkt) : Bool :=
  if t = 1 then prConnectClears c parsed
  else if t = 2 then (if c.s.ver = 4 then prV3ConnackClears c parsed else prV5ConnackClears c parsed)
  else false

theorem dispatchRecv_eff {c : C} (h : Wf c) (t : Nat) (parsed : Except Nat Pkt) :
    Eff (dispatchRecvClears c t parsed) c (dispatchRecv c t parsed) := by
  unfold dispatchRecvClears
  by_cases h1 : t = 1
  · subst h1
    rw [if_pos rfl]
    exact Fp.ite_both (prV3Connect_eff h _) (prV5Connect_eff h _)
  by_cases h2 : t = 2
  · subst h2
    rw [if_neg h1, if_pos rfl]
    show Eff _ c (if c.s.ver = 4 then prV3Connack c parsed else prV5Connack c parsed)
    by_cases hv : c.s.ver = 4
    · rw [if_pos hv, if_pos hv]
      exact prV3Connack_eff h _
    · rw [if_neg hv, if_neg hv]
      exact prV5Connack_eff h _
  rw [if_neg h1, if_neg h2]
  obtain ⟨l, ho, hr⟩ := Fp.dispatchRecv_ids c t parsed
  exact hr.eff h (ho.mild h1 h2)

def processRecvPacketClears (c : C) (fh : Nat) (data : List Nat) (parse : Nat → Except Nat Pkt) : Bool :=
  if totalSize data.length > c.s.mpsRecv then false
  else if !canReceive c.cfg c.s (fh / 16) then false
  else if c.s.ver = 0 then
    if fh / 16 = 1 then
      if data.length < 7 then false
      else if data.getD 6 0 = 4 then prConnectClears { c with s := { c.s with ver := 4 } } (parse 4)
      else if data.getD 6 0 = 5 then prConnectClears { c with s := { c.s with ver := 5 } } (parse 5)
      else false
    else false
  else dispatchRecvClears c (fh / 16) (parse c.s.ver)

theorem processRecvPacket_eff {c : C} (h : Wf c) (fh : Nat) (data : List Nat) (parse : Nat → Except Nat Pkt) :
    Eff (processRecvPacketClears c fh data parse) c (processRecvPacket c fh data parse) := by
  have key := @Fp.ite_rel Bool C (fun b r => Eff b c r)
  unfold processRecvPacket processRecvPacketClears
  refine key (fun _ => Eff.of_quiet h ((v5DisconnectOrClose_q c _).err _)) fun _ => ?_
  refine key (fun _ => Eff.refused h _) fun _ => ?_
  refine key (fun _ => ?_) fun _ => dispatchRecv_eff h _ _
  refine key (fun _ => ?_) fun _ => Eff.refused h _
  refine key (fun _ => Eff.refused h _) fun _ => ?_
  refine key (fun _ => Eff.via h (prV3Connect_eff · _) .of_eq) fun _ => ?_
  exact key (fun _ => Eff.via h (prV5Connect_eff · _) .of_eq) fun _ => Eff.refused h _

/-- `clearStoreRelated` runs in `recv c inp parse` -/
def recvClears (c : C) (inp : List Nat) (parse : Nat → Nat → List Nat → Except Nat Pkt) : Bool :=
  match Framing.feed c.s.pb inp with
  | (pb, some (.complete fh data), _) =>
    processRecvPacketClears { c with s := { c.s with pb := pb } } fh data (fun v => parse v fh data)
  | _ => false

theorem recv_eff {c : C} (h : Wf c) (inp : List Nat) (parse : Nat → Nat → List Nat → Except Nat Pkt) :
    Eff (recvClears c inp parse) c (recv c inp parse).1 := by
  unfold recv recvClears
  obtain ⟨pb, out, rest⟩ := Framing.feed c.s.pb inp
  cases out with
  | none => exact Eff.of_quiet h .of_eq
  | some o =>
    cases o with
    | complete fh data => exact Eff.via h (processRecvPacket_eff · _ _ _) .of_eq
    | error => exact Eff.of_quiet h (Quiet.err (Quiet.trans .of_eq (by quiet_tac)) _)

/-- calls that only take ids: nothing is announced, nothing becomes free -/
structure Grow (c c' : C) : Prop where
  cfg : c'.cfg = c.cfg
  wf : Wf c'
  rel : Mon.releasedIds c'.ev = Mon.releasedIds c.ev
  mono : ∀ id, isUsed c.s id = true → isUsed c'.s id = true

theorem Grow.refl {c : C} (h : Wf c) : Grow c c := ⟨rfl, h, rfl, fun _ h => h⟩
theorem Grow.trans {a b c : C} (g1 : Grow a b) (g2 : Grow b c) : Grow a c :=
  ⟨g2.cfg.trans g1.cfg, g2.wf, g2.rel.trans g1.rel, fun id h => g2.mono id (g1.mono id h)⟩
theorem Grow.of_quiet {c c' : C} (h : Wf c) (q : Quiet c c') : Grow c c' :=
  ⟨q.1, h.quiet q, q.2.2, fun id hu => by rw [isUsed_congr q.2.1]; exact hu⟩

theorem acquire_grow {c : C} (h : Wf c) : Grow c (acquire c).2 :=
  ⟨rfl, ⟨h.1, h.2.w.keep (Alloc.allocate_bounds _) h.2.w.wf.allocate⟩, rfl, fun _ hu => h.2.w.wf.allocate_mono hu⟩

theorem register_grow {c : C} (h : Wf c) (id : Nat) : Grow c (register c id).2 := by
  obtain ⟨_, w, u⟩ := h.2.w.use id
  exact ⟨rfl, ⟨h.1, w⟩, rfl, fun x hx => (u x).2 (Or.inl hx)⟩

theorem restoreOne_grow {c : C} (h : Wf c) (p : Pkt) : Grow c (restoreOne c p) := by
  unfold restoreOne
  have g := register_grow h (p.pid.getD 0)
  exact Fp.ite_both (Grow.refl h)
    (Fp.ite_both (g.trans (Grow.of_quiet g.wf (by quiet_tac))) g)

theorem restorePackets_grow (ps : List Pkt) : ∀ c, Wf c → Grow c (restorePackets c ps) := by
  induction ps with
  | nil => intro c h; exact Grow.refl h
  | cons p rest ih =>
    intro c h
    rw [restorePackets]
    exact (restoreOne_grow h p).trans (ih _ (restoreOne_grow h p).wf)

/-- the call runs `clearStoreRelated` (`Alloc.clear`): a new session starts.  Exactly:
    * `send` of a CONNECT with clean start that is accepted (version and role match, v5: size
      within the limit, status `disconnected`);
    * `send` of a CONNACK with reason code 0 and session present = false that is accepted
      (version and role match, v5: size within the limit, status `connecting`) — the new session
      started by the CONNACK we sent (fix 10ee029);
    * `recv` of a frame that is complete, not over the receive maximum packet size, of a
      receivable type, and is
      - a CONNECT (status `disconnected`) parsed successfully with clean start, or
      - a CONNACK (status not `connected`) parsed successfully with reason code 0 and
        session present = false, or (v5.0) carrying Session Expiry Interval = 0. -/
def startsNewSession (cfg : Cfg) (s : St) (op : Op) : Bool :=
  match op with
  | .send p => sendClears { cfg := cfg, s := s } p
  | .recv inp parse => recvClears { cfg := cfg, s := s } inp parse
  | _ => false

def takesIds : Op → Bool
  | .acquire | .register _ | .restorePackets _ => true
  | _ => false

theorem StepOut.mild {cfg : Cfg} {s : St} {mps : Nat} {op : Op} {l : List IdPrim} (ho : StepOut cfg s mps op l)
    (hg : takesIds op = false) (hs : ∀ p, op ≠ .send p) (hr : ∀ inp parse, op ≠ .recv inp parse) :
    l.all IdPrim.mild = true := by
  cases ho with
  | send p => exact absurd rfl (hs p)
  | recv inp parse => exact absurd rfl (hr inp parse)
  | closed => exact IdPrim.close_mild s
  | acquire | register | restore => exact nomatch hg
  | _ => rfl

theorem step_eff {cfg : Cfg} {s : St} (h : Wf { cfg := cfg, s := s }) (op : Op) (hg : takesIds op = false) :
    Eff (startsNewSession cfg s op) { cfg := cfg, s := s } (step cfg s op) := by
  by_cases hs : ∃ p, op = .send p
  · obtain ⟨p, rfl⟩ := hs
    exact send_eff h p
  by_cases hr : ∃ inp parse, op = .recv inp parse
  · obtain ⟨inp, parse, rfl⟩ := hr
    exact recv_eff h inp parse
  have hs : ∀ p, op ≠ .send p := fun p e => hs ⟨p, e⟩
  have hr : ∀ inp parse, op ≠ .recv inp parse := fun inp parse e => hr ⟨inp, parse, e⟩
  obtain ⟨l, ho, hi⟩ := Fp.step_ids cfg s op
  have hb : startsNewSession cfg s op = false := by
    cases op with
    | send p => exact absurd rfl (hs p)
    | recv inp parse => exact absurd rfl (hr inp parse)
    | _ => rfl
  rw [hb]
  exact hi.eff h (ho.mild hg hs hr)

theorem step_grow {cfg : Cfg} {s : St} (h : Wf { cfg := cfg, s := s }) (op : Op) (hg : takesIds op = true) :
    Grow { cfg := cfg, s := s } (step cfg s op) := by
  cases op with
  | acquire => exact acquire_grow h
  | register id => exact register_grow h id
  | restorePackets ps => exact restorePackets_grow ps _ h
  | _ => simp [takesIds] at hg

theorem step_wf {cfg : Cfg} {s : St} (h : Wf { cfg := cfg, s := s }) (op : Op) : Wf (step cfg s op) := by
  cases hg : takesIds op with
  | false => exact (step_eff h op hg).wf
  | true => exact (step_grow h op hg).wf

theorem PidWf.step {cfg : Cfg} {s : St} (h : 1 ≤ cfg.idMax) (w : PidWf cfg s) (op : Op) :
    PidWf cfg (step cfg s op).s := by
  have w' := (step_wf (cfg := cfg) ⟨h, w⟩ op).2
  rwa [Fp.step_cfg] at w'

theorem PidWf.reachable {cfg : Cfg} (h : 1 ≤ cfg.idMax) {ver : Nat} {s : St} (r : Reachable cfg ver s) :
    PidWf cfg s :=
  r.ind (Alloc.W_new h) (fun _ op w => w.step h op)

end MqttVerif.Conn
