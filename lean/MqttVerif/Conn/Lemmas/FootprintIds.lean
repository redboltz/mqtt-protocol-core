import MqttVerif.Monitors
import MqttVerif.Alloc.Lemmas
import MqttVerif.Conn.Lemmas.FootprintApi
/-!
# What a call does to the packet identifiers

The identifier allocator, the five wait sets and the store of unacknowledged packets are read and written together:
`acquire` hands out an identifier, a send puts it into a wait set and possibly its packet into the store, the
acknowledgement takes both out and releases the identifier, `send_stored`, `notify_closed` and a new session clear in
bulk.  Seen through this group of fields (`St.ids`) and through the `NotifyPacketIdReleased` events, every model function
is a short sequence of a dozen primitives (`IdPrim`, with `IdPrim.run` and `IdPrim.runAll`); `IdRun l c c'` says that
`c'` is `c` after the sequence `l`.  One API call is one of the sequences that `SendOut`, `RecvOut` and `StepOut` list,
each with the tests the model made on the way: `Fp.step_ids` in `FootprintIdsStep`, over one `Fp.f_ids` per function in
`FootprintIdsSend` and `FootprintIdsRecv`.

A chain states its invariant on `Ids`, proves that `IdPrim.run` keeps it by cases on the primitive, each under the guard
it needs, and lifts it through `IdPrim.runAll` by induction on the list; where the invariant fails between two
primitives of one call, it goes by cases on the outcome list and takes each sequence as a whole.  The guards are in the
constructors.  Its step theorem is `Fp.step_ids` with `IdRun.ids`, and `IdRun.rel` for the release events; no handler is
unfolded.  This file has the definitions, and what holds of every primitive whatever the invariant: the allocator takes
one step of its own interface (`run_alloc`), the store loses entries or gains one under a new key (`run_store`; exactly,
`onStore`), `send_stored` as a whole (`resend_run`), and the classes of primitives that only release (`mild`) or only
remove (`safe`).
-/
namespace MqttVerif.Conn
open MqttVerif

structure Ids where
  pidMan : Alloc.A
  suback : List Nat
  unsuback : List Nat
  puback : List Nat
  pubrec : List Nat
  pubcomp : List Nat
  store : List (Nat × Pkt)

def St.ids (s : St) : Ids := ⟨s.pidMan, s.suback, s.unsuback, s.puback, s.pubrec, s.pubcomp, s.store⟩

def St.setIds (s : St) (x : Ids) : St :=
  { s with pidMan := x.pidMan, suback := x.suback, unsuback := x.unsuback, puback := x.puback, pubrec := x.pubrec,
           pubcomp := x.pubcomp, store := x.store }

/-- the wait set that holds the identifiers whose exchange ends with a packet of kind `k` -/
def Ids.wait (x : Ids) : Kind → List Nat
  | .suback => x.suback
  | .unsuback => x.unsuback
  | .puback => x.puback
  | .pubrec => x.pubrec
  | .pubcomp => x.pubcomp
  | _ => []

def Ids.setWait (x : Ids) (k : Kind) (l : List Nat) : Ids :=
  match k with
  | .suback => { x with suback := l }
  | .unsuback => { x with unsuback := l }
  | .puback => { x with puback := l }
  | .pubrec => { x with pubrec := l }
  | .pubcomp => { x with pubcomp := l }
  | _ => x

theorem Ids.setWait_pidMan (x : Ids) (k : Kind) (l : List Nat) : (x.setWait k l).pidMan = x.pidMan := by
  cases k <;> rfl

theorem Ids.setWait_store (x : Ids) (k : Kind) (l : List Nat) : (x.setWait k l).store = x.store := by
  cases k <;> rfl

/-- an entry of the store that `send_stored` drops: larger than the peer's Maximum Packet Size `mps` -/
def oversize (pw mps : Nat) (e : Nat × Pkt) : Bool := decide (e.2.sz pw > mps)

inductive IdPrim
  /-- `releaseIfUsed` -/
  | release (id : Nat)
  /-- `storeAdd` -/
  | store (id : Nat) (q : Pkt)
  | await (k : Kind) (id : Nat)
  | unwait (k : Kind) (id : Nat)
  | clearWait (k : Kind)
  /-- `Store::erase(response, id)` -/
  | storeErase (ver : Nat) (k : Kind) (id : Nat)
  /-- `Store::erase_publish(id)` -/
  | erasePublish (id : Nat)
  /-- the last step of `send_stored`: the entries that fit stay -/
  | keepFits (pw mps : Nat)
  | dropStore
  /-- `clearStoreRelated` -/
  | clearSession
  | acquire
  | register (id : Nat)
  /-- `restoreOne` -/
  | restore (p : Pkt)

/-- the group after the primitive, and the identifiers it reports released.  `.store` on a key the store holds leaves
    the store as it is: the model's `storeAdd` panics there, and the layer says nothing of `panic`; that the key is new
    follows, where it is needed, from the `is_used_id` test the listed outcomes carry (`StepOut.mem_store`) -/
def IdPrim.run : IdPrim → Ids → Ids × List Nat
  | .release id, x =>
    if Alloc.isUsed x.pidMan id then ({ x with pidMan := (Alloc.deallocate x.pidMan id).2 }, [id]) else (x, [])
  | .store id q, x => (if storeHas id x.store then x else { x with store := x.store ++ [(id, q)] }, [])
  | .await k id, x => (x.setWait k (ins id (x.wait k)), [])
  | .unwait k id, x => (x.setWait k (del id (x.wait k)), [])
  | .clearWait k, x => (x.setWait k [], [])
  | .storeErase ver k id, x => ({ x with store := Conn.storeErase ver k id x.store }, [])
  | .erasePublish id, x => ({ x with store := (storeErasePublish id x.store).2 }, [])
  | .keepFits pw mps, x => ({ x with store := x.store.filter (fun e => !oversize pw mps e) }, [])
  | .dropStore, x => ({ x with store := [] }, [])
  | .clearSession, x =>
    ({ x with pidMan := Alloc.clear x.pidMan, puback := [], pubrec := [], pubcomp := [], store := [] }, [])
  | .acquire, x => ({ x with pidMan := (Alloc.allocate x.pidMan).2 }, [])
  | .register id, x => ({ x with pidMan := (Alloc.useValue x.pidMan id).2 }, [])
  | .restore p, x =>
    if p.kind = .publish ∧ p.qos = 0 then (x, [])
    else
      let id := p.pid.getD 0
      let r := Alloc.useValue x.pidMan id
      if r.1 then
        let x := { x with pidMan := r.2 }
        let x := x.setWait (respOf p) (ins id (x.wait (respOf p)))
        (if storeHas id x.store then x else { x with store := x.store ++ [(id, p)] }, [])
      else ({ x with pidMan := r.2 }, [])

def IdPrim.runAll : List IdPrim → Ids → Ids × List Nat
  | [], x => (x, [])
  | a :: l, x => ((runAll l (a.run x).1).1, (a.run x).2 ++ (runAll l (a.run x).1).2)

/-- an oversize stored packet is given up: its exchange is forgotten and its identifier released -/
def IdPrim.drop (id : Nat) : List IdPrim :=
  [.unwait .puback id, .unwait .pubrec id, .unwait .pubcomp id, .release id]

/-- `send_stored` -/
def IdPrim.resend (pw mps : Nat) (store : List (Nat × Pkt)) : List IdPrim :=
  (store.filter (oversize pw mps)).flatMap (fun e => drop e.1) ++ [.keepFits pw mps]

/-- `pubRefuseCleanup` for an identifier in use -/
def IdPrim.cleanup (id : Nat) : List IdPrim :=
  [.release id, .erasePublish id, .unwait .puback id, .unwait .pubrec id]

/-- `initConn` -/
def IdPrim.openConn : List IdPrim := [.clearWait .suback, .clearWait .unsuback]

def IdPrim.drain (k : Kind) (ids : List Nat) : List IdPrim := .clearWait k :: ids.map .release

/-- `notify_closed` -/
def IdPrim.close (s : St) : List IdPrim :=
  drain .suback s.suback ++ drain .unsuback s.unsuback ++
    if s.needStore then []
    else drain .puback s.puback ++ drain .pubrec s.pubrec ++ drain .pubcomp s.pubcomp ++ [.dropStore]

/-- the form in which the store keeps the packet `p` of an exchange that a send begins -/
inductive StoredAs (cfg : Cfg) (s : St) (p : Pkt) : Pkt → Prop
  | v3 (hk : p.kind = .publish) (hv : p.ver = 4) : StoredAs cfg s p { p with dup := true }
  | v5 (hk : p.kind = .publish) (hv : p.ver ≠ 4) (ht : p.topic.isEmpty = false) :
      StoredAs cfg s p { p with alias := none, dup := true }
  /-- a PUBLISH sent by alias alone is stored under the topic the alias stands for -/
  | v5topic (t : List Nat) (hk : p.kind = .publish) (hv : p.ver ≠ 4) (ht : p.topic.isEmpty = true)
      (hl : (validateTopicAlias ⟨cfg, s, []⟩ p.alias).1 = some t) :
      StoredAs cfg s p { p with topic := t, alias := none, dup := true }
  | pubrel (hk : p.kind = .pubrel) : StoredAs cfg s p p

namespace StoredAs
variable {cfg : Cfg} {s : St} {p q : Pkt}
theorem kind (h : StoredAs cfg s p q) : q.kind = p.kind := by cases h <;> rfl
theorem ver (h : StoredAs cfg s p q) : q.ver = p.ver := by cases h <;> rfl
theorem pid (h : StoredAs cfg s p q) : q.pid = p.pid := by cases h <;> rfl
theorem respOf (h : StoredAs cfg s p q) : Conn.respOf q = Conn.respOf p := by cases h <;> rfl

theorem storeKind (h : StoredAs cfg s p q) : q.kind = .publish ∨ q.kind = .pubrel := by
  cases h with
  | v3 hk | v5 hk | v5topic _ hk => exact .inl hk
  | pubrel hk => exact .inr hk

/-- `cases hp : p.pid` also rewrites the `pid` field of a literal `{ p with .. }` in the goal: this is the form
    the stored packet has afterwards -/
theorem congr_pid (h : StoredAs cfg s p q) {o : Option Nat} (hp : p.pid = o) : StoredAs cfg s p { q with pid := o } := by
  subst hp
  rw [← h.pid]
  exact h

end StoredAs

/-- What `send c p` does to the identifiers, `c.s = s`. -/
inductive SendOut (cfg : Cfg) (s : St) (p : Pkt) : List IdPrim → Prop
  | keep : SendOut cfg s p []
  /-- a refused packet that starts an exchange gives its identifier back -/
  | refuse (id : Nat) (hk : p.kind = .publish ∨ p.kind = .subscribe ∨ p.kind = .unsubscribe)
      (hid : id = p.pid.getD 0) (hp : p.kind = .publish → p.pid = some id) : SendOut cfg s p [.release id]
  /-- a QoS 1/2 PUBLISH or a PUBREL is accepted: stored if the session asks for it, and its response awaited -/
  | exchange (id : Nat) (q : Pkt) (stored : Bool) (hk : p.kind = .publish ∧ p.qos > 0 ∨ p.kind = .pubrel)
      (hid : id = p.pid.getD 0) (hu : isUsed s id = true) (hq : stored = true → StoredAs cfg s p q)
      (hs : stored = if p.kind = .pubrel then s.needStore else willStore s) :
      SendOut cfg s p ((if stored then [.store id q] else []) ++ [.await (respOf p) id])
  /-- a v5.0 PUBLISH accepted so far is refused by the Receive Maximum or the alias stage -/
  | exchangeRefused (id : Nat) (q : Pkt) (stored : Bool) (hk : p.kind = .publish ∧ p.qos > 0)
      (hid : p.pid = some id) (hu : isUsed s id = true) (hq : stored = true → StoredAs cfg s p q)
      (hs : stored = willStore s) (hv : p.ver ≠ 4) :
      SendOut cfg s p ((if stored then [.store id q] else []) ++ [.await (respOf p) id] ++ IdPrim.cleanup id)
  /-- a QoS 0 v5.0 PUBLISH that carries an identifier in use is refused by the alias stage -/
  | cleanup (id : Nat) (hk : p.kind = .publish ∧ p.qos = 0) (hid : p.pid = some id) (hu : isUsed s id = true)
      (hv : p.ver ≠ 4) : SendOut cfg s p (IdPrim.cleanup id)
  | subscribe (id : Nat) (hk : p.kind = .subscribe ∨ p.kind = .unsubscribe) (hid : id = p.pid.getD 0)
      (hu : isUsed s id = true) :
      SendOut cfg s p [.await (if p.kind = .subscribe then .suback else .unsuback) id]
  | connect (hk : p.kind = .connect) (hs : s.status = .disconnected) :
      SendOut cfg s p (IdPrim.openConn ++ if p.clean then [.clearSession] else [])
  | connack (hk : p.kind = .connack) (hs : s.status = .connecting) (hrc : p.rc = some 0) :
      SendOut cfg s p (if p.sp then IdPrim.resend cfg.pw s.mpsSend s.store else [.clearSession])

/-- What `dispatchRecv c t x` does to the identifiers, `c.s = s`; `mps` is the peer's Maximum Packet Size after the
    call (a CONNACK may announce it). -/
inductive RecvOut (cfg : Cfg) (s : St) (t : Nat) (x : Except Nat Pkt) (mps : Nat) : List IdPrim → Prop
  | keep : RecvOut cfg s t x mps []
  | connect (p : Pkt) (ht : t = 1) (hx : x = .ok p) (hs : s.status = .disconnected) :
      RecvOut cfg s t x mps (IdPrim.openConn ++ if p.clean then [.clearSession] else [])
  /-- a CONNACK that accepts the connection: a Session Expiry Interval of 0 among its properties clears the session
      (`cleared`), then the session is resumed or cleared -/
  | connack (p : Pkt) (cleared : Bool) (ht : t = 2) (hx : x = .ok p) (hs : s.status ≠ .connected) (hrc : p.rc = some 0)
      (hc : cleared = true ↔ s.ver ≠ 4 ∧ ∃ y ∈ p.props, y.1 = pSEI ∧ y.2 = 0) :
      RecvOut cfg s t x mps ((if cleared then [.clearSession] else []) ++
        if p.sp then IdPrim.resend cfg.pw mps (if cleared then [] else s.store) else [.clearSession])
  /-- PUBACK, PUBCOMP, or a PUBREC that reports failure: the exchange ends -/
  | ack (p : Pkt) (k : Kind) (id : Nat) (ht : t = k.nibble) (hx : x = .ok p) (hid : id = p.pid.getD 0)
      (hw : id ∈ s.ids.wait k)
      (hk : k = .puback ∨ k = .pubcomp ∨ k = .pubrec ∧ ¬(p.ver = 4 ∨ p.rc = none ∨ p.rc = some 0)) :
      RecvOut cfg s t x mps [.unwait k id, .storeErase p.ver k id, .release id]
  /-- a PUBREC that reports success; with automatic responses the PUBREL is sent, stored if the session asks for it,
      and its PUBCOMP awaited -/
  | pubrec (p : Pkt) (id : Nat) (rel : Bool) (ht : t = 5) (hx : x = .ok p) (hid : id = p.pid.getD 0)
      (hw : id ∈ s.pubrec) (hok : p.ver = 4 ∨ p.rc = none ∨ p.rc = some 0) (hu : rel = true → isUsed s id = true) :
      RecvOut cfg s t x mps ([.unwait .pubrec id, .storeErase p.ver .pubrec id] ++
        if rel then (if s.needStore then [.store id (mkAck cfg p.ver .pubrel id)] else []) ++ [.await .pubcomp id]
        else [])
  | suback (p : Pkt) (k : Kind) (id : Nat) (ht : t = k.nibble) (hx : x = .ok p) (hid : id = p.pid.getD 0)
      (hw : id ∈ s.ids.wait k) (hk : k = .suback ∨ k = .unsuback) :
      RecvOut cfg s t x mps [.unwait k id, .release id]

/-- What one API call does to the identifiers; `mps` is the peer's Maximum Packet Size after the call. -/
inductive StepOut (cfg : Cfg) (s : St) (mps : Nat) : Op → List IdPrim → Prop
  | keep (op : Op) : StepOut cfg s mps op []
  | send (p : Pkt) (l : List IdPrim) (h : SendOut cfg s p l) : StepOut cfg s mps (.send p) l
  /-- `s'` is `s` once the frame is taken off the input and, on an undetermined connection, the version is read
      from the CONNECT -/
  | recv (inp : List Nat) (parse : Nat → Nat → List Nat → Except Nat Pkt) (s' : St) (fh : Nat) (data : List Nat)
      (l : List IdPrim) (hs : { s' with pb := s.pb, ver := s.ver } = s) (hv : s'.ver = s.ver ∨ s.ver = 0)
      (h : RecvOut cfg s' (fh / 16) (parse s'.ver fh data) mps l) : StepOut cfg s mps (.recv inp parse) l
  | closed : StepOut cfg s mps .closed (IdPrim.close s)
  | acquire : StepOut cfg s mps .acquire [.acquire]
  | register (id : Nat) : StepOut cfg s mps (.register id) [.register id]
  /-- `release_packet_id` abandons the exchange the identifier was obtained for -/
  | release (id : Nat) (hu : isUsed s id = true) :
      StepOut cfg s mps (.release id)
        [.release id, .unwait .suback id, .unwait .unsuback id, .unwait .puback id, .unwait .pubrec id]
  | erase (id : Nat) (h : (storeErasePublish id s.store).1 = true) :
      StepOut cfg s mps (.erase id) [.erasePublish id, .unwait .puback id, .unwait .pubrec id, .release id]
  | restore (ps : List Pkt) : StepOut cfg s mps (.restorePackets ps) (ps.map .restore)

/-- `c'` is `c` after the primitives `l`, as far as the identifiers and their release events go -/
structure IdRun (l : List IdPrim) (c c' : C) : Prop where
  cfg : c'.cfg = c.cfg
  ids : c'.s.ids = (IdPrim.runAll l c.s.ids).1
  rel : Mon.releasedIds c'.ev = Mon.releasedIds c.ev ++ (IdPrim.runAll l c.s.ids).2

namespace IdPrim

theorem runAll_append (l l' : List IdPrim) (x : Ids) :
    runAll (l ++ l') x =
      ((runAll l' (runAll l x).1).1, (runAll l x).2 ++ (runAll l' (runAll l x).1).2) := by
  induction l generalizing x with
  | nil => rfl
  | cons a l ih => rw [List.cons_append, runAll, ih, runAll, List.append_assoc]

theorem runAll_singleton (a : IdPrim) (x : Ids) : runAll [a] x = a.run x := Prod.ext rfl (List.append_nil _)

theorem release_run (x : Ids) (id : Nat) :
    (release id).run x =
      if Alloc.isUsed x.pidMan id then ({ x with pidMan := (Alloc.deallocate x.pidMan id).2 }, [id]) else (x, []) := rfl

/-- `restore_packets` for one packet is `register`, and if that succeeds the two steps of a send that is stored -/
def restoreSteps (p : Pkt) (x : Ids) : List IdPrim :=
  if p.kind = .publish ∧ p.qos = 0 then []
  else if (Alloc.useValue x.pidMan (p.pid.getD 0)).1 then
    [.register (p.pid.getD 0), .await (respOf p) (p.pid.getD 0), .store (p.pid.getD 0) p]
  else [.register (p.pid.getD 0)]

theorem restore_run (p : Pkt) (x : Ids) : (restore p).run x = runAll (restoreSteps p x) x := by
  simp only [run, restoreSteps]
  by_cases hs : p.kind = .publish ∧ p.qos = 0
  · rw [if_pos hs, if_pos hs]
    rfl
  · rw [if_neg hs, if_neg hs]
    by_cases hr : (Alloc.useValue x.pidMan (p.pid.getD 0)).1 = true
    · rw [if_pos hr, if_pos hr]
      rfl
    · rw [if_neg hr, if_neg hr]
      rfl

/-! ## the allocator after a primitive, and the primitives that only release -/

/-- the allocator after a primitive is the allocator after one operation of its interface (`first_vacant` where the
    primitive leaves it alone) -/
theorem run_alloc (a : IdPrim) (y : Ids) : ∃ op, (a.run y).1.pidMan = (Alloc.step y.pidMan op).1 := by
  cases a with
  | release id =>
    rw [release_run]
    split
    · exact ⟨.deallocate id, rfl⟩
    · exact ⟨.firstVacant, rfl⟩
  | store id q =>
    simp only [run]
    split
    · exact ⟨.firstVacant, rfl⟩
    · exact ⟨.firstVacant, rfl⟩
  | await k id => exact ⟨.firstVacant, y.setWait_pidMan _ _⟩
  | unwait k id => exact ⟨.firstVacant, y.setWait_pidMan _ _⟩
  | clearWait k => exact ⟨.firstVacant, y.setWait_pidMan _ _⟩
  | clearSession => exact ⟨.clear, rfl⟩
  | acquire => exact ⟨.allocate, rfl⟩
  | register id => exact ⟨.useValue id, rfl⟩
  | restore p =>
    simp only [run]
    split
    · exact ⟨.firstVacant, rfl⟩
    split
    · split
      · exact ⟨.useValue (p.pid.getD 0), Ids.setWait_pidMan _ _ _⟩
      · exact ⟨.useValue (p.pid.getD 0), Ids.setWait_pidMan _ _ _⟩
    · exact ⟨.useValue (p.pid.getD 0), rfl⟩
  | _ => exact ⟨.firstVacant, rfl⟩

theorem run_bounds (a : IdPrim) (y : Ids) :
    (a.run y).1.pidMan.lowest = y.pidMan.lowest ∧ (a.run y).1.pidMan.highest = y.pidMan.highest ∧
      (a.run y).1.pidMan.tmax = y.pidMan.tmax := by
  obtain ⟨op, e⟩ := a.run_alloc y
  rw [e]
  exact Alloc.step_bounds y.pidMan op

theorem runAll_bounds (l : List IdPrim) (y : Ids) :
    (runAll l y).1.pidMan.lowest = y.pidMan.lowest ∧ (runAll l y).1.pidMan.highest = y.pidMan.highest ∧
      (runAll l y).1.pidMan.tmax = y.pidMan.tmax := by
  induction l generalizing y with
  | nil => exact ⟨rfl, rfl, rfl⟩
  | cons a l ih =>
    obtain ⟨h1, h2, h3⟩ := ih (a.run y).1
    obtain ⟨g1, g2, g3⟩ := run_bounds a y
    exact ⟨h1.trans g1, h2.trans g2, h3.trans g3⟩

/-- takes no identifier and starts no session -/
def mild : IdPrim → Bool
  | .clearSession | .acquire | .register _ | .restore _ => false
  | _ => true

/-- starts a session -/
def clears : IdPrim → Bool
  | .clearSession => true
  | _ => false

theorem not_clears {a : IdPrim} (h : a.mild = true) : a.clears = false := by
  cases a with
  | clearSession => exact nomatch h
  | _ => rfl

theorem run_mild {a : IdPrim} (ha : a.mild = true) (x : Ids) :
    (∃ id, a = .release id) ∨ ((a.run x).1.pidMan = x.pidMan ∧ (a.run x).2 = []) := by
  cases a with
  | release id => exact .inl ⟨id, rfl⟩
  | store id q => exact .inr ⟨Fp.ite_both (Q := fun y : Ids => y.pidMan = x.pidMan) rfl rfl, rfl⟩
  | await k id => exact .inr ⟨x.setWait_pidMan _ _, rfl⟩
  | unwait k id => exact .inr ⟨x.setWait_pidMan _ _, rfl⟩
  | clearWait k => exact .inr ⟨x.setWait_pidMan _ _, rfl⟩
  | clearSession | acquire | register _ | restore _ => exact nomatch ha
  | _ => exact .inr ⟨rfl, rfl⟩

theorem resend_mild (pw mps : Nat) (st : List (Nat × Pkt)) : (resend pw mps st).all mild = true := by
  simp [resend, drop, mild]

theorem close_mild (s : St) : (close s).all mild = true := by
  cases hn : s.needStore
  · simp [close, drain, mild, hn]
  · simp [close, drain, mild, hn]

theorem mem_close {s : St} {id : Nat}
    (hm : id ∈ s.suback ∨ id ∈ s.unsuback ∨
      (s.needStore = false ∧ (id ∈ s.puback ∨ id ∈ s.pubrec ∨ id ∈ s.pubcomp))) :
    release id ∈ close s := by
  have drain : ∀ (k : Kind) {ids : List Nat}, id ∈ ids → release id ∈ drain k ids :=
    fun k _ h => List.mem_cons_of_mem _ (List.mem_map_of_mem h)
  unfold close
  rcases hm with hm | hm | ⟨hn, hm⟩
  · exact List.mem_append_left _ (List.mem_append_left _ (drain _ hm))
  · exact List.mem_append_left _ (List.mem_append_right _ (drain _ hm))
  · rw [hn]
    refine List.mem_append_right _ (List.mem_append_left _ ?_)
    rcases hm with hm | hm | hm
    · exact List.mem_append_left _ (List.mem_append_left _ (drain _ hm))
    · exact List.mem_append_left _ (List.mem_append_right _ (drain _ hm))
    · exact List.mem_append_right _ (drain _ hm)

/-! ## the store after a primitive -/

theorem restore_store (p : Pkt) (y : Ids) :
    ((restore p).run y).1.store = y.store ∨
      (Alloc.useValue y.pidMan (p.pid.getD 0)).1 = true ∧ storeHas (p.pid.getD 0) y.store = false ∧
        ((restore p).run y).1.store = y.store ++ [(p.pid.getD 0, p)] := by
  simp only [run]
  split
  · exact .inl rfl
  split
  · next hr =>
    split
    · exact .inl (Ids.setWait_store _ _ _)
    · next hn =>
      rw [Ids.setWait_store] at hn
      exact .inr ⟨hr, Bool.eq_false_iff.2 hn, congrArg (· ++ _) (Ids.setWait_store _ _ _)⟩
  · exact .inl rfl

theorem run_store (a : IdPrim) (y : Ids) :
    (a.run y).1.store.Sublist y.store ∨
      ∃ id q, (a = .store id q ∨ a = .restore q ∧ id = q.pid.getD 0 ∧ (Alloc.useValue y.pidMan id).1 = true) ∧
        storeHas id y.store = false ∧ (a.run y).1.store = y.store ++ [(id, q)] := by
  cases a with
  | release id =>
    rw [release_run]
    exact .inl (Fp.ite_both (Q := fun r : Ids × List Nat => r.1.store.Sublist y.store) (.refl _) (.refl _))
  | store id q =>
    simp only [run]
    split
    · exact .inl (.refl _)
    · next hn => exact .inr ⟨id, q, .inl rfl, Bool.eq_false_iff.2 hn, rfl⟩
  | await k id => exact .inl (y.setWait_store _ _ ▸ .refl _)
  | unwait k id => exact .inl (y.setWait_store _ _ ▸ .refl _)
  | clearWait k => exact .inl (y.setWait_store _ _ ▸ .refl _)
  | storeErase ver k id => exact .inl (storeErase_sublist _ _ _ _)
  | erasePublish id => exact .inl (storeErasePublish_sublist _ _)
  | keepFits pw mps => exact .inl List.filter_sublist
  | dropStore => exact .inl (List.nil_sublist _)
  | clearSession => exact .inl (List.nil_sublist _)
  | acquire => exact .inl (.refl _)
  | register id => exact .inl (.refl _)
  | restore p =>
    rcases restore_store p y with e | ⟨hr, hn, e⟩
    · exact .inl (e ▸ .refl _)
    · exact .inr ⟨_, p, .inr ⟨rfl, rfl, hr⟩, hn, e⟩

theorem mem_run_store {a : IdPrim} {y : Ids} {x : Nat × Pkt} (h : x ∈ (a.run y).1.store) :
    x ∈ y.store ∨ (∃ id q, a = .store id q ∧ x = (id, q)) ∨ (∃ p, a = .restore p ∧ x = (p.pid.getD 0, p)) := by
  rcases run_store a y with hs | ⟨i, q, ha, -, hs⟩
  · exact .inl (hs.subset h)
  · rw [hs] at h
    refine (List.mem_append.1 h).imp id fun hx => ?_
    rw [List.mem_singleton.1 hx]
    rcases ha with e | ⟨e, rfl, -⟩
    · exact .inl ⟨i, q, e, rfl⟩
    · exact .inr ⟨q, e, rfl⟩

theorem mem_runAll_store {l : List IdPrim} {y : Ids} {x : Nat × Pkt} (h : x ∈ (runAll l y).1.store) :
    x ∈ y.store ∨ ∃ a ∈ l, (∃ id q, a = .store id q ∧ x = (id, q)) ∨ (∃ p, a = .restore p ∧ x = (p.pid.getD 0, p)) := by
  induction l generalizing y with
  | nil => exact .inl h
  | cons a l ih =>
    rcases ih h with h | ⟨b, hb, h⟩
    · exact (mem_run_store h).imp id fun h => ⟨a, List.mem_cons_self, h⟩
    · exact .inr ⟨b, List.mem_cons_of_mem _ hb, h⟩

theorem restore_mono (ps : List Pkt) (x : Ids) {e : Nat × Pkt} (h : e ∈ x.store) :
    e ∈ (runAll (ps.map .restore) x).1.store := by
  induction ps generalizing x with
  | nil => exact h
  | cons p ps ih =>
    refine ih _ ?_
    rcases restore_store p x with e' | ⟨-, -, e'⟩
    · rw [e']
      exact h
    · rw [e']
      exact List.mem_append_left _ h

/-- adds nothing to the store or to a wait set and does not clear the allocator -/
def safe : IdPrim → Bool
  | .store .. | .await .. | .restore _ | .clearSession => false
  | _ => true

theorem run_safe {a : IdPrim} (ha : a.safe = true) (y : Ids) : (a.run y).1.store.Sublist y.store := by
  rcases run_store a y with h | ⟨id, q, rfl | ⟨rfl, -⟩, -⟩
  · exact h
  · exact nomatch ha
  · exact nomatch ha

theorem runAll_safe {l : List IdPrim} (hl : l.all safe = true) (y : Ids) : (runAll l y).1.store.Sublist y.store := by
  induction l generalizing y with
  | nil => exact .refl _
  | cons a l ih =>
    rw [List.all_cons, Bool.and_eq_true] at hl
    exact (ih hl.2 _).trans (run_safe hl.1 y)

theorem resend_safe (pw mps : Nat) (st : List (Nat × Pkt)) : (resend pw mps st).all safe = true := by
  simp [resend, drop, safe]

theorem close_safe (s : St) : (close s).all safe = true := by
  cases hn : s.needStore
  · simp [close, drain, safe, hn]
  · simp [close, drain, safe, hn]

/-- what a primitive does to the store (`restore` apart, which asks the allocator first) -/
def onStore : IdPrim → List (Nat × Pkt) → List (Nat × Pkt)
  | .store id q, st => if storeHas id st then st else st ++ [(id, q)]
  | .storeErase ver k id, st => Conn.storeErase ver k id st
  | .erasePublish id, st => (storeErasePublish id st).2
  | .keepFits pw mps, st => st.filter (fun e => !oversize pw mps e)
  | .dropStore, _ => []
  | .clearSession, _ => []
  | _, st => st

theorem run_store_eq (a : IdPrim) (x : Ids) (h : ∀ p, a ≠ .restore p) : (a.run x).1.store = a.onStore x.store := by
  cases a with
  | release id =>
    rw [release_run]
    exact Fp.ite_both (Q := fun r : Ids × List Nat => r.1.store = x.store) rfl rfl
  | store id q => exact apply_ite Ids.store ..
  | await k id => exact x.setWait_store _ _
  | unwait k id => exact x.setWait_store _ _
  | clearWait k => exact x.setWait_store _ _
  | restore p => exact absurd rfl (h p)
  | _ => rfl

theorem runAll_store_eq (l : List IdPrim) (x : Ids) (h : ∀ p, .restore p ∉ l) :
    (runAll l x).1.store = l.foldl (fun st a => a.onStore st) x.store := by
  induction l generalizing x with
  | nil => rfl
  | cons a l ih =>
    rw [runAll, ih _ fun p hp => h p (List.mem_cons_of_mem _ hp), run_store_eq a x fun p e => h p (e ▸ List.mem_cons_self)]
    rfl

theorem foldl_onStore_id (l : List IdPrim) (h : ∀ a ∈ l, ∀ st, a.onStore st = st) (st : List (Nat × Pkt)) :
    l.foldl (fun st a => a.onStore st) st = st := by
  induction l with
  | nil => rfl
  | cons a l ih =>
    rw [List.foldl_cons, h a List.mem_cons_self, ih fun b hb => h b (List.mem_cons_of_mem _ hb)]

theorem foldl_onStore_resend (pw mps : Nat) (es st : List (Nat × Pkt)) :
    (resend pw mps es).foldl (fun st a => a.onStore st) st = st.filter (fun e => !oversize pw mps e) := by
  have hd : ∀ a ∈ (es.filter (oversize pw mps)).flatMap (fun e => drop e.1), ∀ st, a.onStore st = st := by
    intro a ha st
    obtain ⟨e, -, he⟩ := List.mem_flatMap.1 ha
    simp only [drop, List.mem_cons, List.not_mem_nil, or_false] at he
    rcases he with rfl | rfl | rfl | rfl <;> rfl
  rw [resend, List.foldl_append, foldl_onStore_id _ hd]
  rfl

theorem resend_store (pw mps : Nat) (es : List (Nat × Pkt)) (x : Ids) :
    (runAll (resend pw mps es) x).1.store = x.store.filter (fun e => !oversize pw mps e) := by
  rw [runAll_store_eq _ _ fun p hp => by simp [resend, drop] at hp, foldl_onStore_resend]

theorem foldl_onStore_close (s : St) (st : List (Nat × Pkt)) :
    (close s).foldl (fun st a => a.onStore st) st = if s.needStore then st else [] := by
  have drain : ∀ (k : Kind) (ids : List Nat) (st : List (Nat × Pkt)),
      (drain k ids).foldl (fun st a => a.onStore st) st = st := fun k ids st =>
    foldl_onStore_id _ (fun a ha _ => by
      rcases List.mem_cons.1 ha with rfl | ha
      · rfl
      · obtain ⟨_, -, rfl⟩ := List.mem_map.1 ha
        rfl) st
  unfold close
  rw [List.foldl_append, List.foldl_append, drain, drain]
  cases s.needStore with
  | true => rfl
  | false =>
    rw [if_neg Bool.false_ne_true, List.foldl_append, List.foldl_append, List.foldl_append, drain, drain, drain]
    rfl

theorem drop_run (id : Nat) (x : Ids) :
    ∃ a, (runAll (drop id) x).1 =
      { x with pidMan := a, puback := del id x.puback, pubrec := del id x.pubrec, pubcomp := del id x.pubcomp } := by
  rw [show drop id = [.unwait .puback id, .unwait .pubrec id, .unwait .pubcomp id] ++ [.release id] from rfl,
    runAll_append, runAll_singleton, release_run]
  split
  · exact ⟨_, rfl⟩
  · exact ⟨_, rfl⟩

theorem drops_wait (D : List (Nat × Pkt)) (x : Ids) {k : Kind} {i : Nat} (hi : ∀ e ∈ D, e.1 ≠ i) (h : i ∈ x.wait k) :
    i ∈ (runAll (D.flatMap fun e => drop e.1) x).1.wait k := by
  induction D generalizing x with
  | nil => exact h
  | cons d D ih =>
    obtain ⟨a, e⟩ := drop_run d.1 x
    rw [List.flatMap_cons, runAll_append]
    refine ih _ (fun e he => hi e (.tail _ he)) ?_
    rw [e]
    cases k with
    | puback | pubrec | pubcomp => exact mem_del.2 ⟨h, Ne.symm (hi d (.head _))⟩
    | _ => exact h

theorem resend_run (pw mps : Nat) (x : Ids) :
    (runAll (resend pw mps x.store) x).1.store = x.store.filter (fun e => !oversize pw mps e) ∧
      ∀ k i, (∀ e ∈ x.store, oversize pw mps e = true → e.1 ≠ i) → i ∈ x.wait k →
        i ∈ (runAll (resend pw mps x.store) x).1.wait k := by
  refine ⟨resend_store .., fun k i hi h => ?_⟩
  have hw := drops_wait (x.store.filter (oversize pw mps)) x
    (fun e he => hi e (List.mem_filter.1 he).1 (List.mem_filter.1 he).2) h
  rw [resend, runAll_append, runAll_singleton]
  generalize (runAll _ x).1 = y at hw ⊢
  cases k <;> exact hw

end IdPrim

theorem releasedIds_append (a b : List Ev) : Mon.releasedIds (a ++ b) = Mon.releasedIds a ++ Mon.releasedIds b := by
  induction a with
  | nil => rfl
  | cons e a ih => cases e <;> simp [Mon.releasedIds, ih]

theorem releasedIds_released (r : List Nat) : Mon.releasedIds (r.map Ev.released) = r := by
  induction r with
  | nil => rfl
  | cons id r ih => exact congrArg (id :: ·) ih

theorem Appends.releasedIds {T : List EvTag} {c c' : C} (h : Appends T c c') (hT : EvTag.released ∉ T := by decide) :
    Mon.releasedIds c'.ev = Mon.releasedIds c.ev := by
  obtain ⟨l, e, hl⟩ := h
  suffices h : ∀ l : List Ev, (∀ e ∈ l, e.tag ∈ T) → Mon.releasedIds l = [] by
    rw [e, releasedIds_append, h l hl, List.append_nil]
  intro l hl
  induction l with
  | nil => rfl
  | cons x l ih =>
    have ih := ih (fun y hy => hl y (List.mem_cons_of_mem _ hy))
    cases x with
    | released id => exact absurd (hl _ List.mem_cons_self) hT
    | _ => exact ih

namespace IdRun
variable {l l' : List IdPrim} {a c c' : C}

theorem refl (c : C) : IdRun [] c c := ⟨rfl, rfl, (List.append_nil _).symm⟩

theorem trans (h : IdRun l a c) (h' : IdRun l' c c') : IdRun (l ++ l') a c' := by
  refine ⟨h'.cfg.trans h.cfg, ?_, ?_⟩
  · rw [IdPrim.runAll_append, h'.ids, h.ids]
  · rw [IdPrim.runAll_append, h'.rel, h.rel, h.ids, List.append_assoc]

theorem post (h : IdRun l a c) (h' : IdRun [] c c') : IdRun l a c' := by
  simpa using h.trans h'

theorem pre (h : IdRun [] a c) (h' : IdRun l c c') : IdRun l a c' := h.trans h'

theorem uncons {p : IdPrim} (h : IdRun (p :: l) c c') : ∃ c1, IdRun [p] c c1 ∧ IdRun l c1 c' := by
  refine ⟨⟨c.cfg, c.s.setIds (p.run c.s.ids).1, c.ev ++ (p.run c.s.ids).2.map .released⟩, ⟨rfl, ?_, ?_⟩,
    ⟨h.cfg, h.ids, ?_⟩⟩
  · rw [IdPrim.runAll_singleton]
    rfl
  · rw [IdPrim.runAll_singleton, releasedIds_append, releasedIds_released]
  · rw [h.rel, releasedIds_append, releasedIds_released, List.append_assoc]
    rfl

theorem congr (h : IdRun l a c) (he : IdPrim.runAll l' a.s.ids = IdPrim.runAll l a.s.ids) : IdRun l' a c :=
  ⟨h.cfg, by rw [he]; exact h.ids, by rw [he]; exact h.rel⟩

theorem iteOf {α : Type} (f : α → List IdPrim) {p : Prop} [Decidable p] {x y : α} {b : C} (ha : p → IdRun (f x) c a)
    (hb : ¬p → IdRun (f y) c b) : IdRun (f (if p then x else y)) c (if p then a else b) := by
  by_cases h : p
  · rw [if_pos h, if_pos h]
    exact ha h
  · rw [if_neg h, if_neg h]
    exact hb h

theorem ite {p : Prop} [Decidable p] {b : C} (ha : p → IdRun l c a) (hb : ¬p → IdRun l' c b) :
    IdRun (if p then l else l') c (if p then a else b) := iteOf id ha hb

/-- a test of the model (`q`) that refuses: nothing runs -/
theorem guard {p q : Prop} [Decidable p] [Decidable q] {b : C} (hq : q ↔ ¬p) (ha : q → IdRun [] c a)
    (hb : p → IdRun l c b) : IdRun (if p then l else []) c (if q then a else b) := by
  by_cases h : p
  · rw [if_pos h, if_neg fun hn => hq.1 hn h]
    exact hb h
  · rw [if_neg h, if_pos (hq.2 h)]
    exact ha (hq.2 h)

theorem quiet (hc : c'.cfg = c.cfg := by rfl) (he : c'.ev = c.ev := by rfl)
    (hi : c'.s.ids = (IdPrim.runAll l c.s.ids).1 := by rfl) (hr : (IdPrim.runAll l c.s.ids).2 = [] := by rfl) :
    IdRun l c c' :=
  ⟨hc, hi, by rw [he, hr, List.append_nil]⟩

theorem set (h : IdRun l a c) {s : St} (hs : s.ids = c.s.ids := by rfl) : IdRun l a { c with s := s } :=
  ⟨h.cfg, hs.trans h.ids, h.rel⟩

theorem of_fp {T : List EvTag} {w : St → St → St} (h : Fp.Footprint T w c c')
    (hw : ∀ a x, (w a x).ids = a.ids := by exact fun _ _ => rfl) (hT : EvTag.released ∉ T := by decide) :
    IdRun [] c c' :=
  ⟨h.cfg, by rw [h.s, hw]; rfl, by rw [h.ev.releasedIds hT]; exact (List.append_nil _).symm⟩

theorem push (h : IdRun l a c) {e : Ev} (he : e.tag ≠ .released) : IdRun l a (c.push e) :=
  h.post (.of_fp (T := [e.tag]) (w := fun a _ => a) ⟨rfl, Fp.push_ev c e, rfl⟩ (fun _ _ => rfl)
    (fun hm => he (List.mem_singleton.1 hm).symm))

theorem err (h : IdRun l a c) (e : Nat) : IdRun l a (c.err e) := h.push (e := .error e) (fun h => nomatch h)

theorem send (h : IdRun l a c) (p : Pkt) (r : Option Nat) : IdRun l a (c.push (.send p r)) :=
  h.push (fun h => nomatch h)

theorem recv (h : IdRun l a c) (p : Pkt) : IdRun l a (c.push (.recv p)) := h.push (fun h => nomatch h)

theorem close (h : IdRun l a c) : IdRun l a (c.push .close) := h.push (fun h => nomatch h)

theorem store_all {Q : Nat × Pkt → Prop} (hr : IdRun l c c')
    (h : ∀ x ∈ c.s.store, Q x) (hs : ∀ id q, IdPrim.store id q ∈ l → Q (id, q))
    (hp : ∀ p, IdPrim.restore p ∈ l → Q (p.pid.getD 0, p)) : ∀ x ∈ c'.s.store, Q x := by
  intro x hx
  rw [show c'.s.store = c'.s.ids.store from rfl, hr.ids] at hx
  rcases IdPrim.mem_runAll_store hx with hx | ⟨a, ha, ⟨id, q, rfl, rfl⟩ | ⟨p, rfl, rfl⟩⟩
  · exact h x hx
  · exact hs id q ha
  · exact hp p ha

end IdRun

namespace Fp

theorem releaseId_pidMan (c : C) (id : Nat) : (releaseId c id).s.pidMan = (Alloc.deallocate c.s.pidMan id).2 := by
  unfold releaseId
  extract_lets r c1
  split <;> rfl

theorem releaseIfUsed_ids (c : C) (id : Nat) : IdRun [.release id] c (releaseIfUsed c id) := by
  have hrun := (IdPrim.runAll_singleton (.release id) c.s.ids).trans (IdPrim.release_run c.s.ids id)
  unfold releaseIfUsed
  refine ite_ind (fun hu => ?_) (fun hu => ?_)
  · rw [if_pos (show Alloc.isUsed c.s.ids.pidMan id = true from hu)] at hrun
    refine ⟨releaseId_cfg c id, ?_, ?_⟩
    · rw [hrun, push_s]
      unfold St.ids
      rw [releaseId_pidMan, releaseId_s]
    · rw [hrun, C.push, releasedIds_append, releaseId_ev]
      rfl
  · rw [if_neg (show ¬Alloc.isUsed c.s.ids.pidMan id = true from hu)] at hrun
    exact ⟨rfl, by rw [hrun], by rw [hrun, List.append_nil]⟩

end Fp

end MqttVerif.Conn
