import MqttVerif.Conn.Lemmas.Qos2Recv
import MqttVerif.Conn.Lemmas.Q2Sends
/-!
# C07 helper — the driver's ghost of open inbound QoS 2 exchanges (`Mon.q2Step`) against the model

The fold `Mon.q2Step` only looks at `.recv` events and at sent error PUBRECs.
-/
namespace MqttVerif.Conn
open MqttVerif

/-! ## the fold -/

theorem q2Step_no_send (evs : List Ev) (h : EPn.nsOf evs = []) :
    ∀ o, Mon.q2Step o evs = Mon.q2Step o ((recvs evs).map Ev.recv) := by
  induction evs with
  | nil => intro o; rfl
  | cons e t ih =>
    have ht : EPn.nsOf t = [] := by
      rw [EPn.nsOf_cons] at h
      exact (List.append_eq_nil_iff.1 h).2
    intro o
    cases e with
    | recv p =>
      simp only [recvs_cons, List.singleton_append, List.map_cons, Mon.q2Step]
      split
      · rw [ih ht]
      · split <;> rw [ih ht]
    | send p r =>
      have hp : EPn.nsSend p = false := by
        rw [EPn.nsOf_cons] at h
        have := (List.append_eq_nil_iff.1 h).1
        simp only [EPn.NSev_send] at this
        cases hh : EPn.nsSend p with
        | false => rfl
        | true => simp [hh] at this
      have hc : ¬ (p.kind = .pubrec ∧ Mon.isErrorRc p.rc = true) := by
        intro ⟨h1, h2⟩; simp [EPn.nsSend, h1, h2] at hp
      simp only [recvs_cons, List.nil_append, Mon.q2Step, hc, if_false]
      exact ih ht o
    | released _ => simpa [Mon.q2Step] using ih ht o
    | timerReset _ _ => simpa [Mon.q2Step] using ih ht o
    | timerCancel _ => simpa [Mon.q2Step] using ih ht o
    | error _ => simpa [Mon.q2Step] using ih ht o
    | close => simpa [Mon.q2Step] using ih ht o

theorem q2Step_quiet (o : List Nat) (evs : List Ev) (h : EPn.nsOf evs = []) (hr : recvs evs = []) :
    Mon.q2Step o evs = (o, []) := by
  rw [q2Step_no_send evs h, hr]; rfl

/-- the set-level reading of the ghost: duplicate-free and equal, as a set, to `hd` -/
def Tracks (o hd : List Nat) : Prop := o.Nodup ∧ ∀ x, x ∈ o ↔ x ∈ hd

theorem Tracks.erase {o hd : List Nat} (h : Tracks o hd) (id : Nat) : Tracks (o.erase id) (del id hd) := by
  refine ⟨h.1.erase id, fun x => ?_⟩
  rw [h.1.mem_erase_iff, h.2 x, mem_del]
  exact ⟨fun ⟨a, b⟩ => ⟨b, a⟩, fun ⟨a, b⟩ => ⟨b, a⟩⟩

theorem Tracks.insert {o hd : List Nat} (h : Tracks o hd) {id : Nat} (hn : id ∉ hd) : Tracks (id :: o) (ins id hd) := by
  refine ⟨List.nodup_cons.2 ⟨fun hm => hn ((h.2 id).1 hm), h.1⟩, fun x => ?_⟩
  rw [List.mem_cons, h.2 x, mem_ins]

/-! ## one delivered packet -/

theorem q2Step_recv_other (o : List Nat) (p : Pkt) (h1 : ¬ (p.kind = .publish ∧ p.qos = 2)) (h2 : p.kind ≠ .pubrel) :
    Mon.q2Step o [.recv p] = (o, []) := by
  simp [Mon.q2Step, h1, h2]

theorem q2Step_recv_pubrel (o : List Nat) (p : Pkt) (h : p.kind = .pubrel) :
    Mon.q2Step o [.recv p] = (o.erase (p.pid.getD 0), []) := by
  simp [Mon.q2Step, h]

theorem q2Step_recv_new (o : List Nat) (p : Pkt) (id : Nat) (h1 : p.kind = .publish) (h2 : p.qos = 2)
    (h3 : p.pid = some id) (hn : id ∉ o) : Mon.q2Step o [.recv p] = (id :: o, []) := by
  simp [Mon.q2Step, h1, h2, h3, hn]

theorem kind_of_nib {k : Kind} {t : Nat} (h : k.nibble = t) :
    (k = .pubrel ↔ t = 6) ∧ (k = .publish ↔ t = 3) ∧ (t = 1 → k = .connect) ∧ (t = 2 → k = .connack) := by
  cases k <;> simp [Kind.nibble] at h <;> subst h <;> simp

/-- a new session, read with the kind of the packet in place of the type nibble of its frame -/
theorem NewSess.kind {t : Nat} {p : Pkt} (h : NewSess t p) (hk : p.kind.nibble = t) :
    (p.kind = .connect ∧ p.clean = true) ∨
      (p.kind = .connack ∧ p.rc = some 0 ∧ (p.sp = false ∨ (pSEI, 0) ∈ p.props)) :=
  h.imp (fun ⟨ht, hc⟩ => ⟨(kind_of_nib hk).2.2.1 ht, hc⟩) fun ⟨ht, hr⟩ => ⟨(kind_of_nib hk).2.2.2 ht, hr⟩

/-! ## the `send` of an error PUBREC (v5.0) -/

theorem initiatingId_pubrec {p : Pkt} (h : p.kind = .pubrec) : initiatingId p = none := by
  simp [initiatingId, h]

theorem pp_send_q2 (X : C) (p : Pkt) (o : List Nat) (hX : X.ev = []) (hk : p.kind = .pubrec)
    (he : Mon.isErrorRc p.rc = true) :
    Mon.q2Step o (sendPostProcess (X.push (.send p none))).ev = (o.erase (p.pid.getD 0), []) ∧
    (sendPostProcess (X.push (.send p none))).s.handled = X.s.handled := by
  constructor
  · rcases sendPostProcess_ev_cases (X.push (.send p none)) with h | ⟨ms, h⟩ <;>
      rw [h] <;> simp [hX, Mon.q2Step, hk, he]
  · rcases sendPostProcess_s_cases (X.push (.send p none)) with h | h <;> rw [h] <;> rfl

theorem send_errPubrec (c : C) (p : Pkt) (o : List Nat) (hev : c.ev = []) (hk : p.kind = .pubrec)
    (he : Mon.isErrorRc p.rc = true) (hv : p.ver ≠ 4) :
    (Mon.q2Step o (send c p).ev = (o, []) ∧ (send c p).s.handled = c.s.handled) ∨
    (Mon.q2Step o (send c p).ev = (o.erase (p.pid.getD 0), []) ∧
      (send c p).s.handled = del (p.pid.getD 0) c.s.handled) := by
  let Q : C → Prop := fun r => (Mon.q2Step o r.ev = (o, []) ∧ r.s.handled = c.s.handled) ∨
    (Mon.q2Step o r.ev = (o.erase (p.pid.getD 0), []) ∧ r.s.handled = del (p.pid.getD 0) c.s.handled)
  have err : ∀ e, Mon.q2Step o (c.err e).ev = (o, []) ∧ (c.err e).s.handled = c.s.handled := fun e => by
    rw [err_ev, hev]
    exact ⟨rfl, rfl⟩
  have refused : ∀ e, refuseSend c e p = c.err e := fun e => by
    unfold refuseSend
    rw [initiatingId_pubrec hk]
  refine Fp.send_cases (Q := Q) c p (fun _ => .inl (refused _ ▸ err _)) (fun _ _ => .inl (refused _ ▸ err _))
    (fun _ _ => ?_)
  have e : processSend c p = psV5Pubrec c p := by unfold processSend; rw [if_neg hv, hk]
  rw [e]
  refine Fp.psV5Pubrec_paths (Q := Q) c p (fun _ => .inl (err _)) (fun _ _ => .inl (err _))
    (fun _ _ _ _ _ => .inr (pp_send_q2 _ p o hev hk he)) (fun _ _ hok => ?_)
  cases hr : p.rc with
  | none => exact nomatch (hr ▸ he : Mon.isErrorRc none = true)
  | some rc => exact absurd (of_decide_eq_true (hr ▸ he : Mon.isErrorRc (some rc) = true)) (Nat.not_le.2 (hok rc hr))

/-! ## a PUBLISH that is turned away is reported -/

theorem hasError_handleV5Error (c : C) (e : Nat) : Mon.hasError (handleV5Error c e).ev = true := by
  simp [handleV5Error, Mon.hasError, C.err, C.push]

theorem prV5PublishAlias_none_err (c : C) (p : Pkt) (h : (prV5PublishAlias c p).2 = none) :
    Mon.hasError (prV5PublishAlias c p).1.ev = true :=
  Fp.prV5PublishAlias_ind (Q := fun r => r.2 = none → Mon.hasError r.1.ev = true) c p
    (fun _ _ => hasError_handleV5Error c _) (fun _ _ h => nomatch h) (fun _ _ _ _ _ _ _ _ _ _ h => nomatch h)
    (fun _ _ _ _ _ _ _ h => nomatch h) h

/-- A PUBLISH with an identifier that is processed without an error report has left the alias stage, as `p'`, and
    passed the Receive Maximum test: the two ways not to reach the last stage report Topic Alias invalid and Receive
    Maximum exceeded. -/
theorem prV5Publish_passed {c : C} {p : Pkt} {id : Nat} (hid : p.pid = some id) (hq : p.qos > 0)
    (hne : Mon.hasError (prV5Publish c (.ok p)).ev = false) :
    ∃ p', (prV5PublishAlias c p).2 = some p' ∧ recvMaxReached (prV5PublishAlias c p).1.s = false := by
  rw [prV5Publish_main] at hne
  cases hal : (prV5PublishAlias c p).2 with
  | none =>
    rw [hal, prV5PublishAlias_none_err _ _ hal] at hne
    cases hne
  | some p' =>
    refine ⟨p', rfl, ?_⟩
    rw [hal] at hne
    dsimp only at hne
    cases hrm : recvMaxReached (prV5PublishAlias c p).1.s with
    | false => rfl
    | true =>
      rw [if_neg (fun h => by rw [hid] at h; exact Bool.noConfusion h.2), if_pos ⟨hq, hrm⟩,
        hasError_handleV5Error] at hne
      cases hne

/-! ## a new session as the driver sees it -/

theorem startsNewSession_of_mem {l : List Ev} {p : Pkt} {r : Option Nat} (hm : Ev.send p r ∈ l)
    (h : (p.kind = .connect ∧ p.clean = true) ∨ (p.kind = .connack ∧ p.rc = some 0 ∧ p.sp = false)) :
    Mon.startsNewSession l = true := by
  simp only [Mon.startsNewSession, List.any_eq_true]
  refine ⟨_, hm, ?_⟩
  rcases h with ⟨a, b⟩ | ⟨a, b, d⟩
  · simp [a, b]
  · simp [a, b, d]

theorem mem_sendStored {c : C} {e : Ev} (h : e ∈ c.ev) : e ∈ (sendStored c).ev := (Fp.sendStored_ev c).mem h

end MqttVerif.Conn
