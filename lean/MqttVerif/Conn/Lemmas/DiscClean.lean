import MqttVerif.Conn.Step
import MqttVerif.Monitors
import MqttVerif.Conn.Lemmas.FootprintEmits
/-!
# C05 helper — a disconnected connection carries no size limit of a dead connection …

… unless the call that disconnected it asked for the transport to be closed (`RequestClose`) and
`notify_closed` has not been called yet.  `Good c`: a close was requested in this call, or the
status is not `disconnected`, or both Maximum Packet Size fields are at "no limit".  Every model
function keeps `Good` (the property handlers change the limits only while the status is
`connecting` / `connected`; every site that sets `disconnected` requests a close, except
`notify_closed`, which resets both limits).
Own namespace: may be imported next to any other lemma chain.
-/
namespace MqttVerif.Conn.DC
open MqttVerif MqttVerif.Conn

def K (c : C) : Bool × Status × Nat × Nat := (Mon.hasClose c.ev, c.s.status, c.s.mpsSend, c.s.mpsRecv)

def GoodK (k : Bool × Status × Nat × Nat) : Prop :=
  k.1 = true ∨ k.2.1 ≠ .disconnected ∨ (k.2.2.1 = noLimit ∧ k.2.2.2 = noLimit)

def Good (c : C) : Prop := GoodK (K c)

@[simp] theorem Good_def (c : C) : Good c ↔ GoodK (K c) := Iff.rfl

theorem K_mk (cfg : Cfg) (s : St) (ev : List Ev) :
    K ⟨cfg, s, ev⟩ = (Mon.hasClose ev, s.status, s.mpsSend, s.mpsRecv) := rfl
theorem K_eta (x : C) : (Mon.hasClose x.ev, x.s.status, x.s.mpsSend, x.s.mpsRecv) = K x := rfl

theorem good_of_status {c : C} (h : c.s.status ≠ .disconnected) : GoodK (K c) := .inr (.inl h)
theorem good_congr {c c' : C} (h : K c' = K c) (g : GoodK (K c)) : GoodK (K c') := by rw [h]; exact g
theorem good_ite {p : Prop} [Decidable p] {a b : C} (ha : GoodK (K a)) (hb : GoodK (K b)) :
    GoodK (K (if p then a else b)) := Fp.ite_ind (Q := fun r => GoodK (K r)) (fun _ => ha) (fun _ => hb)

/-! ## what keeps `K`: whoever writes neither the status nor a limit and requests no close -/

theorem K_push (c : C) {e : Ev} (he : e ≠ .close) : K (c.push e) = K c := by
  simp [K, C.push, Mon.hasClose, he]

theorem K_push_send (c : C) (p : Pkt) (r : Option Nat) : K (c.push (.send p r)) = K c := K_push c nofun
theorem K_push_recv (c : C) (p : Pkt) : K (c.push (.recv p)) = K c := K_push c nofun
theorem K_err (c : C) (e : Nat) : K (c.err e) = K c := K_push c nofun
@[simp] theorem K_setPanic (c : C) (x : String) : K (c.setPanic x) = K c := rfl
@[simp] theorem K_initConn (c : C) (b : Bool) : K (initConn c b) = K c := rfl
@[simp] theorem K_clearStoreRelated (c : C) : K (clearStoreRelated c) = K c := rfl

theorem good_push_close (c : C) : GoodK (K (c.push .close)) :=
  .inl (by simp [K, C.push, Mon.hasClose])

theorem hasClose_frame {T : List EvTag} {c c' : C} (h : Appends T c c') (hT : EvTag.close ∉ T) :
    Mon.hasClose c'.ev = Mon.hasClose c.ev :=
  h.any_eq _ fun e he => decide_eq_false fun h => hT (by subst h; exact he)

theorem hasClose_mono {l l' : List Ev} (h : l <+: l') (hc : Mon.hasClose l = true) : Mon.hasClose l' = true := by
  obtain ⟨t, rfl⟩ := h
  unfold Mon.hasClose at hc ⊢
  rw [List.any_append, hc]
  rfl

/-- whoever writes neither the status nor a limit and requests no close keeps `K` -/
theorem K_fp {T : List EvTag} {w : St → St → St} {c c' : C} (h : Fp.Footprint T w c c')
    (hw : ∀ a x, ((w a x).status, (w a x).mpsSend, (w a x).mpsRecv) = (a.status, a.mpsSend, a.mpsRecv) := by
      exact fun _ _ => rfl)
    (hT : EvTag.close ∉ T := by decide) : K c' = K c := by
  unfold K
  rw [hasClose_frame h.ev hT, h.s]
  exact congrArg (Prod.mk _) (hw _ _)

theorem good_keep {c r : C} (g : GoodK (K c)) (he : Mon.hasClose c.ev = true → Mon.hasClose r.ev = true)
    (hs : r.s.status = c.s.status) (hm : r.s.mpsSend = c.s.mpsSend ∧ r.s.mpsRecv = c.s.mpsRecv) : GoodK (K r) := by
  rcases g with g | g | g
  · exact .inl (he g)
  · exact .inr (.inl (by show r.s.status ≠ _; rw [hs]; exact g))
  · exact .inr (.inr (by show r.s.mpsSend = _ ∧ r.s.mpsRecv = _; rw [hm.1, hm.2]; exact g))

/-- whoever writes neither the status nor a limit keeps `GoodK`, whatever it appends -/
theorem good_fp {T : List EvTag} {w : St → St → St} {c c' : C} (g : GoodK (K c)) (h : Fp.Footprint T w c c')
    (hw : ∀ a x, ((w a x).status, (w a x).mpsSend, (w a x).mpsRecv) = (a.status, a.mpsSend, a.mpsRecv) := by
      exact fun _ _ => rfl) : GoodK (K c') := by
  have e := hw c.s c'.s
  rw [← h.s] at e
  injection e with e1 e
  injection e with e2 e3
  exact good_keep g (hasClose_mono h.ev.prefix_ev) e1 ⟨e2, e3⟩

theorem K_sendPostProcess (c : C) : K (sendPostProcess c) = K c := K_fp (Fp.sendPostProcess_fp c)
theorem K_refreshPingreqRecv (c : C) : K (refreshPingreqRecv c) = K c := K_fp (Fp.refreshPingreqRecv_fp c)

/-! ## the property handlers: limits change, status and events do not -/

theorem st_connackSendProp (c : C) (id v : Nat) : (connackSendProp c id v).s.status = c.s.status := by
  rw [Fp.connackSendProp_s]

/-! ## closing functions -/

theorem good_psV5Disconnect {c : C} (h : GoodK (K c)) (p : Pkt) : GoodK (K (psV5Disconnect c p)) :=
  Fp.psV5Disconnect_cases (J := fun r => GoodK (K r)) c p (fun _ => good_congr (K_err c _) h)
    (fun _ => good_congr (K_err c _) h) (fun _ _ => good_push_close _)
theorem good_psV3Disconnect {c : C} (h : GoodK (K c)) (p : Pkt) : GoodK (K (psV3Disconnect c p)) :=
  good_ite (good_congr (K_err c _) h) (good_push_close _)
theorem good_handleV3Error (c : C) (e : Nat) : GoodK (K (handleV3Error c e)) :=
  good_congr (K_err _ e) (good_push_close c)
theorem good_v5DisconnectOrClose {c : C} (h : GoodK (K c)) (p : Pkt) : GoodK (K (v5DisconnectOrClose c p)) :=
  good_ite (good_push_close _) (good_psV5Disconnect h p)
theorem good_handleV5Error {c : C} (h : GoodK (K c)) (e : Nat) : GoodK (K (handleV5Error c e)) :=
  good_congr (K_err _ e) (good_v5DisconnectOrClose h _)
theorem good_vErr {c : C} (h : GoodK (K c)) (e : Nat) : GoodK (K (vErr c e)) :=
  Fp.vErr_cases (Q := fun r => GoodK (K r)) c e (fun _ => good_handleV3Error c e) (fun _ => good_handleV5Error h e)

/-! ## CONNECT / CONNACK, send side -/

theorem good_guarded {c body : C} {large refuse : Prop} [Decidable large] [Decidable refuse] {rel : Option Nat}
    (h : GoodK (K c)) (hb : GoodK (K body)) : GoodK (K (Fp.guarded c large refuse rel body)) :=
  Fp.guarded_ind (Q := fun r => GoodK (K r)) (fun _ => good_fp h (Fp.refusal_fp c _ rel))
    (fun _ _ => good_fp h (Fp.refusal_fp c _ rel)) fun _ _ => hb

/-- a CONNECT that is sent leaves the connection `connecting`, whatever settles the session, if that keeps the status -/
theorem good_connectOut (c : C) (p : Pkt) {settle : C → C} (hs : ∀ c', (settle c').s.status = c'.s.status) :
    GoodK (K (Fp.connectOut c p settle)) := by
  unfold Fp.connectOut
  rw [K_sendPostProcess, K_push_send]
  exact good_of_status (by rw [hs]; nofun)

theorem good_psV3Connect {c : C} (h : GoodK (K c)) (p : Pkt) : GoodK (K (psV3Connect c p)) :=
  Fp.psV3Connect_eq c p ▸ good_guarded h
    (good_connectOut c p fun c' => Fp.ite_both (Q := fun r : C => r.s.status = c'.s.status) rfl rfl)

theorem good_psV5Connect {c : C} (h : GoodK (K c)) (p : Pkt) : GoodK (K (psV5Connect c p)) := by
  rw [Fp.psV5Connect_eq]
  refine good_guarded h (good_connectOut c p fun c' => ?_)
  rw [Fp.propsFold_connectSendProp_s]
  exact Fp.ite_both (Q := fun r : C => r.s.status = c'.s.status) rfl rfl

/-- an accepted CONNACK either refuses and requests a close, or leaves the status `connected` -/
theorem good_connackTail (c : C) (p : Pkt) : GoodK (K (Fp.connackTail c p)) := by
  unfold Fp.connackTail
  refine good_ite (good_push_close _) ?_
  rw [K_sendPostProcess]
  refine good_of_status (Fp.ite_both (Q := fun r : C => r.s.status ≠ .disconnected) ?_ nofun)
  rw [Fp.sendStored_s]
  nofun

theorem good_psV3Connack {c : C} (h : GoodK (K c)) (p : Pkt) : GoodK (K (psV3Connack c p)) :=
  Fp.psV3Connack_guarded c p ▸ good_guarded h (good_connackTail _ p)

theorem good_psV5Connack {c : C} (h : GoodK (K c)) (p : Pkt) : GoodK (K (psV5Connack c p)) :=
  Fp.psV5Connack_guarded c p ▸ good_guarded h (good_connackTail _ p)

/-! ## the other send handlers keep `K` -/

theorem K_psPingreq (c : C) (p : Pkt) : K (psPingreq c p) = K c := K_fp (Fp.psPingreq_fp c p)

theorem good_processSend {c : C} (h : GoodK (K c)) (p : Pkt) : GoodK (K (processSend c p)) :=
  Fp.processSend_cases (Q := fun r => GoodK (K r)) c p
    (fun _ _ => good_psV3Connect h p) (fun _ _ => good_psV3Connack h p)
    (fun _ _ => good_fp h (Fp.psV3Publish_fp c p)) (fun _ _ => good_fp h (Fp.psV3Simple_fp c p))
    (fun _ _ => good_psV3Disconnect h p) (fun _ _ => h) (fun _ => good_fp h (Fp.psPubrel_fp c p))
    (fun _ => good_fp h (Fp.psSubUnsub_fp c p)) (fun _ => good_fp h (Fp.psPingreq_fp c p))
    (fun _ _ => good_psV5Connect h p) (fun _ _ => good_psV5Connack h p)
    (fun _ _ => good_fp h (Fp.psV5Publish_fp c p)) (fun _ _ => good_fp h (Fp.psV5Puback_fp c p))
    (fun _ _ => good_fp h (Fp.psV5Pubrec_fp c p)) (fun _ _ => good_fp h (Fp.psV5Pubcomp_fp c p))
    (fun _ _ => good_psV5Disconnect h p) (fun _ _ => good_fp h (Fp.psV5Auth_fp c p))
    (fun _ _ => good_fp h (Fp.psV5Simple_fp c p))

theorem good_send {c : C} (h : GoodK (K c)) (p : Pkt) : GoodK (K (send c p)) :=
  Fp.send_cases (Q := fun r => GoodK (K r)) c p (fun _ => good_fp h (Fp.refuseSend_fp c _ p))
    (fun _ _ => good_fp h (Fp.refuseSend_fp c _ p)) (fun _ _ => good_processSend h p)

/-! ## receive side -/

/-- a received CONNECT leaves the connection `connecting` or has it refused by a CONNACK from `connecting`; the refusing
    CONNACK has to keep `GoodK`, settling the session has to keep the status -/
theorem good_connectIn {c : C} {x : Except Nat Pkt} {busy : C} {nack : C → Nat → C} {settle : Pkt → C → C}
    (hb : GoodK (K busy)) (hn : ∀ c' e, GoodK (K c') → GoodK (K (nack c' e)))
    (hs : ∀ p c', (settle p c').s.status = c'.s.status) : GoodK (K (Fp.connectIn c x busy nack settle)) := by
  refine Fp.connectIn_ind (Q := fun r => GoodK (K r)) (fun _ => hb) (fun _ e _ => ?_) (fun _ p _ => ?_)
  · rw [K_err]
    exact hn _ e (good_of_status (show Status.connecting ≠ .disconnected from nofun))
  · rw [K_push_recv, K_refreshPingreqRecv]
    exact good_of_status (by rw [hs]; exact (nofun : Status.connecting ≠ .disconnected))

theorem good_prV3Connect (c : C) (x : Except Nat Pkt) : GoodK (K (prV3Connect c x)) :=
  Fp.prV3Connect_eq c x ▸ good_connectIn (good_handleV3Error c _) (fun _ _ g => good_psV3Connack g _)
    fun _ c' => Fp.ite_both (Q := fun r : C => r.s.status = c'.s.status) rfl rfl

theorem good_prV5Connect {c : C} (h : GoodK (K c)) (x : Except Nat Pkt) : GoodK (K (prV5Connect c x)) := by
  rw [Fp.prV5Connect_eq]
  refine good_connectIn (good_handleV5Error h _) (fun _ _ g => good_psV5Connack g _) fun p c' => ?_
  rw [Fp.propsFold_connectRecvProp_s]
  exact Fp.ite_both (Q := fun r : C => r.s.status = c'.s.status) rfl rfl

/-- a received CONNACK leaves the connection as it is or `connected`, if applying the properties keeps the status -/
theorem good_connackIn {c : C} {x : Except Nat Pkt} {busy : C} {bad : Nat → C} {props : Pkt → C → C}
    (h : GoodK (K c)) (hb : GoodK (K busy)) (he : ∀ e, GoodK (K (bad e)))
    (hp : ∀ p c', (props p c').s.status = c'.s.status) : GoodK (K (Fp.connackIn c x busy bad props)) := by
  refine Fp.connackIn_ind (Q := fun r => GoodK (K r)) (fun _ => hb) (fun _ e _ => he e)
    (fun _ p _ _ => good_congr (K_push_recv c p) h) (fun _ p _ _ _ => ?_) (fun _ p _ _ _ => ?_)
  · rw [K_push_recv]
    refine good_of_status ?_
    rw [Fp.resendStored_s]
    show (props p _).s.status ≠ _
    rw [hp]
    nofun
  · rw [K_push_recv, K_clearStoreRelated]
    exact good_of_status (by rw [hp]; nofun)

theorem good_prV3Connack {c : C} (h : GoodK (K c)) (x : Except Nat Pkt) : GoodK (K (prV3Connack c x)) :=
  Fp.prV3Connack_eq c x ▸ good_connackIn h (good_handleV3Error c _) (good_handleV3Error c) fun _ _ => rfl

theorem good_prV5Connack {c : C} (h : GoodK (K c)) (x : Except Nat Pkt) : GoodK (K (prV5Connack c x)) :=
  Fp.prV5Connack_eq c x ▸ good_connackIn h (good_handleV5Error h _) (fun e => good_congr (K_err c e) h)
    fun p c' => by rw [Fp.propsFold_connackRecvProp_s]

/-- the handlers of the packets other than CONNECT, CONNACK and PUBLISH write no limit, and the status on their error
    path only -/
theorem good_processed {Q : Ev → Prop} {c r : C} {x : Except Nat Pkt} (g : GoodK (K c)) (h : Fp.Processed Q c x r) :
    GoodK (K r) := by
  cases h with
  | refused e => exact good_vErr g e
  | delivered p m _ hm hs =>
    have hk : m.s.status = c.s.status ∧ m.s.mpsSend = c.s.mpsSend ∧ m.s.mpsRecv = c.s.mpsRecv := by
      rw [hs]
      exact ⟨rfl, rfl, rfl⟩
    exact good_keep g (hasClose_mono (hm.prefix_ev.trans (List.prefix_append ..))) hk.1 hk.2

theorem good_prV5PublishAlias {c : C} (h : GoodK (K c)) (p : Pkt) : GoodK (K (prV5PublishAlias c p).1) :=
  Fp.prV5PublishAlias_ind (Q := fun r => GoodK (K r.1)) c p (fun _ => good_handleV5Error h eAliasInvalid)
    (fun _ _ => h) (fun _ _ _ _ _ _ _ _ _ _ => h) fun _ _ _ _ _ _ _ => h

theorem K_prvAck (c : C) (qos id : Nat) (already : Prop) [Decidable already] : K (prvAck c qos id already) = K c :=
  K_fp (Fp.prvAck_fp c qos id already)

theorem good_prV5Publish {c : C} (h : GoodK (K c)) (x : Except Nat Pkt) : GoodK (K (prV5Publish c x)) := by
  cases x with
  | error e => exact good_ite (good_handleV5Error h e) (good_congr (K_err c e) h)
  | ok p =>
    have h1 := good_prV5PublishAlias h p
    rw [prV5Publish_eq]
    generalize prV5PublishAlias c p = r at h1 ⊢
    obtain ⟨c1, o⟩ := r
    cases o with
    | none => exact h1
    | some p' =>
      have h4 := good_congr ((K_refreshPingreqRecv _).trans ((K_prvAck (prvBook c1 p.qos (p.pid.getD 0)) p.qos
        (p.pid.getD 0) (p.qos = 2 ∧ p.pid.getD 0 ∈ c1.s.handled)).trans (K_fp (Fp.prvBook_fp ..)))) h1
      exact good_ite h1 (good_ite (good_handleV5Error h1 _) (good_ite (good_congr (K_push_recv _ _) h4) h4))

theorem good_dispatchRecv {c : C} (h : GoodK (K c)) (t : Nat) (x : Except Nat Pkt) :
    GoodK (K (dispatchRecv c t x)) :=
  Fp.dispatchRecv_processed (Q := fun _ => True) (N := True) (J := fun r => GoodK (K r))
    ⟨fun _ _ => trivial, fun _ _ _ _ => trivial⟩ t x (fun _ _ _ => trivial) (fun _ _ _ _ => trivial)
    (fun _ _ => good_prV3Connect c x) (fun _ _ => good_prV5Connect h x)
    (fun _ _ => good_prV3Connack h x) (fun _ _ => good_prV5Connack h x)
    (fun _ _ => good_fp h (Fp.prV3Publish_fp c x)) (fun _ _ => good_prV5Publish h x)
    (fun _ k => good_processed h k) (good_congr (K_err c _) h)

theorem good_processRecvPacket {c : C} (h : GoodK (K c)) (fh : Nat) (d : List Nat) (parse : Nat → Except Nat Pkt) :
    GoodK (K (processRecvPacket c fh d parse)) :=
  Fp.processRecvPacket_cases (Q := fun r => GoodK (K r)) c fh d parse
    (fun _ => good_congr (K_err _ _) (good_v5DisconnectOrClose h _)) (fun e _ _ => good_congr (K_err c e) h)
    (fun _ _ _ _ _ _ => good_prV3Connect _ _)
    (fun _ _ _ _ _ _ => good_prV5Connect (c := { c with s := { c.s with ver := 5 } }) h _)
    (fun _ _ _ => good_dispatchRecv h _ _)

theorem good_recv {c : C} (h : GoodK (K c)) (inp : List Nat) (parse : Nat → Nat → List Nat → Except Nat Pkt) :
    GoodK (K (recv c inp parse).1) :=
  Fp.recv_cases (Q := fun r => GoodK (K r)) c inp parse (fun _ _ _ => h)
    (fun pb _ _ _ _ => good_processRecvPacket (c := { c with s := { c.s with pb := pb } }) h _ _ _)
    (fun _ _ _ => good_congr (K_err _ _) (good_push_close _))

theorem good_notifyTimerFired {c : C} (h : GoodK (K c)) (k : Timer) : GoodK (K (notifyTimerFired c k)) :=
  have h0 : GoodK (K (Fp.unsetTimer c k)) := good_fp h (Fp.unsetTimer_fp c k)
  Fp.notifyTimerFired_cases (Q := fun r => GoodK (K r)) c k (fun _ _ _ _ _ => good_congr (K_psPingreq _ _) h0)
    (fun _ _ => good_push_close _) (fun _ _ _ => good_v5DisconnectOrClose h0 _) (fun _ _ => h0) (fun _ _ _ => h0)

theorem good_notifyClosed (c : C) : (notifyClosed c).s.mpsSend = noLimit ∧ (notifyClosed c).s.mpsRecv = noLimit := by
  rw [Fp.notifyClosed_s_eq]
  exact ⟨rfl, rfl⟩

/-- every call but `notify_closed`, which resets the limits instead -/
theorem good_step (cfg : Cfg) (s : St) (op : Op) (g : GoodK (K ⟨cfg, s, []⟩)) (hop : op ≠ .closed) :
    GoodK (K (step cfg s op)) := by
  cases op with
  | send p => exact good_send g p
  | recv inp parse => exact good_recv g inp parse
  | timer k => exact good_notifyTimerFired g k
  | closed => exact absurd rfl hop
  | setInterval d => exact good_fp g (Fp.setPingreqSendInterval_fp _ d)
  | setFlag f b => cases f <;> exact g
  | release id => exact good_fp g (Fp.releasePacketId_fp _ id)
  | erase id => exact good_fp g (Fp.eraseStoredPublish_fp _ id)
  | restorePackets ps => exact good_fp g (Fp.restorePackets_fp _ ps)
  | _ => exact g

end MqttVerif.Conn.DC
