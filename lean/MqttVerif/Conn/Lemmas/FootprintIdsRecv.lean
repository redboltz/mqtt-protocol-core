import MqttVerif.Conn.Lemmas.FootprintIdsSend
/-!
# What the receive-side functions do to the packet identifiers

One lemma `f_ids` per handler below `recv`: the handler is one of the sequences that `RecvOut` lists, with the tests the
model made.  A handler that never touches the group is `RecvOut.keep`, by its footprint; the CONNECT and CONNACK
handlers run a sequence that is a function of their tests (`IdPrim.recvConnect`, `IdPrim.recvConnack`), which is proved
once for the shape of the handler (`connectIn_run`, `connackIn_run`) and is one of the listed sequences
(`recvConnect_out`, `recvConnack_out`); `f_run` is the instance for the handler `f`.  The handler of an awaited
acknowledgement runs what its `taken` runs (`ackIn_ids`).
-/
namespace MqttVerif.Conn
open MqttVerif

/-- what a received CONNECT runs: nothing unless the connection is being opened and the packet is parsed -/
def IdPrim.recvConnect (s : St) (x : Except Nat Pkt) : List IdPrim :=
  if s.status = .disconnected then
    match x with
    | .ok p => openConn ++ if p.clean then [.clearSession] else []
    | .error _ => []
  else []

def seiZero (x : Nat × Nat) : Bool := decide (x.1 = pSEI) && decide (x.2 = 0)

/-- what a received CONNACK runs: nothing unless it is expected, parsed and accepts.  Its properties may clear the session
    (`cleared`, never so in v3.1.1); then the session is resumed, under the limit `mps` of the peer, or cleared. -/
def IdPrim.recvConnack (cfg : Cfg) (s : St) (x : Except Nat Pkt) (cleared : Pkt → Bool) (mps : Nat) : List IdPrim :=
  if s.status ≠ .connected then
    match x with
    | .ok p =>
      if p.rc = some 0 then (if cleared p then [.clearSession] else []) ++
        if p.sp then resend cfg.pw mps (if cleared p then [] else s.store) else [.clearSession]
      else []
    | .error _ => []
  else []

namespace Fp

theorem clearStoreRelated_ids (c : C) : IdRun [.clearSession] c (clearStoreRelated c) := .quiet

/-! ## CONNECT -/

theorem accepting_ids (c : C) (ka : Nat) : IdRun IdPrim.openConn c (accepting c ka) := .quiet

/-- both versions run the same sequence: the error paths must leave the group alone, and settling the session clears it
    on a clean start and at no other time -/
theorem connectIn_run {c : C} {x : Except Nat Pkt} {busy : C} {nack : C → Nat → C} {settle : Pkt → C → C}
    (hbusy : IdRun [] c busy) (hnack : ∀ e, IdRun [] c (nack { c with s := { c.s with status := .connecting } } e))
    (hsettle : ∀ p c', IdRun (if p.clean then [.clearSession] else []) c' (settle p c')) :
    IdRun (IdPrim.recvConnect c.s x) c (connectIn c x busy nack settle) := by
  unfold IdPrim.recvConnect
  refine connectIn_ind (fun hs => ?_) (fun hs e hx => ?_) (fun hs p hx => ?_)
  · rw [if_neg hs]
    exact hbusy
  · rw [if_pos hs, hx]
    exact (hnack e).err e
  · rw [if_pos hs, hx]
    exact (((accepting_ids c _).trans (hsettle p _)).post (.of_fp (refreshPingreqRecv_fp _))).recv p

theorem prV3Connect_run (c : C) (x : Except Nat Pkt) : IdRun (IdPrim.recvConnect c.s x) c (prV3Connect c x) :=
  prV3Connect_eq c x ▸ connectIn_run ((IdRun.refl c).close.err _)
    (fun e => .pre .quiet (.of_fp (psV3Connack_refusing_fp _ _ (v3ConnectErrRc_ne e))))
    (fun p _ => clearIf_ids p.clean .quiet)

theorem prV5Connect_run (c : C) (x : Except Nat Pkt) : IdRun (IdPrim.recvConnect c.s x) c (prV5Connect c x) :=
  prV5Connect_eq c x ▸ connectIn_run (.of_fp (handleV5Error_fp c _))
    (fun e => .pre .quiet (.of_fp (psV5Connack_refusing_fp _ _ (v5ConnectErrRc_ne e))))
    (fun p _ => (clearIf_ids p.clean (.refl _)).post (.of_fp (propsFold_connectRecvProp_fp _ p.props)))

theorem recvConnect_out (c : C) (x : Except Nat Pkt) (mps : Nat) :
    RecvOut c.cfg c.s 1 x mps (IdPrim.recvConnect c.s x) := by
  refine ite_ind (fun hs => ?_) fun _ => .keep
  cases x with
  | ok p => exact .connect p rfl rfl hs
  | error e => exact .keep

theorem prV3Connect_ids (c : C) (x : Except Nat Pkt) (mps : Nat) :
    ∃ l, RecvOut c.cfg c.s 1 x mps l ∧ IdRun l c (prV3Connect c x) := ⟨_, recvConnect_out c x mps, prV3Connect_run c x⟩

theorem prV5Connect_ids (c : C) (x : Except Nat Pkt) (mps : Nat) :
    ∃ l, RecvOut c.cfg c.s 1 x mps l ∧ IdRun l c (prV5Connect c x) := ⟨_, recvConnect_out c x mps, prV5Connect_run c x⟩

/-! ## CONNACK -/

/-- the session is resumed under the limit of the peer after the call, which a property may have set -/
theorem connackIn_run {c : C} {x : Except Nat Pkt} {busy : C} {bad : Nat → C} {props : Pkt → C → C} (cleared : Pkt → Bool)
    (hbusy : IdRun [] c busy) (hbad : ∀ e, IdRun [] c (bad e))
    (hprops : ∀ p, IdRun (if cleared p then [.clearSession] else []) c
      (props p { c with s := { c.s with status := .connected } })) :
    IdRun (IdPrim.recvConnack c.cfg c.s x cleared (connackIn c x busy bad props).s.mpsSend) c
      (connackIn c x busy bad props) := by
  generalize hm : (connackIn c x busy bad props).s.mpsSend = mps
  -- the sequence and the context branch on the same tests: they are taken apart together, not by `connackIn_ind`
  unfold IdPrim.recvConnack
  unfold connackIn at hm ⊢
  refine .guard Decidable.not_not.symm (fun _ => hbusy) fun hs => ?_
  rw [if_neg hs] at hm
  cases x with
  | error e => exact hbad e
  | ok p =>
    dsimp only at hm ⊢
    refine IdRun.recv (.ite (fun hrc => ?_) fun _ => .refl c) p
    rw [if_pos hrc] at hm
    have h1 := hprops p
    generalize props p { c with s := { c.s with status := .connected } } = c1 at hm h1 ⊢
    have hstore : c1.s.store = if cleared p then [] else c.s.store := by
      have h := congrArg Ids.store h1.ids
      revert h
      cases cleared p
      · exact id
      · exact id
    have hmps : c1.s.mpsSend = mps :=
      (ite_both (Q := fun r : C => c1.s.mpsSend = r.s.mpsSend) (by rw [resendStored_s]) rfl :
        c1.s.mpsSend = (if p.sp then resendStored c1 else clearStoreRelated c1).s.mpsSend).trans hm
    have hres := resendStored_ids c1
    rw [h1.cfg, hstore, hmps] at hres
    exact h1.trans (.ite (fun _ => hres) (fun _ => clearStoreRelated_ids c1))

theorem recvConnack_out (c : C) (x : Except Nat Pkt) (mps : Nat) (cleared : Pkt → Bool)
    (hc : ∀ p, cleared p = true ↔ c.s.ver ≠ 4 ∧ ∃ y ∈ p.props, y.1 = pSEI ∧ y.2 = 0) :
    RecvOut c.cfg c.s 2 x mps (IdPrim.recvConnack c.cfg c.s x cleared mps) := by
  refine ite_ind (fun hs => ?_) fun _ => .keep
  cases x with
  | error e => exact .keep
  | ok p => exact ite_ind (fun hrc => .connack p _ rfl rfl hs hrc (hc p)) fun _ => .keep

theorem prV3Connack_run (c : C) (x : Except Nat Pkt) :
    IdRun (IdPrim.recvConnack c.cfg c.s x (fun _ => false) (prV3Connack c x).s.mpsSend) c (prV3Connack c x) :=
  prV3Connack_eq c x ▸ connackIn_run (fun _ => false) ((IdRun.refl c).close.err _) (fun e => (IdRun.refl c).close.err e)
    (fun _ => .quiet)

theorem prV3Connack_ids (c : C) (x : Except Nat Pkt) (hv : c.s.ver = 4) :
    ∃ l, RecvOut c.cfg c.s 2 x (prV3Connack c x).s.mpsSend l ∧ IdRun l c (prV3Connack c x) :=
  ⟨_, recvConnack_out c x _ (fun _ => false) fun _ => ⟨nofun, fun h => absurd hv h.1⟩, prV3Connack_run c x⟩

theorem any_seiZero (props : List (Nat × Nat)) :
    props.any seiZero = true ↔ ∃ y ∈ props, y.1 = pSEI ∧ y.2 = 0 := by
  rw [List.any_eq_true]
  simp only [seiZero, Bool.and_eq_true, decide_eq_true_eq]

/-- a Session Expiry Interval of 0 clears the session; no other property touches the group -/
theorem connackRecvProp_run (c : C) (id v : Nat) :
    IdRun (if seiZero (id, v) then [.clearSession] else []) c (connackRecvProp c id v) := by
  by_cases h : id = pSEI ∧ v = 0
  · obtain ⟨rfl, rfl⟩ := h
    unfold connackRecvProp
    rw [if_neg (show ¬pSEI = pTAM by decide), if_neg (show ¬pSEI = pRM by decide),
      if_neg (show ¬pSEI = pMPS by decide), if_neg (show ¬pSEI = pSKA by decide), if_pos rfl, if_pos rfl]
    exact IdRun.pre .quiet (clearStoreRelated_ids _)
  · rw [if_neg (by simpa [seiZero] using h)]
    have key := @ite_ind C (IdRun [] c)
    unfold connackRecvProp
    refine key (fun _ => key (fun _ => .quiet) (fun _ => .refl c)) (fun _ => ?_)
    refine key (fun _ => (IdRun.of_fp (panicIf_fp _ c _)).set) (fun _ => ?_)
    refine key (fun _ => (IdRun.of_fp (panicIf_fp _ c _)).set) (fun _ => ?_)
    refine key (fun _ => ?_) (fun _ => ?_)
    · dsimp only
      refine key (fun _ => ?_) (fun _ => .quiet)
      refine key (fun _ => ?_) (fun _ => IdRun.push .quiet (fun h => nomatch h))
      exact key (fun _ => IdRun.push .quiet (fun h => nomatch h)) (fun _ => .quiet)
    · refine key (fun hid => ?_) (fun _ => .refl c)
      exact key (fun hv => absurd ⟨hid, hv⟩ h) (fun _ => .quiet)

/-- several such properties clear the session several times, which is the same as once -/
theorem propsFold_connackRecvProp_run (c : C) (props : List (Nat × Nat)) :
    IdRun (if props.any seiZero then [.clearSession] else []) c (propsFold connackRecvProp c props) := by
  induction props generalizing c with
  | nil => exact .refl c
  | cons y rest ih =>
    obtain ⟨id, v⟩ := y
    refine ((connackRecvProp_run c id v).trans (ih (connackRecvProp c id v))).congr ?_
    -- when both clear: `Alloc.clear` of a cleared allocator and emptying what is empty change nothing
    rw [List.any_cons]
    cases seiZero (id, v)
    · cases rest.any seiZero
      · rfl
      · rfl
    · cases rest.any seiZero
      · rfl
      · rfl

theorem propsFold_connackRecvProp_ids (c : C) (props : List (Nat × Nat)) :
    ∃ cleared : Bool, (cleared = true ↔ ∃ y ∈ props, y.1 = pSEI ∧ y.2 = 0) ∧
      IdRun (if cleared then [.clearSession] else []) c (propsFold connackRecvProp c props) :=
  ⟨_, any_seiZero props, propsFold_connackRecvProp_run c props⟩

theorem prV5Connack_run (c : C) (x : Except Nat Pkt) :
    IdRun (IdPrim.recvConnack c.cfg c.s x (fun p => p.props.any seiZero) (prV5Connack c x).s.mpsSend) c
      (prV5Connack c x) :=
  prV5Connack_eq c x ▸ connackIn_run (fun p => p.props.any seiZero) (.of_fp (handleV5Error_fp c _))
    (fun e => (IdRun.refl c).err e) (fun p => .pre .quiet (propsFold_connackRecvProp_run _ p.props))

theorem prV5Connack_ids (c : C) (x : Except Nat Pkt) (hv : c.s.ver ≠ 4) :
    ∃ l, RecvOut c.cfg c.s 2 x (prV5Connack c x).s.mpsSend l ∧ IdRun l c (prV5Connack c x) :=
  ⟨_, recvConnack_out c x _ _ fun p => (any_seiZero p.props).trans ⟨fun h => ⟨hv, h⟩, fun h => h.2⟩, prV5Connack_run c x⟩

/-! ## acknowledgements -/

/-- the error paths and the delivery leave the group alone: the sequence is that of `taken` -/
theorem ackIn_ids {c : C} {x : Except Nat Pkt} {set : List Nat} {taken : Pkt → Nat → C} (t mps : Nat)
    (ht : ∀ p, x = .ok p → p.pid.getD 0 ∈ set →
      ∃ l, RecvOut c.cfg c.s t x mps l ∧ IdRun l c (taken p (p.pid.getD 0))) :
    ∃ l, RecvOut c.cfg c.s t x mps l ∧ IdRun l c (ackIn c x set taken) :=
  ackIn_ind (Q := fun r => ∃ l, RecvOut c.cfg c.s t x mps l ∧ IdRun l c r) (fun e _ => ⟨[], .keep, .of_fp (vErr_fp c e)⟩)
    (fun _ _ _ => ⟨[], .keep, .of_fp (vErr_fp c _)⟩)
    (fun p hx hw => (ht p hx hw).imp fun _ h => ⟨h.1, (h.2.post (.of_fp (refreshPingreqRecv_fp _))).recv p⟩)

theorem pubDone_ids (c : C) (p : Pkt) (id : Nat) : IdRun [.release id] c (pubDone c p id) :=
  (releaseIfUsed_ids c id).post (.of_fp (decSendCountIf_fp (p.ver = 5) _))

/-- PUBACK and PUBCOMP: the entry has left the wait set of `k` and the store (`h1`), and the exchange ends -/
theorem pubDone_out {c c1 : C} {x : Except Nat Pkt} {p : Pkt} (k : Kind) (mps : Nat) (hx : x = .ok p)
    (hw : p.pid.getD 0 ∈ c.s.ids.wait k) (hk : k = .puback ∨ k = .pubcomp)
    (h1 : IdRun [.unwait k (p.pid.getD 0), .storeErase p.ver k (p.pid.getD 0)] c c1) :
    ∃ l, RecvOut c.cfg c.s k.nibble x mps l ∧ IdRun l c (pubDone c1 p (p.pid.getD 0)) :=
  ⟨_, .ack p k _ rfl hx rfl hw (hk.imp_right .inl), h1.trans (pubDone_ids c1 p _)⟩

theorem prPuback_ids (c : C) (x : Except Nat Pkt) (mps : Nat) :
    ∃ l, RecvOut c.cfg c.s 4 x mps l ∧ IdRun l c (prPuback c x) :=
  prPuback_eq c x ▸ ackIn_ids 4 mps fun _ hx hw => pubDone_out .puback mps hx hw (.inl rfl) .quiet

theorem prPubrec_ids (c : C) (x : Except Nat Pkt) (mps : Nat) :
    ∃ l, RecvOut c.cfg c.s 5 x mps l ∧ IdRun l c (prPubrec c x) := by
  refine prPubrec_eq c x ▸ ackIn_ids 5 mps fun p hx hw => ?_
  have h1 : IdRun [.unwait .pubrec (p.pid.getD 0), .storeErase p.ver .pubrec (p.pid.getD 0)] c { c with s := { c.s with
      pubrec := del (p.pid.getD 0) c.s.pubrec, store := storeErase p.ver .pubrec (p.pid.getD 0) c.s.store } } := .quiet
  refine pubrecDone_cases (Q := fun r => ∃ l, RecvOut c.cfg c.s 5 x mps l ∧ IdRun l c r) (fun hok _ _ => ?_)
    (fun hok _ => ⟨_, .pubrec p _ false rfl hx rfl hw hok (fun h => nomatch h), h1⟩)
    (fun hok => ⟨_, .ack p .pubrec _ rfl hx rfl hw (.inr (.inr ⟨rfl, hok⟩)),
      (h1.trans (releaseIfUsed_ids _ _)).post (.of_fp (decSendCount_fp _))⟩)
  rcases psPubrel_run _ (mkAck c.cfg p.ver .pubrel (p.pid.getD 0)) with hr | ⟨hu, hr⟩
  · exact ⟨_, .pubrec p _ false rfl hx rfl hw hok (fun h => nomatch h), h1.trans hr⟩
  · exact ⟨_, .pubrec p _ true rfl hx rfl hw hok (fun _ => hu), h1.trans hr⟩

theorem prPubcomp_ids (c : C) (x : Except Nat Pkt) (mps : Nat) :
    ∃ l, RecvOut c.cfg c.s 7 x mps l ∧ IdRun l c (prPubcomp c x) :=
  prPubcomp_eq c x ▸ ackIn_ids 7 mps fun _ hx hw => pubDone_out .pubcomp mps hx hw (.inr rfl) .quiet

theorem prSubUnsuback_ids (c : C) (isSub : Bool) (x : Except Nat Pkt) (mps : Nat) :
    ∃ l, RecvOut c.cfg c.s (if isSub then 9 else 11) x mps l ∧ IdRun l c (prSubUnsuback c isSub x) := by
  refine prSubUnsuback_eq c isSub x ▸ ackIn_ids _ mps fun p hx hw => ?_
  cases isSub with
  | true => exact ⟨_, .suback p .suback _ rfl hx rfl hw (.inl rfl),
      .trans (l := [.unwait .suback _]) .quiet (releaseIfUsed_ids _ _)⟩
  | false => exact ⟨_, .suback p .unsuback _ rfl hx rfl hw (.inr rfl),
      .trans (l := [.unwait .unsuback _]) .quiet (releaseIfUsed_ids _ _)⟩

/-! ## the dispatchers -/

theorem dispatchRecv_ids (c : C) (t : Nat) (x : Except Nat Pkt) :
    ∃ l, RecvOut c.cfg c.s t x (dispatchRecv c t x).s.mpsSend l ∧ IdRun l c (dispatchRecv c t x) :=
  dispatchRecv_cases (Q := fun r => ∃ l, RecvOut c.cfg c.s t x r.s.mpsSend l ∧ IdRun l c r) c t x
    (fun ht _ => ht ▸ prV3Connect_ids c x _)
    (fun ht _ => ht ▸ prV5Connect_ids c x _)
    (fun ht hv => ht ▸ prV3Connack_ids c x hv)
    (fun ht hv => ht ▸ prV5Connack_ids c x hv)
    (fun _ _ => ⟨[], .keep, .of_fp (prV3Publish_fp c x)⟩)
    (fun _ _ => ⟨[], .keep, .of_fp (prV5Publish_fp c x)⟩)
    (fun ht => ht ▸ prPuback_ids c x _)
    (fun ht => ht ▸ prPubrec_ids c x _)
    (fun _ => ⟨[], .keep, .of_fp (prPubrel_fp c x)⟩)
    (fun ht => ht ▸ prPubcomp_ids c x _)
    (fun _ => ⟨[], .keep, .of_fp (prPlain_fp c x)⟩)
    (fun ht => ht ▸ prSubUnsuback_ids c true x _)
    (fun ht => ht ▸ prSubUnsuback_ids c false x _)
    (fun _ => ⟨[], .keep, .of_fp (prPingreq_fp c x)⟩)
    (fun _ => ⟨[], .keep, .of_fp (prPingresp_fp c x)⟩)
    (fun _ => ⟨[], .keep, .of_fp (prDisconnect_fp c x)⟩)
    (fun _ => ⟨[], .keep, (IdRun.refl c).err _⟩)

theorem recv_ids (c : C) (inp : List Nat) (parse : Nat → Nat → List Nat → Except Nat Pkt) :
    ∃ l, StepOut c.cfg c.s (recv c inp parse).1.s.mpsSend (.recv inp parse) l ∧ IdRun l c (recv c inp parse).1 := by
  let Q : C → Prop := fun r => ∃ l, StepOut c.cfg c.s r.s.mpsSend (.recv inp parse) l ∧ IdRun l c r
  refine recv_cases (Q := Q) c inp parse (fun _ _ _ => ⟨[], .keep _, .quiet⟩) (fun pb fh data _ _ => ?_)
    (fun _ _ _ => ⟨[], .keep _, ((IdRun.pre .quiet (.of_fp (cancelTimers_fp _))).close).err _⟩)
  let c' : C := { c with s := { c.s with pb := pb } }
  have h0 : IdRun [] c c' := .quiet
  -- the CONNECT that opens an undetermined connection is handled under the version it names
  have first : ∀ (v : Nat) (pr : C → Except Nat Pkt → C),
      (∀ c x, ∃ l, RecvOut c.cfg c.s 1 x (pr c x).s.mpsSend l ∧ IdRun l c (pr c x)) → c.s.ver = 0 → fh / 16 = 1 →
      Q (pr { c' with s := { c'.s with ver := v } } (parse v fh data)) := by
    intro v pr h hv ht
    obtain ⟨l, ho, hr⟩ := h { c' with s := { c'.s with ver := v } } (parse v fh data)
    exact ⟨l, .recv inp parse { c'.s with ver := v } fh data l rfl (.inr hv) (ht ▸ ho), IdRun.pre .quiet hr⟩
  refine processRecvPacket_cases (Q := Q) c' fh data _
    (fun _ => ⟨[], .keep _, (h0.pre (.of_fp (v5DisconnectOrClose_fp c' _))).err _⟩) (fun e _ _ => ⟨[], .keep _, h0.err e⟩)
    (fun _ _ hv ht _ _ => first 4 prV3Connect (fun c x => prV3Connect_ids c x _) hv ht)
    (fun _ _ hv ht _ _ => first 5 prV5Connect (fun c x => prV5Connect_ids c x _) hv ht) (fun _ _ _ => ?_)
  obtain ⟨l, ho, hr⟩ := dispatchRecv_ids c' (fh / 16) (parse c'.s.ver fh data)
  exact ⟨l, .recv inp parse c'.s fh data l rfl (.inl rfl) ho, h0.pre hr⟩

end Fp

end MqttVerif.Conn
