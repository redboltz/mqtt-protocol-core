import MqttVerif.Conn.Lemmas.Pend
import MqttVerif.Conn.Lemmas.PidsStore
/-!
# C08 — the invariant `Inv` relating the driver's ghost `pend` to the model, and the steps that keep it:
wait sets grow, a packet is requested, an identifier is deleted under a mask
-/
namespace MqttVerif.Conn.Pend
open MqttVerif MqttVerif.Conn

def waitOf (s : St) : Kind → List Nat
  | .pubcomp => s.pubcomp
  | .pubrec => s.pubrec
  | _ => s.puback

def waitN (s : St) : Nat → List Nat
  | 4 => s.puback
  | 5 => s.pubrec
  | 7 => s.pubcomp
  | _ => []

/-- **the relational invariant**: every ghost entry is awaited by the model -/
def PendAgree (s : St) (pend : Gh) : Prop :=
  ∀ id, ((id, 4) ∈ pend → id ∈ s.puback) ∧ ((id, 5) ∈ pend → id ∈ s.pubrec) ∧ ((id, 7) ∈ pend → id ∈ s.pubcomp)

/-- the same, bounded (decidable) -/
def PendAgreeB (s : St) (pend : Gh) : Prop :=
  ∀ x ∈ pend, (x.2 = 4 → x.1 ∈ s.puback) ∧ (x.2 = 5 → x.1 ∈ s.pubrec) ∧ (x.2 = 7 → x.1 ∈ s.pubcomp)

theorem pendAgree_iff (s : St) (pend : Gh) : PendAgree s pend ↔ PendAgreeB s pend := by
  constructor
  · intro h x hx
    obtain ⟨i, n⟩ := x
    refine ⟨fun e => ?_, fun e => ?_, fun e => ?_⟩ <;> simp only at e <;> subst e
    · exact (h i).1 hx
    · exact (h i).2.1 hx
    · exact (h i).2.2 hx
  · intro h id
    exact ⟨fun hx => (h _ hx).1 rfl, fun hx => (h _ hx).2.1 rfl, fun hx => (h _ hx).2.2 rfl⟩

instance (s : St) (pend : Gh) : Decidable (PendAgreeB s pend) := by unfold PendAgreeB; infer_instance
instance (s : St) (pend : Gh) : Decidable (PendAgree s pend) := decidable_of_iff _ (pendAgree_iff s pend).symm

/-- a stored PUBLISH / PUBREL is an incomplete exchange the model awaits the acknowledgement of:
    it carries its key as identifier, is a packet of the connection's (determined) protocol
    version, and its key is in the wait set of its response packet.  (Nothing is required of a
    stored packet of another kind — `restorePackets` accepts any — : resending it creates no ghost
    entry.) -/
def EntOk (s : St) (x : Nat × Pkt) : Prop :=
  (x.2.kind = .publish ∨ x.2.kind = .pubrel) →
    (x.2.pid.getD 0 = x.1 ∧ x.2.ver = s.ver ∧ s.ver ≠ 0 ∧ x.1 ∈ waitOf s (respOf x.2))

instance (s : St) (x : Nat × Pkt) : Decidable (EntOk s x) := by unfold EntOk; infer_instance

structure StoreOk (s : St) : Prop where
  nodup : (s.store.map (·.1)).Nodup
  ent : ∀ x ∈ s.store, EntOk s x

instance (s : St) : Decidable (StoreOk s) :=
  decidable_of_iff ((s.store.map (·.1)).Nodup ∧ ∀ x ∈ s.store, EntOk s x)
    ⟨fun h => ⟨h.1, h.2⟩, fun h => ⟨h.1, h.2⟩⟩

/-- the ghost seen through a mask: the entries of one identifier hidden (between the moment a
    handler deletes the wait-set entry and the moment it pushes the event that removes the ghost
    entry) -/
def mask : Option Nat → Gh → Gh
  | none, g => g
  | some i, g => rm i g

theorem mask_mono (m : Option Nat) {a b : Gh} (h : a ⊆ b) : mask m a ⊆ mask m b := by
  cases m with
  | none => exact h
  | some i => intro x hx; exact mem_rm.2 ⟨h (mem_rm.1 hx).1, (mem_rm.1 hx).2⟩

@[simp] theorem mask_nil (m : Option Nat) : mask m [] = [] := by cases m <;> rfl

structure InvM (m : Option Nat) (g : Gh) (c : C) : Prop where
  agree : PendAgree c.s (mask m (pendStep g c.ev))
  store : StoreOk c.s
  conn : c.s.status = .connecting → mask m (pendStep g c.ev) = []

/-- the invariant: ghost `g` at the start of the call, context `c` -/
abbrev Inv (g : Gh) (c : C) : Prop := InvM none g c

theorem PendAgree.sub {s : St} {a b : Gh} (h : PendAgree s b) (hs : a ⊆ b) : PendAgree s a :=
  fun id => ⟨fun hx => (h id).1 (hs hx), fun hx => (h id).2.1 (hs hx), fun hx => (h id).2.2 (hs hx)⟩

theorem PendAgree.nil (s : St) : PendAgree s [] := fun id => by simp

theorem PendAgree.of_W {c c' : C} {G : Gh} (hw : W c' = W c) (h : PendAgree c.s G) : PendAgree c'.s G := by
  simp only [W, Prod.mk.injEq] at hw
  intro id
  rw [hw.1, hw.2.1, hw.2.2.1]; exact h id

theorem PendAgree.waitN {s : St} {G : Gh} (h : PendAgree s G) {id n : Nat} (hn : n = 4 ∨ n = 5 ∨ n = 7)
    (hm : (id, n) ∈ G) : id ∈ Pend.waitN s n := by
  rcases hn with rfl | rfl | rfl
  · exact (h id).1 hm
  · exact (h id).2.1 hm
  · exact (h id).2.2 hm

theorem PendAgree.of_waitN {s : St} {G : Gh}
    (h : ∀ id n, (n = 4 ∨ n = 5 ∨ n = 7) → (id, n) ∈ G → id ∈ Pend.waitN s n) : PendAgree s G :=
  fun id => ⟨h id 4 (.inl rfl), h id 5 (.inr (.inl rfl)), h id 7 (.inr (.inr rfl))⟩

theorem waitOf_congr {s s' : St} (h1 : s'.puback = s.puback) (h2 : s'.pubrec = s.pubrec)
    (h3 : s'.pubcomp = s.pubcomp) (k : Kind) : waitOf s' k = waitOf s k := by
  cases k <;> simp [waitOf, h1, h2, h3]

theorem StoreOk.congr {c c' : C} (h : W c' = W c) (k : StoreOk c.s) : StoreOk c'.s := by
  simp only [W, Prod.mk.injEq] at h
  obtain ⟨h1, h2, h3, h4, h5⟩ := h
  refine ⟨by rw [h4]; exact k.nodup, ?_⟩
  intro x hx hk
  rw [h4] at hx
  obtain ⟨a, d, e, f⟩ := k.ent x hx hk
  exact ⟨a, by rw [h5]; exact d, by rw [h5]; exact e, by rw [waitOf_congr h1 h2 h3]; exact f⟩

theorem InvM.fr {m : Option Nat} {g : Gh} {c c' : C} (f : Fr c c') (h : InvM m g c) : InvM m g c' := by
  have hsub := mask_mono m (f.gh g)
  refine ⟨(h.agree.sub hsub).of_W f.w, h.store.congr f.w, ?_⟩
  · intro hc
    rcases f.status with e | e
    · have := h.conn (e ▸ hc)
      rw [this] at hsub
      exact List.eq_nil_of_subset_nil hsub
    · rw [e] at hc; cases hc

theorem mem_ins_self (y : Nat) (l : List Nat) : y ∈ ins y l := mem_ins.2 (.inl rfl)
theorem mem_ins_of_mem {x y : Nat} {l : List Nat} (h : x ∈ l) : x ∈ ins y l := mem_ins.2 (.inr h)

theorem InvM.grow {m : Option Nat} {g : Gh} {c c' : C} (h : InvM m g c) (hev : c'.ev = c.ev)
    (hst : c'.s.status = c.s.status) (hv : c'.s.ver = c.s.ver)
    (hpa : ∀ i ∈ c.s.puback, i ∈ c'.s.puback) (hpr : ∀ i ∈ c.s.pubrec, i ∈ c'.s.pubrec)
    (hpc : ∀ i ∈ c.s.pubcomp, i ∈ c'.s.pubcomp)
    (hs : c'.s.store = c.s.store ∨
      ∃ x, c'.s.store = c.s.store ++ [x] ∧ storeHas x.1 c.s.store = false ∧ EntOk c'.s x) : InvM m g c' := by
  have hw : ∀ k i, i ∈ waitOf c.s k → i ∈ waitOf c'.s k := by
    intro k i; cases k <;> simp only [waitOf] <;> first | exact hpa i | exact hpr i | exact hpc i
  have hent : ∀ x ∈ c.s.store, EntOk c'.s x := by
    intro x hx hk
    obtain ⟨a, d, e, f⟩ := h.store.ent x hx hk
    exact ⟨a, by rw [hv]; exact d, by rw [hv]; exact e, hw _ _ f⟩
  refine ⟨?_, ?_, ?_⟩
  · rw [hev]
    intro id
    exact ⟨fun hx => hpa _ ((h.agree id).1 hx), fun hx => hpr _ ((h.agree id).2.1 hx),
      fun hx => hpc _ ((h.agree id).2.2 hx)⟩
  · rcases hs with hs | ⟨x, hs, hn, hx⟩
    · refine ⟨by rw [hs]; exact h.store.nodup, ?_⟩
      rw [hs]; exact hent
    · refine ⟨?_, ?_⟩
      · rw [hs]
        exact KN.snoc h.store.nodup hn x.2
      · rw [hs]
        intro y hy
        simp only [List.mem_append, List.mem_singleton] at hy
        rcases hy with hy | rfl
        · exact hent y hy
        · exact hx
  · rw [hev, hst]; exact h.conn

theorem mask_addP_sub (m : Option Nat) (q : Pkt) (G : Gh) :
    ∀ x ∈ mask m (addP q G), x ∈ mask m G ∨ (∃ n, nibOf q = some n ∧ x = (q.pid.getD 0, n)) := by
  intro x hx
  unfold addP at hx
  cases hn : nibOf q with
  | none => simp only [hn] at hx; exact .inl hx
  | some n =>
    simp only [hn] at hx
    cases m with
    | none =>
      simp only [mask, List.mem_cons] at hx ⊢
      rcases hx with rfl | hx
      · exact .inr ⟨n, rfl, rfl⟩
      · exact .inl (rm_subset _ _ hx)
    | some i =>
      simp only [mask] at hx ⊢
      obtain ⟨h1, h2⟩ := mem_rm.1 hx
      simp only [List.mem_cons] at h1
      rcases h1 with rfl | h1
      · exact .inr ⟨n, rfl, rfl⟩
      · exact .inl (mem_rm.2 ⟨rm_subset _ _ h1, h2⟩)

theorem PendAgree.addP {s : St} {m : Option Nat} {G : Gh} (h : PendAgree s (mask m G)) (p : Pkt)
    (hw : ∀ n, nibOf p = some n → p.pid.getD 0 ∈ Pend.waitN s n) : PendAgree s (mask m (Pend.addP p G)) :=
  .of_waitN fun id n hn hx => by
    rcases mask_addP_sub m p G _ hx with hx | ⟨n', hn', e⟩
    · exact h.waitN hn hx
    · cases e; exact hw n hn'

theorem InvM.send {m : Option Nat} {g : Gh} {c : C} (h : InvM m g c) (p : Pkt) (r : Option Nat)
    (hst : c.s.status = .connected)
    (hw : ∀ n, nibOf p = some n → p.pid.getD 0 ∈ waitN c.s n) : InvM m g (c.push (.send p r)) := by
  refine ⟨?_, h.store, ?_⟩
  · simp only [push_ev, pendStep_append, pendStep_cons, pendStep_nil, pendEv_send, push_s]
    exact h.agree.addP p hw
  · intro hc; rw [push_s, hst] at hc; cases hc

theorem InvM.send_none {m : Option Nat} {g : Gh} {c : C} (h : InvM m g c) (p : Pkt) (r : Option Nat)
    (hn : nibOf p = none) : InvM m g (c.push (.send p r)) :=
  h.fr (fr_push_send c r hn)

theorem InvM.del {g : Gh} {c c' : C} {id : Nat} (h : InvM none g c) (hev : c'.ev = c.ev)
    (hst : c'.s.status = c.s.status) (hv : c'.s.ver = c.s.ver)
    (hpa : ∀ i, i ≠ id → i ∈ c.s.puback → i ∈ c'.s.puback)
    (hpr : ∀ i, i ≠ id → i ∈ c.s.pubrec → i ∈ c'.s.pubrec)
    (hpc : ∀ i, i ≠ id → i ∈ c.s.pubcomp → i ∈ c'.s.pubcomp)
    (hsl : c'.s.store.Sublist c.s.store)
    (hid : ∀ x ∈ c'.s.store, x.1 = id → (x.2.kind = .publish ∨ x.2.kind = .pubrel) →
      x.1 ∈ waitOf c'.s (respOf x.2)) : InvM (some id) g c' := by
  have hw : ∀ k i, i ≠ id → i ∈ waitOf c.s k → i ∈ waitOf c'.s k := by
    intro k i; cases k <;> simp only [waitOf] <;> first | exact hpa i | exact hpr i | exact hpc i
  refine ⟨?_, ⟨?_, ?_⟩, ?_⟩
  · rw [hev]
    simp only [mask]
    intro i
    refine ⟨fun hx => ?_, fun hx => ?_, fun hx => ?_⟩ <;> obtain ⟨h1, h2⟩ := mem_rm.1 hx
    · exact hpa i h2 ((h.agree i).1 h1)
    · exact hpr i h2 ((h.agree i).2.1 h1)
    · exact hpc i h2 ((h.agree i).2.2 h1)
  · exact List.Nodup.sublist (List.Sublist.map _ hsl) h.store.nodup
  · intro x hx hk
    obtain ⟨a, d, e, f⟩ := h.store.ent x (hsl.subset hx) hk
    refine ⟨a, by rw [hv]; exact d, by rw [hv]; exact e, ?_⟩
    by_cases hx1 : x.1 = id
    · exact hid x hx hx1 hk
    · exact hw _ _ hx1 f
  · intro hc
    rw [hev, hst] at *
    have := h.conn hc
    simp only [mask] at this ⊢
    rw [this]; rfl

theorem rm_rm_self (id : Nat) (g : Gh) : rm id (rm id g) = rm id g := by
  simp [rm, List.filter_filter]

theorem InvM.unmask_recv {g : Gh} {c : C} {id : Nat} (h : InvM (some id) g c) (p : Pkt)
    (ha : isAck p = true) (hp : p.pid.getD 0 = id) : Inv g (c.push (.recv p)) := by
  have e : pendStep g (c.push (.recv p)).ev = rm id (pendStep g c.ev) := by
    simp [pendEv_recv, ha, hp]
  exact ⟨by rw [e]; exact h.agree, h.store, by rw [e]; exact h.conn⟩

theorem InvM.unmask_released {g : Gh} {c : C} {id : Nat} (h : InvM (some id) g c) :
    Inv g (c.push (.released id)) := by
  have e : pendStep g (c.push (.released id)).ev = rm id (pendStep g c.ev) := by simp
  exact ⟨by rw [e]; exact h.agree, h.store, by rw [e]; exact h.conn⟩

theorem rm_absent {id : Nat} {G : Gh} (h : ∀ n, (id, n) ∉ G) : rm id G = G := by
  unfold rm
  rw [List.filter_eq_self]
  intro x hx
  simp only [ne_eq, decide_not, Bool.not_eq_eq_eq_not, Bool.not_true, decide_eq_false_iff_not]
  intro e
  exact h x.2 (by rw [← e]; exact hx)

theorem InvM.unmask_absent {g : Gh} {c : C} {id : Nat} (h : InvM (some id) g c)
    (ha : ∀ n, (id, n) ∉ pendStep g c.ev) : Inv g c := by
  have e := rm_absent ha
  exact ⟨by have := h.agree; simp only [mask, e] at this; exact this, h.store,
    by have := h.conn; simp only [mask, e] at this; exact this⟩

theorem InvM.to_mask {g : Gh} {c : C} (h : Inv g c) (id : Nat) : InvM (some id) g c :=
  ⟨h.agree.sub (rm_subset _ _), h.store, fun hc => by have := h.conn hc; simp only [mask] at this ⊢; rw [this]; rfl⟩

theorem inv_clear {g : Gh} {c : C} (hg : pendStep g c.ev = []) : Inv g (clearStoreRelated c) := by
  refine ⟨?_, ⟨?_, ?_⟩, ?_⟩
  · show PendAgree _ (pendStep g c.ev); rw [hg]; exact PendAgree.nil _
  · simp [clearStoreRelated]
  · simp [clearStoreRelated]
  · intro _; exact hg

theorem inv_of_empty {g : Gh} {c : C} (hg : pendStep g c.ev = []) (k : StoreOk c.s) : Inv g c :=
  ⟨by show PendAgree _ (pendStep g c.ev); rw [hg]; exact PendAgree.nil _, k, fun _ => hg⟩

theorem lookup_of_mem {α : Type} {st : List (Nat × α)} (hn : (st.map (·.1)).Nodup) {x : Nat × α} (hx : x ∈ st) :
    lookup x.1 st = some x.2 := by
  induction st with
  | nil => cases hx
  | cons y rest ih =>
    obtain ⟨k, v⟩ := y
    simp only [List.map_cons, List.nodup_cons, List.mem_map, not_exists, not_and] at hn
    simp only [List.mem_cons] at hx
    rcases hx with rfl | hx
    · simp [lookup]
    · have : x.1 ≠ k := fun e => hn.1 x hx e
      simp only [lookup, this, if_false]
      exact ih hn.2 hx

theorem storeErase_keeps {v : Nat} {k : Kind} {id : Nat} {st : List (Nat × Pkt)} (hn : (st.map (·.1)).Nodup)
    {x : Nat × Pkt} (hx : x ∈ storeErase v k id st) (hid : x.1 = id) : ¬ (respOf x.2 = k ∧ x.2.ver = v) := by
  have hm : x ∈ st := (storeErase_sublist v k id st).subset hx
  have hl := lookup_of_mem hn hm
  rw [hid] at hl
  unfold storeErase at hx
  simp only [hl] at hx
  split at hx
  · exact absurd hid (mem_erase.1 hx).2
  · assumption

theorem storeErasePublish_keeps {id : Nat} {st : List (Nat × Pkt)} (hn : (st.map (·.1)).Nodup)
    {x : Nat × Pkt} (hx : x ∈ (storeErasePublish id st).2) (hid : x.1 = id) : x.2.kind ≠ .publish := by
  have hm : x ∈ st := (storeErasePublish_sublist id st).subset hx
  have hl := lookup_of_mem hn hm
  rw [hid] at hl
  unfold storeErasePublish at hx
  simp only [hl] at hx
  split at hx
  · exact absurd hid (mem_erase.1 hx).2
  · assumption

theorem storeErasePublish_hit {id : Nat} {st : List (Nat × Pkt)} (h : (storeErasePublish id st).1 = true) :
    (storeErasePublish id st).2 = erase id st := by
  unfold storeErasePublish at h ⊢
  (repeat' split) <;> simp_all

end MqttVerif.Conn.Pend
