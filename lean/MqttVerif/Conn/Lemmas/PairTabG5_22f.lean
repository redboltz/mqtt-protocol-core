import MqttVerif.Conn.Lemmas.PairAbs
/-!
# Generated phase table (helper for `Props/C01L2c.lean`)

Two SAME-direction exchanges in flight: `startTwo v false P1 P2`, `P1` QoS 2 (identifier 1), `P2` QoS 2 (identifier 2).
`Ph`: the 39 phases that ANY schedule of `Act4` actions passes through (found by a breadth-first search on concrete
packets; a phase is a shape of the pair together with how often each message has been notified and each identifier
released so far, so a shape may occur in several phases).
`sysOf`: the shape; `next`: the successor; `nS nC rC rS`: the PUBLISH notifications at the server / client application and
the identifiers released by the client / server in that step.  `tab` collects them; `ok`, `counts`, `loss` (`PairAbs.lean`):
the kernel reads the table in tokens, runs the machine `astep` on every phase and action and finds the table's successor
and outputs - so the table is right for arbitrary packets and both versions (`closure`) - and checks that the outputs
follow the progress of the two exchanges as the shapes show it (`Counted`), and the runs with one loss.
-/
set_option linter.unusedVariables false
namespace MqttVerif.Conn.Pair.G5_22f
open MqttVerif MqttVerif.Conn MqttVerif.Conn.Pair

inductive Ph
  | p0
  | p1
  | p2
  | p3
  | p4
  | p5
  | p6
  | p7
  | p8
  | p9
  | p10
  | p11
  | p12
  | p13
  | p14
  | p15
  | p16
  | p17
  | p18
  | p19
  | p20
  | p21
  | p22
  | p23
  | p24
  | p25
  | p26
  | p27
  | p28
  | p29
  | p30
  | p31
  | p32
  | p33
  | p34
  | p35
  | p36
  | p37
  | p38
deriving DecidableEq, Repr

def sysOf (v : Nat) (P1 P2 : Pkt) : Ph → Sys
  | .p0 =>
    { c := mkSt v true .connected [⟨1, 65535⟩] [] [] [] [] [] [],
      s := mkSt v false .connected [⟨3, 65535⟩] [(1, P1.asDup), (2, P2.asDup)] [] [2, 1] [] [] [],
      c2s := [], s2c := [P1, P2] }
  | .p1 =>
    { c := mkSt v true .connected [⟨1, 65535⟩] [] [] [] [] [1] (prl v [1]),
      s := mkSt v false .connected [⟨3, 65535⟩] [(1, P1.asDup), (2, P2.asDup)] [] [2, 1] [] [] [],
      c2s := [(ackN v .pubrec 1)], s2c := [P2] }
  | .p2 =>
    { c := mkSt v true .connected [⟨1, 65535⟩] [] [] [] [] [] [],
      s := mkSt v false .connected [⟨3, 65535⟩] [(1, P1.asDup), (2, P2.asDup)] [] [2, 1] [] [] [],
      c2s := [], s2c := [P1.asDup, P2.asDup] }
  | .p3 =>
    { c := mkSt v true .connected [⟨1, 65535⟩] [] [] [] [] [1] (prl v [1]),
      s := mkSt v false .connected [⟨3, 65535⟩] [(2, P2.asDup), (1, (ackN v .pubrel 1))] [] [2] [1] [] [],
      c2s := [], s2c := [P2, (ackN v .pubrel 1)] }
  | .p4 =>
    { c := mkSt v true .connected [⟨1, 65535⟩] [] [] [] [] [2, 1] (prl v [2, 1]),
      s := mkSt v false .connected [⟨3, 65535⟩] [(1, P1.asDup), (2, P2.asDup)] [] [2, 1] [] [] [],
      c2s := [(ackN v .pubrec 1), (ackN v .pubrec 2)], s2c := [] }
  | .p5 =>
    { c := mkSt v true .connected [⟨1, 65535⟩] [] [] [] [] [1] [],
      s := mkSt v false .connected [⟨3, 65535⟩] [(1, P1.asDup), (2, P2.asDup)] [] [2, 1] [] [] [],
      c2s := [], s2c := [P1.asDup, P2.asDup] }
  | .p6 =>
    { c := mkSt v true .connected [⟨1, 65535⟩] [] [] [] [] [1] (prl v [1]),
      s := mkSt v false .connected [⟨3, 65535⟩] [(1, P1.asDup), (2, P2.asDup)] [] [2, 1] [] [] [],
      c2s := [(ackN v .pubrec 1)], s2c := [P2.asDup] }
  | .p7 =>
    { c := mkSt v true .connected [⟨1, 65535⟩] [] [] [] [] [2, 1] (prl v [2, 1]),
      s := mkSt v false .connected [⟨3, 65535⟩] [(2, P2.asDup), (1, (ackN v .pubrel 1))] [] [2] [1] [] [],
      c2s := [(ackN v .pubrec 2)], s2c := [(ackN v .pubrel 1)] }
  | .p8 =>
    { c := mkSt v true .connected [⟨1, 65535⟩] [] [] [] [] [1] [],
      s := mkSt v false .connected [⟨3, 65535⟩] [(2, P2.asDup), (1, (ackN v .pubrel 1))] [] [2] [1] [] [],
      c2s := [], s2c := [P2.asDup, (ackN v .pubrel 1)] }
  | .p9 =>
    { c := mkSt v true .connected [⟨1, 65535⟩] [] [] [] [] [2, 1] [],
      s := mkSt v false .connected [⟨3, 65535⟩] [(1, P1.asDup), (2, P2.asDup)] [] [2, 1] [] [] [],
      c2s := [], s2c := [P1.asDup, P2.asDup] }
  | .p10 =>
    { c := mkSt v true .connected [⟨1, 65535⟩] [] [] [] [] [1] (prl v [1]),
      s := mkSt v false .connected [⟨3, 65535⟩] [(2, P2.asDup), (1, (ackN v .pubrel 1))] [] [2] [1] [] [],
      c2s := [], s2c := [P2.asDup, (ackN v .pubrel 1)] }
  | .p11 =>
    { c := mkSt v true .connected [⟨1, 65535⟩] [] [] [] [] [2, 1] (prl v [2, 1]),
      s := mkSt v false .connected [⟨3, 65535⟩] [(1, (ackN v .pubrel 1)), (2, (ackN v .pubrel 2))] [] [] [2, 1] [] [],
      c2s := [], s2c := [(ackN v .pubrel 1), (ackN v .pubrel 2)] }
  | .p12 =>
    { c := mkSt v true .connected [⟨1, 65535⟩] [] [] [] [] [2] (prl v [2]),
      s := mkSt v false .connected [⟨3, 65535⟩] [(2, P2.asDup), (1, (ackN v .pubrel 1))] [] [2] [1] [] [],
      c2s := [(ackN v .pubrec 2), (ackN v .pubcomp 1)], s2c := [] }
  | .p13 =>
    { c := mkSt v true .connected [⟨1, 65535⟩] [] [] [] [] [2, 1] [],
      s := mkSt v false .connected [⟨3, 65535⟩] [(2, P2.asDup), (1, (ackN v .pubrel 1))] [] [2] [1] [] [],
      c2s := [], s2c := [P2.asDup, (ackN v .pubrel 1)] }
  | .p14 =>
    { c := mkSt v true .connected [⟨1, 65535⟩] [] [] [] [] [2, 1] (prl v [2]),
      s := mkSt v false .connected [⟨3, 65535⟩] [(2, P2.asDup), (1, (ackN v .pubrel 1))] [] [2] [1] [] [],
      c2s := [(ackN v .pubrec 2)], s2c := [(ackN v .pubrel 1)] }
  | .p15 =>
    { c := mkSt v true .connected [⟨1, 65535⟩] [] [] [] [] [2, 1] (prl v [1]),
      s := mkSt v false .connected [⟨3, 65535⟩] [(1, P1.asDup), (2, P2.asDup)] [] [2, 1] [] [] [],
      c2s := [(ackN v .pubrec 1)], s2c := [P2.asDup] }
  | .p16 =>
    { c := mkSt v true .connected [⟨1, 65535⟩] [] [] [] [] [2] (prl v [2]),
      s := mkSt v false .connected [⟨3, 65535⟩] [(1, (ackN v .pubrel 1)), (2, (ackN v .pubrel 2))] [] [] [2, 1] [] [],
      c2s := [(ackN v .pubcomp 1)], s2c := [(ackN v .pubrel 2)] }
  | .p17 =>
    { c := mkSt v true .connected [⟨1, 65535⟩] [] [] [] [] [2, 1] [],
      s := mkSt v false .connected [⟨3, 65535⟩] [(1, (ackN v .pubrel 1)), (2, (ackN v .pubrel 2))] [] [] [2, 1] [] [],
      c2s := [], s2c := [(ackN v .pubrel 1), (ackN v .pubrel 2)] }
  | .p18 =>
    { c := mkSt v true .connected [⟨1, 65535⟩] [] [] [] [] [2] [],
      s := mkSt v false .connected [⟨3, 65535⟩] [(2, P2.asDup), (1, (ackN v .pubrel 1))] [] [2] [1] [] [],
      c2s := [], s2c := [P2.asDup, (ackN v .pubrel 1)] }
  | .p19 =>
    { c := mkSt v true .connected [⟨1, 65535⟩] [] [] [] [] [2, 1] (prl v [2]),
      s := mkSt v false .connected [⟨3, 65535⟩] [(1, (ackN v .pubrel 1)), (2, (ackN v .pubrel 2))] [] [] [2, 1] [] [],
      c2s := [], s2c := [(ackN v .pubrel 1), (ackN v .pubrel 2)] }
  | .p20 =>
    { c := mkSt v true .connected [⟨1, 65535⟩] [] [] [] [] [2, 1] (prl v [1]),
      s := mkSt v false .connected [⟨3, 65535⟩] [(2, P2.asDup), (1, (ackN v .pubrel 1))] [] [2] [1] [] [],
      c2s := [], s2c := [P2.asDup, (ackN v .pubrel 1)] }
  | .p21 =>
    { c := mkSt v true .connected [⟨1, 65535⟩] [] [] [] [] [2] (prl v [2]),
      s := mkSt v false .connected [⟨1, 1⟩, ⟨3, 65535⟩] [(2, (ackN v .pubrel 2))] [] [] [2] [] [],
      c2s := [], s2c := [(ackN v .pubrel 2)] }
  | .p22 =>
    { c := mkSt v true .connected [⟨1, 65535⟩] [] [] [] [] [] [],
      s := mkSt v false .connected [⟨3, 65535⟩] [(1, (ackN v .pubrel 1)), (2, (ackN v .pubrel 2))] [] [] [2, 1] [] [],
      c2s := [(ackN v .pubcomp 1), (ackN v .pubcomp 2)], s2c := [] }
  | .p23 =>
    { c := mkSt v true .connected [⟨1, 65535⟩] [] [] [] [] [2] [],
      s := mkSt v false .connected [⟨3, 65535⟩] [(1, (ackN v .pubrel 1)), (2, (ackN v .pubrel 2))] [] [] [2, 1] [] [],
      c2s := [], s2c := [(ackN v .pubrel 1), (ackN v .pubrel 2)] }
  | .p24 =>
    { c := mkSt v true .connected [⟨1, 65535⟩] [] [] [] [] [2] [],
      s := mkSt v false .connected [⟨3, 65535⟩] [(1, (ackN v .pubrel 1)), (2, (ackN v .pubrel 2))] [] [] [2, 1] [] [],
      c2s := [(ackN v .pubcomp 1)], s2c := [(ackN v .pubrel 2)] }
  | .p25 =>
    { c := mkSt v true .connected [⟨1, 65535⟩] [] [] [] [] [2] (prl v [2]),
      s := mkSt v false .connected [⟨3, 65535⟩] [(2, P2.asDup), (1, (ackN v .pubrel 1))] [] [2] [1] [] [],
      c2s := [(ackN v .pubrec 2)], s2c := [(ackN v .pubrel 1)] }
  | .p26 =>
    { c := mkSt v true .connected [⟨1, 65535⟩] [] [] [] [] [] [],
      s := mkSt v false .connected [⟨1, 1⟩, ⟨3, 65535⟩] [(2, (ackN v .pubrel 2))] [] [] [2] [] [],
      c2s := [(ackN v .pubcomp 2)], s2c := [] }
  | .p27 =>
    { c := mkSt v true .connected [⟨1, 65535⟩] [] [] [] [] [2] [],
      s := mkSt v false .connected [⟨1, 1⟩, ⟨3, 65535⟩] [(2, (ackN v .pubrel 2))] [] [] [2] [] [],
      c2s := [], s2c := [(ackN v .pubrel 2)] }
  | .p28 =>
    { c := mkSt v true .connected [⟨1, 65535⟩] [] [] [] [] [] [],
      s := mkSt v false .connected [⟨3, 65535⟩] [(1, (ackN v .pubrel 1)), (2, (ackN v .pubrel 2))] [] [] [2, 1] [] [],
      c2s := [], s2c := [(ackN v .pubrel 1), (ackN v .pubrel 2)] }
  | .p29 =>
    { c := mkSt v true .connected [⟨1, 65535⟩] [] [] [] [] [2] [],
      s := mkSt v false .connected [⟨3, 65535⟩] [(1, (ackN v .pubrel 1)), (2, (ackN v .pubrel 2))] [] [] [2, 1] [] [],
      c2s := [(pcA v 1)], s2c := [(ackN v .pubrel 2)] }
  | .p30 =>
    { c := mkSt v true .connected [⟨1, 65535⟩] [] [] [] [] [2] (prl v [2]),
      s := mkSt v false .connected [⟨3, 65535⟩] [(1, (ackN v .pubrel 1)), (2, (ackN v .pubrel 2))] [] [] [2, 1] [] [],
      c2s := [], s2c := [(ackN v .pubrel 1), (ackN v .pubrel 2)] }
  | .p31 =>
    { c := mkSt v true .connected [⟨1, 65535⟩] [] [] [] [] [2] (prl v [2]),
      s := mkSt v false .connected [⟨3, 65535⟩] [(2, P2.asDup), (1, (ackN v .pubrel 1))] [] [2] [1] [] [],
      c2s := [(ackN v .pubrec 2), (pcA v 1)], s2c := [] }
  | .p32 =>
    { c := mkSt v true .connected [⟨1, 65535⟩] [] [] [] [] [] [],
      s := mkSt v false .connected [⟨1, 65535⟩] [] [] [] [] [] [],
      c2s := [], s2c := [] }
  | .p33 =>
    { c := mkSt v true .connected [⟨1, 65535⟩] [] [] [] [] [] [],
      s := mkSt v false .connected [⟨1, 1⟩, ⟨3, 65535⟩] [(2, (ackN v .pubrel 2))] [] [] [2] [] [],
      c2s := [], s2c := [(ackN v .pubrel 2)] }
  | .p34 =>
    { c := mkSt v true .connected [⟨1, 65535⟩] [] [] [] [] [] [],
      s := mkSt v false .connected [⟨3, 65535⟩] [(1, (ackN v .pubrel 1)), (2, (ackN v .pubrel 2))] [] [] [2, 1] [] [],
      c2s := [(pcA v 1)], s2c := [(ackN v .pubrel 2)] }
  | .p35 =>
    { c := mkSt v true .connected [⟨1, 65535⟩] [] [] [] [] [] [],
      s := mkSt v false .connected [⟨3, 65535⟩] [(1, (ackN v .pubrel 1)), (2, (ackN v .pubrel 2))] [] [] [2, 1] [] [],
      c2s := [(pcA v 1), (ackN v .pubcomp 2)], s2c := [] }
  | .p36 =>
    { c := mkSt v true .connected [⟨1, 65535⟩] [] [] [] [] [2] (prl v [2]),
      s := mkSt v false .connected [⟨3, 65535⟩] [(1, (ackN v .pubrel 1)), (2, (ackN v .pubrel 2))] [] [] [2, 1] [] [],
      c2s := [(pcA v 1)], s2c := [(ackN v .pubrel 2)] }
  | .p37 =>
    { c := mkSt v true .connected [⟨1, 65535⟩] [] [] [] [] [] [],
      s := mkSt v false .connected [⟨1, 1⟩, ⟨3, 65535⟩] [(2, (ackN v .pubrel 2))] [] [] [2] [] [],
      c2s := [(pcA v 2)], s2c := [] }
  | .p38 =>
    { c := mkSt v true .connected [⟨1, 65535⟩] [] [] [] [] [] [],
      s := mkSt v false .connected [⟨3, 65535⟩] [(1, (ackN v .pubrel 1)), (2, (ackN v .pubrel 2))] [] [] [2, 1] [] [],
      c2s := [(pcA v 1), (pcA v 2)], s2c := [] }

def next (ph : Ph) (a : Act4) : Ph :=
  match ph with
  | .p0 => sel a .p0 .p1 .p1 .p2
  | .p1 => sel a .p3 .p4 .p3 .p5
  | .p2 => sel a .p2 .p6 .p6 .p2
  | .p3 => sel a .p3 .p7 .p7 .p8
  | .p4 => sel a .p7 .p4 .p7 .p9
  | .p5 => sel a .p5 .p6 .p6 .p5
  | .p6 => sel a .p10 .p4 .p10 .p5
  | .p7 => sel a .p11 .p12 .p11 .p13
  | .p8 => sel a .p8 .p14 .p14 .p8
  | .p9 => sel a .p9 .p15 .p15 .p9
  | .p10 => sel a .p10 .p7 .p7 .p8
  | .p11 => sel a .p11 .p16 .p16 .p17
  | .p12 => sel a .p16 .p12 .p16 .p18
  | .p13 => sel a .p13 .p14 .p14 .p13
  | .p14 => sel a .p19 .p12 .p19 .p13
  | .p15 => sel a .p20 .p4 .p20 .p9
  | .p16 => sel a .p21 .p22 .p21 .p23
  | .p17 => sel a .p17 .p24 .p24 .p17
  | .p18 => sel a .p18 .p25 .p25 .p18
  | .p19 => sel a .p19 .p16 .p16 .p17
  | .p20 => sel a .p20 .p7 .p7 .p13
  | .p21 => sel a .p21 .p26 .p26 .p27
  | .p22 => sel a .p26 .p22 .p26 .p28
  | .p23 => sel a .p23 .p29 .p29 .p23
  | .p24 => sel a .p27 .p22 .p27 .p23
  | .p25 => sel a .p30 .p31 .p30 .p18
  | .p26 => sel a .p32 .p26 .p32 .p33
  | .p27 => sel a .p27 .p26 .p26 .p27
  | .p28 => sel a .p28 .p34 .p34 .p28
  | .p29 => sel a .p27 .p35 .p27 .p23
  | .p30 => sel a .p30 .p36 .p36 .p23
  | .p31 => sel a .p36 .p31 .p36 .p18
  | .p32 => sel a .p32 .p32 .p32 .p32
  | .p33 => sel a .p33 .p37 .p37 .p33
  | .p34 => sel a .p33 .p38 .p33 .p28
  | .p35 => sel a .p26 .p35 .p26 .p28
  | .p36 => sel a .p21 .p35 .p21 .p23
  | .p37 => sel a .p32 .p37 .p32 .p33
  | .p38 => sel a .p37 .p38 .p37 .p28

def nS (P1 P2 : Pkt) (ph : Ph) (a : Act4) : List Pkt := []

def nC (P1 P2 : Pkt) (ph : Ph) (a : Act4) : List Pkt :=
  match ph with
  | .p0 => sel a [] [P1] [P1] []
  | .p1 => sel a [] [P2] [] []
  | .p2 => sel a [] [P1.asDup] [P1.asDup] []
  | .p3 => sel a [] [P2] [P2] []
  | .p6 => sel a [] [P2.asDup] [] []
  | .p8 => sel a [] [P2.asDup] [P2.asDup] []
  | .p10 => sel a [] [P2.asDup] [P2.asDup] []
  | _ => []

def rC (ph : Ph) (a : Act4) : List Nat := []

def rS (ph : Ph) (a : Act4) : List Nat :=
  match ph with
  | .p16 => sel a [1] [] [1] []
  | .p22 => sel a [1] [] [1] []
  | .p24 => sel a [1] [] [1] []
  | .p26 => sel a [2] [] [2] []
  | .p29 => sel a [1] [] [1] []
  | .p34 => sel a [1] [] [1] []
  | .p35 => sel a [1] [] [1] []
  | .p36 => sel a [1] [] [1] []
  | .p37 => sel a [2] [] [2] []
  | .p38 => sel a [1] [] [1] []
  | _ => []

abbrev tab : PhaseData := ⟨Ph, sysOf, next, nS, nC, rC, rS, .p0, .p32⟩

instance (p : Ph → Prop) [DecidablePred p] : Decidable (∀ ph, p ph) :=
  decidableForallEnum Ph.ofNat Ph.ctorIdx Ph.ofNat_ctorIdx 39 (by intro ph; cases ph <;> decide) p

theorem ok : tab.Ok 2 2 2 (astartTwo 2 2 false) where
  sys_abs v P1 P2 ph := by cases ph <;> rfl
  nS_abs v P1 P2 ph a := rfl
  nC_abs v P1 P2 ph a := by cases ph <;> exact row_abs rfl a
  steps := by decide +kernel

theorem counts : tab.Counts5 false 2 2 := by
  decide +kernel

theorem loss : tab.Loss5 false 2 2 := by
  decide +kernel

section
variable {v : Nat} {P1 P2 : Pkt} (hv : v = 4 ∨ v = 5) (hA : IsPub v 2 P1) (hB : IsPubN v 2 2 P2)
include hv hA hB

theorem closure (ph : Ph) (a : Act4) :
    Obs2 (sysOf v P1 P2 (next ph a)) (nS P1 P2 ph a) (nC P1 P2 ph a) (rC ph a) (rS ph a) (act4 v (sysOf v P1 P2 ph) a) :=
  ok.closure hv hA hB ph a
end

end MqttVerif.Conn.Pair.G5_22f
