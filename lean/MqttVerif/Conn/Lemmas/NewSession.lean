import MqttVerif.Conn.Step
import MqttVerif.Monitors
import MqttVerif.Conn.Lemmas.FootprintEmits
import MqttVerif.Conn.Lemmas.FootprintIdsRecv
/-!
# C10 helper — which calls produce a "new session" event (`Mon.startsNewSession`)

`nsOf l`: the events of `l` that make the driver's monitor consider the call the start of a new
session (CONNECT with clean start sent / delivered, CONNACK(success, no session) sent /
delivered, delivered CONNACK(success) with Session Expiry Interval 0).  No packet the library sends of its own
accord is of this kind (`quiet_base`), so a call pushes such an event only when it is given such a packet
(`Fp.send_emits`, `Fp.dispatchRecv_emits`); each of the eight CONNECT / CONNACK handlers given one ends in an error,
its test of the connection having failed, or leaves nothing of the session (`Starts`, one lemma `f_starts` per
handler; `Starts.R` is what C10 uses, `Starts.sess` what C08's monitor does).
Own namespace: may be imported next to any other lemma chain.
-/
namespace MqttVerif.Conn.NSn
open MqttVerif MqttVerif.Conn

def nsSend (p : Pkt) : Bool :=
  (p.kind = .connect ∧ p.clean) ∨ (p.kind = .connack ∧ p.rc = some 0 ∧ !p.sp)
def nsRecv (p : Pkt) : Bool :=
  (p.kind = .connect ∧ p.clean) ∨ (p.kind = .connack ∧ p.rc = some 0 ∧ (!p.sp ∨ Mon.findProp p pSEI = some 0))
def NSev : Ev → Bool
  | .send p _ => nsSend p
  | .recv p => nsRecv p
  | _ => false

def nsOf (l : List Ev) : List Ev := l.filter NSev

theorem startsNewSession_eq (l : List Ev) : Mon.startsNewSession l = l.any NSev := by
  unfold Mon.startsNewSession
  congr 1

theorem startsNewSession_iff (l : List Ev) : Mon.startsNewSession l = true ↔ nsOf l ≠ [] := by
  rw [startsNewSession_eq, nsOf]
  simp [List.filter_eq_nil_iff]

@[simp] theorem nsOf_nil : nsOf [] = [] := rfl
@[simp] theorem NSev_send (p : Pkt) (r : Option Nat) : NSev (.send p r) = nsSend p := rfl
@[simp] theorem NSev_recv (p : Pkt) : NSev (.recv p) = nsRecv p := rfl
@[simp] theorem NSev_error (e : Nat) : NSev (.error e) = false := rfl
@[simp] theorem NSev_close : NSev .close = false := rfl
@[simp] theorem NSev_released (id : Nat) : NSev (.released id) = false := rfl
@[simp] theorem NSev_tr (k : Timer) (ms : Nat) : NSev (.timerReset k ms) = false := rfl
@[simp] theorem NSev_tc (k : Timer) : NSev (.timerCancel k) = false := rfl

theorem nsSend_kind {p : Pkt} (h1 : p.kind ≠ .connect) (h2 : p.kind ≠ .connack) : nsSend p = false := by
  simp [nsSend, h1, h2]

@[simp] theorem push_ev (c : C) (e : Ev) : (c.push e).ev = c.ev ++ [e] := rfl
@[simp] theorem push_s (c : C) (e : Ev) : (c.push e).s = c.s := rfl
@[simp] theorem err_ev (c : C) (e : Nat) : (c.err e).ev = c.ev ++ [.error e] := rfl
@[simp] theorem err_s (c : C) (e : Nat) : (c.err e).s = c.s := rfl
@[simp] theorem setPanic_ev (c : C) (x : String) : (c.setPanic x).ev = c.ev := rfl

@[simp] theorem ns_initConn (c : C) (b : Bool) : (initConn c b).ev = c.ev := rfl
@[simp] theorem ns_clearStoreRelated (c : C) : (clearStoreRelated c).ev = c.ev := rfl

theorem quiet_base : Emits.Base (fun e => NSev e = false) :=
  .of_class nsSend nsRecv fun _ h => nsSend_kind h.kind_ne h.kind_ne

theorem nsSend_aliased {p q : Pkt} (h : Fp.Aliased p q) : nsSend q = nsSend p := by cases h <;> rfl
theorem nsRecv_resolved {p q : Pkt} (h : Fp.Resolved p q) : nsRecv q = nsRecv p := by cases h <;> rfl

/-! ## the CONNECT / CONNACK handlers: a new-session packet comes with the session reset -/

/-- `a`: the allocator before the call -/
def Clr (a : Alloc.A) (s : St) : Prop :=
  s.store = [] ∧ s.puback = [] ∧ s.pubrec = [] ∧ s.pubcomp = [] ∧ s.handled = [] ∧ s.pidMan = Alloc.clear a

/-- what `clearStoreRelated` writes, and the two wait sets that only `initConn` empties: the identifier group and
    `handled` -/
def Sess (s : St) : Ids × List Nat := (s.ids, s.handled)

/-- `clearStoreRelated` on `Sess` -/
def clear (x : Ids × List Nat) : Ids × List Nat := ((IdPrim.clearSession.run x.1).1, [])

theorem sess_clearStoreRelated (c : C) : Sess (clearStoreRelated c).s = clear (Sess c.s) := rfl

theorem Clr.of_sess {s : St} {x : Ids × List Nat} (h : Sess s = clear x) : Clr x.1.pidMan s :=
  ⟨congrArg (·.1.store) h, congrArg (·.1.puback) h, congrArg (·.1.pubrec) h, congrArg (·.1.pubcomp) h,
    congrArg (·.2) h, congrArg (·.1.pidMan) h⟩

theorem clr_clearStoreRelated (c : C) : Clr c.s.pidMan (clearStoreRelated c).s := ⟨rfl, rfl, rfl, rfl, rfl, rfl⟩

theorem Clr.free {a : Alloc.A} {s : St} (h : Clr a s) :
    s.pidMan.pool = [⟨a.lowest, a.highest⟩] ∧ ∀ id, isUsed s id = false := by
  unfold isUsed
  rw [h.2.2.2.2.2]
  exact ⟨rfl, Alloc.clear_isUsed a⟩

theorem sess_fp {T : List EvTag} {w : St → St → St} {c c' : C} (h : Fp.Footprint T w c c')
    (hw : ∀ a x, Sess (w a x) = Sess a := by exact fun _ _ => rfl) : Sess c'.s = Sess c.s := by
  rw [h.s, hw]

/-! ### the properties of a received CONNACK: a Session Expiry Interval of 0 clears the session -/

theorem handled_connackRecvProp (c : C) (id v : Nat) :
    (connackRecvProp c id v).s.handled = if seiZero (id, v) then [] else c.s.handled := by
  by_cases h : id = pSEI ∧ v = 0
  · obtain ⟨rfl, rfl⟩ := h
    rfl
  · rw [if_neg (by simpa [seiZero] using h)]
    have key := @Fp.ite_ind C (fun x => x.s.handled = c.s.handled)
    unfold connackRecvProp
    refine key (fun _ => key (fun _ => rfl) fun _ => rfl) fun _ => ?_
    -- Receive Maximum, Maximum Packet Size: a panic flag may be set before the field is
    refine key (fun _ => (congrArg St.handled (Fp.panicIf_fp (v = 0) c _).s :)) fun _ => ?_
    refine key (fun _ => (congrArg St.handled (Fp.panicIf_fp (v = 0) c _).s :)) fun _ => ?_
    refine key (fun _ => ?_) fun _ => ?_
    · dsimp only
      exact key (fun _ => key (fun _ => key (fun _ => rfl) fun _ => rfl) fun _ => rfl) fun _ => rfl
    · exact key (fun hi => key (fun hv => absurd ⟨hi, hv⟩ h) fun _ => rfl) fun _ => rfl

theorem handled_fold_connackRecvProp (c : C) (l : List (Nat × Nat)) :
    (propsFold connackRecvProp c l).s.handled = if l.any seiZero then [] else c.s.handled := by
  induction l generalizing c with
  | nil => rfl
  | cons y rest ih =>
    rw [propsFold, ih, handled_connackRecvProp, List.any_cons]
    cases seiZero (y.1, y.2)
    · rfl
    · cases rest.any seiZero
      · rfl
      · rfl

theorem sess_fold_connackRecvProp (c : C) (l : List (Nat × Nat)) :
    Sess (propsFold connackRecvProp c l).s = if l.any seiZero then clear (Sess c.s) else Sess c.s := by
  unfold Sess
  rw [(Fp.propsFold_connackRecvProp_run c l).ids, handled_fold_connackRecvProp]
  cases l.any seiZero
  · rfl
  · rfl

theorem findProp_mem {p : Pkt} {id v : Nat} (h : Mon.findProp p id = some v) : (id, v) ∈ p.props := by
  unfold Mon.findProp at h
  cases hf : p.props.find? (·.1 = id) with
  | none => simp [hf] at h
  | some x =>
    simp only [hf, Option.map_some, Option.some.injEq] at h
    have h1 := List.mem_of_find?_eq_some hf
    have h2 := List.find?_some hf
    simp only [decide_eq_true_eq] at h2
    obtain ⟨a, b⟩ := x
    simp only at h h2
    subst h h2
    exact h1

/-- a cleared session has no stored packet to send again -/
theorem sess_resendStored {c : C} {x : Ids × List Nat} (h : Sess c.s = clear x) :
    Sess (resendStored c).s = clear x := by
  have hr := (Fp.resendStored_ids c).ids
  rw [show c.s.store = [] from congrArg (·.1.store) h, show c.s.ids = (clear x).1 from congrArg (·.1) h] at hr
  unfold Sess
  rw [hr, Fp.resendStored_s, show c.s.handled = (clear x).2 from congrArg (·.2) h]
  rfl

def R (a : Alloc.A) (c0 c' : C) : Prop :=
  nsOf c'.ev = nsOf c0.ev ∨ Mon.hasError c'.ev = true ∨ Clr a c'.s

theorem hasError_err (l : List Ev) (e : Nat) : Mon.hasError (l ++ [.error e]) = true := by
  simp [Mon.hasError]

theorem R.quiet {a : Alloc.A} {c0 c' : C} (h : Emits (fun e => NSev e = false) c0 c') : R a c0 c' :=
  .inl (h.filter_eq NSev fun _ he => he)
theorem R.err {a : Alloc.A} {c0 : C} (c' : C) (e : Nat) : R a c0 (c'.err e) := .inr (.inl (hasError_err _ _))
theorem R.clr {a : Alloc.A} {c0 c' : C} (h : Clr a c'.s) : R a c0 c' := .inr (.inr h)

/-- how a CONNECT / CONNACK handler given a session-starting packet ends: with an error, its test `ok` of the
    connection having failed, or with the session `x` cleared -/
inductive Starts (ok : Prop) (x : Ids × List Nat) : C → Prop
  | refused (c : C) (e : Nat) (h : ¬ok) : Starts ok x (c.err e)
  | cleared {c : C} (h : Sess c.s = clear x) : Starts ok x c

theorem Starts.sess {ok : Prop} {x : Ids × List Nat} {c' : C} (h : Starts ok x c') (hok : ok) :
    Sess c'.s = clear x := by
  cases h with
  | refused _ _ hn => exact absurd hok hn
  | cleared hs => exact hs

theorem Starts.R {ok : Prop} {x : Ids × List Nat} {c0 c' : C} (h : Starts ok x c') : R x.1.pidMan c0 c' := by
  cases h with
  | refused c e _ => exact R.err c e
  | cleared hs => exact R.clr (Clr.of_sess hs)

/-! ### sending a CONNECT with Clean Start, or a CONNACK(success) without Session Present -/

theorem psV3Connect_starts (c : C) (p : Pkt) (hc : p.clean = true) :
    Starts (c.s.status = .disconnected) (Sess (initConn c true).s) (psV3Connect c p) := by
  unfold psV3Connect
  refine Fp.ite_ind (fun h => .refused _ _ h) (fun _ => .cleared ?_)
  rw [sess_fp (Fp.sendPostProcess_fp _), if_pos hc]
  rfl

theorem psV5Connect_starts (c : C) (p : Pkt) (hc : p.clean = true) :
    Starts (sizeOk c p = true ∧ c.s.status = .disconnected) (Sess (initConn c true).s) (psV5Connect c p) := by
  unfold psV5Connect
  refine Fp.ite_ind (fun h => .refused _ _ fun k => by simp [k.1] at h)
    (fun _ => Fp.ite_ind (fun h => .refused _ _ fun k => h k.2) (fun _ => .cleared ?_))
  rw [sess_fp (Fp.sendPostProcess_fp _), push_s, sess_fp (Fp.propsFold_connectSendProp_fp _ _), if_pos hc]
  rfl

theorem sess_connackTail (c : C) (p : Pkt) (hrc : p.rc = some 0) (hsp : p.sp = false) :
    Sess (Fp.connackTail c p).s = clear (Sess c.s) := by
  unfold Fp.connackTail
  rw [if_neg (fun h => h hrc), if_neg (Bool.eq_false_iff.1 hsp), sess_fp (Fp.sendPostProcess_fp _)]
  rfl

theorem psV3Connack_starts (c : C) (p : Pkt) (hrc : p.rc = some 0) (hsp : p.sp = false) :
    Starts (c.s.status = .connecting) (Sess c.s) (psV3Connack c p) := by
  rw [Fp.psV3Connack_eq]
  exact Fp.ite_ind (fun h => .refused _ _ h) (fun _ => .cleared (sess_connackTail _ p hrc hsp))

theorem psV5Connack_starts (c : C) (p : Pkt) (hrc : p.rc = some 0) (hsp : p.sp = false) :
    Starts (sizeOk c p = true ∧ c.s.status = .connecting) (Sess c.s) (psV5Connack c p) := by
  rw [Fp.psV5Connack_eq]
  refine Fp.ite_ind (fun h => .refused _ _ fun k => by simp [k.1] at h)
    (fun _ => Fp.ite_ind (fun h => .refused _ _ fun k => h k.2) (fun _ => .cleared ?_))
  rw [sess_connackTail _ p hrc hsp, if_pos hrc, push_s, sess_fp (Fp.propsFold_connackSendProp_fp c p.props)]

/-! ### receiving a CONNECT with Clean Start, or a CONNACK(success) without a session to continue -/

theorem sess_accepting (c : C) (ka : Nat) : Sess (Fp.accepting c ka).s = Sess (initConn c false).s := rfl

theorem connectIn_starts {c : C} {p : Pkt} {busy : C} {nack : C → Nat → C} {settle : Pkt → C → C}
    (hb : c.s.status ≠ .disconnected → Starts (c.s.status = .disconnected) (Sess (initConn c false).s) busy)
    (hs : ∀ c', Sess (settle p c').s = clear (Sess c'.s)) :
    Starts (c.s.status = .disconnected) (Sess (initConn c false).s) (Fp.connectIn c (.ok p) busy nack settle) := by
  refine Fp.connectIn_ind hb nofun (fun _ q h => .cleared ?_)
  cases h
  rw [push_s, sess_fp (Fp.refreshPingreqRecv_fp _), hs, sess_accepting]

theorem prV3Connect_starts (c : C) (p : Pkt) (hc : p.clean = true) :
    Starts (c.s.status = .disconnected) (Sess (initConn c false).s) (prV3Connect c (.ok p)) :=
  Fp.prV3Connect_eq c (.ok p) ▸ connectIn_starts (fun h => .refused _ _ h) fun c' => by
    rw [if_pos hc, sess_clearStoreRelated]

theorem prV5Connect_starts (c : C) (p : Pkt) (hc : p.clean = true) :
    Starts (c.s.status = .disconnected) (Sess (initConn c false).s) (prV5Connect c (.ok p)) :=
  Fp.prV5Connect_eq c (.ok p) ▸ connectIn_starts (fun h => .refused _ _ h) fun c' => by
    rw [sess_fp (Fp.propsFold_connectRecvProp_fp _ _), if_pos hc, sess_clearStoreRelated]

theorem prV3Connack_starts (c : C) (p : Pkt) (hrc : p.rc = some 0) (hsp : p.sp = false) :
    Starts (c.s.status ≠ .connected) (Sess c.s) (prV3Connack c (.ok p)) := by
  unfold prV3Connack
  refine Fp.ite_ind (fun h => .refused _ _ fun k => k h) (fun _ => .cleared ?_)
  rw [push_s, if_pos hrc, if_neg (Bool.eq_false_iff.1 hsp)]
  rfl

theorem prV5Connack_starts (c : C) (p : Pkt) (hrc : p.rc = some 0)
    (h : p.sp = false ∨ Mon.findProp p pSEI = some 0) :
    Starts (c.s.status ≠ .connected) (Sess c.s) (prV5Connack c (.ok p)) := by
  unfold prV5Connack
  refine Fp.ite_ind (fun h => .refused _ _ fun k => k h) (fun _ => .cleared ?_)
  have hf := sess_fold_connackRecvProp { c with s := { c.s with status := .connected } } p.props
  rw [push_s, if_pos hrc]
  refine Fp.ite_ind (Q := fun x : C => Sess x.s = clear (Sess c.s)) (fun hs => ?_) (fun _ => ?_)
  · -- Session Present: its Session Expiry Interval 0 has cleared the session before the stored packets are sent again
    rw [(Fp.any_seiZero _).2 ⟨_, findProp_mem (h.resolve_left (by rw [hs]; nofun)), rfl, rfl⟩, if_pos rfl] at hf
    exact sess_resendStored hf
  · rw [sess_clearStoreRelated, hf]
    exact Fp.ite_both (Q := fun x => clear x = clear (Sess c.s)) rfl rfl

theorem ns_v3ConnectErr (e : Nat) : nsSend (mkV3Connack (v3ConnectErrRc e)) = false := by
  have : v3ConnectErrRc e ≠ 0 := by unfold v3ConnectErrRc; (repeat' split) <;> decide
  simp [nsSend, mkV3Connack, this]
theorem ns_v5ConnectErr (e : Nat) : nsSend (mkV5Connack (v5ConnectErrRc e)) = false := by
  have : v5ConnectErrRc e ≠ 0 := by unfold v5ConnectErrRc; (repeat' split) <;> decide
  simp [nsSend, mkV5Connack, this]

theorem quiet_refusal (q : Pkt) (r : Option Nat) (h : Fp.Refusal q) : NSev (.send q r) = false := by
  cases h with
  | v3 e => exact ns_v3ConnectErr e
  | v5 e => exact ns_v5ConnectErr e

theorem nsSend_true {p : Pkt} (h : nsSend p = true) :
    (p.kind = .connect ∧ p.clean = true) ∨ (p.kind = .connack ∧ p.rc = some 0 ∧ p.sp = false) := by
  simpa [nsSend] using h

theorem nsRecv_true {p : Pkt} (h : nsRecv p = true) :
    (p.kind = .connect ∧ p.clean = true) ∨
      (p.kind = .connack ∧ p.rc = some 0 ∧ (p.sp = false ∨ Mon.findProp p pSEI = some 0)) := by
  simpa [nsRecv] using h

/-- what the new-session monitor needs of the parser of a `recv`: a successful result has the
    packet type of the frame it was parsed from, and a v3.1.1 packet carries no Session Expiry
    Interval property (v3.1.1 packets have no properties at all) -/
def ParseNS (parse : Nat → Nat → List Nat → Except Nat Pkt) : Prop :=
  ∀ v fh d p, parse v fh d = .ok p → p.kind.nibble = fh / 16 ∧ (v = 4 → Mon.findProp p pSEI ≠ some 0)

/-- no stored packet is itself a session-starting packet (the store holds PUBLISH / PUBREL only:
    `StoreInv`; `restore_packets` of the implementation takes `GenericStorePacket`s) -/
def StoreNS (s : St) : Prop := ∀ x ∈ s.store, x.2.kind ≠ .connect ∧ x.2.kind ≠ .connack

theorem StoreNS.ns {s : St} (h : StoreNS s) : ∀ x ∈ s.store, nsSend x.2 = false :=
  fun x hx => nsSend_kind (h x hx).1 (h x hx).2

theorem send_R (c : C) (p : Pkt) (hst : ∀ x ∈ c.s.store, nsSend x.2 = false) :
    R c.s.pidMan c (send c p) := by
  cases hn : nsSend p with
  | false =>
    exact .quiet (Fp.send_emits quiet_base c p (fun q _ ha => (nsSend_aliased ha).trans hn) (fun y hy _ => hst y hy))
  | true =>
    refine Fp.send_cases c p (fun _ => .quiet ((Fp.refuseSend_ev ..).emits quiet_base))
      (fun _ _ => .quiet ((Fp.refuseSend_ev ..).emits quiet_base)) (fun _ _ => ?_)
    rcases nsSend_true hn with ⟨hk, hc⟩ | ⟨hk, hrc, hsp⟩
    · rw [Fp.processSend_connect c hk]
      exact Fp.ite_ind (fun _ => (psV3Connect_starts c p hc).R) (fun _ => (psV5Connect_starts c p hc).R)
    · rw [Fp.processSend_connack c hk]
      exact Fp.ite_ind (fun _ => (psV3Connack_starts c p hrc hsp).R) (fun _ => (psV5Connack_starts c p hrc hsp).R)

theorem R.of_parsed {a : Alloc.A} {c : C} (f : Except Nat Pkt → C) (x : Except Nat Pkt)
    (hq : (∀ p p', x = .ok p → Fp.Resolved p p' → NSev (.recv p') = false) →
      Emits (fun e => NSev e = false) c (f x))
    (hl : ∀ p, x = .ok p → nsRecv p = true → R a c (f (.ok p))) : R a c (f x) := by
  cases x with
  | error e => exact .quiet (hq fun _ _ h => nomatch h)
  | ok p =>
    cases hn : nsRecv p with
    | false => exact .quiet (hq fun q q' h hr => by cases h; exact (nsRecv_resolved hr).trans hn)
    | true => exact hl p rfl hn

theorem nsRecv_connect {p : Pkt} (hk : p.kind = .connect) (hn : nsRecv p = true) : p.clean = true := by
  simpa [nsRecv, hk] using hn

theorem dispatchRecv_R (c : C) (t : Nat) (x : Except Nat Pkt)
    (hx : ∀ p, x = .ok p → p.kind.nibble = t ∧ (c.s.ver = 4 → Mon.findProp p pSEI ≠ some 0))
    (hst : ∀ x ∈ c.s.store, nsSend x.2 = false) : R c.s.pidMan c (dispatchRecv c t x) := by
  refine R.of_parsed (dispatchRecv c t) x
    (fun h => Fp.dispatchRecv_emits quiet_base quiet_refusal c t x h (fun y hy _ => hst y hy)) (fun p hp hn => ?_)
  obtain ⟨ht, hsei⟩ := hx p hp
  rcases nsRecv_true hn with ⟨hk, hc⟩ | ⟨hk, hrc, hs⟩
  · have : t = 1 := by rw [← ht, hk]; rfl
    subst this
    show R _ _ (if c.s.ver = 4 then prV3Connect c (.ok p) else prV5Connect c (.ok p))
    exact Fp.ite_ind (fun _ => (prV3Connect_starts c p hc).R) (fun _ => (prV5Connect_starts c p hc).R)
  · have : t = 2 := by rw [← ht, hk]; rfl
    subst this
    show R _ _ (if c.s.ver = 4 then prV3Connack c (.ok p) else prV5Connack c (.ok p))
    exact Fp.ite_ind (fun hv => (prV3Connack_starts c p hrc (hs.resolve_right (hsei hv))).R)
      (fun _ => (prV5Connack_starts c p hrc hs).R)

theorem processRecvPacket_R (c : C) (fh : Nat) (data : List Nat) (parse : Nat → Except Nat Pkt)
    (hx : ∀ v p, parse v = .ok p → p.kind.nibble = fh / 16 ∧ (v = 4 → Mon.findProp p pSEI ≠ some 0))
    (hst : ∀ x ∈ c.s.store, nsSend x.2 = false) :
    R c.s.pidMan c (processRecvPacket c fh data parse) :=
  Fp.processRecvPacket_cases c fh data parse (fun _ => R.err _ _) (fun _ _ _ => R.err _ _)
    (fun _ _ _ h1 _ _ => R.of_parsed (prV3Connect { c with s := { c.s with ver := 4 } }) (parse 4)
      (fun h => ((Fp.prV3Connect_orCloses quiet_base.quiet { c with s := { c.s with ver := 4 } } _
        (fun q hq => h q q hq .same) fun e => quiet_refusal _ none (.v3 e)).emits' quiet_base).congr_left)
      (fun p hp hn => (prV3Connect_starts _ p (nsRecv_connect (Kind.nibble_inj (k' := .connect) ((hx 4 p hp).1.trans h1)) hn)).R))
    (fun _ _ _ h1 _ _ => R.of_parsed (prV5Connect { c with s := { c.s with ver := 5 } }) (parse 5)
      (fun h => ((Fp.prV5Connect_orCloses quiet_base.quiet { c with s := { c.s with ver := 5 } } _
        (fun q hq => h q q hq .same) (quiet_base.closing _) fun e _ => quiet_refusal _ none (.v5 e)).emits'
        quiet_base).congr_left)
      (fun p hp hn => (prV5Connect_starts _ p (nsRecv_connect (Kind.nibble_inj (k' := .connect) ((hx 5 p hp).1.trans h1)) hn)).R))
    (fun _ _ _ => dispatchRecv_R c _ _ (fun p hp => hx _ p hp) hst)

theorem recv_R (c : C) (inp : List Nat) (parse : Nat → Nat → List Nat → Except Nat Pkt) (hp : ParseNS parse)
    (hst : ∀ x ∈ c.s.store, nsSend x.2 = false) : R c.s.pidMan c (recv c inp parse).1 :=
  Fp.recv_cases c inp parse (fun _ _ _ => .inl rfl)
    (fun pb fh data _ _ => processRecvPacket_R { c with s := { c.s with pb := pb } } fh data _
      (fun v p h => hp v fh data p h) hst)
    (fun _ _ _ => R.err _ _)

theorem step_R (cfg : Cfg) (s : St) (op : Op) (hp : ∀ inp parse, op = .recv inp parse → ParseNS parse)
    (hst : StoreNS s) : R s.pidMan { cfg := cfg, s := s } (step cfg s op) := by
  cases op with
  | send p => exact send_R { cfg := cfg, s := s } p hst.ns
  | recv inp parse => exact recv_R { cfg := cfg, s := s } inp parse (hp inp parse rfl) hst.ns
  | _ =>
    exact .quiet (Fp.step_emits quiet_base quiet_refusal cfg s _ (fun _ h => nomatch h) (fun _ _ h => nomatch h)
      (fun y hy _ => hst.ns y hy))

end MqttVerif.Conn.NSn
