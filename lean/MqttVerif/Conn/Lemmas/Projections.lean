import MqttVerif.Conn.Lemmas.FootprintApi
/-!
# Projections of the model functions that several lemma chains use

Consequences of the footprints under the names the chains use in their `simp` sets: the configuration and single
state fields after a call, and the elementary facts about `push`, `err` and `setPanic`.
-/
namespace MqttVerif.Conn
open MqttVerif

theorem initConn_ver (c : C) (b : Bool) : (initConn c b).s.ver = c.s.ver := by rw [Fp.initConn_s]
theorem clearStoreRelated_ver (c : C) : (clearStoreRelated c).s.ver = c.s.ver := by rw [Fp.clearStoreRelated_s]
theorem connackSendProp_ver (c : C) (i v : Nat) : (connackSendProp c i v).s.ver = c.s.ver := by
  rw [Fp.connackSendProp_s]
theorem connectRecvProp_ver (c : C) (i v : Nat) : (connectRecvProp c i v).s.ver = c.s.ver := by
  rw [Fp.connectRecvProp_s]
theorem prV3Connect_ver (c : C) (parsed : Except Nat Pkt) : (prV3Connect c parsed).s.ver = c.s.ver := by
  rw [Fp.prV3Connect_s]
theorem prV5Connect_ver (c : C) (parsed : Except Nat Pkt) : (prV5Connect c parsed).s.ver = c.s.ver := by
  rw [Fp.prV5Connect_s]
theorem connectSendProp_ver (c : C) (i v : Nat) : (connectSendProp c i v).s.ver = c.s.ver := by
  rw [Fp.connectSendProp_s]
theorem push_s (c : C) (e : Ev) : (c.push e).s = c.s := by cases c; rfl
theorem push_cfg (c : C) (e : Ev) : (c.push e).cfg = c.cfg := by cases c; rfl
theorem push_ev (c : C) (e : Ev) : (c.push e).ev = c.ev ++ [e] := by cases c; rfl
theorem err_s (c : C) (e : Nat) : (c.err e).s = c.s := by cases c; rfl
theorem err_cfg (c : C) (e : Nat) : (c.err e).cfg = c.cfg := by cases c; rfl
theorem err_ev (c : C) (e : Nat) : (c.err e).ev = c.ev ++ [.error e] := by cases c; rfl
theorem setPanic_cfg (c : C) (x : String) : (c.setPanic x).cfg = c.cfg := by cases c; rfl
theorem setPanic_ev (c : C) (x : String) : (c.setPanic x).ev = c.ev := by cases c; rfl
theorem releaseId_cfg (c : C) (id : Nat) : (releaseId c id).cfg = c.cfg := Fp.releaseId_cfg c id
theorem releaseIfUsed_cfg (c : C) (id : Nat) : (releaseIfUsed c id).cfg = c.cfg := Fp.releaseIfUsed_cfg c id
theorem refuseSend_cfg (c : C) (e : Nat) (p : Pkt) : (refuseSend c e p).cfg = c.cfg := (Fp.refuseSend_fp c e p).cfg
theorem cancelTimers_cfg (c : C) : (cancelTimers c).cfg = c.cfg := Fp.cancelTimers_cfg c
theorem psV3Disconnect_cfg (c : C) (p : Pkt) : (psV3Disconnect c p).cfg = c.cfg := (Fp.psV3Disconnect_fp c p).cfg
theorem handleV3Error_cfg (c : C) (e : Nat) : (handleV3Error c e).cfg = c.cfg := rfl
theorem psSubUnsub_cfg (c : C) (p : Pkt) : (psSubUnsub c p).cfg = c.cfg := (Fp.psSubUnsub_fp c p).cfg
theorem psV5Auth_cfg (c : C) (p : Pkt) : (psV5Auth c p).cfg = c.cfg := (Fp.psV5Auth_fp c p).cfg
theorem setPingreqSendInterval_cfg (c : C) (d : Option Nat) : (setPingreqSendInterval c d).cfg = c.cfg :=
  Fp.setPingreqSendInterval_cfg c d
theorem psV5Pubrec_cfg (c : C) (p : Pkt) : (psV5Pubrec c p).cfg = c.cfg := (Fp.psV5Pubrec_fp c p).cfg
theorem psV5Pubcomp_cfg (c : C) (p : Pkt) : (psV5Pubcomp c p).cfg = c.cfg := (Fp.psV5Pubcomp_fp c p).cfg
theorem psPubrel_cfg (c : C) (p : Pkt) : (psPubrel c p).cfg = c.cfg := (Fp.psPubrel_fp c p).cfg
theorem psV3Publish_cfg (c : C) (p : Pkt) : (psV3Publish c p).cfg = c.cfg := (Fp.psV3Publish_fp c p).cfg
theorem pubRefuseCleanup_cfg (c : C) (pid : Option Nat) : (pubRefuseCleanup c pid).cfg = c.cfg :=
  (Fp.pubRefuseCleanup_fp c pid).cfg
theorem autoAlias_cfg (c : C) (p : Pkt) : ((autoAlias c p).1).cfg = c.cfg := (Fp.autoAlias_fp c p).cfg
theorem psV5PublishTail_cfg (c : C) (p : Pkt) (rel : Option Nat) : (psV5PublishTail c p rel).cfg = c.cfg :=
  (Fp.psV5PublishTail_fp c p rel).cfg
theorem eraseStoredPublish_cfg (c : C) (id : Nat) : (eraseStoredPublish c id).cfg = c.cfg :=
  Fp.eraseStoredPublish_cfg c id
theorem acquire_cfg (c : C) : ((acquire c).2).cfg = c.cfg := rfl
theorem register_cfg (c : C) (id : Nat) : ((register c id).2).cfg = c.cfg := rfl
theorem releasePacketId_cfg (c : C) (id : Nat) : (releasePacketId c id).cfg = c.cfg := Fp.releasePacketId_cfg c id
theorem restoreOne_cfg (c : C) (p : Pkt) : (restoreOne c p).cfg = c.cfg := (Fp.restoreOne_fp c p).cfg
theorem insertOrUpdate_max (t : TAS) (topic : List Nat) (a : Nat) : (t.insertOrUpdate topic a).max = t.max := by
  unfold TAS.insertOrUpdate
  cases Alloc.useValue t.alloc a with
  | mk isNew alloc' => rfl
theorem clearStoreRelated_ev (c : C) : (clearStoreRelated c).ev = c.ev := Fp.clearStoreRelated_ev c
theorem connectRecvProp_cfg (c : C) (i v : Nat) : (connectRecvProp c i v).cfg = c.cfg := (Fp.connectRecvProp_fp c i v).cfg
theorem notifyClosed_cfg (c : C) : (notifyClosed c).cfg = c.cfg := Fp.notifyClosed_cfg c
theorem prDisconnect_cfg (c : C) (x : Except Nat Pkt) : (prDisconnect c x).cfg = c.cfg := (Fp.prDisconnect_fp c x).cfg
theorem prPingreq_cfg (c : C) (x : Except Nat Pkt) : (prPingreq c x).cfg = c.cfg := (Fp.prPingreq_fp c x).cfg
theorem prPingresp_cfg (c : C) (x : Except Nat Pkt) : (prPingresp c x).cfg = c.cfg := (Fp.prPingresp_fp c x).cfg
theorem prPlain_cfg (c : C) (x : Except Nat Pkt) : (prPlain c x).cfg = c.cfg := (Fp.prPlain_fp c x).cfg
theorem prPuback_cfg (c : C) (x : Except Nat Pkt) : (prPuback c x).cfg = c.cfg := (Fp.prPuback_fp c x).cfg
theorem prPubcomp_cfg (c : C) (x : Except Nat Pkt) : (prPubcomp c x).cfg = c.cfg := (Fp.prPubcomp_fp c x).cfg
theorem prPubrec_cfg (c : C) (x : Except Nat Pkt) : (prPubrec c x).cfg = c.cfg := (Fp.prPubrec_fp c x).cfg
theorem prPubrel_cfg (c : C) (x : Except Nat Pkt) : (prPubrel c x).cfg = c.cfg := (Fp.prPubrel_fp c x).cfg
theorem prSubUnsuback_cfg (c : C) (b : Bool) (x : Except Nat Pkt) : (prSubUnsuback c b x).cfg = c.cfg :=
  (Fp.prSubUnsuback_fp c b x).cfg
theorem prV3Publish_cfg (c : C) (x : Except Nat Pkt) : (prV3Publish c x).cfg = c.cfg := (Fp.prV3Publish_fp c x).cfg
theorem prV5Publish_cfg (c : C) (x : Except Nat Pkt) : (prV5Publish c x).cfg = c.cfg := (Fp.prV5Publish_fp c x).cfg
theorem psV5Publish_cfg (c : C) (p : Pkt) : (psV5Publish c p).cfg = c.cfg := (Fp.psV5Publish_fp c p).cfg
theorem sendStored_cfg (c : C) : (sendStored c).cfg = c.cfg := (Fp.sendStored_fp c).cfg
theorem prV5PublishAlias_cfg (c : C) (p : Pkt) : ((prV5PublishAlias c p).1).cfg = c.cfg :=
  (Fp.prV5PublishAlias_fp c p).cfg
theorem notifyTimerFired_cfg (c : C) (k : Timer) : (notifyTimerFired c k).cfg = c.cfg := Fp.notifyTimerFired_cfg c k

def recvs : List Ev → List Pkt
  | [] => []
  | .recv p :: r => p :: recvs r
  | _ :: r => recvs r

def errs : List Ev → List Nat
  | [] => []
  | .error e :: rest => e :: errs rest
  | _ :: rest => errs rest

theorem recvs_append (a b : List Ev) : recvs (a ++ b) = recvs a ++ recvs b := by
  induction a with
  | nil => rfl
  | cons e r ih => cases e <;> simp [recvs, ih]

theorem errs_append (a b : List Ev) : errs (a ++ b) = errs a ++ errs b := by
  induction a with
  | nil => rfl
  | cons e a ih => cases e <;> simp [errs, ih]

theorem recvs_nil_of_tags {T : List EvTag} (hT : EvTag.recv ∉ T) {l : List Ev} (hl : ∀ e ∈ l, e.tag ∈ T) :
    recvs l = [] := by
  induction l with
  | nil => rfl
  | cons x r ih =>
    have hx := hl x List.mem_cons_self
    have hr := ih fun y hy => hl y (List.mem_cons_of_mem _ hy)
    cases x
    case recv p => exact absurd hx hT
    all_goals exact hr

theorem Appends.recvs_eq {T : List EvTag} {c c' : C} (h : Appends T c c') (hT : EvTag.recv ∉ T := by decide) :
    recvs c'.ev = recvs c.ev := by
  obtain ⟨l, e, hl⟩ := h
  rw [e, recvs_append, recvs_nil_of_tags hT hl, List.append_nil]

theorem Appends.errs_eq {T : List EvTag} {c c' : C} (h : Appends T c c') (hT : EvTag.error ∉ T) :
    errs c'.ev = errs c.ev := by
  obtain ⟨l, e, hl⟩ := h
  suffices h : ∀ l : List Ev, (∀ e ∈ l, e.tag ∈ T) → Conn.errs l = [] by
    rw [e, errs_append, h l hl, List.append_nil]
  intro l hl
  induction l with
  | nil => rfl
  | cons x l ih =>
    have ih := ih (fun y hy => hl y (List.mem_cons_of_mem _ hy))
    cases x with
    | error n => exact absurd (hl _ List.mem_cons_self) hT
    | _ => exact ih

end MqttVerif.Conn
