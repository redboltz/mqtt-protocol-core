import MqttVerif.Conn.Lemmas.PairTabG5_11t
import MqttVerif.Conn.Lemmas.PairTabG5_12t
import MqttVerif.Conn.Lemmas.PairTabG5_21t
import MqttVerif.Conn.Lemmas.PairTabG5_22t
import MqttVerif.Conn.Lemmas.PairTabG5_11f
import MqttVerif.Conn.Lemmas.PairTabG5_12f
import MqttVerif.Conn.Lemmas.PairTabG5_21f
import MqttVerif.Conn.Lemmas.PairTabG5_22f
import MqttVerif.Conn.Lemmas.PairTabG6_11
import MqttVerif.Conn.Lemmas.PairTabG6_12
import MqttVerif.Conn.Lemmas.PairTabG6_21
import MqttVerif.Conn.Lemmas.PairTabG6_22
/-!
# The twelve checked phase tables by case: two exchanges in flight in the same direction (`tables5`: four QoS
combinations, both directions) and in opposite directions (`tables6`), for `Props/C01L2b.lean` and `Props/C01L2c.lean`
-/
namespace MqttVerif.Conn.Pair
open MqttVerif MqttVerif.Conn

theorem tables5 {q1 q2 : Nat} (h1 : q1 = 1 ∨ q1 = 2) (h2 : q2 = 1 ∨ q2 = 2) (d : Bool) :
    ∃ T : PhaseData, T.Ok q1 q2 2 (astartTwo q1 q2 d) ∧ T.Counts5 d q1 q2 ∧ T.Loss5 d q1 q2 := by
  rcases h1 with rfl | rfl <;> rcases h2 with rfl | rfl <;> cases d
  · exact ⟨_, G5_11f.ok, G5_11f.counts, G5_11f.loss⟩
  · exact ⟨_, G5_11t.ok, G5_11t.counts, G5_11t.loss⟩
  · exact ⟨_, G5_12f.ok, G5_12f.counts, G5_12f.loss⟩
  · exact ⟨_, G5_12t.ok, G5_12t.counts, G5_12t.loss⟩
  · exact ⟨_, G5_21f.ok, G5_21f.counts, G5_21f.loss⟩
  · exact ⟨_, G5_21t.ok, G5_21t.counts, G5_21t.loss⟩
  · exact ⟨_, G5_22f.ok, G5_22f.counts, G5_22f.loss⟩
  · exact ⟨_, G5_22t.ok, G5_22t.counts, G5_22t.loss⟩

theorem tables6 {q1 q2 : Nat} (h1 : q1 = 1 ∨ q1 = 2) (h2 : q2 = 1 ∨ q2 = 2) :
    ∃ T : PhaseData, T.Ok q1 q2 1 (astartBoth q1 q2) ∧ T.Counts6 q1 q2 ∧ T.Loss6 q1 q2 := by
  rcases h1 with rfl | rfl <;> rcases h2 with rfl | rfl
  · exact ⟨_, G6_11.ok, G6_11.counts, G6_11.loss⟩
  · exact ⟨_, G6_12.ok, G6_12.counts, G6_12.loss⟩
  · exact ⟨_, G6_21.ok, G6_21.counts, G6_21.loss⟩
  · exact ⟨_, G6_22.ok, G6_22.counts, G6_22.loss⟩

end MqttVerif.Conn.Pair
