import MqttVerif.Conn.Lemmas.TimersRecv
/-!
# Helper lemmas for C15: exact event lists of the timer primitives; what a server does on a packet it accepts (the
re-arm of the receive timer after the automatic responses, `refresh_auto`, and the exact effect of an accepted
CONNECT); every `process_send_*` path that sends ends in `send_post_process`
-/
set_option linter.unusedSimpArgs false
namespace MqttVerif.Conn
open MqttVerif Mon

/-- the cancel requests `cancel_timers` emits for the flags `a` -/
def cancelEvs (a : Armed) : List Ev :=
  (if a.s then [.timerCancel .pingreqSend] else []) ++
  (if a.r then [.timerCancel .pingreqRecv] else []) ++
  (if a.p then [.timerCancel .pingrespRecv] else [])

theorem cancelTimers_ev (c : C) : (cancelTimers c).ev = c.ev ++ cancelEvs (flagsOf c.s) := by
  unfold cancelTimers cancelEvs flagsOf
  cases h1 : c.s.sendSet <;> cases h2 : c.s.recvSet <;> cases h3 : c.s.respSet <;> simp [h1, h2, h3]

@[simp] theorem cancelTimers_status (c : C) : (cancelTimers c).s.status = c.s.status := by
  rw [Fp.cancelTimers_s]

@[simp] theorem cancelTimers_flags (c : C) : flagsOf (cancelTimers c).s = unarmed := by
  unfold flagsOf; rw [Fp.cancelTimers_s]; rfl

/-- the re-arm `send_post_process` emits in state `s` -/
def rearmSend (s : St) : List Ev :=
  if s.isClient ∧ pingInterval s > 0 then [.timerReset .pingreqSend (pingInterval s)] else []

theorem sendPostProcess_ev (c : C) : (sendPostProcess c).ev = c.ev ++ rearmSend c.s := by
  rw [sendPostProcess_eq]; unfold rearmSend; split <;> simp [arm]

theorem sendPostProcess_sendSet (c : C) :
    (sendPostProcess c).s.sendSet = (c.s.sendSet || (c.s.isClient && decide (pingInterval c.s > 0))) := by
  rw [sendPostProcess_eq]; split <;> simp_all [arm, St.setArmed]

@[simp] theorem pingInterval_spp (c : C) : pingInterval (sendPostProcess c).s = pingInterval c.s := by
  unfold pingInterval; rw [Fp.sendPostProcess_s]

@[simp] theorem respSet_spp (c : C) : (sendPostProcess c).s.respSet = c.s.respSet := by
  rw [Fp.sendPostProcess_s]

@[simp] theorem status_spp (c : C) : (sendPostProcess c).s.status = c.s.status := by
  rw [Fp.sendPostProcess_s]

@[simp] theorem isClient_spp (c : C) : (sendPostProcess c).s.isClient = c.s.isClient := by
  rw [Fp.sendPostProcess_s]

@[simp] theorem rearmSend_spp (c : C) : rearmSend (sendPostProcess c).s = rearmSend c.s := by
  unfold rearmSend; rw [pingInterval_spp, isClient_spp]

/-- the re-arm `refresh_pingreq_recv` emits in state `s` -/
def rearmRecv (s : St) : List Ev :=
  if s.recvTimeoutMs ≠ 0 ∧ s.status ≠ .disconnected then [.timerReset .pingreqRecv s.recvTimeoutMs] else []

theorem refresh_ev (c : C) : (refreshPingreqRecv c).ev = c.ev ++ rearmRecv c.s := by
  unfold refreshPingreqRecv rearmRecv; split <;> simp

@[simp] theorem status_refresh (c : C) : (refreshPingreqRecv c).s.status = c.s.status := by
  rw [Fp.refreshPingreqRecv_s]
@[simp] theorem recvTimeoutMs_refresh (c : C) : (refreshPingreqRecv c).s.recvTimeoutMs = c.s.recvTimeoutMs := by
  rw [Fp.refreshPingreqRecv_s]
@[simp] theorem isClient_refresh (c : C) : (refreshPingreqRecv c).s.isClient = c.s.isClient := by
  rw [Fp.refreshPingreqRecv_s]

@[simp] theorem rearmRecv_refresh (c : C) : rearmRecv (refreshPingreqRecv c).s = rearmRecv c.s := by
  unfold rearmRecv; rw [Fp.refreshPingreqRecv_s]

/-- the response-timer arm a sent PINGREQ emits -/
def armResp (s : St) : List Ev :=
  if s.respTimeoutMs ≠ 0 then [.timerReset .pingrespRecv s.respTimeoutMs] else []

theorem psPingreq_sent (c : C) (p : Pkt) (hsz : p.ver = 5 → sizeOk c p = true) (hs : c.s.status = .connected) :
    psPingreq c p = sendPostProcess (awaitResp (c.push (.send p none))) :=
  psPingreq_cases (Q := fun r => r = _) c p
    (fun h _ => h.elim (fun h => absurd ((hsz h.1).symm.trans h.2) Bool.noConfusion) (fun h => absurd hs h)) (fun _ _ => rfl)

theorem psPingreq_accepted (c : C) (p : Pkt) (hsz : p.ver = 5 → sizeOk c p = true)
    (hs : c.s.status = .connected) :
    (psPingreq c p).ev = c.ev ++ [.send p none] ++ armResp c.s ++ rearmSend c.s ∧
    (psPingreq c p).s.respSet = (c.s.respSet || decide (c.s.respTimeoutMs ≠ 0)) ∧
    (psPingreq c p).s.status = .connected := by
  rw [psPingreq_sent c p hsz hs]
  unfold armResp awaitResp
  by_cases hr : c.s.respTimeoutMs = 0 <;> simp [hr, sendPostProcess_ev, rearmSend, pingInterval, hs, arm, St.setArmed]

theorem psPingreq_refused (c : C) (p : Pkt)
    (h : (p.ver = 5 ∧ sizeOk c p = false) ∨ c.s.status ≠ .connected) :
    ∃ e, psPingreq c p = c.err e :=
  psPingreq_cases (Q := fun r => ∃ e, r = c.err e) c p (fun _ e => ⟨e, rfl⟩)
    (fun hz hs => h.elim (fun h => absurd ((hz h.1).symm.trans h.2) Bool.noConfusion) (fun h => absurd hs h))

theorem prPingresp_ok (c : C) (p : Pkt) :
    (prPingresp c (.ok p)).ev
      = c.ev ++ (if c.s.respSet then [.timerCancel .pingrespRecv] else []) ++ [.recv p] ∧
    (prPingresp c (.ok p)).s.respSet = false ∧
    (prPingresp c (.ok p)).s.sendSet = c.s.sendSet ∧ (prPingresp c (.ok p)).s.recvSet = c.s.recvSet := by
  simp only [prPingresp]
  cases h : c.s.respSet <;> simp [h]

theorem v5DisconnectOrClose_connected (c : C) (d : Pkt) (hs : c.s.status = .connected) :
    (v5DisconnectOrClose c d).ev
      = c.ev ++ cancelEvs (flagsOf c.s) ++ (if sizeOk c d then [.send d none, .close] else [.close]) ∧
    (v5DisconnectOrClose c d).s.status = .disconnected ∧
    flagsOf (v5DisconnectOrClose c d).s = unarmed := by
  unfold v5DisconnectOrClose psV5Disconnect
  by_cases hz : sizeOk c d = true
  · simp [hz, hs, cancelTimers_ev, Fp.cancelTimers_s, flagsOf, unarmed]
  · simp [hz, hs, cancelTimers_ev, Fp.cancelTimers_s, flagsOf, unarmed]

theorem sizeOk_small (c : C) (p : Pkt) (h : ¬(p.ver = 5 ∧ p.kind = .publish)) :
    sizeOk c p = true ↔ p.size ≤ c.s.mpsSend := by
  simp only [sizeOk, Pkt.sz, h, if_false]
  simp

theorem Sent.keeps {c r : C} (k : Sent c r) :
    r.s.status = c.s.status ∧ r.s.isClient = c.s.isClient ∧ r.s.recvTimeoutMs = c.s.recvTimeoutMs := by
  cases k with
  | quiet k => exact ⟨k.status, k.isClient, k.recvTimeoutMs⟩
  | spp k _ =>
    exact ⟨by rw [Fp.sendPostProcess_s]; exact k.status, by rw [Fp.sendPostProcess_s]; exact k.isClient,
      by rw [Fp.sendPostProcess_s]; exact k.recvTimeoutMs⟩

theorem Auto.keeps {c r : C} (k : Auto c r) :
    r.s.status = c.s.status ∧ r.s.isClient = c.s.isClient ∧ r.s.recvTimeoutMs = c.s.recvTimeoutMs := by
  induction k with
  | refl => exact ⟨rfl, rfl, rfl⟩
  | step _ s ih => exact ⟨s.keeps.1.trans ih.1, s.keeps.2.1.trans ih.2.1, s.keeps.2.2.trans ih.2.2⟩

/-- the re-arm after the automatic responses, in terms of the state at the start of the call -/
theorem refresh_auto {c m : C} (k : Auto c m) :
    (refreshPingreqRecv m).ev = m.ev ++ rearmRecv c.s ∧
    (c.s.recvTimeoutMs ≠ 0 ∧ c.s.status ≠ .disconnected → (refreshPingreqRecv m).s.recvSet = true) := by
  have e : rearmRecv m.s = rearmRecv c.s := by unfold rearmRecv; rw [k.keeps.1, k.keeps.2.2]
  refine ⟨by rw [refresh_ev, e], fun hc => ?_⟩
  have hm : m.s.recvTimeoutMs ≠ 0 ∧ m.s.status ≠ .disconnected := by rw [k.keeps.1, k.keeps.2.2]; exact hc
  rw [refreshPingreqRecv_eq, if_pos hm]
  rfl

theorem recvTimeoutOf_zero : recvTimeoutOf 0 = 0 := rfl
theorem recvTimeoutOf_pos (k : Nat) (h : k ≠ 0) : recvTimeoutOf k ≠ 0 := by
  unfold recvTimeoutOf; omega

theorem Welcomed.ok {c r : C} {p : Pkt} (k : Welcomed c (.ok p) r) :
    r.ev = c.ev ++ (if p.keepAlive ≠ 0 then [.timerReset .pingreqRecv (recvTimeoutOf p.keepAlive)] else []) ++ [.recv p] ∧
    r.s.recvTimeoutMs = recvTimeoutOf p.keepAlive ∧ r.s.status = .connecting := by
  cases k with
  | accepted p m k =>
    have hr : rearmRecv m.s =
        if p.keepAlive ≠ 0 then [.timerReset .pingreqRecv (recvTimeoutOf p.keepAlive)] else [] := by
      have e1 : m.s.recvTimeoutMs = recvTimeoutOf p.keepAlive := k.recvTimeoutMs
      have e2 : m.s.status = .connecting := k.status
      unfold rearmRecv
      rw [e1, e2]
      by_cases h : p.keepAlive = 0
      · rw [if_neg (fun q => q.1 (by rw [h]; rfl)), if_neg (not_not_intro h)]
      · rw [if_pos ⟨recvTimeoutOf_pos _ h, connecting_ne⟩, if_pos h]
    exact ⟨by rw [push_ev, refresh_ev, k.ev_nil, hr]; rfl, (recvTimeoutMs_refresh m).trans k.recvTimeoutMs,
      (status_refresh m).trans k.status⟩

/- `isSendEv` ("the event is a `RequestSendPacket`") is defined in `Conn/Model.lean`: it is what
   `resendStored` tests (fix 999e935) -/

@[simp] theorem isSendEv_send (p r) : isSendEv (.send p r) = true := rfl
@[simp] theorem isSendEv_reset (k ms) : isSendEv (.timerReset k ms) = false := rfl
@[simp] theorem isSendEv_cancel (k) : isSendEv (.timerCancel k) = false := rfl
@[simp] theorem isSendEv_recv (p) : isSendEv (.recv p) = false := rfl
@[simp] theorem isSendEv_released (i) : isSendEv (.released i) = false := rfl
@[simp] theorem isSendEv_error (e) : isSendEv (.error e) = false := rfl
@[simp] theorem isSendEv_close : isSendEv .close = false := rfl

def sends (l : List Ev) : List Ev := l.filter isSendEv

@[simp] theorem sends_nil : sends [] = [] := rfl
@[simp] theorem sends_append (l₁ l₂ : List Ev) : sends (l₁ ++ l₂) = sends l₁ ++ sends l₂ := by
  simp [sends]
@[simp] theorem sends_cons (e : Ev) (l : List Ev) :
    sends (e :: l) = if isSendEv e then e :: sends l else sends l := by
  simp [sends, List.filter_cons]

def isSendTimerEv : Ev → Bool
  | .timerReset .pingreqSend _ => true
  | .timerCancel .pingreqSend => true
  | _ => false

def stev (l : List Ev) : List Ev := l.filter isSendTimerEv

@[simp] theorem stev_nil : stev [] = [] := rfl
@[simp] theorem stev_append (l₁ l₂ : List Ev) : stev (l₁ ++ l₂) = stev l₁ ++ stev l₂ := by
  simp [stev]
@[simp] theorem stev_cons (e : Ev) (l : List Ev) :
    stev (e :: l) = if isSendTimerEv e then e :: stev l else stev l := by
  simp [stev, List.filter_cons]

theorem stev_tev (l : List Ev) : stev (tev l) = stev l := by
  induction l with
  | nil => rfl
  | cons e l ih =>
    cases e with
    | timerReset k ms => cases k <;> simp_all [isSendTimerEv]
    | timerCancel k => cases k <;> simp_all [isSendTimerEv]
    | _ => simp_all [isSendTimerEv]

theorem stev_of_tev {l₁ l₂ : List Ev} (h : tev l₁ = tev l₂) : stev l₁ = stev l₂ := by
  rw [← stev_tev l₁, ← stev_tev l₂, h]

theorem Appends.sends_eq {T : List EvTag} {c c' : C} (h : Appends T c c') (hT : EvTag.send ∉ T := by decide) :
    sends c'.ev = sends c.ev :=
  h.filter_eq isSendEv (fun e he => by
    cases e with
    | send => exact absurd he hT
    | _ => rfl)

@[simp] theorem setPanic_sends (c : C) (m : String) : sends (c.setPanic m).ev = sends c.ev := rfl
@[simp] theorem clearStoreRelated_sends (c : C) : sends (clearStoreRelated c).ev = sends c.ev := rfl
@[simp] theorem initConn_sends (c : C) (b : Bool) : sends (initConn c b).ev = sends c.ev := rfl
@[simp] theorem storeAdd_sends (c : C) (id : Nat) (p : Pkt) (m : String) :
    sends (storeAdd c id p m).ev = sends c.ev := congrArg sends (Fp.storeAdd_ev c id p m)
@[simp] theorem pubRefuseCleanup_sends (c : C) (pid : Option Nat) :
    sends (pubRefuseCleanup c pid).ev = sends c.ev := (Fp.pubRefuseCleanup_ev c pid).sends_eq
@[simp] theorem connectSendProp_sends (c : C) (id v : Nat) :
    sends (connectSendProp c id v).ev = sends c.ev := congrArg sends (Fp.connectSendProp_ev c id v)
@[simp] theorem propsFold_connectSendProp_sends (c : C) (l : List (Nat × Nat)) :
    sends (propsFold connectSendProp c l).ev = sends c.ev :=
  congrArg sends (Fp.propsFold_keeps C.ev _ Fp.connectSendProp_ev c l)

/-- nothing sent and no timer touched; or the connection ended (DISCONNECT / refusing CONNACK);
    or the function ends in `send_post_process`, having pushed no PINGREQ-timer event before -/
def SendOK (c c' : C) : Prop :=
  (sends c'.ev = sends c.ev ∧ tev c'.ev = tev c.ev) ∨
  c'.s.status = .disconnected ∨
  (∃ m, c' = sendPostProcess m ∧ stev m.ev = stev c.ev)

theorem Sent.sendok {c r : C} (k : Sent c r) : SendOK c r := by
  cases k with
  | quiet k => exact .inl ⟨k.ev.sends_eq, k.tev⟩
  | spp k _ => exact .inr (.inr ⟨_, rfl, stev_of_tev k.tev⟩)

theorem SendOK.err (c : C) (e : Nat) : SendOK c (c.err e) := (Sent.quiet ((TFr.refl _ c).err e)).sendok

theorem Opened.sendok {c r : C} {p : Pkt} (k : Opened c p r) : SendOK c r := by
  cases k with
  | refused e => exact .err c e
  | opened m he _ _ _ => exact .inr (.inr ⟨_, rfl, by rw [push_ev, stev_append, he]; exact List.append_nil _⟩)

theorem stev_push_send (c : C) (p : Pkt) (r : Option Nat) : stev (c.push (.send p r)).ev = stev c.ev := by
  rw [push_ev, stev_append]; exact List.append_nil _

theorem stev_arm (c : C) (k : Timer) (ms : Nat) (hk : isSendTimerEv (.timerReset k ms) = false := by rfl) :
    stev (arm c k ms).ev = stev c.ev := by
  show stev (c.ev ++ [.timerReset k ms]) = _
  rw [stev_append, stev_cons, hk]; exact List.append_nil _

theorem stev_disarm (c : C) (k : Timer) (hk : isSendTimerEv (.timerCancel k) = false := by rfl) :
    stev (disarm c k).ev = stev c.ev := by
  unfold disarm; split
  · rw [push_ev, stev_append, stev_cons, hk]; exact List.append_nil _
  · rfl

theorem psPingreq_sendok (c : C) (p : Pkt) : SendOK c (psPingreq c p) :=
  psPingreq_cases c p (fun _ e => .err c e) (fun _ _ => .inr (.inr ⟨_, rfl,
    (Fp.ite_both (Q := fun x : C => stev x.ev = stev (c.push (.send p none)).ev) (stev_arm ..) rfl).trans (stev_push_send ..)⟩))

theorem Ended.sendok {c r : C} (k : Ended c r) : SendOK c r := by
  cases k with
  | kept k => exact .inl ⟨k.ev.sends_eq, k.tev⟩
  | shut k => exact .inr (.inl (k.status.trans (cancelTimers_status _)))

theorem connackTail_sendok {c m : C} (p : Pkt) (h : stev m.ev = stev c.ev) : SendOK c (Fp.connackTail m p) :=
  connackTail_cases m p (fun _ => .inr (.inl (cancelTimers_status _)))
    (fun _ k => .inr (.inr ⟨_, rfl, (stev_of_tev k.tev).trans h⟩))

theorem psV3Connack_sendok (c : C) (p : Pkt) : SendOK c (psV3Connack c p) := by
  rw [Fp.psV3Connack_eq]
  exact Fp.ite_ind (fun _ => .err c _) (fun _ => connackTail_sendok p (stev_push_send c p none))

/-- Server Keep Alive touches the receive timer only -/
theorem connackSendProp_stev (c : C) (id v : Nat) : stev (connackSendProp c id v).ev = stev c.ev :=
  connackSendProp_cases (Q := fun r => stev r.ev = stev c.ev) c id v
    (fun _ => Fp.ite_both (Q := fun r : C => stev r.ev = stev c.ev) (stev_disarm c .pingreqRecv) (stev_arm ..))
    (fun _ _ k => stev_of_tev k.tev)

theorem psV5Connack_sendok (c : C) (p : Pkt) : SendOK c (psV5Connack c p) := by
  rw [Fp.psV5Connack_eq]
  refine Fp.ite_ind (fun _ => .err c _) (fun _ => Fp.ite_ind (fun _ => .err c _) (fun _ => connackTail_sendok p ?_))
  rw [stev_push_send]
  exact Fp.ite_both (Q := fun r : C => stev r.ev = stev c.ev)
    (Fp.propsFold_keeps (fun x => stev x.ev) _ connackSendProp_stev c p.props) rfl

theorem send_sendok (c : C) (p : Pkt) : SendOK c (send c p) :=
  send_walk c p (fun _ k => k.sendok) (fun _ => ⟨psV3Connack_sendok c p, psV5Connack_sendok c p⟩)
    (fun _ k => k.sendok) (psPingreq_sendok c p) (fun _ k => k.sendok)

end MqttVerif.Conn
