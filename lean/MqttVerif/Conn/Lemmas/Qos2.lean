import MqttVerif.Conn.Lemmas.P7Frame
import MqttVerif.Conn.Lemmas.Projections
import MqttVerif.Conn.Lemmas.FootprintEmits
/-!
# Lemmas for C07 (inbound QoS 2 exactly once), sending side: what `send` does to `handled`
-/
namespace MqttVerif.Conn
open MqttVerif

/-! ## `refuseSend`: an error, then possibly the release of the packet's identifier -/
@[simp] theorem refuseSend_handled (c : C) (e : Nat) (p : Pkt) : (refuseSend c e p).s.handled = c.s.handled := by
  rw [Fp.refuseSend_s]
@[simp] theorem refuseSend_errs (c : C) (e : Nat) (p : Pkt) : errs (refuseSend c e p).ev = errs c.ev ++ [e] := by
  have h : errs (c.err e).ev = errs c.ev ++ [e] := by rw [err_ev, errs_append]; rfl
  unfold refuseSend
  cases initiatingId p with
  | none => exact h
  | some id => exact ((Fp.releaseIfUsed_ev _ id).errs_eq (by decide)).trans h
theorem refuseSend_suback (c : C) (e : Nat) (p : Pkt) : (refuseSend c e p).s.suback = c.s.suback := by
  rw [Fp.refuseSend_s]
theorem refuseSend_unsuback (c : C) (e : Nat) (p : Pkt) : (refuseSend c e p).s.unsuback = c.s.unsuback := by
  rw [Fp.refuseSend_s]
theorem refuseSend_autoPub (c : C) (e : Nat) (p : Pkt) : (refuseSend c e p).s.autoPub = c.s.autoPub := by
  rw [Fp.refuseSend_s]
theorem refuseSend_mpsSend (c : C) (e : Nat) (p : Pkt) : (refuseSend c e p).s.mpsSend = c.s.mpsSend := by
  rw [Fp.refuseSend_s]

/-! ## `resendStored`: `sendStored`, then possibly `sendPostProcess` -/
@[simp] theorem resendStored_mpsSend (c : C) : (resendStored c).s.mpsSend = c.s.mpsSend := by rw [Fp.resendStored_s]
@[simp] theorem resendStored_sends (c : C) : sends (resendStored c).ev = sends (sendStored c).ev := by
  rcases resendStored_ev_cases c with h | ⟨ms, h⟩ <;> rw [h]
  rw [sends_append]
  exact List.append_nil _

theorem resendStored_s_sendStored (c : C) :
    (resendStored c).s = { (sendStored c).s with sendSet := (resendStored c).s.sendSet } := by
  rcases resendStored_eq c with h | h <;> rw [h]
  rw [Fp.sendPostProcess_s]
@[simp] theorem resendStored_store (c : C) : (resendStored c).s.store = (sendStored c).s.store := by
  rw [resendStored_s_sendStored]
theorem resendStored_cfg (c : C) : (resendStored c).cfg = (sendStored c).cfg := resendStored_cfg' c
theorem resendStored_suback (c : C) : (resendStored c).s.suback = (sendStored c).s.suback := by
  rw [resendStored_s_sendStored]
theorem resendStored_unsuback (c : C) : (resendStored c).s.unsuback = (sendStored c).s.unsuback := by
  rw [resendStored_s_sendStored]
theorem resendStored_autoPub (c : C) : (resendStored c).s.autoPub = (sendStored c).s.autoPub := by
  rw [resendStored_s_sendStored]
theorem resendStored_pidMan (c : C) : (resendStored c).s.pidMan = (sendStored c).s.pidMan := by
  rw [resendStored_s_sendStored]
theorem resendStored_errs (c : C) : errs (resendStored c).ev = errs (sendStored c).ev := by
  rcases resendStored_eq c with h | h <;> rw [h]
  exact (Fp.sendPostProcess_ev _).errs_eq (by decide)

/-! ## sending side -/

/-- a CONNACK(success) accepted for sending with session present = false starts a new session:
    `clearStoreRelated` empties `handled` (fix 10ee029) -/
theorem connackTail_handled (c : C) (p : Pkt) :
    (Fp.connackTail c p).s.handled = if p.rc = some 0 ∧ p.sp = false then [] else c.s.handled := by
  unfold Fp.connackTail
  refine Fp.ite_ind (Q := fun r : C => r.s.handled = if p.rc = some 0 ∧ p.sp = false then [] else c.s.handled)
    (fun hrc => ?_) (fun hrc => ?_)
  · rw [push_s, Fp.cancelTimers_s]
    exact (if_neg fun h => hrc h.1).symm
  · rw [Fp.sendPostProcess_s]
    cases hsp : p.sp with
    | false => exact (if_pos ⟨Classical.not_not.1 hrc, rfl⟩).symm
    | true => exact (congrArg St.handled (Fp.sendStored_s _)).trans (if_neg fun h => Bool.noConfusion h.2).symm

/-- a handler behind its gate whose body empties `handled` under the test `q` and keeps it otherwise; `hg` puts the
    two tests of the gate in the form the handler's lemma states them in -/
theorem guarded_handled {c body : C} {large refuse q g : Prop} [Decidable large] [Decidable refuse] [Decidable q]
    [Decidable g] (hg : g ↔ ¬large ∧ ¬refuse ∧ q) (hb : body.s.handled = if q then [] else c.s.handled) :
    (Fp.guarded c large refuse none body).s.handled = if g then [] else c.s.handled := by
  refine Fp.guarded_ind (Q := fun r : C => r.s.handled = if g then [] else c.s.handled)
    (fun hl => (if_neg fun h => (hg.1 h).1 hl).symm) (fun _ hr => (if_neg fun h => (hg.1 h).2.1 hr).symm)
    fun hl hr => hb.trans ?_
  by_cases hq : q
  · rw [if_pos hq, if_pos (hg.2 ⟨hl, hr, hq⟩)]
  · rw [if_neg hq, if_neg fun h => hq (hg.1 h).2.2]

/-- the gates of the v3.1.1 and of the v5.0 handlers, as their lemmas state them -/
theorem gate3 {a b : Status} {q : Prop} : a = b ∧ q ↔ ¬False ∧ ¬a ≠ b ∧ q :=
  ⟨fun h => ⟨not_false, not_not_intro h.1, h.2⟩, fun h => ⟨Classical.not_not.1 h.2.1, h.2.2⟩⟩
theorem gate5 {z : Bool} {a b : Status} {q : Prop} : z = true ∧ a = b ∧ q ↔ ¬(!z) = true ∧ ¬a ≠ b ∧ q :=
  ⟨fun h => ⟨by simp [h.1], not_not_intro h.2.1, h.2.2⟩, fun h => ⟨by simpa using h.1, Classical.not_not.1 h.2.1, h.2.2⟩⟩

theorem psV3Connack_handled (c : C) (p : Pkt) :
    (psV3Connack c p).s.handled =
      if c.s.status = .connecting ∧ p.rc = some 0 ∧ p.sp = false then [] else c.s.handled := by
  rw [Fp.psV3Connack_guarded]
  exact guarded_handled gate3 (connackTail_handled _ p)

theorem psV5Connack_handled (c : C) (p : Pkt) :
    (psV5Connack c p).s.handled =
      if sizeOk c p ∧ c.s.status = .connecting ∧ p.rc = some 0 ∧ p.sp = false then [] else c.s.handled := by
  have hh : (if p.rc = some 0 then propsFold connackSendProp c p.props else c).s.handled = c.s.handled :=
    Fp.ite_both (Q := fun r : C => r.s.handled = c.s.handled) (by rw [Fp.propsFold_connackSendProp_s]) rfl
  rw [Fp.psV5Connack_guarded]
  exact guarded_handled gate5 ((connackTail_handled _ p).trans (by rw [push_s, hh]))

/-- a CONNECT with clean start accepted for sending starts a new session -/
theorem connectOut_handled {c : C} {p : Pkt} {settle : C → C}
    (hs : ∀ c0 : C, (settle c0).s.handled = if p.clean then [] else c0.s.handled) :
    (Fp.connectOut c p settle).s.handled = if p.clean then [] else c.s.handled := by
  unfold Fp.connectOut
  rw [Fp.sendPostProcess_s]
  exact hs _

theorem psV3Connect_handled (c : C) (p : Pkt) :
    (psV3Connect c p).s.handled = if c.s.status = .disconnected ∧ p.clean then [] else c.s.handled := by
  rw [Fp.psV3Connect_eq]
  refine guarded_handled gate3 (connectOut_handled fun c0 => ?_)
  cases p.clean
  · rfl
  · rfl

theorem psV5Connect_handled (c : C) (p : Pkt) :
    (psV5Connect c p).s.handled = if sizeOk c p ∧ c.s.status = .disconnected ∧ p.clean then [] else c.s.handled := by
  rw [Fp.psV5Connect_eq]
  refine guarded_handled gate5 (connectOut_handled fun c0 => ?_)
  rw [Fp.propsFold_connectSendProp_s]
  cases p.clean
  · rfl
  · rfl

theorem psV5Pubrec_handled_eq (c : C) (p : Pkt) :
    (psV5Pubrec c p).s.handled =
      if sizeOk c p ∧ c.s.status = .connected ∧ (∃ rc, p.rc = some rc ∧ rc ≥ 0x80)
      then del (p.pid.getD 0) c.s.handled else c.s.handled := by
  have post : ∀ m : C, (sendPostProcess (m.push (.send p none))).s.handled = m.s.handled := fun m => by
    rw [Fp.sendPostProcess_s]
    rfl
  exact Fp.psV5Pubrec_paths (Q := fun r => r.s.handled = _) c p
    (fun hz => (if_neg fun h => Bool.false_ne_true (hz.symm.trans h.1)).symm) (fun _ hs => (if_neg fun h => hs h.2.1).symm)
    (fun hz hc rc e hge => (post _).trans (if_pos ⟨hz, hc, rc, e, hge⟩).symm)
    (fun _ _ hok => (post c).trans (if_neg fun ⟨_, _, rc, e, hge⟩ => Nat.not_le.2 (hok rc e) hge).symm)

theorem psV5Pubrec_sent (c : C) (p : Pkt) (h1 : sizeOk c p) (h2 : c.s.status = .connected) :
    p ∈ sends (psV5Pubrec c p).ev := by
  unfold psV5Pubrec
  rw [if_neg (by rw [h1]; decide), if_neg (not_not_intro h2), (Fp.sendPostProcess_ev _).sends_eq (by decide), push_ev,
    sends_append]
  exact List.mem_append_right _ (List.mem_singleton.2 rfl)

/-- A CONNECT or CONNACK handed to `send` is refused and the state stays as it is, or it is requested for sending. -/
theorem send_conn_sent (c : C) (p : Pkt) (hk : p.kind = .connect ∨ p.kind = .connack) :
    (send c p).s = c.s ∨ Ev.send p none ∈ (send c p).ev := by
  have key := @Fp.ite_ind C (fun r => r.s = c.s ∨ Ev.send p none ∈ r.ev)
  have hid : initiatingId p = none := if_neg (by rcases hk with h | h <;> rw [h] <;> decide)
  have refused : ∀ e, (refuseSend c e p).s = c.s := fun e => by unfold refuseSend; rw [hid]; rfl
  have pushed : ∀ m : C, Ev.send p none ∈ (m.push (.send p none)).ev := fun m =>
    List.mem_append_right _ (List.mem_singleton.2 rfl)
  refine Fp.send_cases (Q := fun r => r.s = c.s ∨ Ev.send p none ∈ r.ev) c p (fun _ => .inl (refused _))
    (fun _ _ => .inl (refused _)) (fun _ _ => ?_)
  -- all four handlers are a gate in front of a body that requests the packet
  have gate : ∀ {large refuse : Prop} [Decidable large] [Decidable refuse] {body : C}, Ev.send p none ∈ body.ev →
      (Fp.guarded c large refuse none body).s = c.s ∨ Ev.send p none ∈ (Fp.guarded c large refuse none body).ev :=
    fun h => Fp.guarded_ind (Q := fun r => r.s = c.s ∨ Ev.send p none ∈ r.ev) (fun _ => .inl rfl) (fun _ _ => .inl rfl)
      fun _ _ => .inr h
  rcases hk with hk | hk
  · rw [Fp.processSend_connect c hk]
    exact key (fun _ => Fp.psV3Connect_eq c p ▸ gate ((Fp.sendPostProcess_ev _).mem (pushed _)))
      (fun _ => Fp.psV5Connect_eq c p ▸ gate ((Fp.sendPostProcess_ev _).mem (pushed _)))
  · rw [Fp.processSend_connack c hk]
    exact key (fun _ => Fp.psV3Connack_guarded c p ▸ gate ((Fp.connackTail_ev _ p).mem (pushed _)))
      (fun _ => Fp.psV5Connack_guarded c p ▸ gate ((Fp.connackTail_ev _ p).mem (pushed _)))

/-- `send` changes `handled` only by starting a new session — then the CONNECT or CONNACK that starts it is requested
    for sending — or by a PUBREC that reports failure (v5.0). -/
theorem send_handled (c : C) (p : Pkt) :
    (send c p).s.handled = c.s.handled ∨
    ((send c p).s.handled = [] ∧ Ev.send p none ∈ (send c p).ev ∧
      (p.kind = .connect ∧ p.clean = true ∨ p.kind = .connack ∧ p.rc = some 0 ∧ p.sp = false)) ∨
    ((send c p).s.handled = del (p.pid.getD 0) c.s.handled ∧ p.kind = .pubrec ∧ p.ver ≠ 4 ∧
      (∃ rc, p.rc = some rc ∧ rc ≥ 0x80) ∧ p ∈ sends (send c p).ev) := by
  let Q (c' : C) : Prop := c'.s.handled = c.s.handled ∨
    (c'.s.handled = [] ∧ (p.kind = .connect ∧ p.clean = true ∨ p.kind = .connack ∧ p.rc = some 0 ∧ p.sp = false)) ∨
    (c'.s.handled = del (p.pid.getD 0) c.s.handled ∧ p.kind = .pubrec ∧ p.ver ≠ 4 ∧
      (∃ rc, p.rc = some rc ∧ rc ≥ 0x80) ∧ p ∈ sends c'.ev)
  -- `handled` is emptied under the test `q`, which for this packet means a new session
  have fresh : ∀ {c' : C} {q : Prop} [Decidable q],
      (q → p.kind = .connect ∧ p.clean = true ∨ p.kind = .connack ∧ p.rc = some 0 ∧ p.sp = false) →
      (c'.s.handled = if q then [] else c.s.handled) → Q c' := fun {c' q} _ hq h => by
    by_cases hq' : q
    · exact .inr (.inl ⟨by rw [h, if_pos hq'], hq hq'⟩)
    · exact .inl (by rw [h, if_neg hq'])
  have h0 : Q (send c p) := by
    refine Fp.send_cases (Q := Q) c p (fun _ => .inl (refuseSend_handled ..)) (fun _ _ => .inl (refuseSend_handled ..))
      fun _ _ => Fp.processSend_cases (Q := Q) c p ?_ ?_ ?_ ?_ ?_ ?_ ?_ ?_ ?_ ?_ ?_ ?_ ?_ ?_ ?_ ?_ ?_ ?_
    · exact fun _ hk => fresh (fun h => .inl ⟨hk, h.2⟩) (psV3Connect_handled c p)
    · exact fun _ hk => fresh (fun h => .inr ⟨hk, h.2⟩) (psV3Connack_handled c p)
    · exact fun _ _ => .inl (by rw [Fp.psV3Publish_s])
    · exact fun _ _ => .inl (by rw [Fp.psV3Simple_s])
    · exact fun _ _ => .inl (by rw [Fp.psV3Disconnect_s])
    · exact fun _ _ => .inl rfl
    · exact fun _ => .inl (by rw [Fp.psPubrel_s])
    · exact fun _ => .inl (by rw [Fp.psSubUnsub_s])
    · exact fun _ => .inl (by rw [Fp.psPingreq_s])
    · exact fun _ hk => fresh (fun h => .inl ⟨hk, h.2.2⟩) (psV5Connect_handled c p)
    · exact fun _ hk => fresh (fun h => .inr ⟨hk, h.2.2⟩) (psV5Connack_handled c p)
    · exact fun _ _ => .inl (by rw [Fp.psV5Publish_s])
    · exact fun _ _ => .inl (by rw [Fp.psV5Puback_s])
    · intro hv hk
      by_cases hc : sizeOk c p ∧ c.s.status = .connected ∧ (∃ rc, p.rc = some rc ∧ rc ≥ 0x80)
      · exact .inr (.inr
          ⟨by rw [psV5Pubrec_handled_eq, if_pos hc], hk, hv, hc.2.2, psV5Pubrec_sent c p hc.1 hc.2.1⟩)
      · exact .inl (by rw [psV5Pubrec_handled_eq, if_neg hc])
    · exact fun _ _ => .inl (by rw [Fp.psV5Pubcomp_s])
    · exact fun _ _ => .inl (by rw [Fp.psV5Disconnect_s])
    · exact fun _ _ => .inl (by rw [Fp.psV5Auth_s])
    · exact fun _ _ => .inl (by rw [Fp.psV5Simple_s])
  rcases h0 with h | ⟨h, hk⟩ | h
  · exact .inl h
  · rcases send_conn_sent c p (hk.imp And.left And.left) with hs | hm
    · exact .inl (by rw [hs])
    · exact .inr (.inl ⟨h, hm, hk⟩)
  · exact .inr (.inr h)

@[simp] theorem send_recvs (c : C) (p : Pkt) : recvs (send c p).ev = recvs c.ev :=
  (Fp.send_ev c p).recvs_eq (by decide)

/-! ## CONNACK properties -/

/-- a Session Expiry Interval of 0 clears the session, and with it `handled`; no other property touches `handled` -/
theorem connackRecvProp_handled (c : C) (i v : Nat) :
    (connackRecvProp c i v).s.handled = c.s.handled ∨ (i = pSEI ∧ v = 0 ∧ (connackRecvProp c i v).s.handled = []) := by
  have key := @Fp.ite_ind C (fun r => r.s.handled = c.s.handled ∨ (i = pSEI ∧ v = 0 ∧ r.s.handled = []))
  unfold connackRecvProp
  refine key (fun _ => key (fun _ => .inl rfl) (fun _ => .inl rfl)) (fun _ => ?_)
  -- a panic flag may be set before the field is: either way `handled` stays
  have panics : ∀ (x : String) (f : C → C), (∀ m : C, (f m).s.handled = m.s.handled) →
      (f (if v = 0 then c.setPanic x else c)).s.handled = c.s.handled := fun x f hf =>
    (hf _).trans (Fp.ite_both (Q := fun r : C => r.s.handled = c.s.handled) rfl rfl)
  refine key (fun _ => .inl (panics _ _ fun _ => rfl)) (fun _ => ?_)
  refine key (fun _ => .inl (panics _ _ fun _ => rfl)) (fun _ => ?_)
  refine key (fun _ => ?_) (fun _ => ?_)
  · exact key (fun _ => key (fun _ => key (fun _ => .inl rfl) (fun _ => .inl rfl)) (fun _ => .inl rfl))
      (fun _ => .inl rfl)
  · exact key (fun hi => key (fun hv => .inr ⟨hi, hv, rfl⟩) (fun _ => .inl rfl)) (fun _ => .inl rfl)

theorem propsFold_connackRecvProp_handled (c : C) (l : List (Nat × Nat)) :
    (propsFold connackRecvProp c l).s.handled = c.s.handled ∨
      ((pSEI, 0) ∈ l ∧ (propsFold connackRecvProp c l).s.handled = []) := by
  induction l generalizing c with
  | nil => exact .inl rfl
  | cons a t ih =>
    obtain ⟨i, v⟩ := a
    rw [propsFold]
    rcases ih (connackRecvProp c i v) with h | ⟨hm, h⟩
    · rcases connackRecvProp_handled c i v with h' | ⟨rfl, rfl, h'⟩
      · exact .inl (h.trans h')
      · exact .inr ⟨List.mem_cons_self, h.trans h'⟩
    · exact .inr ⟨List.mem_cons_of_mem _ hm, h⟩

end MqttVerif.Conn
