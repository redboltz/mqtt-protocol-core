import MqttVerif.Conn.Lemmas.Pend2
import MqttVerif.Conn.Lemmas.FootprintGate
/-!
# C08 — the ghost `pend` against the model: `send` and everything below it
-/
namespace MqttVerif.Conn.Pend
open MqttVerif MqttVerif.Conn

/-! ## an exchange begins: `store.add`, then the identifier enters the wait set of the response -/

theorem storeAdd_cases (c : C) (id : Nat) (q : Pkt) (x : String) :
    (storeAdd c id q x).s.store = c.s.store ∨
      ((storeAdd c id q x).s.store = c.s.store ++ [(id, q)] ∧ storeHas id c.s.store = false) := by
  unfold storeAdd
  by_cases hh : storeHas id c.s.store = true
  · rw [if_pos hh]; exact .inl rfl
  · rw [if_neg hh]; exact .inr ⟨rfl, by simpa using hh⟩

theorem ite_storeAdd (b : Prop) [Decidable b] (c : C) (id : Nat) (q : Pkt) (x : String) :
    (if b then storeAdd c id q x else c) = c ∨ (if b then storeAdd c id q x else c) = storeAdd c id q x := by
  by_cases h : b
  · exact .inr (if_pos h)
  · exact .inl (if_neg h)

theorem nibOf_cases {p : Pkt} {n : Nat} (h : nibOf p = some n) :
    (n = 4 ∧ p.kind = .publish ∧ p.qos = 1) ∨ (n = 5 ∧ p.kind = .publish ∧ p.qos = 2) ∨ (n = 7 ∧ p.kind = .pubrel) := by
  unfold nibOf at h
  (repeat' split at h) <;> simp_all

theorem proper_of_nibOf {p : Pkt} {n : Nat} (h : nibOf p = some n) : p.kind = .publish ∨ p.kind = .pubrel := by
  rcases nibOf_cases h with ⟨_, hk, _⟩ | ⟨_, hk, _⟩ | ⟨_, hk⟩
  · exact .inl hk
  · exact .inl hk
  · exact .inr hk

theorem waitN_respOf {p : Pkt} {n : Nat} (h : nibOf p = some n) (s : St) : waitN s n = waitOf s (respOf p) := by
  rcases nibOf_cases h with ⟨rfl, hk, hq⟩ | ⟨rfl, hk, hq⟩ | ⟨rfl, hk⟩
  · simp [waitN, waitOf, respOf, hk, hq]
  · simp [waitN, waitOf, respOf, hk, hq]
  · simp [waitN, waitOf, respOf, hk]

theorem waitN_fr {c c' : C} (f : Fr c c') (n : Nat) : waitN c'.s n = waitN c.s n := by
  unfold waitN
  split <;> first | exact f.puback | exact f.pubrec | exact f.pubcomp | rfl

/-- the wait sets grow, and that of `q`'s response holds `id`; nothing else the invariant reads changes -/
theorem awaitResp_grows (c : C) (q : Pkt) (id : Nat) :
    (Fp.awaitResp c q id).ev = c.ev ∧ (Fp.awaitResp c q id).s.status = c.s.status ∧
      (Fp.awaitResp c q id).s.ver = c.s.ver ∧ (Fp.awaitResp c q id).s.store = c.s.store ∧
      (∀ i ∈ c.s.puback, i ∈ (Fp.awaitResp c q id).s.puback) ∧ (∀ i ∈ c.s.pubrec, i ∈ (Fp.awaitResp c q id).s.pubrec) ∧
      (∀ i ∈ c.s.pubcomp, i ∈ (Fp.awaitResp c q id).s.pubcomp) ∧ id ∈ waitOf (Fp.awaitResp c q id).s (respOf q) := by
  unfold Fp.awaitResp addWait respOf
  by_cases h1 : q.kind = .pubrel
  · rw [if_pos h1, if_pos h1]
    exact ⟨rfl, rfl, rfl, rfl, fun i hi => hi, fun i hi => hi, fun i hi => mem_ins_of_mem hi, mem_ins_self _ _⟩
  · rw [if_neg h1, if_neg h1]
    by_cases h2 : q.qos = 2
    · rw [if_pos h2, if_pos h2]
      exact ⟨rfl, rfl, rfl, rfl, fun i hi => hi, fun i hi => mem_ins_of_mem hi, fun i hi => hi, mem_ins_self _ _⟩
    · rw [if_neg h2, if_neg h2]
      exact ⟨rfl, rfl, rfl, rfl, fun i hi => mem_ins_of_mem hi, fun i hi => hi, fun i hi => hi, mem_ins_self _ _⟩

/-- `c1` = `c`, possibly after `store.add(id, q)` -/
theorem inv_store_ins {m : Option Nat} {g : Gh} {c c1 : C} (h : InvM m g c) (id : Nat) (q : Pkt) (x : String)
    (hc1 : c1 = c ∨ c1 = storeAdd c id q x)
    (hq : q.pid.getD 0 = id) (hv : q.ver = c.s.ver) (hv0 : c.s.ver ≠ 0) :
    InvM m g (Fp.awaitResp c1 q id) ∧ ∀ n, nibOf q = some n → id ∈ waitN (Fp.awaitResp c1 q id).s n := by
  obtain ⟨hev, hst, hver, hstore, hpa, hpr, hpc, hin⟩ := awaitResp_grows c1 q id
  refine ⟨?_, fun n hn => waitN_respOf hn _ ▸ hin⟩
  rcases hc1 with rfl | rfl
  · exact h.grow hev hst hver hpa hpr hpc (.inl hstore)
  · rw [Fp.storeAdd_s] at hst hver hpa hpr hpc
    refine h.grow (hev.trans (Fp.storeAdd_ev c id q x)) hst hver hpa hpr hpc ?_
    rcases storeAdd_cases c id q x with a7 | ⟨a7, hn⟩
    · exact .inl (hstore.trans a7)
    · exact .inr ⟨(id, q), hstore.trans a7, hn, fun _ => ⟨hq, by rw [hver]; exact hv, by rw [hver]; exact hv0, hin⟩⟩

theorem inv_send_tail {m : Option Nat} {g : Gh} {c : C} (h : InvM m g c) (p : Pkt) (r : Option Nat)
    (hw : ∀ n, nibOf p = some n → p.pid.getD 0 ∈ waitN c.s n) :
    InvM m g (Fp.sendIfConnected c p r) :=
  Fp.sendIfConnected_cases c p r (fun hc => (h.send p r hc hw).fr (fr_sendPostProcess _)) (fun _ => h)

/-- a QoS 1/2 PUBLISH `p`, stored as `q` -/
theorem inv_pub_ins {g : Gh} {c c1 : C} (h : Inv g c) (p q : Pkt) (id : Nat) (x : String)
    (hc1 : c1 = c ∨ c1 = storeAdd c id q x)
    (hp : p.pid = some id) (hk : p.kind = .publish) (hv : p.ver = c.s.ver) (hv0 : c.s.ver ≠ 0)
    (hq1 : q.pid = p.pid) (hq2 : q.kind = p.kind) (hq3 : q.qos = p.qos) (hq4 : q.ver = p.ver) :
    Inv g (addWait c1 p.qos id) ∧ ∀ n, nibOf p = some n → p.pid.getD 0 ∈ waitN (addWait c1 p.qos id).s n := by
  have hpid : p.pid.getD 0 = id := by rw [hp]; rfl
  obtain ⟨h2, hw⟩ := inv_store_ins h id q x hc1 (hq1 ▸ hpid) (hq4.trans hv) hv0
  rw [Fp.awaitResp, if_neg (by rw [hq2, hk]; nofun), hq3] at h2 hw
  exact ⟨h2, fun n hn => hpid ▸ hw n (by unfold nibOf at hn ⊢; rwa [hq2, hq3])⟩

/-! ## PUBLISH (v3.1.1) -/

theorem inv_psV3Publish {g : Gh} {c : C} (h : Inv g c) (p : Pkt) (hk : p.kind = .publish)
    (hv : p.ver = c.s.ver) (hv0 : c.s.ver ≠ 0) : Inv g (psV3Publish c p) := by
  refine Fp.psV3Publish_paths c p (fun _ _ => h.fr (fr_setPanic _ _))
    (fun _ _ _ _ => h.fr ((fr_err _ _).trans (fr_releaseIfUsed _ _))) (fun _ _ _ _ _ => h.fr (fr_err _ _))
    (fun id k _ => ?_) (fun id k _ => ?_) (fun _ _ => h.fr (fr_err _ _))
    (fun hq _ => h.fr (fr_send_tail c p none (nibOf_qos0 hk hq)))
  · obtain ⟨h2, hw⟩ := inv_pub_ins h p { p with dup := true } id _ (.inr rfl) k.pid hk hv hv0 rfl rfl rfl rfl
    exact inv_send_tail h2 p _ hw
  · obtain ⟨h2, hw⟩ := inv_pub_ins h p p id "" (.inl rfl) k.pid hk hv hv0 rfl rfl rfl rfl
    exact inv_send_tail h2 p _ hw

/-! ## PUBLISH (v5.0) -/

/-- the refusal cleanup deletes `id` from `puback` / `pubrec` and erases the stored PUBLISH — only
    when `id` is in use, and then `NotifyPacketIdReleased(id)` removes the ghost entry too -/
theorem inv_erasePublish {g : Gh} {c : C} (h : Inv g c) (id : Nat) :
    InvM (some id) g { c with s := { c.s with store := (storeErasePublish id c.s.store).2, puback := del id c.s.puback, pubrec := del id c.s.pubrec } } := by
  refine InvM.del h rfl rfl rfl (fun i hi hm => mem_del.2 ⟨hm, hi⟩) (fun i hi hm => mem_del.2 ⟨hm, hi⟩)
    (fun i hi hm => hm) (storeErasePublish_sublist _ _) ?_
  intro x hx hid hkk
  have hne := storeErasePublish_keeps h.store.nodup hx hid
  obtain ⟨_, _, _, hin⟩ := h.store.ent x ((storeErasePublish_sublist _ _).subset hx) hkk
  have hpr : x.2.kind = .pubrel := hkk.resolve_left hne
  simp only [respOf, hpr, if_true, waitOf] at hin ⊢
  exact hin

theorem inv_pubRefuseCleanup {g : Gh} {c : C} (h : Inv g c) (pid : Option Nat) : Inv g (pubRefuseCleanup c pid) := by
  unfold pubRefuseCleanup
  cases pid with
  | none => exact h
  | some id => exact Fp.ite_ind (fun _ => (inv_erasePublish (h.fr (fr_releaseId c id)) id).unmask_released) (fun _ => h)

theorem inv_psV5PublishTail {g : Gh} {c : C} (h : Inv g c) (p : Pkt) (rel : Option Nat)
    (hw : ∀ n, nibOf p = some n → p.pid.getD 0 ∈ waitN c.s n) : Inv g (psV5PublishTail c p rel) := by
  have f : Fr c (Fp.countSend c p) := fr_of_eq (by rw [Fp.countSend_s]) (Fp.countSend_ev c p)
  rw [Fp.psV5PublishTail_eq]
  exact inv_send_tail (h.fr f) p rel (fun n hn => by rw [waitN_fr f]; exact hw n hn)

theorem inv_psV5PublishAlias {g : Gh} {c : C} (h : Inv g c) (p : Pkt) (rel : Option Nat) (v : Bool)
    (hw : ∀ n, nibOf p = some n → p.pid.getD 0 ∈ waitN c.s n) : Inv g (psV5PublishAlias c p rel v) := by
  have tail : ∀ {c1 : C} {q : Pkt}, Fr c c1 → nibOf q = nibOf p → q.pid = p.pid → Inv g (psV5PublishTail c1 q rel) :=
    fun f hn hp => inv_psV5PublishTail (h.fr f) _ rel (fun n hq => by rw [waitN_fr f, hp]; exact hw n (hn ▸ hq))
  have refuse : ∀ {c1 : C} (e : Nat), Fr c c1 → Inv g (pubRefuseCleanup (c1.err e) p.pid) := fun e f =>
    inv_pubRefuseCleanup (h.fr (f.trans (fr_err _ e))) _
  exact Fp.psV5PublishAlias_paths c p rel v (fun _ => refuse _ (.refl c)) (fun _ _ _ _ _ => refuse _ (.refl c))
    (fun _ _ _ _ => refuse _ (fr_validateTopicAlias c _)) (fun _ _ _ => tail (.refl c) rfl rfl)
    (fun _ _ _ _ _ => tail (fr_validateTopicAlias c _) rfl rfl)
    (fun _ _ _ _ _ => tail (Fp.ite_ind (fun _ => fr_tasInsert _ _ _ _) (fun _ => .refl c)) rfl rfl)
    (fun _ _ _ => tail (fr_autoAlias c p) (nibOf_autoAlias c p) (autoAlias_pid c p))

theorem fr_wildcardCheck (c : C) (t : List Nat) : Fr c (wildcardCheck c t) :=
  Fp.ite_ind (fun _ => fr_setPanic c _) (fun _ => Fr.refl c)

theorem inv_psV5Publish {g : Gh} {c : C} (h : Inv g c) (p : Pkt) (hk : p.kind = .publish)
    (hv : p.ver = c.s.ver) (hv0 : c.s.ver ≠ 0) : Inv g (psV5Publish c p) := by
  have refused : ∀ {c1 : C} (e id : Nat), Fr c c1 → Inv g (releaseIfUsed (c1.err e) id) := fun e id f =>
    h.fr (f.trans ((fr_err _ e).trans (fr_releaseIfUsed _ id)))
  rw [Fp.psV5Publish_eq]
  refine Fp.ite_ind (fun _ => ?_) (fun _ => Fp.ite_ind (fun _ => ?_) (fun hq => ?_))
  · cases p.pid with
    | some id => exact refused _ id (.refl c)
    | none => exact h.fr (fr_err _ _)
  · cases hp : p.pid with
    | none => exact h.fr (fr_setPanic _ _)
    | some id =>
      -- the packet is stored as `q` in a context `c0`, or not at all, and awaited; then the alias stage runs
      have begin : ∀ {c0 c1 : C} (q : Pkt) (x : String) (rel : Option Nat) (v : Bool), Fr c c0 →
          c1 = c0 ∨ c1 = storeAdd c0 id q x → q.pid = p.pid → q.kind = p.kind → q.qos = p.qos → q.ver = p.ver →
          Inv g (psV5PublishAlias (addWait c1 p.qos id) p rel v) := by
        intro c0 c1 q x rel v f hc1 k1 k2 k3 k4
        obtain ⟨h2, hw⟩ := inv_pub_ins (h.fr f) p q id x hc1 hp hk (f.ver ▸ hv) (f.ver ▸ hv0) k1 k2 k3 k4
        exact inv_psV5PublishAlias h2 p rel v hw
      refine Fp.ite_ind (fun _ => refused _ id (.refl c)) (fun _ => ?_)
      refine Fp.ite_ind (fun _ => h.fr (fr_err _ _)) (fun _ => ?_)
      refine Fp.ite_ind (fun _ => Fp.ite_ind (fun _ => ?_) (fun _ => ?_))
        (fun _ => begin p "" _ _ (.refl c) (.inl rfl) rfl rfl rfl rfl)
      · have f := fr_validateTopicAlias c p.alias
        cases (validateTopicAlias c p.alias).1 with
        | none => exact refused _ id f
        | some t => exact begin _ _ _ _ (f.trans (fr_wildcardCheck _ t)) (.inr rfl) hp.symm rfl rfl rfl
      · exact begin _ _ _ _ (.refl c) (.inr rfl) hp.symm rfl rfl rfl
  · refine Fp.ite_ind (fun _ => h.fr (fr_err _ _)) (fun _ => inv_psV5PublishAlias h p none false (fun n hn => ?_))
    rw [nibOf_qos0 hk hq] at hn
    cases hn

/-! ## PUBREL -/

theorem inv_psPubrel {m : Option Nat} {g : Gh} {c : C} (h : InvM m g c) (p : Pkt) (hk : p.kind = .pubrel)
    (hv : p.ver = c.s.ver) (hv0 : c.s.ver ≠ 0) : InvM m g (psPubrel c p) := by
  rw [Fp.psPubrel_eq]
  refine Fp.guarded_ind (fun _ => h.fr (fr_err _ _)) (fun _ _ => h.fr (fr_err _ _)) (fun _ _ => ?_)
  refine Fp.ite_ind (fun _ => h.fr (fr_err _ _)) (fun _ => ?_)
  obtain ⟨h1, hw⟩ := inv_store_ins h (p.pid.getD 0) p _
    (ite_storeAdd (c.s.needStore = true) c _ p "core.rs:process_send_pubrel:store.add().unwrap()") rfl hv hv0
  rw [Fp.awaitResp, if_pos hk] at h1 hw
  exact inv_send_tail h1 p none hw

/-! ## `send_stored` -/

/-- the event removes ghost entries at most, or requests a packet of `S` -/
def Sends (S : Pkt → Prop) (e : Ev) : Prop := Shrinks e ∨ ∃ q r, e = .send q r ∧ S q

/-- a ghost entry after the call was there before it, or is the entry of a packet of `S` -/
theorem pendStep_sends {S : Pkt → Prop} {c c' : C} (h : Emits (Sends S) c c') (g : Gh) :
    ∀ x ∈ pendStep g c'.ev, x ∈ pendStep g c.ev ∨ ∃ q, S q ∧ nibOf q = some x.2 ∧ q.pid.getD 0 = x.1 := by
  obtain ⟨l, e, hl⟩ := h
  rw [e, pendStep_append]
  clear e
  generalize pendStep g c.ev = g0
  induction l generalizing g0 with
  | nil => exact fun x hx => .inl hx
  | cons a t ih =>
    intro x hx
    rw [pendStep_cons] at hx
    refine (ih (fun y hy => hl y (.tail _ hy)) _ x hx).elim (fun hx => ?_) .inr
    rcases hl a (.head _) with hs | ⟨q, r, rfl, hq⟩
    · exact .inl (hs g0 hx)
    · refine (mask_addP_sub none q g0 x hx).imp id fun ⟨n, hn, ex⟩ => ⟨q, hq, ?_, ?_⟩
      · rw [hn, ex]
      · rw [ex]

theorem waitOf_respOf (s : St) (p : Pkt) : waitOf s (respOf p) = s.ids.wait (respOf p) := by
  rcases respOf_cases p with e | e | e <;> rw [e] <;> rfl

theorem sendStored_status (c : C) : (sendStored c).s.status = c.s.status := by
  rw [Fp.sendStored_s]

/-- The ghost is empty when the stored packets are sent again, so afterwards it holds entries of the packets that fit
    and were sent, at most; the keys of the store being distinct, none of them is the key of an entry that was dropped,
    and the identifier is awaited as before (`keep`).  An entry dropped while its identifier is not in use, with no
    `NotifyPacketIdReleased`, leaves no ghost entry behind for the same reason. -/
theorem inv_sendStored {g : Gh} {c : C} (h : Inv g c) (hst : c.s.status = .connected)
    (hg : pendStep g c.ev = []) : Inv g (sendStored c) := by
  have hver : (sendStored c).s.ver = c.s.ver := by rw [Fp.sendStored_s]
  obtain ⟨hstore, hwait⟩ : (sendStored c).s.store = c.s.store.filter (fun e => !oversize c.cfg.pw c.s.mpsSend e) ∧
      ∀ k i, (∀ e ∈ c.s.store, oversize c.cfg.pw c.s.mpsSend e = true → e.1 ≠ i) → i ∈ c.s.ids.wait k →
        i ∈ (sendStored c).s.ids.wait k := by
    show (sendStored c).s.ids.store = _ ∧ _
    rw [(Fp.sendStored_ids c).ids]
    exact IdPrim.resend_run c.cfg.pw c.s.mpsSend c.s.ids
  have keep : ∀ y ∈ c.s.store, oversize c.cfg.pw c.s.mpsSend y = false → (y.2.kind = .publish ∨ y.2.kind = .pubrel) →
      y.1 ∈ waitOf (sendStored c).s (respOf y.2) := by
    intro y hy hfit hk
    rw [waitOf_respOf]
    refine hwait _ _ (fun e he ho heq => ?_) (waitOf_respOf c.s y.2 ▸ (h.store.ent y hy hk).2.2.2)
    have e2 := (lookup_of_mem h.store.nodup he).symm.trans (heq ▸ lookup_of_mem h.store.nodup hy)
    rw [show e = y from Prod.ext heq (Option.some.inj e2), hfit] at ho
    cases ho
  refine ⟨.of_waitN fun id n hn hx => ?_, ⟨?_, fun y hy hk => ?_⟩,
    fun hc => nomatch hc.symm.trans ((sendStored_status c).trans hst)⟩
  · have hadds := Fp.sendStored_adds
      (Q := Sends fun q => ∃ y ∈ c.s.store, oversize c.cfg.pw c.s.mpsSend y = false ∧ y.2 = q)
      (fun e he => .inl (shrinks_quiet e he)) c
      (fun y hy hz => .inr ⟨y.2, none, rfl, y, hy, by simpa [sizeOk, oversize] using hz, rfl⟩)
    rcases pendStep_sends hadds g _ hx with hx | ⟨q, ⟨y, hy, hfit, rfl⟩, hq, hid⟩
    · rw [hg] at hx
      cases hx
    · have hk := proper_of_nibOf hq
      rw [waitN_respOf hq, show id = y.1 from hid.symm.trans (h.store.ent y hy hk).1]
      exact keep y hy hfit hk
  · rw [hstore]
    exact List.Nodup.sublist (List.Sublist.map _ List.filter_sublist) h.store.nodup
  · rw [hstore, List.mem_filter] at hy
    obtain ⟨e1, e3, e4, _⟩ := h.store.ent y hy.1 hk
    exact ⟨e1, e3.trans hver.symm, hver ▸ e4, keep y hy.1 (by simpa using hy.2) hk⟩

theorem inv_resendStored {g : Gh} {c : C} (h : Inv g c) (hst : c.s.status = .connected)
    (hg : pendStep g c.ev = []) : Inv g (resendStored c) :=
  resendStored_ind (Q := fun x => Inv g x) c (inv_sendStored h hst hg) (fun k => k.fr (fr_sendPostProcess _))


/-! ## CONNACK sent (server): resume or new session -/

theorem inv_of_pre {g : Gh} {c c' : C} (ha : PendAgree c.s (pendStep g c.ev)) (hs : StoreOk c.s)
    (hw : W c' = W c) (hev : pendStep g c'.ev = pendStep g c.ev)
    (hst : c'.s.status = .connecting → pendStep g c.ev = []) : Inv g c' := by
  refine ⟨?_, hs.congr hw, ?_⟩
  · show PendAgree _ (pendStep g c'.ev)
    rw [hev]; exact ha.of_W hw
  · intro hc; show pendStep g c'.ev = []; rw [hev]; exact hst hc

theorem pendStep_push_send {c : C} {p : Pkt} (hn : nibOf p = none) (g : Gh) (r : Option Nat) :
    pendStep g (c.push (.send p r)).ev = pendStep g c.ev := by
  simp [addP_none hn]

theorem inv_connackTail {g : Gh} {c : C} (p : Pkt) (ha : PendAgree c.s (pendStep g c.ev)) (hs : StoreOk c.s)
    (hg : p.rc = some 0 → pendStep g c.ev = []) : Inv g (Fp.connackTail c p) := by
  unfold Fp.connackTail
  refine Fp.ite_ind (fun _ => ?_) (fun hrc => ?_)
  · exact InvM.fr ((fr_cancelTimers _).trans (fr_push_close _)) (inv_of_pre ha hs rfl rfl (fun h => by cases h))
  · have hg := hg (Decidable.of_not_not hrc)
    refine InvM.fr (fr_sendPostProcess _) (Fp.ite_ind (fun _ => ?_) (fun _ => inv_clear hg))
    exact inv_sendStored (inv_of_empty hg (hs.congr (c := c) rfl)) rfl hg

/-- A CONNACK handed to `send`: refused at the gate, or requested on `c1`, a frame of `c` (the properties applied), in
    front of the tail.  A `connecting` connection must have an empty ghost if the packet is too large (`hl`) or
    accepts (`hg`). -/
theorem inv_connackOut {g : Gh} {c c1 : C} {large : Prop} [Decidable large] (p : Pkt) (hn : nibOf p = none)
    (ha : PendAgree c.s (pendStep g c.ev)) (hs : StoreOk c.s) (f : Fr c c1)
    (hl : large → c.s.status = .connecting → pendStep g c.ev = [])
    (hg : c.s.status = .connecting → p.rc = some 0 → pendStep g c.ev = []) :
    Inv g (Fp.guarded c large (c.s.status ≠ .connecting) none (Fp.connackTail (c1.push (.send p none)) p)) := by
  refine Fp.guarded_ind (fun hsz => InvM.fr (fr_err _ _) ⟨ha, hs, hl hsz⟩)
    (fun _ hc => InvM.fr (fr_err _ _) ⟨ha, hs, fun h => absurd h hc⟩) (fun _ hc => ?_)
  refine inv_connackTail p ?_ (hs.congr f.w) (fun hrc => ?_)
  · rw [pendStep_push_send hn]
    exact (ha.sub (f.gh g)).of_W f.w
  · rw [pendStep_push_send hn]
    exact f.nil (hg (Decidable.of_not_not hc) hrc)

theorem inv_psV3Connack {g : Gh} {c : C} (p : Pkt) (hn : nibOf p = none)
    (ha : PendAgree c.s (pendStep g c.ev)) (hs : StoreOk c.s)
    (hg : c.s.status = .connecting → p.rc = some 0 → pendStep g c.ev = []) : Inv g (psV3Connack c p) :=
  Fp.psV3Connack_guarded c p ▸ inv_connackOut p hn ha hs (Fr.refl c) (fun h => h.elim) hg

theorem inv_psV5Connack {g : Gh} {c : C} (p : Pkt) (hn : nibOf p = none)
    (ha : PendAgree c.s (pendStep g c.ev)) (hs : StoreOk c.s)
    (hg : c.s.status = .connecting → (p.rc = some 0 ∨ sizeOk c p = false) → pendStep g c.ev = []) :
    Inv g (psV5Connack c p) :=
  Fp.psV5Connack_guarded c p ▸ inv_connackOut p hn ha hs
    (Fp.ite_ind (fun _ => fr_propsFold _ fr_connackSendProp _ _) (fun _ => Fr.refl c))
    (fun hsz h => hg h (.inr (by simpa using hsz))) (fun h hrc => hg h (.inl hrc))

/-! ## CONNECT sent (client): a new connection — the driver empties the ghost -/

theorem mem_push_self (c : C) (e : Ev) : e ∈ (c.push e).ev := by simp

theorem connectionStart_of_mem {l : List Ev} {p : Pkt} {r : Option Nat} (hk : p.kind = .connect)
    (hm : Ev.send p r ∈ l) : (Mon.connectionStart l).isSome = true := by
  unfold Mon.connectionStart
  rw [List.findSome?_isSome_iff]
  exact ⟨_, hm, by simp [hk]⟩

theorem connectionStart_of_mem_recv {l : List Ev} {p : Pkt}
    (hk : p.kind = .connect ∨ (p.kind = .connack ∧ p.rc = some 0))
    (hm : Ev.recv p ∈ l) : (Mon.connectionStart l).isSome = true := by
  unfold Mon.connectionStart
  rw [List.findSome?_isSome_iff]
  exact ⟨_, hm, by simp [hk]⟩

/-- the whole event list of the call makes the driver empty the ghost before folding -/
def Resets (evs : List Ev) : Prop := Mon.startsNewSession evs = true ∨ (Mon.connectionStart evs).isSome = true

/-- outcome of a call from context `c` (no events yet): an ordinary call keeps the invariant for
    every ghost; or the events start a connection / session — the driver folds them from the empty
    ghost — and the invariant holds for the empty ghost -/
def Good (c c' : C) : Prop :=
  (∀ g, Inv g c → Inv g c') ∨ (Resets c'.ev ∧ (StoreOk c.s → Inv [] c'))

theorem Good.of_fr {c c' : C} (f : Fr c c') : Good c c' := .inl (fun _ h => h.fr f)
theorem Good.of_inv {c c' : C} (f : ∀ g, Inv g c → Inv g c') : Good c c' := .inl f

theorem inv_clearIf {Y : C} (b : Prop) [Decidable b] (hg : pendStep [] Y.ev = []) (hs : StoreOk Y.s) :
    Inv [] (if b then clearStoreRelated Y else Y) :=
  Fp.ite_ind (fun _ => inv_clear hg) (fun _ => inv_of_empty hg hs)

/-- A CONNECT handed to a connection without events is refused at the gate, or it starts a connection, and `settle`
    leaves the invariant of the empty ghost (`hs`). -/
theorem good_connectOut {c : C} {p : Pkt} {settle : C → C} {large refuse : Prop} [Decidable large] [Decidable refuse]
    (hk : p.kind = .connect) (hev : c.ev = [])
    (hs : ∀ Y : C, pendStep [] Y.ev = [] → StoreOk Y.s → Inv [] (settle Y)) :
    Good c (Fp.guarded c large refuse none (Fp.connectOut c p settle)) := by
  have hg : pendStep [] c.ev = [] := by rw [hev]; rfl
  refine Fp.guarded_ind (fun _ => .of_fr (fr_err _ _)) (fun _ _ => .of_fr (fr_err _ _))
    fun _ _ => .inr ⟨?_, fun hst => ?_⟩
  · exact .inr (connectionStart_of_mem (r := none) hk ((Fp.sendPostProcess_ev _).mem (mem_push_self _ _)))
  · refine InvM.fr (fr_sendPostProcess _) (InvM.send_none ?_ p none (nibOf_kind (by simp [hk]) (by simp [hk])))
    exact hs _ hg (hst.congr (c := c) rfl)

theorem good_psV3Connect (c : C) (p : Pkt) (hk : p.kind = .connect) (hev : c.ev = []) : Good c (psV3Connect c p) :=
  Fp.psV3Connect_eq c p ▸ good_connectOut hk hev fun Y hg hs =>
    InvM.fr (c := if p.clean = true then clearStoreRelated Y else _) (fr_of_eq rfl rfl)
      (Fp.ite_ind (fun _ => inv_clear hg) (fun _ => inv_of_empty hg (hs.congr (c := Y) rfl)))

theorem good_psV5Connect (c : C) (p : Pkt) (hk : p.kind = .connect) (hev : c.ev = []) : Good c (psV5Connect c p) :=
  Fp.psV5Connect_eq c p ▸ good_connectOut hk hev fun _ hg hs =>
    InvM.fr (fr_propsFold _ fr_connectSendProp _ _) (inv_clearIf _ hg hs)

/-! ## `send` -/

theorem good_processSend (c : C) (p : Pkt) (hev : c.ev = []) (hv : p.ver = c.s.ver) (hv0 : c.s.ver ≠ 0) :
    Good c (processSend c p) := by
  have nib : ∀ {k : Kind}, p.kind = k → k ≠ .publish → k ≠ .pubrel → nibOf p = none :=
    fun hk h1 h2 => nibOf_kind (hk ▸ h1) (hk ▸ h2)
  have nibm : ∀ {l : List Kind}, p.kind ∈ l → Kind.publish ∉ l → Kind.pubrel ∉ l → nibOf p = none :=
    fun hk h1 h2 => nibOf_kind (fun e => h1 (e ▸ hk)) (fun e => h2 (e ▸ hk))
  have subUnsub : p.kind = .subscribe ∨ p.kind = .unsubscribe → nibOf p = none := fun hk =>
    hk.elim (fun hk => nib hk nofun nofun) (fun hk => nib hk nofun nofun)
  exact Fp.processSend_cases c p
    (connect3 := fun _ hk => good_psV3Connect c p hk hev)
    (connack3 := fun _ hk => .of_inv fun g h =>
      inv_psV3Connack p (nib hk nofun nofun) h.agree h.store (fun hc _ => h.conn hc))
    (publish3 := fun _ hk => .of_inv fun g h => inv_psV3Publish h p hk hv hv0)
    (simple3 := fun _ hk => .of_fr (fr_psV3Simple c p (nibm hk (by decide) (by decide))))
    (disconnect3 := fun _ hk => .of_fr (fr_psV3Disconnect c p (nib hk nofun nofun)))
    (auth3 := fun _ _ => .of_fr (Fr.refl c))
    (pubrel := fun hk => .of_inv fun g h => inv_psPubrel h p hk hv hv0)
    (subUnsub := fun hk => .of_fr (fr_psSubUnsub c p (subUnsub hk)))
    (pingreq := fun hk => .of_fr (fr_psPingreq c p (nib hk nofun nofun)))
    (connect5 := fun _ hk => good_psV5Connect c p hk hev)
    (connack5 := fun _ hk => .of_inv fun g h =>
      inv_psV5Connack p (nib hk nofun nofun) h.agree h.store (fun hc _ => h.conn hc))
    (publish5 := fun _ hk => .of_inv fun g h => inv_psV5Publish h p hk hv hv0)
    (puback5 := fun _ hk => .of_fr (fr_psV5Puback c p (nib hk nofun nofun)))
    (pubrec5 := fun _ hk => .of_fr (fr_psV5Pubrec c p (nib hk nofun nofun)))
    (pubcomp5 := fun _ hk => .of_fr (fr_psV5Pubcomp c p (nib hk nofun nofun)))
    (disconnect5 := fun _ hk => .of_fr (fr_psV5Disconnect c p (nib hk nofun nofun)))
    (auth5 := fun _ hk => .of_fr (fr_psV5Auth c p (nib hk nofun nofun)))
    (simple5 := fun _ hk => .of_fr (fr_psV5Simple c p (nibm hk (by decide) (by decide))))

/-- `send`: the contract is `p.ver ≠ 0` (a packet is a v3.1.1 or a v5.0 packet) -/
theorem good_send (c : C) (p : Pkt) (hev : c.ev = []) (hv0 : p.ver ≠ 0) : Good c (send c p) :=
  Fp.send_cases c p (fun _ => .of_fr (fr_refuseSend _ _ _)) (fun _ _ => .of_fr (fr_refuseSend _ _ _))
    (fun hv _ => good_processSend c p hev hv.symm (hv ▸ hv0))


end MqttVerif.Conn.Pend
