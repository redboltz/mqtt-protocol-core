import MqttVerif.Spec.Gates
import MqttVerif.Conn.Lemmas.FootprintSend
/-!
# The gate of the send handlers

Which way a `guarded` handler goes (`guarded_refused`, `guarded_pass`).  The state tests of all handlers, by kind,
are `stateRefuses`: the negation of `Spec.stateMaySend`; when it holds, `processSend` is the `refusal` that
`processSend_refused` names.  On the receive side `processRecvPacket_fits` is the head of `processRecvPacket` with
the role gate in the form of `Spec.mayReceive`.
-/
namespace MqttVerif.Conn.Fp
open MqttVerif

section
variable {c : C} {large refuse : Prop} [Decidable large] [Decidable refuse] {rel : Option Nat} {body : C}

theorem guarded_refused (h : large ∨ refuse) :
    guarded c large refuse rel body = refusal c (if large then eTooLarge else eNotAllowed) rel :=
  guarded_ind (Q := fun r => r = refusal c (if large then eTooLarge else eNotAllowed) rel)
    (fun hl => by rw [if_pos hl]) (fun hl _ => by rw [if_neg hl]) fun hl hr => absurd h (not_or.2 ⟨hl, hr⟩)

theorem guarded_pass (hl : ¬large) (hr : ¬refuse) : guarded c large refuse rel body = body :=
  (if_neg hl).trans (if_neg hr)

end

/-! ## the two tests of all handlers -/

/-- the size test: a v5.0 packet against the peer's Maximum Packet Size -/
def oversize (c : C) (p : Pkt) : Prop := p.ver = 5 ∧ (!sizeOk c p) = true

instance (c : C) (p : Pkt) : Decidable (oversize c p) := inferInstanceAs (Decidable (_ ∧ _))

/-- the state test of the handler of each kind (`q`: the QoS of a PUBLISH) -/
def stateRefuses (s : St) (k : Kind) (q : Nat) : Prop :=
  match k with
  | .connect => s.status ≠ .disconnected
  | .connack => s.status ≠ .connecting
  | .auth => s.status = .disconnected
  | .publish => if q > 0 then pubNotAllowed s = true else s.status ≠ .connected
  | .pubrel => s.status ≠ .connected ∧ (!s.needStore) = true
  | _ => s.status ≠ .connected

theorem stateRefuses_spec (s : St) (k : Kind) (q : Nat) :
    stateRefuses s k q ↔ Spec.stateMaySend s.status k q s.needStore s.offline = false := by
  unfold stateRefuses Spec.stateMaySend pubNotAllowed
  generalize s.status = st, s.needStore = ns, s.offline = off
  cases k <;> dsimp only
  case pubrel => cases st <;> cases ns <;> decide
  case publish =>
    by_cases hq : q > 0
    · rw [if_pos hq, decide_eq_true hq]
      cases st <;> cases ns <;> cases off <;> decide
    · rw [if_neg hq, decide_eq_false hq, Bool.false_and, Bool.false_and]
      cases st <;> decide
  all_goals cases st <;> decide

theorem stateRefuses_simple {s : St} {k : Kind} {q : Nat}
    (hk : k ∈ [.puback, .pubrec, .pubcomp, .suback, .unsuback, .pingresp]) :
    stateRefuses s k q = (s.status ≠ .connected) := by
  simp only [List.mem_cons, List.mem_nil_iff, or_false] at hk
  rcases hk with rfl | rfl | rfl | rfl | rfl | rfl
  all_goals rfl

/-- the identifier the handler of each kind gives back when it refuses -/
def handlerRelease (large : Prop) [Decidable large] (k : Kind) (qos : Nat) (pid : Option Nat) : Option Nat :=
  match k with
  | .publish => if large ∨ qos > 0 then pid else none
  | .subscribe | .unsubscribe => some (pid.getD 0)
  | _ => none

/-! ## PUBLISH: the identifier is given back if the packet is too large or has QoS > 0

`large`: the form of the size test the caller wants in the result. -/

theorem psV3Publish_refused (c : C) (p : Pkt) (hid : p.qos > 0 → p.pid.isSome = true) {large : Prop} [Decidable large]
    (hl : ¬large) (h : stateRefuses c.s .publish p.qos) :
    psV3Publish c p = refusal c (if large then eTooLarge else eNotAllowed) (handlerRelease large .publish p.qos p.pid) := by
  unfold psV3Publish handlerRelease
  rw [if_neg hl]
  by_cases hq : p.qos > 0
  · obtain ⟨id, hp⟩ := Option.isSome_iff_exists.mp (hid hq)
    rw [if_pos hq, if_pos (.inr hq), hp]
    exact if_pos ((if_pos hq).mp h)
  · rw [if_neg hq, if_neg (not_or.2 ⟨hl, hq⟩)]
    exact if_pos ((if_neg hq).mp h)

theorem psV5Publish_refused (c : C) (p : Pkt) (hid : p.qos > 0 → p.pid.isSome = true) {large : Prop} [Decidable large]
    (hl : (!sizeOk c p) = true ↔ large) (h : stateRefuses c.s .publish p.qos) :
    psV5Publish c p = refusal c (if large then eTooLarge else eNotAllowed) (handlerRelease large .publish p.qos p.pid) := by
  unfold psV5Publish handlerRelease
  by_cases hs : (!sizeOk c p) = true
  · rw [if_pos hs, if_pos (hl.1 hs), if_pos (.inl (hl.1 hs))]
    rfl
  · rw [if_neg hs, if_neg (mt hl.2 hs)]
    by_cases hq : p.qos > 0
    · obtain ⟨id, hp⟩ := Option.isSome_iff_exists.mp (hid hq)
      rw [if_pos hq, if_pos (.inr hq), hp]
      exact if_pos ((if_pos hq).mp h)
    · rw [if_neg hq, if_neg (not_or.2 ⟨mt hl.2 hs, hq⟩)]
      exact if_pos ((if_neg hq).mp h)

/-- **the gate refuses**: the state test of the packet's kind fails (the size test may have failed before it) -/
theorem processSend_refused (c : C) (p : Pkt) (wf : Spec.PktWf p) (h : stateRefuses c.s p.kind p.qos) :
    processSend c p = refusal c (if oversize c p then eTooLarge else eNotAllowed)
      (handlerRelease (oversize c p) p.kind p.qos p.pid) := by
  -- a guarded handler: `large` is its form of the size test, `rel` the identifier it gives back
  have key : ∀ {large refuse : Prop} [Decidable large] [Decidable refuse] {rel : Option Nat} {body : C} {k : Kind},
      (large ↔ oversize c p) → p.kind = k → (stateRefuses c.s k p.qos → refuse) →
      rel = handlerRelease (oversize c p) k p.qos p.pid → guarded c large refuse rel body =
        refusal c (if oversize c p then eTooLarge else eNotAllowed) (handlerRelease (oversize c p) p.kind p.qos p.pid) :=
    fun hl hk hr e => by rw [guarded_refused (.inr (hr (hk ▸ h))), ite_congr (propext hl) (fun _ => rfl) fun _ => rfl, e, hk]
  have v3 : p.ver = 4 → (False ↔ oversize c p) := fun h4 => ⟨False.elim, fun h5 => absurd (h4 ▸ h5.1) (by decide)⟩
  have v5 : p.ver ≠ 4 → ((!sizeOk c p) = true ↔ oversize c p) := fun h4 => ⟨.intro (wf.ver.resolve_left h4), And.right⟩
  refine processSend_cases (Q := fun r => r = _) c p
    (fun hv hk => (psV3Connect_eq c p).trans (key (v3 hv) hk id rfl))
    (fun hv hk => (psV3Connack_guarded c p).trans (key (v3 hv) hk id rfl))
    (fun hv hk => ?_)
    (fun hv hk => ?_)
    (fun hv hk => (psV3Disconnect_eq c p).trans (key (v3 hv) hk id rfl))
    (fun hv hk => absurd (wf.auth hk) (hv ▸ by decide))
    (fun hk => (psPubrel_eq c p).trans (key .rfl hk id rfl))
    (fun hk => (psSubUnsub_eq c p).trans (hk.elim (key .rfl · id rfl) (key .rfl · id rfl)))
    (fun hk => (psPingreq_eq c p).trans (key .rfl hk id rfl))
    (fun hv hk => (psV5Connect_eq c p).trans (key (v5 hv) hk id rfl))
    (fun hv hk => (psV5Connack_guarded c p).trans (key (v5 hv) hk id rfl))
    (fun hv hk => ?_)
    (fun hv hk => (psV5Puback_eq c p).trans (key (v5 hv) hk id rfl))
    (fun hv hk => (psV5Pubrec_eq c p).trans (key (v5 hv) hk id rfl))
    (fun hv hk => (psV5Puback_eq c p).trans (key (v5 hv) hk id rfl))
    (fun hv hk => (psV5Disconnect_eq c p).trans (key (v5 hv) hk id rfl))
    (fun hv hk => (psV5Auth_eq c p).trans (key (v5 hv) hk id rfl))
    (fun hv hk => ?_)
  · exact (psV3Publish_refused c p (wf.pubId hk) (v3 hv).2 (hk ▸ h)).trans (by rw [hk])
  · simp only [List.mem_cons, List.mem_nil_iff, or_false] at hk
    rcases hk with hk | hk | hk | hk | hk | hk
    all_goals exact (psV3Simple_eq c p).trans (key (v3 hv) hk id rfl)
  · exact (psV5Publish_refused c p (wf.pubId hk) (v5 hv) (hk ▸ h)).trans (by rw [hk])
  · simp only [List.mem_cons, List.mem_nil_iff, or_false] at hk
    rcases hk with hk | hk | hk
    all_goals exact (psV5Simple_eq c p).trans (key (v5 hv) hk id rfl)

/-! ## the receive gate -/

/-- the two gates differ in form only: `decide` of a proposition against Boolean connectives, and
    `x ∧ a ∨ x ∧ b` against `x && (a || b)` -/
theorem canReceive_eq_spec (cfg : Cfg) (s : St) (t : Nat) :
    canReceive cfg s t = Spec.mayReceive cfg.role s.ver t := by
  unfold canReceive Spec.mayReceive
  cases cfg.role
  · simp only [true_and, reduceCtorEq, false_and, or_false, and_comm (b := s.ver = 4), Bool.decide_or,
      Bool.decide_and, Bool.or_assoc, Bool.and_or_distrib_left]
    rfl
  · simp only [true_and, reduceCtorEq, false_and, false_or, and_comm (b := s.ver = 4), Bool.decide_or,
      Bool.decide_and, Bool.or_assoc]
    rfl
  · rfl

/-- a frame within the local Maximum Packet Size: the role gate, then the version is adopted from a first CONNECT
    or the handler of the frame's type runs -/
theorem processRecvPacket_fits (c : C) (fh : Nat) (data : List Nat) (parse : Nat → Except Nat Pkt)
    (hsz : totalSize data.length ≤ c.s.mpsRecv) :
    processRecvPacket c fh data parse =
      if Spec.mayReceive c.cfg.role c.s.ver (fh / 16) = false then c.err eProtocol
      else if c.s.ver = 0 then
        if fh / 16 = 1 then
          if data.length < 7 then c.err eMalformed
          else if data.getD 6 0 = 4 then prV3Connect { c with s := { c.s with ver := 4 } } (parse 4)
          else if data.getD 6 0 = 5 then prV5Connect { c with s := { c.s with ver := 5 } } (parse 5)
          else c.err eUnsupportedVersion
        else c.err eMalformed
      else dispatchRecv c (fh / 16) (parse c.s.ver) := by
  unfold processRecvPacket
  rw [if_neg (Nat.not_lt.2 hsz)]
  dsimp only
  rw [canReceive_eq_spec]
  cases Spec.mayReceive c.cfg.role c.s.ver (fh / 16) <;> rfl

theorem dispatchRecv_connect (c : C) (parsed : Except Nat Pkt) :
    dispatchRecv c 1 parsed = if c.s.ver = 4 then prV3Connect c parsed else prV5Connect c parsed := rfl

theorem dispatchRecv_connack (c : C) (parsed : Except Nat Pkt) :
    dispatchRecv c 2 parsed = if c.s.ver = 4 then prV3Connack c parsed else prV5Connack c parsed := rfl

/-- CONNECT passes the gate of a server, CONNACK that of a client -/
theorem mayReceive_connect {r : Role} (h : r ≠ .client) (ver : Nat) : Spec.mayReceive r ver 1 = true := by
  cases r with
  | client => exact absurd rfl h
  | server => exact congrArg not (Bool.and_false _)
  | any => rfl

theorem mayReceive_connack {r : Role} (h : r ≠ .server) (ver : Nat) : Spec.mayReceive r ver 2 = true := by
  cases r with
  | client => exact congrArg not (Bool.and_false _)
  | server => exact absurd rfl h
  | any => rfl

end MqttVerif.Conn.Fp
