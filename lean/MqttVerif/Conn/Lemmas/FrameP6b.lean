import MqttVerif.Conn.Lemmas.FrameP6
import MqttVerif.Conn.Lemmas.Projections
/-!
# Event-level specifications shared by C12 and C13: error handling, `send_stored`, connection establishment
-/
set_option linter.unusedSimpArgs false
set_option linter.unusedVariables false
namespace MqttVerif.Conn
open MqttVerif

attribute [simp] prV5PublishAlias_cfg

/-- fix #10b: on resume the counter is recounted from zero -/
@[simp] theorem resetCount_mpsSend (c : C) : (resetCount c).s.mpsSend = c.s.mpsSend := by
  unfold resetCount; split <;> rfl
theorem resetCount_sendCount (c : C) :
    (resetCount c).s.sendCount = if c.s.sendMax.isSome then 0 else c.s.sendCount := by
  unfold resetCount; split <;> rfl

theorem sendStored_eq (c : C) : sendStored c =
    { (sendStoredLoop (resetCount c) c.s.store).1 with
      s := { (sendStoredLoop (resetCount c) c.s.store).1.s with store := (sendStoredLoop (resetCount c) c.s.store).2 } } := by
  unfold sendStored resetCount; split <;> rfl

@[simp] theorem resendStored_cfg (c : C) : (resendStored c).cfg = c.cfg := Fp.resendStored_cfg c
@[simp] theorem resendStored_pubs (c : C) : pubs (resendStored c).ev = pubs (sendStored c).ev := by
  rcases resendStored_ev_cases c with h | ⟨ms, h⟩ <;> rw [h]
  rw [pubs_append, pubs_single, pubsOf_timerReset, List.append_nil]

@[simp] theorem notifyClosed_pubs (c : C) : pubs (notifyClosed c).ev = pubs c.ev := (Fp.notifyClosed_ev c).pubs_eq

def IsTimerCancel (e : Ev) : Prop := ∃ k, e = .timerCancel k

theorem cancelTimers_ev (c : C) :
    ∃ tc, (cancelTimers c).ev = c.ev ++ tc ∧ ∀ x ∈ tc, IsTimerCancel x := by
  obtain ⟨tc, e, h⟩ := (Fp.cancelTimers_fp c).ev
  refine ⟨tc, e, fun x hx => ?_⟩
  have := h x hx
  cases x <;> simp [Ev.tag] at this
  exact ⟨_, rfl⟩

theorem cancelTimers_s_status (c : C) : (cancelTimers c).s.status = c.s.status := by rw [Fp.cancelTimers_s]

theorem handleV5Error_connected (c : C) (e : Nat) (h : c.s.status = .connected) :
    (handleV5Error c e).s.status = .disconnected ∧
    ∃ tc, (∀ x ∈ tc, IsTimerCancel x) ∧
      (handleV5Error c e).ev = c.ev ++ tc ++
        (if sizeOk c (mkV5Disconnect (errToDisconnectRc e)) then
          [.send (mkV5Disconnect (errToDisconnectRc e)) none, .close] else [.close]) ++ [.error e] := by
  unfold handleV5Error v5DisconnectOrClose
  by_cases hs : sizeOk c (mkV5Disconnect (errToDisconnectRc e)) = true
  · simp only [h, hs, Bool.not_true, Bool.false_eq_true, and_false, if_false, if_true]
    unfold psV5Disconnect
    simp only [hs, Bool.not_true, Bool.false_eq_true, if_false, h, ne_eq, not_true_eq_false]
    obtain ⟨tc, h1, h2⟩ := cancelTimers_ev { c with s := { c.s with status := .disconnected } }
    refine ⟨by simp [cancelTimers_s_status], tc, h2, ?_⟩
    simp [h1]
  · simp only [h, hs, Bool.not_false, and_self, if_true, Bool.false_eq_true, if_false]
    obtain ⟨tc, h1, h2⟩ := cancelTimers_ev { c with s := { c.s with status := .disconnected } }
    refine ⟨by simp [cancelTimers_s_status], tc, h2, ?_⟩
    simp [h1]

theorem handleV5Error_not_connected (c : C) (e : Nat) (h : c.s.status ≠ .connected) :
    (handleV5Error c e).s = c.s ∧
    (handleV5Error c e).ev = c.ev ++
      [.error (if sizeOk c (mkV5Disconnect (errToDisconnectRc e)) then eNotAllowed else eTooLarge), .error e] := by
  unfold handleV5Error v5DisconnectOrClose psV5Disconnect
  by_cases hs : sizeOk c (mkV5Disconnect (errToDisconnectRc e)) = true <;> simp [h, hs]

def countOne (c : C) : C :=
  if c.s.sendMax.isSome then
    (if c.s.sendCount ≥ 4294967295 then c.setPanic "core.rs:send_stored:publish_send_count+=1" else c)
    |> fun c => { c with s := { c.s with sendCount := (c.s.sendCount + 1) % 4294967296 } }
  else c

theorem sendStoredLoop_cons (c : C) (id : Nat) (p : Pkt) (rest : List (Nat × Pkt)) :
    sendStoredLoop c ((id, p) :: rest) =
      if p.sz c.cfg.pw > c.s.mpsSend then sendStoredLoop (releaseIfUsed (dropWait c id) id) rest
      else ((sendStoredLoop ((countOne c).push (.send p none)) rest).1,
            (id, p) :: (sendStoredLoop ((countOne c).push (.send p none)) rest).2) := by
  rfl

@[simp] theorem dropWait_cfg (c : C) (id : Nat) : (dropWait c id).cfg = c.cfg := rfl
@[simp] theorem dropWait_ev (c : C) (id : Nat) : (dropWait c id).ev = c.ev := rfl
@[simp] theorem dropWait_sendMax (c : C) (id : Nat) : (dropWait c id).s.sendMax = c.s.sendMax := rfl
@[simp] theorem dropWait_sendCount (c : C) (id : Nat) : (dropWait c id).s.sendCount = c.s.sendCount := rfl
@[simp] theorem dropWait_panic (c : C) (id : Nat) : (dropWait c id).s.panic = c.s.panic := rfl
@[simp] theorem dropWait_mpsSend (c : C) (id : Nat) : (dropWait c id).s.mpsSend = c.s.mpsSend := rfl
@[simp] theorem countOne_cfg (c : C) : (countOne c).cfg = c.cfg := by
  unfold countOne; (repeat' split) <;> rfl
@[simp] theorem countOne_sendMax (c : C) : (countOne c).s.sendMax = c.s.sendMax := by
  unfold countOne; (repeat' split) <;> rfl
@[simp] theorem countOne_mpsSend (c : C) : (countOne c).s.mpsSend = c.s.mpsSend := by
  unfold countOne; (repeat' split) <;> rfl
theorem countOne_none (c : C) (h : c.s.sendMax = none) : countOne c = c := by
  unfold countOne; simp [h]
theorem countOne_some (c : C) (h : c.s.sendMax.isSome) (hlt : c.s.sendCount < 4294967295) :
    (countOne c).s.sendCount = c.s.sendCount + 1 ∧ (countOne c).s.panic = c.s.panic := by
  unfold countOne
  have h1 : ¬ c.s.sendCount ≥ 4294967295 := by omega
  have h2 : (c.s.sendCount + 1) % 4294967296 = c.s.sendCount + 1 := Nat.mod_eq_of_lt (by omega)
  simp [h, h1, h2]

theorem sendStoredLoop_all (c : C) (l : List (Nat × Pkt)) (h : ∀ e ∈ l, e.2.sz c.cfg.pw ≤ c.s.mpsSend) :
    (sendStoredLoop c l).2 = l := by
  induction l generalizing c with
  | nil => simp [sendStoredLoop]
  | cons e rest ih =>
    obtain ⟨id, p⟩ := e
    rw [sendStoredLoop_cons]
    have hp := h (id, p) (by simp)
    simp only at hp
    rw [if_neg (by omega)]
    dsimp only
    rw [ih]
    intro e he
    simpa using h e (by simp [he])

section
variable {S : String → Prop} (hd : Fp.DeallocSites S)
include hd

theorem sendStoredLoop_raises_none (c : C) (l : List (Nat × Pkt)) (h : c.s.sendMax = none) :
    Fp.Raises S c (sendStoredLoop c l).1 := by
  induction l generalizing c with
  | nil => exact .refl c
  | cons e rest ih =>
    obtain ⟨id, p⟩ := e
    rw [sendStoredLoop_cons]
    refine Fp.ite_ind (Q := fun r : C × List (Nat × Pkt) => Fp.Raises S c r.1) (fun _ => ?_) (fun _ => ?_)
    · exact ((Fp.releaseIfUsed_mild hd (dropWait c id) id).raises.congr_left).trans
        (ih _ (by rw [Fp.releaseIfUsed_s]; exact h))
    · rw [countOne_none c h]
      exact (ih (c.push (.send p none)) h).congr_left

/-- every entry that is kept is counted; below `u32::MAX` the increment does not panic -/
theorem sendStoredLoop_count (c : C) (l : List (Nat × Pkt)) (h : c.s.sendMax.isSome)
    (hb : c.s.sendCount + (sendStoredLoop c l).2.length ≤ 4294967295) :
    (sendStoredLoop c l).1.s.sendCount = c.s.sendCount + (sendStoredLoop c l).2.length ∧
      Fp.Raises S c (sendStoredLoop c l).1 := by
  induction l generalizing c with
  | nil => exact ⟨rfl, .refl c⟩
  | cons e rest ih =>
    obtain ⟨id, p⟩ := e
    rw [sendStoredLoop_cons] at hb ⊢
    by_cases hsz : p.sz c.cfg.pw > c.s.mpsSend
    · rw [if_pos hsz] at hb ⊢
      have hr : (releaseIfUsed (dropWait c id) id).s.sendMax = c.s.sendMax ∧
          (releaseIfUsed (dropWait c id) id).s.sendCount = c.s.sendCount := by rw [Fp.releaseIfUsed_s]; exact ⟨rfl, rfl⟩
      obtain ⟨h1, h2⟩ := ih (releaseIfUsed (dropWait c id) id) (hr.1 ▸ h) (hr.2 ▸ hb)
      exact ⟨h1.trans (by rw [hr.2]), ((Fp.releaseIfUsed_mild hd (dropWait c id) id).raises.congr_left).trans h2⟩
    · rw [if_neg hsz] at hb ⊢
      simp only [List.length_cons] at hb ⊢
      obtain ⟨h1, h2⟩ := countOne_some c h (by omega)
      obtain ⟨i1, i2⟩ := ih ((countOne c).push (.send p none)) ((countOne_sendMax c).symm ▸ h)
        (by rw [push_s, h1]; omega)
      exact ⟨by rw [i1, push_s, h1]; omega, i2.congr_left h2⟩

end

/-! ## the CONNECT / CONNACK handlers, walked once -/

/-- A step of connection establishment other than `send_stored`.
    The combinators take the later step first, so that a proof term follows the handler from its result
    back to its argument and every intermediate context is known from the goal. -/
structure Calm (c c' : C) : Prop where
  tas : c'.s.tas = c.s.tas ∨ c'.s.tas = none ∨ ∃ v, 1 ≤ v ∧ c'.s.tas = some (TAS.new v)
  store : c'.s.store = c.s.store ∨ c'.s.store = []
  raises : Fp.Raises OtherSite c c'
  noPub : pubs c'.ev = pubs c.ev

namespace Calm
variable {a c c' : C}

theorem frame (hpubs : pubs c'.ev = pubs c.ev) (htas : c'.s.tas = c.s.tas := by rfl)
    (hstore : c'.s.store = c.s.store := by rfl) (hp : c'.s.panic = c.s.panic := by rfl) : Calm c c' :=
  ⟨.inl htas, .inl hstore, .inl hp, hpubs⟩

theorem refl (c : C) : Calm c c := frame rfl

theorem after (h' : Calm c c') (h : Calm a c) : Calm a c' := by
  refine ⟨?_, ?_, h.raises.trans h'.raises, h'.noPub.trans h.noPub⟩
  · rcases h'.tas with e | e
    · rw [e]; exact h.tas
    · exact .inr e
  · rcases h'.store with e | e
    · rw [e]; exact h.store
    · exact .inr e

theorem set (s' : St) (h : Calm a c) (htas : s'.tas = c.s.tas := by rfl) (hstore : s'.store = c.s.store := by rfl)
    (hp : s'.panic = c.s.panic := by rfl) : Calm a { c with s := s' } :=
  after (c := c) ⟨.inl htas, .inl hstore, .inl hp, rfl⟩ h

theorem ite {p : Prop} [Decidable p] {x y : C} (hx : Calm a x) (hy : Calm a y) : Calm a (if p then x else y) :=
  Fp.ite_ind (fun _ => hx) (fun _ => hy)

theorem push {e : Ev} (he : pubsOf e = []) (h : Calm a c) : Calm a (c.push e) :=
  ⟨h.tas, h.store, h.raises, by rw [push_ev, pubs_append, pubs_single, he, List.append_nil]; exact h.noPub⟩

theorem send {p : Pkt} (hp : NotPub p) (r : Option Nat) (h : Calm a c) : Calm a (c.push (.send p r)) :=
  h.push (pubsOf_notPub hp r)

theorem dropTas (h : Calm a c) : Calm a { c with s := { c.s with tas := none } } :=
  ⟨.inr (.inl rfl), h.store, h.raises, h.noPub⟩

theorem panic (c : C) {x : String} (hx : OtherSite x) : Calm c (c.setPanic x) :=
  ⟨.inl rfl, .inl rfl, .inr ⟨x, hx, rfl⟩, rfl⟩

theorem fresh (c : C) {v : Nat} (hv : 1 ≤ v) : Calm c { c with s := { c.s with tas := some (TAS.new v) } } :=
  ⟨.inr (.inr ⟨v, hv, rfl⟩), .inl rfl, .refl c, rfl⟩

end Calm

theorem calm_sendPostProcess (c : C) : Calm c (sendPostProcess c) :=
  .frame (sendPostProcess_pubs c) (by rw [Fp.sendPostProcess_s]) (by rw [Fp.sendPostProcess_s])
    (by rw [Fp.sendPostProcess_s])
theorem calm_cancelTimers (c : C) : Calm c (cancelTimers c) :=
  .frame (cancelTimers_pubs c) (by rw [Fp.cancelTimers_s]) (by rw [Fp.cancelTimers_s]) (by rw [Fp.cancelTimers_s])
theorem calm_refresh (c : C) : Calm c (refreshPingreqRecv c) :=
  .frame (refreshPingreqRecv_pubs c) (by rw [Fp.refreshPingreqRecv_s]) (by rw [Fp.refreshPingreqRecv_s])
    (by rw [Fp.refreshPingreqRecv_s])
theorem calm_handleV3Error (c : C) (e : Nat) : Calm c (handleV3Error c e) := .frame (handleV3Error_pubs c e)
theorem calm_handleV5Error (c : C) (e : Nat) : Calm c (handleV5Error c e) :=
  .frame (handleV5Error_pubs c e) (by rw [Fp.handleV5Error_s]) (by rw [Fp.handleV5Error_s])
    (by rw [Fp.handleV5Error_s])
theorem calm_initConn (c : C) (b : Bool) : Calm c (initConn c b) := ⟨.inr (.inl rfl), .inl rfl, .inl rfl, rfl⟩
theorem calm_clearStoreRelated (c : C) : Calm c (clearStoreRelated c) := ⟨.inl rfl, .inr rfl, .inl rfl, rfl⟩

theorem calm_propsFold (f : C → Nat → Nat → C) (hf : ∀ c id v, Calm c (f c id v)) (c : C) (l : List (Nat × Nat)) :
    Calm c (propsFold f c l) :=
  Fp.propsFold_rel f Calm.refl (fun _ _ _ h h' => h'.after h) hf c l

theorem calm_connectSendProp (c : C) (id v : Nat) : Calm c (connectSendProp c id v) :=
  .frame (by rw [Fp.connectSendProp_ev]) (by rw [Fp.connectSendProp_s]) (by rw [Fp.connectSendProp_s])
    (by rw [Fp.connectSendProp_s])

theorem calm_connackSendProp (c : C) (id v : Nat) : Calm c (connackSendProp c id v) :=
  .frame ((Fp.connackSendProp_ev c id v).emits noPub_base).pubs_eq (by rw [Fp.connackSendProp_s])
    (by rw [Fp.connackSendProp_s]) (by rw [Fp.connackSendProp_s])

theorem calm_connectRecvProp (c : C) (id v : Nat) : Calm c (connectRecvProp c id v) := by
  unfold connectRecvProp
  refine Fp.ite_ind (fun _ => Fp.ite_ind (fun hv => .fresh c (by omega)) (fun _ => .refl c)) (fun _ => ?_)
  exact .ite (.frame rfl) (.ite (.frame rfl) (.ite (.ite (.frame rfl) (.refl c)) (.refl c)))

theorem calm_connackRecvProp (c : C) (id v : Nat) : Calm c (connackRecvProp c id v) := by
  unfold connackRecvProp
  refine Fp.ite_ind (fun _ => Fp.ite_ind (fun hv => .fresh c hv) (fun _ => .refl c)) (fun _ => ?_)
  refine Fp.ite_ind (fun _ => ?_) (fun _ => Fp.ite_ind (fun _ => ?_) (fun _ => Fp.ite_ind (fun _ => ?_) (fun _ => ?_)))
  · exact .set _ (.ite (.panic c (by simp [OtherSite, siteStored, sitePublish])) (.refl c))
  · exact .set _ (.ite (.panic c (by simp [OtherSite, siteStored, sitePublish])) (.refl c))
  · dsimp only
    exact .ite (.ite (.ite (.push rfl (.frame rfl)) (.frame rfl)) (.push rfl (.frame rfl))) (.frame rfl)
  · exact .ite (.ite (.after (calm_clearStoreRelated _) (.frame rfl)) (.frame rfl)) (.refl c)

theorem calm_connectOut (c : C) (p : Pkt) (hp : NotPub p) {settle : C → C} (hs : ∀ c', Calm c' (settle c')) :
    Calm c (Fp.connectOut c p settle) :=
  .after (calm_sendPostProcess _) (.send hp none (.after (hs _) (.set _ (calm_initConn c true))))

theorem calm_psV3Connect (c : C) (p : Pkt) (hp : NotPub p) : Calm c (psV3Connect c p) := by
  rw [Fp.psV3Connect_eq]
  exact Fp.guarded_ind (fun _ => .push rfl (.refl c)) (fun _ _ => .push rfl (.refl c)) fun _ _ =>
    calm_connectOut c p hp fun c' => .dropTas (.ite (calm_clearStoreRelated c') (.frame rfl))

theorem calm_psV5Connect (c : C) (p : Pkt) (hp : NotPub p) : Calm c (psV5Connect c p) := by
  rw [Fp.psV5Connect_eq]
  exact Fp.guarded_ind (fun _ => .push rfl (.refl c)) (fun _ _ => .push rfl (.refl c)) fun _ _ =>
    calm_connectOut c p hp fun c' =>
      .after (calm_propsFold _ calm_connectSendProp _ _) (.ite (calm_clearStoreRelated c') (.refl c'))

theorem calm_accepting (c : C) (ka : Nat) : Calm c (Fp.accepting c ka) :=
  ⟨.inr (.inl rfl), .inl rfl, .inl rfl, rfl⟩

/-- a preorder on contexts that contains the calm steps and `send_stored` -/
structure Walk (R : C → C → Prop) : Prop where
  trans : ∀ {a b c}, R a b → R b c → R a c
  calm : ∀ {c c'}, Calm c c' → R c c'
  sendStored : ∀ c, R c (sendStored c)

section walk
variable {R : C → C → Prop} (hR : Walk R)
include hR

theorem Walk.post {a c c' : C} (h : R a c) (h' : Calm c c') : R a c' := hR.trans h (hR.calm h')
theorem Walk.pre {a c c' : C} (h' : R c c') (h : Calm a c) : R a c' := hR.trans (hR.calm h) h'

theorem walk_resendStored (c : C) : R c (resendStored c) :=
  resendStored_ind (Q := R c) c (hR.sendStored c) (fun h => hR.post h (calm_sendPostProcess _))

theorem walk_connackTail {a : C} (c : C) (p : Pkt) (h : R a c) : R a (Fp.connackTail c p) := by
  unfold Fp.connackTail
  refine Fp.ite_ind (fun _ => hR.post h (.push rfl (.after (calm_cancelTimers _) (.frame rfl))))
    (fun _ => hR.post ?_ (calm_sendPostProcess _))
  exact Fp.ite_ind (fun _ => hR.trans (b := { c with s := { c.s with status := .connected } }) (hR.post h (.frame rfl))
      (hR.sendStored _))
    (fun _ => hR.post h (.after (calm_clearStoreRelated _) (.frame rfl)))

theorem walk_psV3Connack (c : C) (p : Pkt) (hp : NotPub p) : R c (psV3Connack c p) := by
  rw [Fp.psV3Connack_eq]
  exact Fp.ite_ind (fun _ => hR.calm (.push rfl (.refl c)))
    (fun _ => walk_connackTail hR _ p (hR.calm (.send hp none (.refl c))))

theorem walk_psV5Connack (c : C) (p : Pkt) (hp : NotPub p) : R c (psV5Connack c p) := by
  rw [Fp.psV5Connack_eq]
  refine Fp.ite_ind (fun _ => hR.calm (.push rfl (.refl c))) (fun _ =>
    Fp.ite_ind (fun _ => hR.calm (.push rfl (.refl c))) (fun _ => walk_connackTail hR _ p (hR.calm ?_)))
  exact .send hp none (.ite (calm_propsFold _ calm_connackSendProp c _) (.refl c))

theorem walk_connectIn {c : C} {x : Except Nat Pkt} {busy : C} {nack : C → Nat → C} {settle : Pkt → C → C}
    (hb : R c busy) (hn : ∀ c' e, R c' (nack c' e)) (hs : ∀ p c', Calm c' (settle p c')) :
    R c (Fp.connectIn c x busy nack settle) :=
  Fp.connectIn_ind (Q := R c) (fun _ => hb)
    (fun _ e _ => hR.pre (hR.post (hn _ e) (.push rfl (.refl _))) (.frame rfl))
    (fun _ p _ => hR.calm (.push rfl (.after (calm_refresh _) (.after (hs p _) (calm_accepting c p.keepAlive)))))

theorem walk_prV3Connect (c : C) (x : Except Nat Pkt) : R c (prV3Connect c x) :=
  Fp.prV3Connect_eq c x ▸ walk_connectIn hR (hR.calm (calm_handleV3Error c _))
    (fun c' _ => walk_psV3Connack hR c' _ (notPub_mkV3Connack _)) fun _ c' => .ite (calm_clearStoreRelated c') (.frame rfl)

theorem walk_prV5Connect (c : C) (x : Except Nat Pkt) : R c (prV5Connect c x) :=
  Fp.prV5Connect_eq c x ▸ walk_connectIn hR (hR.calm (calm_handleV5Error c _))
    (fun c' _ => walk_psV5Connack hR c' _ (notPub_mkV5Connack _)) fun _ c' =>
      .after (calm_propsFold _ calm_connectRecvProp _ _) (.ite (calm_clearStoreRelated c') (.refl c'))

theorem walk_connackIn {c : C} {x : Except Nat Pkt} {busy : C} {bad : Nat → C} {props : Pkt → C → C}
    (hb : R c busy) (he : ∀ e, R c (bad e)) (hp : ∀ p c', Calm c' (props p c')) :
    R c (Fp.connackIn c x busy bad props) :=
  have h1 p : Calm c (props p { c with s := { c.s with status := .connected } }) := .after (hp p _) (.frame rfl)
  Fp.connackIn_ind (Q := R c) (fun _ => hb) (fun _ e _ => he e) (fun _ p _ _ => hR.calm (.push rfl (.refl c)))
    (fun _ p _ _ _ => hR.post (hR.pre (walk_resendStored hR _) (h1 p)) (.push rfl (.refl _)))
    (fun _ p _ _ _ => hR.calm (.push rfl (.after (calm_clearStoreRelated _) (h1 p))))

theorem walk_prV3Connack (c : C) (x : Except Nat Pkt) : R c (prV3Connack c x) :=
  Fp.prV3Connack_eq c x ▸ walk_connackIn hR (hR.calm (calm_handleV3Error c _))
    (fun e => hR.calm (calm_handleV3Error c e)) fun _ c' => .refl c'

theorem walk_prV5Connack (c : C) (x : Except Nat Pkt) : R c (prV5Connack c x) :=
  Fp.prV5Connack_eq c x ▸ walk_connackIn hR (hR.calm (calm_handleV5Error c _))
    (fun _ => hR.calm (.push rfl (.refl c))) fun _ c' => calm_propsFold _ calm_connackRecvProp c' _

end walk

end MqttVerif.Conn
