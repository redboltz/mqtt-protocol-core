import MqttVerif.Conn.Lemmas.Footprint
/-!
# What the send-side functions may change

For `send` and every function below it, one lemma `f_fp : Footprint T w c (f c p)` that walks the control flow
of `f` (`ite_ind` for an `if`, `cases` for a `match`) and closes every leaf from the footprints of the callees:
`Footprint.step` for one call after another, `Footprint.widen` for a callee that writes less, `Footprint.of_s`
where only the state is set.  The write set `w` of a function is named just before it (`wPsPubrel` for `psPubrel`)
unless it is one of the shared ones of `Footprint.lean`.  The dispatchers `processSend` and `send` have the case
principles `processSend_cases` and `send_cases`.

An `if` that is an argument of a later call, and not the whole result, is the middle context `c'` of a
`Footprint.step`, or is a stage with a name and a footprint of its own (`resetCount`, `addWait`, `wildcardCheck`,
`countSend`, `sendIfConnected`), so that no case distinction happens inside a record.  One that stays anonymous has its footprint stated for the `if`
(`panicIf_fp`, `ite_count_fp`), and `Footprint.named` gives it a name inside a proof.

The PUBLISH handlers, the alias stage and `autoAlias` have, besides, one path principle each (`psV3Publish_paths`,
`psV5Publish_paths`, `psV5PublishAlias_paths`, `autoAlias_outcomes`) over a staged equation, from which their footprints
are read; `psV5Pubrec_paths` splits the body of that handler by the reason code.

Every `process_send_*` but the two PUBLISH handlers is `guarded`: the packet is tested against the peer's Maximum
Packet Size, then the connection state, and only then a body runs; a refusal is the error followed by the release of
the identifier the packet was given (`refusal`).  The handler `psX` has the equation `psX_eq : psX c p = guarded …`
(by `rfl`) in front of its footprint, which is that of its body (`guarded_fp`); so is what it sends (`guarded_adds`,
`guarded_orCloses` in `FootprintEmits.lean`).  A lemma about the handlers that needs the two tests reads them off
`guarded_ind`.
-/
namespace MqttVerif.Conn
open MqttVerif

/-! ## two stages of `send_stored`: the send quota starts afresh; an entry too large for the peer gives up its place in
the wait sets -/

def resetCount (c : C) : C :=
  if c.s.sendMax.isSome then { c with s := { c.s with sendCount := 0 } } else c

def dropWait (c : C) (id : Nat) : C :=
  { c with s := { c.s with puback := del id c.s.puback, pubrec := del id c.s.pubrec,
                            pubcomp := del id c.s.pubcomp } }

/-! ## `resendStored` (fix 999e935) is `sendStored`, possibly followed by `sendPostProcess`: a property that both keep
is kept by the whole (`resendStored_ind`) -/

theorem resendStored_eq (c : C) :
    resendStored c = sendStored c ∨ resendStored c = sendPostProcess (sendStored c) := by
  unfold resendStored
  simp only []
  split
  · exact .inr rfl
  · exact .inl rfl

theorem resendStored_eq_cond (c : C) :
    ((((sendStored c).ev.drop c.ev.length).any isSendEv = true ∧
        resendStored c = sendPostProcess (sendStored c)) ∨
      (((sendStored c).ev.drop c.ev.length).any isSendEv = false ∧ resendStored c = sendStored c)) := by
  unfold resendStored
  simp only []
  split
  · rename_i h; exact .inl ⟨h, rfl⟩
  · rename_i h; exact .inr ⟨by simpa using h, rfl⟩

theorem resendStored_ind {Q : C → Prop} (c : C) (h1 : Q (sendStored c))
    (h2 : Q (sendStored c) → Q (sendPostProcess (sendStored c))) : Q (resendStored c) := by
  rcases resendStored_eq c with h | h <;> rw [h]
  · exact h1
  · exact h2 h1

theorem sendPostProcess_s_cases (c : C) :
    (sendPostProcess c).s = c.s ∨ (sendPostProcess c).s = { c.s with sendSet := true } := by
  unfold sendPostProcess
  split
  · extract_lets ms
    split
    · exact .inr rfl
    · exact .inl rfl
  · exact .inl rfl

theorem sendPostProcess_ev_cases (c : C) :
    (sendPostProcess c).ev = c.ev ∨ ∃ ms, (sendPostProcess c).ev = c.ev ++ [.timerReset .pingreqSend ms] := by
  unfold sendPostProcess
  split
  · extract_lets ms
    split
    · exact .inr ⟨_, rfl⟩
    · exact .inl rfl
  · exact .inl rfl

theorem resendStored_s_cases (c : C) :
    (resendStored c).s = (sendStored c).s ∨
      (resendStored c).s = { (sendStored c).s with sendSet := true } := by
  rcases resendStored_eq c with h | h <;> rw [h]
  · exact .inl rfl
  · exact sendPostProcess_s_cases _

theorem resendStored_ev_cases (c : C) :
    (resendStored c).ev = (sendStored c).ev ∨
      ∃ ms, (resendStored c).ev = (sendStored c).ev ++ [.timerReset .pingreqSend ms] := by
  rcases resendStored_eq c with h | h <;> rw [h]
  · exact .inl rfl
  · exact sendPostProcess_ev_cases _

theorem resendStored_cfg' (c : C) : (resendStored c).cfg = (sendStored c).cfg := by
  rcases resendStored_eq c with h | h <;> rw [h]
  exact Fp.sendPostProcess_cfg _

/-! ## the CONNACK that answers a CONNECT the parser rejected refuses the connection -/

theorem v3ConnectErrRc_ne_zero (e : Nat) : v3ConnectErrRc e ≠ 0 := by
  unfold v3ConnectErrRc
  exact Fp.ite_both (Q := (· ≠ 0)) (by decide) (Fp.ite_both (Q := (· ≠ 0)) (by decide)
    (Fp.ite_both (Q := (· ≠ 0)) (by decide) (by decide)))
theorem v5ConnectErrRc_ne_zero (e : Nat) : v5ConnectErrRc e ≠ 0 := by
  unfold v5ConnectErrRc
  exact Fp.ite_both (Q := (· ≠ 0)) (by decide) (Fp.ite_both (Q := (· ≠ 0)) (by decide)
    (Fp.ite_both (Q := (· ≠ 0)) (by decide) (by decide)))

theorem v3ConnectErrRc_ne (e : Nat) : (mkV3Connack (v3ConnectErrRc e)).rc ≠ some 0 :=
  fun h => v3ConnectErrRc_ne_zero e (Option.some.inj h)
theorem v5ConnectErrRc_ne (e : Nat) : (mkV5Connack (v5ConnectErrRc e)).rc ≠ some 0 :=
  fun h => v5ConnectErrRc_ne_zero e (Option.some.inj h)

namespace Fp

theorem resetCount_fp (c : C) : Footprint [] wSendCount c (resetCount c) :=
  ite_ind (fun _ => .of_s rfl) (fun _ => .of_s rfl)
theorem resetCount_s (c : C) : (resetCount c).s = wSendCount c.s (resetCount c).s := (resetCount_fp c).s

/-- a name for a stage that changes the state alone, with its footprint taken apart -/
theorem Footprint.named {w : St → St → St} {c r : C} (h : Footprint [] w c r) :
    ∃ c1, r = c1 ∧ c1.cfg = c.cfg ∧ c1.ev = c.ev ∧ c1.s = w c.s c1.s := ⟨r, rfl, h.cfg, h.ev_eq, h.s⟩

/-! ## stored packets, session start -/

theorem initConn_s (c : C) (b : Bool) :
    (initConn c b).s = { c.s with
      sendMax := none, recvMax := none, sendCount := 0, tas := none, tar := none, publishRecv := [],
      needStore := false, suback := [], unsuback := [], isClient := b, keepAliveMs := 0,
      serverKeepAliveMs := none, recvTimeoutMs := 0 } := rfl
theorem initConn_ev (c : C) (b : Bool) : (initConn c b).ev = c.ev := rfl

theorem clearStoreRelated_s (c : C) :
    (clearStoreRelated c).s = { c.s with
      pidMan := Alloc.clear c.s.pidMan, puback := [], pubrec := [], pubcomp := [], store := [],
      handled := [], sendCount := 0 } := rfl
theorem clearStoreRelated_ev (c : C) : (clearStoreRelated c).ev = c.ev := rfl

theorem ite_count_fp (b : Prop) [Decidable b] (c : C) (site : String) :
    Footprint [] wCount c (if b then
        (if c.s.sendCount ≥ 4294967295 then c.setPanic site else c)
        |> fun c => { c with s := { c.s with sendCount := (c.s.sendCount + 1) % 4294967296 } }
      else c) := by
  refine ite_ind (fun _ => ?_) (fun _ => .of_s rfl)
  exact .set (c' := if c.s.sendCount ≥ 4294967295 then c.setPanic site else c)
    (ite_ind (fun _ => .of_s rfl) (fun _ => .of_s rfl)) rfl

/-- what resending the stored packets may write, the store apart -/
abbrev wSendStoredLoop (a x : St) : St :=
  { a with sendCount := x.sendCount, panic := x.panic, puback := x.puback, pubrec := x.pubrec,
           pubcomp := x.pubcomp, pidMan := x.pidMan }

theorem sendStoredLoop_cons (c : C) (id : Nat) (p : Pkt) (rest : List (Nat × Pkt)) :
    ∃ c2 : C, (sendStoredLoop c ((id, p) :: rest)).1 = (sendStoredLoop c2 rest).1 ∧
      Footprint [.released, .send] wSendStoredLoop c c2 := by
  rw [sendStoredLoop]
  by_cases h : p.sz c.cfg.pw > c.s.mpsSend
  · rw [if_pos h]
    refine ⟨_, rfl, .step ?_ (releaseIfUsed_fp _ id)⟩
    exact .of_s rfl
  · rw [if_neg h]
    exact ⟨_, rfl, .send (ite_count_fp _ c _).widen (by decide) p none⟩

theorem sendStoredLoop_fp (c : C) (l : List (Nat × Pkt)) :
    Footprint [.released, .send] wSendStoredLoop c (sendStoredLoop c l).1 := by
  induction l generalizing c with
  | nil => exact .of_s rfl
  | cons x rest ih =>
    obtain ⟨c2, e, h⟩ := sendStoredLoop_cons c x.1 x.2 rest
    rw [e]
    exact h.step (ih c2)
theorem sendStoredLoop_s (c : C) (l : List (Nat × Pkt)) :
    (sendStoredLoop c l).1.s = wSendStoredLoop c.s (sendStoredLoop c l).1.s := (sendStoredLoop_fp c l).s
theorem sendStoredLoop_ev (c : C) (l : List (Nat × Pkt)) :
    Appends [.released, .send] c (sendStoredLoop c l).1 := (sendStoredLoop_fp c l).ev

/-- the entries the loop keeps are entries it was given, in their order -/
theorem sendStoredLoop_sublist (c : C) (l : List (Nat × Pkt)) : (sendStoredLoop c l).2.Sublist l := by
  induction l generalizing c with
  | nil => exact .refl _
  | cons x rest ih =>
    obtain ⟨id, p⟩ := x
    rw [sendStoredLoop, apply_ite Prod.snd]
    exact ite_both (Q := fun r => List.Sublist r ((id, p) :: rest)) ((ih _).cons _) ((ih _).cons_cons _)

abbrev wSendStored (a x : St) : St :=
  { a with sendCount := x.sendCount, panic := x.panic, puback := x.puback, pubrec := x.pubrec,
           pubcomp := x.pubcomp, pidMan := x.pidMan, store := x.store }

theorem sendStored_fp (c : C) : Footprint [.released, .send] wSendStored c (sendStored c) :=
  .set (.step (resetCount_fp c).widen (sendStoredLoop_fp (resetCount c) _)) rfl
theorem sendStored_s (c : C) : (sendStored c).s = wSendStored c.s (sendStored c).s := (sendStored_fp c).s
theorem sendStored_ev (c : C) : Appends [.released, .send] c (sendStored c) := (sendStored_fp c).ev

abbrev wResendStored (a x : St) : St :=
  { a with sendCount := x.sendCount, panic := x.panic, puback := x.puback, pubrec := x.pubrec,
           pubcomp := x.pubcomp, pidMan := x.pidMan, store := x.store, sendSet := x.sendSet }

theorem resendStored_fp (c : C) : Footprint [.released, .send, .timerReset] wResendStored c (resendStored c) :=
  resendStored_ind c (sendStored_fp c).widen (fun h => h.step (sendPostProcess_fp _))
theorem resendStored_cfg (c : C) : (resendStored c).cfg = c.cfg := (resendStored_fp c).cfg
theorem resendStored_s (c : C) : (resendStored c).s = wResendStored c.s (resendStored c).s := (resendStored_fp c).s
theorem resendStored_ev (c : C) : Appends [.released, .send, .timerReset] c (resendStored c) :=
  (resendStored_fp c).ev

/-! ## the gate of the send handlers -/

/-- a refused send -/
def refusal (c : C) (e : Nat) (rel : Option Nat) : C :=
  match rel with
  | some id => releaseIfUsed (c.err e) id
  | none => c.err e

theorem refuseSend_eq (c : C) (e : Nat) (p : Pkt) : refuseSend c e p = refusal c e (initiatingId p) := rfl

def guarded (c : C) (large refuse : Prop) [Decidable large] [Decidable refuse] (rel : Option Nat) (body : C) : C :=
  if large then refusal c eTooLarge rel else if refuse then refusal c eNotAllowed rel else body

theorem refusal_fp (c : C) (e : Nat) (rel : Option Nat) : Footprint [.error, .released] wPid c (refusal c e rel) := by
  cases rel with
  | none => exact .err (.of_s rfl) (by decide) e
  | some id => exact .step (.err (.of_s rfl) (by decide) e) (releaseIfUsed_fp _ id)

section
variable {c : C} {large refuse : Prop} [Decidable large] [Decidable refuse] {rel : Option Nat} {body : C}

theorem guarded_ind {Q : C → Prop} (hlarge : large → Q (refusal c eTooLarge rel))
    (hrefuse : ¬large → refuse → Q (refusal c eNotAllowed rel)) (hbody : ¬large → ¬refuse → Q body) :
    Q (guarded c large refuse rel body) :=
  ite_ind hlarge fun hl => ite_ind (hrefuse hl) (hbody hl)

/-- the footprint of a handler is that of its body, if it covers the refusal: by default one that releases nothing,
    which only needs the tag `error`; `fun e => (refusal_fp c e _).widen` for one that releases -/
theorem guarded_fp {T : List EvTag} {w : St → St → St} (hb : Footprint T w c body)
    (hr : ∀ e, Footprint T w c (refusal c e rel) := by exact fun _ => .err (.of_s rfl) (by decide) _) :
    Footprint T w c (guarded c large refuse rel body) :=
  guarded_ind (fun _ => hr _) (fun _ _ => hr _) fun _ _ => hb

end

/-! ## DISCONNECT, errors -/

theorem disconnected_fp (c : C) :
    Footprint [.timerCancel] wClose c (cancelTimers { c with s := { c.s with status := .disconnected } }) := by
  refine .step ?_ (cancelTimers_fp _)
  exact .of_s rfl

theorem psV5Disconnect_eq (c : C) (p : Pkt) : psV5Disconnect c p = guarded c (!sizeOk c p) (c.s.status ≠ .connected) none
    (((cancelTimers { c with s := { c.s with status := .disconnected } }).push (.send p none)).push .close) := rfl

theorem psV5Disconnect_fp (c : C) (p : Pkt) :
    Footprint [.error, .timerCancel, .send, .close] wClose c (psV5Disconnect c p) :=
  psV5Disconnect_eq c p ▸ guarded_fp (((disconnected_fp c).widen.send (by decide) p none).close (by decide))
theorem psV5Disconnect_s (c : C) (p : Pkt) : (psV5Disconnect c p).s = wClose c.s (psV5Disconnect c p).s :=
  (psV5Disconnect_fp c p).s

theorem psV3Disconnect_eq (c : C) (p : Pkt) : psV3Disconnect c p = guarded c False (c.s.status ≠ .connected) none
    (((cancelTimers { c with s := { c.s with status := .disconnected } }).push (.send p none)).push .close) := rfl

theorem psV3Disconnect_fp (c : C) (p : Pkt) :
    Footprint [.error, .timerCancel, .send, .close] wClose c (psV3Disconnect c p) :=
  psV3Disconnect_eq c p ▸ guarded_fp (((disconnected_fp c).widen.send (by decide) p none).close (by decide))
theorem psV3Disconnect_s (c : C) (p : Pkt) : (psV3Disconnect c p).s = wClose c.s (psV3Disconnect c p).s :=
  (psV3Disconnect_fp c p).s

theorem handleV3Error_s (c : C) (e : Nat) : (handleV3Error c e).s = c.s := rfl
theorem handleV3Error_ev (c : C) (e : Nat) : Appends [.close, .error] c (handleV3Error c e) :=
  ((Appends.refl _ c).close (by decide)).err (by decide) e

theorem v5DisconnectOrClose_fp (c : C) (d : Pkt) :
    Footprint [.error, .timerCancel, .send, .close] wClose c (v5DisconnectOrClose c d) := by
  unfold v5DisconnectOrClose
  exact ite_ind (fun _ => (disconnected_fp c).widen.close (by decide)) (fun _ => psV5Disconnect_fp c d)
theorem v5DisconnectOrClose_s (c : C) (d : Pkt) :
    (v5DisconnectOrClose c d).s = wClose c.s (v5DisconnectOrClose c d).s := (v5DisconnectOrClose_fp c d).s

theorem handleV5Error_fp (c : C) (e : Nat) :
    Footprint [.error, .timerCancel, .send, .close] wClose c (handleV5Error c e) :=
  (v5DisconnectOrClose_fp c _).err (by decide) e
theorem handleV5Error_s (c : C) (e : Nat) : (handleV5Error c e).s = wClose c.s (handleV5Error c e).s :=
  (handleV5Error_fp c e).s

/-! ## CONNECT

Past the gate `psV3Connect` and `psV5Connect` are one shape, `connectOut c p settle` (`psV3Connect_eq`, `psV5Connect_eq`):
only `settle`, which deals with the session and for v5.0 applies the properties, depends on the protocol version.  The
handlers of a received CONNECT and CONNACK are the shapes `connectIn` and `connackIn` of `FootprintRecv.lean`. -/

abbrev wConnectSendProp (a x : St) : St :=
  { a with tar := x.tar, recvMax := x.recvMax, mpsRecv := x.mpsRecv, needStore := x.needStore }

theorem connectSendProp_fp (c : C) (id v : Nat) : Footprint [] wConnectSendProp c (connectSendProp c id v) := by
  unfold connectSendProp
  refine ite_ind (fun _ => ite_ind (fun _ => .of_s rfl) (fun _ => .of_s rfl)) (fun _ => ?_)
  refine ite_ind (fun _ => .of_s rfl) (fun _ => ?_)
  refine ite_ind (fun _ => .of_s rfl) (fun _ => ?_)
  exact ite_ind (fun _ => ite_ind (fun _ => .of_s rfl) (fun _ => .of_s rfl)) (fun _ => .of_s rfl)
theorem connectSendProp_s (c : C) (id v : Nat) :
    (connectSendProp c id v).s = wConnectSendProp c.s (connectSendProp c id v).s := (connectSendProp_fp c id v).s
theorem connectSendProp_ev (c : C) (id v : Nat) : (connectSendProp c id v).ev = c.ev :=
  (connectSendProp_fp c id v).ev_eq

theorem propsFold_connectSendProp_fp (c : C) (l : List (Nat × Nat)) :
    Footprint [] wConnectSendProp c (propsFold connectSendProp c l) := propsFold_fp _ connectSendProp_fp c l
theorem propsFold_connectSendProp_s (c : C) (l : List (Nat × Nat)) :
    (propsFold connectSendProp c l).s = wConnectSendProp c.s (propsFold connectSendProp c l).s :=
  (propsFold_connectSendProp_fp c l).s

/-- what a CONNECT may write when it is sent: a connection is set up, the session possibly cleared -/
abbrev wConnect (a x : St) : St :=
  { a with sendMax := x.sendMax, recvMax := x.recvMax, sendCount := x.sendCount, tas := x.tas, tar := x.tar,
           publishRecv := x.publishRecv, needStore := x.needStore, suback := x.suback,
           unsuback := x.unsuback, isClient := x.isClient, keepAliveMs := x.keepAliveMs,
           serverKeepAliveMs := x.serverKeepAliveMs, recvTimeoutMs := x.recvTimeoutMs, status := x.status,
           pidMan := x.pidMan, puback := x.puback, pubrec := x.pubrec, pubcomp := x.pubcomp,
           store := x.store, handled := x.handled, sendSet := x.sendSet }

/-- what the two `psV…Connect` do past the gate: the connection is initialised as a client's and is `connecting` with the
    keep-alive of the packet, `settle` deals with the session and the properties, the packet is requested -/
def connectOut (c : C) (p : Pkt) (settle : C → C) : C :=
  sendPostProcess ((settle { initConn c true with
    s := { (initConn c true).s with status := .connecting, keepAliveMs := p.keepAlive * 1000 } }).push (.send p none))

theorem psV3Connect_eq (c : C) (p : Pkt) : psV3Connect c p = guarded c False (c.s.status ≠ .disconnected) none
    (connectOut c p fun c =>
      let c := if p.clean then clearStoreRelated c else { c with s := { c.s with needStore := true } }
      { c with s := { c.s with tas := none } }) := rfl

theorem psV3Connect_fp (c : C) (p : Pkt) : Footprint [.error, .send, .timerReset] wConnect c (psV3Connect c p) :=
  psV3Connect_eq c p ▸ guarded_fp (.sendNow (.set (ite_ind (fun _ => .of_s rfl) (fun _ => .of_s rfl)) rfl) p none)

abbrev wPsV5Connect (a x : St) : St :=
  { a with sendMax := x.sendMax, recvMax := x.recvMax, sendCount := x.sendCount, tas := x.tas, tar := x.tar,
           publishRecv := x.publishRecv, needStore := x.needStore, suback := x.suback,
           unsuback := x.unsuback, isClient := x.isClient, keepAliveMs := x.keepAliveMs,
           serverKeepAliveMs := x.serverKeepAliveMs, recvTimeoutMs := x.recvTimeoutMs, status := x.status,
           pidMan := x.pidMan, puback := x.puback, pubrec := x.pubrec, pubcomp := x.pubcomp,
           store := x.store, handled := x.handled, sendSet := x.sendSet, mpsRecv := x.mpsRecv }

theorem psV5Connect_eq (c : C) (p : Pkt) : psV5Connect c p = guarded c (!sizeOk c p) (c.s.status ≠ .disconnected) none
    (connectOut c p fun c => propsFold connectSendProp (if p.clean then clearStoreRelated c else c) p.props) := rfl

theorem psV5Connect_fp (c : C) (p : Pkt) :
    Footprint [.error, .send, .timerReset] wPsV5Connect c (psV5Connect c p) := by
  rw [psV5Connect_eq]
  refine guarded_fp (.sendNow (.step ?_ (propsFold_connectSendProp_fp _ p.props)) p none)
  exact ite_ind (fun _ => .of_s rfl) (fun _ => .of_s rfl)

/-! ## CONNACK -/

/-- what the two `psV…Connack` do once the packet is accepted and its `send` event pushed -/
def connackTail (c : C) (p : Pkt) : C :=
  if p.rc ≠ some 0 then
    (cancelTimers { c with s := { c.s with status := .disconnected } }).push .close
  else
    sendPostProcess (if p.sp then sendStored { c with s := { c.s with status := .connected } }
      else clearStoreRelated { c with s := { c.s with status := .connected } })

theorem psV3Connack_eq (c : C) (p : Pkt) :
    psV3Connack c p =
      if c.s.status ≠ .connecting then c.err eNotAllowed else connackTail (c.push (.send p none)) p := rfl

theorem psV5Connack_eq (c : C) (p : Pkt) :
    psV5Connack c p =
      if !sizeOk c p then c.err eTooLarge
      else if c.s.status ≠ .connecting then c.err eNotAllowed
      else connackTail ((if p.rc = some 0 then propsFold connackSendProp c p.props else c).push (.send p none)) p :=
  rfl

/-- the connection is closed, or it is established and the session resumed or cleared -/
abbrev wConnackTail (a x : St) : St :=
  { a with sendSet := x.sendSet, recvSet := x.recvSet, respSet := x.respSet, status := x.status,
           puback := x.puback, pubrec := x.pubrec, pubcomp := x.pubcomp, pidMan := x.pidMan,
           sendCount := x.sendCount, panic := x.panic, store := x.store, handled := x.handled }

theorem connackTail_fp (c : C) (p : Pkt) :
    Footprint [.timerCancel, .close, .released, .send, .timerReset] wConnackTail c (connackTail c p) := by
  unfold connackTail
  refine ite_ind (fun _ => (disconnected_fp c).widen.close (by decide)) (fun _ => ?_)
  refine .step ?_ (sendPostProcess_fp _)
  refine ite_ind (fun _ => .step ?_ (sendStored_fp _)) (fun _ => .of_s rfl)
  exact .of_s rfl
theorem connackTail_ev (c : C) (p : Pkt) :
    Appends [.timerCancel, .close, .released, .send, .timerReset] c (connackTail c p) := (connackTail_fp c p).ev

theorem psV3Connack_guarded (c : C) (p : Pkt) : psV3Connack c p =
    guarded c False (c.s.status ≠ .connecting) none (connackTail (c.push (.send p none)) p) := rfl

theorem psV5Connack_guarded (c : C) (p : Pkt) : psV5Connack c p = guarded c (!sizeOk c p) (c.s.status ≠ .connecting) none
    (connackTail ((if p.rc = some 0 then propsFold connackSendProp c p.props else c).push (.send p none)) p) := rfl

theorem psV3Connack_fp (c : C) (p : Pkt) :
    Footprint [.error, .send, .timerCancel, .close, .released, .timerReset] wConnackTail c (psV3Connack c p) :=
  psV3Connack_guarded c p ▸ guarded_fp (.step (.send (.of_s rfl) (by decide) p none) (connackTail_fp _ p))

abbrev wConnackSendProp (a x : St) : St :=
  { a with tar := x.tar, recvMax := x.recvMax, mpsRecv := x.mpsRecv, recvSet := x.recvSet,
           recvTimeoutMs := x.recvTimeoutMs }

theorem connackSendProp_fp (c : C) (id v : Nat) :
    Footprint [.timerCancel, .timerReset] wConnackSendProp c (connackSendProp c id v) := by
  unfold connackSendProp
  refine ite_ind (fun _ => ite_ind (fun _ => .of_s rfl) (fun _ => .of_s rfl)) (fun _ => ?_)
  refine ite_ind (fun _ => .of_s rfl) (fun _ => ?_)
  refine ite_ind (fun _ => .of_s rfl) (fun _ => ?_)
  refine ite_ind (fun _ => ?_) (fun _ => .of_s rfl)
  refine ite_ind (fun _ => ?_) (fun _ => .timerReset (.of_s rfl) (by decide) _ _)
  exact .set (c' := if c.s.recvSet then _ else c)
    (ite_ind (fun _ => .timerCancel (.of_s rfl) (by decide) _) (fun _ => .of_s rfl)) rfl
theorem connackSendProp_s (c : C) (id v : Nat) :
    (connackSendProp c id v).s = wConnackSendProp c.s (connackSendProp c id v).s := (connackSendProp_fp c id v).s
theorem connackSendProp_ev (c : C) (id v : Nat) : Appends [.timerCancel, .timerReset] c (connackSendProp c id v) :=
  (connackSendProp_fp c id v).ev

theorem propsFold_connackSendProp_fp (c : C) (l : List (Nat × Nat)) :
    Footprint [.timerCancel, .timerReset] wConnackSendProp c (propsFold connackSendProp c l) :=
  propsFold_fp _ connackSendProp_fp c l
theorem propsFold_connackSendProp_s (c : C) (l : List (Nat × Nat)) :
    (propsFold connackSendProp c l).s = wConnackSendProp c.s (propsFold connackSendProp c l).s :=
  (propsFold_connackSendProp_fp c l).s

abbrev wPsV5Connack (a x : St) : St :=
  { a with sendSet := x.sendSet, recvSet := x.recvSet, respSet := x.respSet, status := x.status,
           puback := x.puback, pubrec := x.pubrec, pubcomp := x.pubcomp, pidMan := x.pidMan,
           sendCount := x.sendCount, panic := x.panic, store := x.store, handled := x.handled, tar := x.tar,
           recvMax := x.recvMax, mpsRecv := x.mpsRecv, recvTimeoutMs := x.recvTimeoutMs }

theorem psV5Connack_fp (c : C) (p : Pkt) :
    Footprint [.error, .send, .timerCancel, .close, .released, .timerReset] wPsV5Connack c (psV5Connack c p) := by
  rw [psV5Connack_guarded]
  refine guarded_fp (.step (.send ?_ (by decide) p none) (connackTail_fp _ p))
  exact ite_ind (fun _ => (propsFold_connackSendProp_fp c p.props).widen) (fun _ => .of_s rfl)
theorem psV5Connack_cfg (c : C) (p : Pkt) : (psV5Connack c p).cfg = c.cfg := (psV5Connack_fp c p).cfg
theorem psV5Connack_s (c : C) (p : Pkt) : (psV5Connack c p).s = wPsV5Connack c.s (psV5Connack c p).s :=
  (psV5Connack_fp c p).s

/-! a CONNACK that refuses the connection, such as the one sent for a CONNECT that cannot be parsed, closes it and
leaves the session alone -/

theorem connackTail_refusing_fp (c : C) (p : Pkt) (hrc : p.rc ≠ some 0) :
    Footprint [.timerCancel, .close] wClose c (connackTail c p) := by
  unfold connackTail
  rw [if_pos hrc]
  exact (disconnected_fp c).widen.close (by decide)

theorem psV3Connack_refusing_fp (c : C) (p : Pkt) (hrc : p.rc ≠ some 0) :
    Footprint [.error, .send, .timerCancel, .close] wClose c (psV3Connack c p) :=
  psV3Connack_guarded c p ▸ guarded_fp (.step (.send (.of_s rfl) (by decide) p none) (connackTail_refusing_fp _ p hrc))

theorem psV5Connack_refusing_fp (c : C) (p : Pkt) (hrc : p.rc ≠ some 0) :
    Footprint [.error, .send, .timerCancel, .close] wClose c (psV5Connack c p) := by
  rw [psV5Connack_guarded, if_neg hrc]
  exact guarded_fp (.step (.send (.of_s rfl) (by decide) p none) (connackTail_refusing_fp _ p hrc))

/-! ## PUBLISH -/

end Fp

/-- the identifier of a PUBLISH enters the wait set of its QoS -/
def addWait (c : C) (qos id : Nat) : C :=
  if qos = 2 then { c with s := { c.s with pubrec := ins id c.s.pubrec } }
  else { c with s := { c.s with puback := ins id c.s.puback } }

/-- `remove_topic_alias_add_topic().unwrap()`: the topic an alias stands for must not hold a wildcard -/
def wildcardCheck (c : C) (t : List Nat) : C :=
  if hasWildcard t then c.setPanic "core.rs:process_send_v5_0_publish:remove_topic_alias_add_topic().unwrap()" else c

/-- the send gate: a QoS>0 PUBLISH while `publish_send_count ≥ publish_send_max` -/
def sendBlocked (s : St) (p : Pkt) : Bool :=
  decide (p.qos > 0) && (match s.sendMax with | some m => decide (s.sendCount ≥ m) | none => false)

namespace Fp

abbrev wWait (a x : St) : St := { a with pubrec := x.pubrec, puback := x.puback }

theorem addWait_fp (c : C) (qos id : Nat) : Footprint [] wWait c (addWait c qos id) :=
  ite_ind (fun _ => .of_s rfl) (fun _ => .of_s rfl)
theorem addWait_s (c : C) (qos id : Nat) : (addWait c qos id).s = wWait c.s (addWait c qos id).s := (addWait_fp c qos id).s
theorem addWait_ev (c : C) (qos id : Nat) : (addWait c qos id).ev = c.ev := (addWait_fp c qos id).ev_eq

/-- the wait set of the packet's response (`respOf`) gains the identifier -/
def awaitResp (c : C) (p : Pkt) (id : Nat) : C :=
  if p.kind = .pubrel then { c with s := { c.s with pubcomp := ins id c.s.pubcomp } } else addWait c p.qos id

abbrev wAwait (a x : St) : St := { a with pubrec := x.pubrec, puback := x.puback, pubcomp := x.pubcomp }

theorem awaitResp_fp (c : C) (p : Pkt) (id : Nat) : Footprint [] wAwait c (awaitResp c p id) :=
  ite_ind (fun _ => .of_s rfl) (fun _ => (addWait_fp c p.qos id).widen)

theorem awaitResp_publish (c : C) {p : Pkt} (id : Nat) (hk : p.kind = .publish) :
    awaitResp c p id = addWait c p.qos id := if_neg (publish_ne_pubrel hk)

theorem awaitResp_s_eq (c : C) (p : Pkt) (id : Nat) :
    (awaitResp c p id).s = { c.s with
      puback := if respOf p = .puback then ins id c.s.puback else c.s.puback,
      pubrec := if respOf p = .pubrec then ins id c.s.pubrec else c.s.pubrec,
      pubcomp := if respOf p = .pubcomp then ins id c.s.pubcomp else c.s.pubcomp } := by
  unfold awaitResp addWait respOf
  by_cases h1 : p.kind = .pubrel
  · rw [if_pos h1, if_pos h1]
    rfl
  · rw [if_neg h1, if_neg h1]
    by_cases h2 : p.qos = 2
    · rw [if_pos h2, if_pos h2]
      rfl
    · rw [if_neg h2, if_neg h2]
      rfl

theorem panicIf_fp (b : Prop) [Decidable b] (c : C) (site : String) :
    Footprint [] wPanic c (if b then c.setPanic site else c) := ite_ind (fun _ => .of_s rfl) (fun _ => .of_s rfl)

theorem wildcardCheck_fp (c : C) (t : List Nat) : Footprint [] wPanic c (wildcardCheck c t) := panicIf_fp _ c _
theorem wildcardCheck_s (c : C) (t : List Nat) : (wildcardCheck c t).s = wPanic c.s (wildcardCheck c t).s :=
  (wildcardCheck_fp c t).s
theorem wildcardCheck_ev (c : C) (t : List Nat) : (wildcardCheck c t).ev = c.ev := (wildcardCheck_fp c t).ev_eq

/-- a refused PUBLISH: the identifier is released and the stored copy and the wait-set entry go with it -/
abbrev wPubRefuse (a x : St) : St :=
  { a with pidMan := x.pidMan, panic := x.panic, store := x.store, puback := x.puback, pubrec := x.pubrec }
abbrev wPsV3Publish (a x : St) : St :=
  { a with pidMan := x.pidMan, panic := x.panic, store := x.store, puback := x.puback, pubrec := x.pubrec,
           sendSet := x.sendSet }

/-- the end of an accepted PUBLISH: it goes out at once while the connection is up; otherwise the stored copy waits
    for the next connection -/
def sendIfConnected (c : C) (p : Pkt) (rel : Option Nat) : C :=
  if c.s.status = .connected then sendPostProcess (c.push (.send p rel)) else c

theorem sendIfConnected_cases {Q : C → Prop} (c : C) (p : Pkt) (rel : Option Nat)
    (sent : c.s.status = .connected → Q (sendPostProcess (c.push (.send p rel))))
    (kept : c.s.status ≠ .connected → Q c) : Q (sendIfConnected c p rel) := ite_ind sent kept

theorem sendIfConnected_fp (c : C) (p : Pkt) (rel : Option Nat) :
    Footprint [.send, .timerReset] wSendSet c (sendIfConnected c p rel) :=
  sendIfConnected_cases c p rel (fun _ => .sendNow (.of_s rfl) p rel) (fun _ => .of_s rfl)
theorem sendIfConnected_s (c : C) (p : Pkt) (rel : Option Nat) :
    (sendIfConnected c p rel).s = wSendSet c.s (sendIfConnected c p rel).s := (sendIfConnected_fp c p rel).s
theorem sendIfConnected_ev (c : C) (p : Pkt) (rel : Option Nat) :
    Appends [.send, .timerReset] c (sendIfConnected c p rel) := (sendIfConnected_fp c p rel).ev

/-- the tests that a QoS 1/2 PUBLISH with identifier `id` has passed when either PUBLISH handler turns to the store -/
structure PubChecked (c : C) (p : Pkt) (id : Nat) : Prop where
  qos : p.qos > 0
  pid : p.pid = some id
  allowed : pubNotAllowed c.s = false
  used : isUsed c.s id = true

theorem psV3Publish_eq (c : C) (p : Pkt) : psV3Publish c p =
  if p.qos > 0 then
    match p.pid with
    | none => c.setPanic "core.rs:process_send_v3_1_1_publish:packet_id().unwrap()"
    | some id =>
      if pubNotAllowed c.s then releaseIfUsed (c.err eNotAllowed) id
      else if !isUsed c.s id then c.err ePidInvalid
      else sendIfConnected (addWait (if willStore c.s then storeAdd c id { p with dup := true }
          "core.rs:process_send_v3_1_1_publish:store.add().unwrap()" else c) p.qos id) p
        (if willStore c.s then none else some id)
  else if c.s.status ≠ .connected then c.err eNotAllowed
  else sendPostProcess (c.push (.send p none)) := rfl

/-- the paths through `process_send_v3_1_1_publish`.  A panic.  Refusals: the packet may be neither sent nor stored
    now (`notAllowed`; `notConnected` for QoS 0) or carries an identifier that is not in use (`pidInvalid`).  Accepted:
    stored and awaited (`stored`) or awaited alone, the identifier going out as the release hint (`wait`), then sent
    while connected; or sent directly (`plain`, QoS 0). -/
theorem psV3Publish_paths {Q : C → Prop} (c : C) (p : Pkt)
    (panic : p.qos > 0 → p.pid = none → Q (c.setPanic "core.rs:process_send_v3_1_1_publish:packet_id().unwrap()"))
    (notAllowed : ∀ id, p.qos > 0 → p.pid = some id → pubNotAllowed c.s = true →
      Q (releaseIfUsed (c.err eNotAllowed) id))
    (pidInvalid : ∀ id, p.qos > 0 → p.pid = some id → pubNotAllowed c.s = false → isUsed c.s id = false →
      Q (c.err ePidInvalid))
    (stored : ∀ id, PubChecked c p id → willStore c.s = true →
      Q (sendIfConnected (addWait (storeAdd c id { p with dup := true }
        "core.rs:process_send_v3_1_1_publish:store.add().unwrap()") p.qos id) p none))
    (wait : ∀ id, PubChecked c p id → willStore c.s = false → Q (sendIfConnected (addWait c p.qos id) p (some id)))
    (notConnected : ¬p.qos > 0 → c.s.status ≠ .connected → Q (c.err eNotAllowed))
    (plain : ¬p.qos > 0 → c.s.status = .connected → Q (sendPostProcess (c.push (.send p none)))) :
    Q (psV3Publish c p) := by
  rw [psV3Publish_eq]
  refine ite_ind (fun hq => ?_) (fun hq => ite_ind (notConnected hq) (fun hc => plain hq (Decidable.of_not_not hc)))
  cases hp : p.pid with
  | none => exact panic hq hp
  | some id =>
    refine ite_ind (notAllowed id hq hp) (fun ha => ?_)
    have ha : pubNotAllowed c.s = false := Bool.not_eq_true _ ▸ ha
    refine ite_ind (fun hu => pidInvalid id hq hp ha (Bool.not_eq_true' _ ▸ hu)) (fun hu => ?_)
    have k : PubChecked c p id := ⟨hq, hp, ha, Bool.not_eq_false _ ▸ Bool.not_eq_true' _ ▸ hu⟩
    by_cases hw : willStore c.s = true
    · rw [if_pos hw, if_pos hw, ← hp]
      exact stored id k hw
    · rw [if_neg hw, if_neg hw]
      exact wait id k (Bool.not_eq_true _ ▸ hw)

theorem psV3Publish_fp (c : C) (p : Pkt) :
    Footprint [.error, .released, .send, .timerReset] wPsV3Publish c (psV3Publish c p) :=
  psV3Publish_paths c p (fun _ _ => .of_s rfl) (fun id _ _ _ => (refusal_fp c _ (some id)).widen)
    (fun _ _ _ _ _ => .err (.of_s rfl) (by decide) _)
    (fun id _ _ => ((storeAdd_fp ..).widen.step (addWait_fp _ p.qos id)).step (sendIfConnected_fp ..))
    (fun id _ _ => (addWait_fp c p.qos id).widen.step (sendIfConnected_fp ..))
    (fun _ _ => .err (.of_s rfl) (by decide) _) (fun _ _ => .sendNow (.of_s rfl) p none)
theorem psV3Publish_s (c : C) (p : Pkt) : (psV3Publish c p).s = wPsV3Publish c.s (psV3Publish c p).s :=
  (psV3Publish_fp c p).s

theorem pubRefuseCleanup_fp (c : C) (pid : Option Nat) :
    Footprint [.released] wPubRefuse c (pubRefuseCleanup c pid) := by
  unfold pubRefuseCleanup
  cases pid with
  | none => exact .of_s rfl
  | some id =>
    dsimp only
    exact ite_ind (fun _ => .released (.set (releaseId_fp c id).widen rfl) (by decide) id) (fun _ => .of_s rfl)
theorem pubRefuseCleanup_s (c : C) (pid : Option Nat) :
    (pubRefuseCleanup c pid).s = wPubRefuse c.s (pubRefuseCleanup c pid).s := (pubRefuseCleanup_fp c pid).s
theorem pubRefuseCleanup_ev (c : C) (pid : Option Nat) : Appends [.released] c (pubRefuseCleanup c pid) :=
  (pubRefuseCleanup_fp c pid).ev

/-- what `autoAlias` returns: its arguments; the topic replaced by an alias bound to it (`found`); or the topic bound to
    the least recently used alias (`fresh`).  The last two only while connected with a table, and only if the packet as
    rewritten passes the size check. -/
theorem autoAlias_outcomes {Q : C × Pkt → Prop} (c : C) (p : Pkt) (same : Q (c, p))
    (found : c.s.status = .connected → c.s.autoMap = true ∨ c.s.autoReplace = true → ∀ t a, c.s.tas = some t →
      t.findByTopic p.topic = some a → sizeOk c { p with topic := [], alias := some a } = true →
      Q (c, { p with topic := [], alias := some a }))
    (fresh : c.s.status = .connected → c.s.autoMap = true → ∀ t, c.s.tas = some t → t.findByTopic p.topic = none →
      sizeOk c { p with alias := some t.lruAlias } = true →
      Q (tasInsert c p.topic t.lruAlias "topic_alias_send.rs:insert_or_update:assert",
        { p with alias := some t.lruAlias })) :
    Q (autoAlias c p) := by
  unfold autoAlias
  refine ite_ind (fun hc => ?_) (fun _ => same)
  refine ite_ind (fun hm => ?_) (fun _ => ite_ind (fun hr => ?_) (fun _ => same))
  · cases ht : c.s.tas with
    | none => exact same
    | some t =>
      dsimp only
      cases hf : t.findByTopic p.topic with
      | some a => exact ite_ind (fun hz => found hc (.inl hm) t a ht hf hz) (fun _ => same)
      | none => exact ite_ind (fun hz => fresh hc hm t ht hf hz) (fun _ => same)
  · cases ht : c.s.tas with
    | none => exact same
    | some t =>
      dsimp only
      cases hf : t.findByTopic p.topic with
      | some a => exact ite_ind (fun hz => found hc (.inr hr) t a ht hf hz) (fun _ => same)
      | none => exact same

theorem autoAlias_fp (c : C) (p : Pkt) : Footprint [] wAlias c (autoAlias c p).1 :=
  autoAlias_outcomes (Q := fun r => Footprint [] wAlias c r.1) c p (.of_s rfl) (fun _ _ _ _ _ _ _ => .of_s rfl)
    (fun _ _ _ _ _ _ => tasInsert_fp ..)
theorem autoAlias_s (c : C) (p : Pkt) : (autoAlias c p).1.s = wAlias c.s (autoAlias c p).1.s := (autoAlias_fp c p).s
theorem autoAlias_ev (c : C) (p : Pkt) : (autoAlias c p).1.ev = c.ev := (autoAlias_fp c p).ev_eq

/-- what the automatic alias stage may make of the packet `p` -/
inductive Aliased (p : Pkt) : Pkt → Prop
  | same : Aliased p p
  | mapped (a : Nat) : Aliased p { p with alias := some a }
  | replaced (a : Nat) : Aliased p { p with topic := [], alias := some a }

theorem Aliased.kind {p q : Pkt} (h : Aliased p q) : q.kind = p.kind := by cases h <;> rfl
theorem Aliased.ver {p q : Pkt} (h : Aliased p q) : q.ver = p.ver := by cases h <;> rfl
theorem Aliased.rc {p q : Pkt} (h : Aliased p q) : q.rc = p.rc := by cases h <;> rfl
theorem Aliased.pid {p q : Pkt} (h : Aliased p q) : q.pid = p.pid := by cases h <;> rfl

/-- the automatic alias stage hands on a packet it has checked against the limit -/
theorem autoAlias_spec (c : C) (p : Pkt) :
    Aliased p (autoAlias c p).2 ∧ (sizeOk c p = true → sizeOk c (autoAlias c p).2 = true) :=
  autoAlias_outcomes (Q := fun r => Aliased p r.2 ∧ (sizeOk c p = true → sizeOk c r.2 = true)) c p ⟨.same, id⟩
    (fun _ _ _ a _ _ hz => ⟨.replaced a, fun _ => hz⟩) (fun _ _ t _ _ hz => ⟨.mapped t.lruAlias, fun _ => hz⟩)

theorem autoAlias_aliased (c : C) (p : Pkt) : Aliased p (autoAlias c p).2 := (autoAlias_spec c p).1

/-- `publish_send_count += 1` for a QoS 1/2 PUBLISH while the peer's Receive Maximum is known -/
def countSend (c : C) (p : Pkt) : C :=
  if p.qos > 0 ∧ c.s.sendMax.isSome then
    (if c.s.sendCount ≥ 4294967295 then c.setPanic "core.rs:process_send_v5_0_publish:publish_send_count+=1" else c)
    |> fun c => { c with s := { c.s with sendCount := (c.s.sendCount + 1) % 4294967296 } }
  else c

theorem countSend_fp (c : C) (p : Pkt) : Footprint [] wCount c (countSend c p) := ite_count_fp _ c _
theorem countSend_s (c : C) (p : Pkt) : (countSend c p).s = wCount c.s (countSend c p).s := (countSend_fp c p).s
theorem countSend_ev (c : C) (p : Pkt) : (countSend c p).ev = c.ev := (countSend_fp c p).ev_eq

/-- below `u32::MAX` the increment does not panic -/
theorem countSend_counts (c : C) (p : Pkt) (h : p.qos > 0 → c.s.sendMax.isSome → c.s.sendCount < 4294967295) :
    Footprint [] wSendCount c (countSend c p) := by
  unfold countSend
  refine ite_ind (fun hq => ?_) (fun _ => .of_s rfl)
  rw [if_neg (Nat.not_le.2 (h hq.1 hq.2))]
  exact .of_s rfl

theorem countSend_sendCount (c : C) (p : Pkt) : (countSend c p).s.sendCount =
    if p.qos > 0 ∧ c.s.sendMax.isSome then (c.s.sendCount + 1) % 4294967296 else c.s.sendCount := by
  unfold countSend
  by_cases h : p.qos > 0 ∧ c.s.sendMax.isSome
  · rw [if_pos h, if_pos h]
    exact ite_ind (Q := fun x : C => (x.s.sendCount + 1) % 4294967296 = _) (fun _ => rfl) (fun _ => rfl)
  · rw [if_neg h, if_neg h]

/-- the last stage of `process_send_v5_0_publish` is two stages with footprints of their own -/
theorem psV5PublishTail_eq (c : C) (p : Pkt) (rel : Option Nat) :
    psV5PublishTail c p rel = sendIfConnected (countSend c p) p rel := rfl

abbrev wPublishTail (a x : St) : St :=
  { a with sendCount := x.sendCount, panic := x.panic, sendSet := x.sendSet }

theorem psV5PublishTail_fp (c : C) (p : Pkt) (rel : Option Nat) :
    Footprint [.send, .timerReset] wPublishTail c (psV5PublishTail c p rel) :=
  (countSend_fp c p).widen.step (sendIfConnected_fp _ p rel)
theorem psV5PublishTail_s (c : C) (p : Pkt) (rel : Option Nat) :
    (psV5PublishTail c p rel).s = wPublishTail c.s (psV5PublishTail c p rel).s := (psV5PublishTail_fp c p rel).s
theorem psV5PublishTail_ev (c : C) (p : Pkt) (rel : Option Nat) :
    Appends [.send, .timerReset] c (psV5PublishTail c p rel) := (psV5PublishTail_fp c p rel).ev

theorem tasInsertIf_fp (b : Prop) [Decidable b] (c : C) (t : List Nat) (a : Nat) (site : String) :
    Footprint [] wAlias c (if b then tasInsert c t a site else c) :=
  ite_ind (fun _ => tasInsert_fp ..) (fun _ => .of_s rfl)

/-! ### the alias stage and `process_send_v5_0_publish`

Each has a staged equation (`f_eq`, by `rfl`) and, proved from it, the path principle `f_paths`: one leaf for every way
through the function, with its result written out and the tests the model made on the way.  A chain that needs to know
why a leaf was reached, or what exactly was stored, gives the leaves of `f_paths`; one that only needs the footprint of
the context in which the next stage is entered uses its corollary `f_cases`. -/

theorem psV5PublishAlias_eq (c : C) (p : Pkt) (rel : Option Nat) (validated : Bool) :
    psV5PublishAlias c p rel validated =
      if sendBlocked c.s p then pubRefuseCleanup (c.err eRMExceeded) p.pid
      else if p.topic.isEmpty then
        if !validated ∧ (if validated then (some [], c) else validateTopicAlias c p.alias).1.isNone then
          pubRefuseCleanup ((if validated then (some [], c) else validateTopicAlias c p.alias).2.err eNotAllowed) p.pid
        else psV5PublishTail (if validated then (some [], c) else validateTopicAlias c p.alias).2 p rel
      else match p.alias with
        | some a =>
          if validateTopicAliasRange c.s a then
            psV5PublishTail (if c.s.status = .connected then
              tasInsert c p.topic a "topic_alias_send.rs:insert_or_update:assert" else c) p rel
          else pubRefuseCleanup (c.err eNotAllowed) p.pid
        | none => psV5PublishTail (autoAlias c p).1 (autoAlias c p).2 rel := by
  rfl

/-- the paths through the alias stage: a refusal (Receive Maximum reached; the alias given with a full topic is out of
    range; `validate_topic_alias` found nothing), or the tail entered with `p` as it is or with what `autoAlias` made
    of it -/
theorem psV5PublishAlias_paths {Q : C → Prop} (c : C) (p : Pkt) (rel : Option Nat) (v : Bool)
    (blocked : sendBlocked c.s p = true → Q (pubRefuseCleanup (c.err eRMExceeded) p.pid))
    (range : sendBlocked c.s p = false → p.topic ≠ [] → ∀ a, p.alias = some a →
      validateTopicAliasRange c.s a = false → Q (pubRefuseCleanup (c.err eNotAllowed) p.pid))
    (unresolved : sendBlocked c.s p = false → v = false → p.topic = [] → (validateTopicAlias c p.alias).1 = none →
      Q (pubRefuseCleanup ((validateTopicAlias c p.alias).2.err eNotAllowed) p.pid))
    (validated : sendBlocked c.s p = false → v = true → p.topic = [] → Q (psV5PublishTail c p rel))
    (resolved : sendBlocked c.s p = false → v = false → p.topic = [] →
      ∀ t, (validateTopicAlias c p.alias).1 = some t → Q (psV5PublishTail (validateTopicAlias c p.alias).2 p rel))
    (manual : sendBlocked c.s p = false → p.topic ≠ [] → ∀ a, p.alias = some a →
      validateTopicAliasRange c.s a = true →
      Q (psV5PublishTail (if c.s.status = .connected then
        tasInsert c p.topic a "topic_alias_send.rs:insert_or_update:assert" else c) p rel))
    (auto : sendBlocked c.s p = false → p.topic ≠ [] → p.alias = none →
      Q (psV5PublishTail (autoAlias c p).1 (autoAlias c p).2 rel)) :
    Q (psV5PublishAlias c p rel v) := by
  rw [psV5PublishAlias_eq]
  refine ite_ind blocked (fun hb => ?_)
  have hb : sendBlocked c.s p = false := Bool.not_eq_true _ ▸ hb
  refine ite_ind (fun ht => ?_) (fun ht => ?_)
  · have ht : p.topic = [] := List.isEmpty_iff.1 ht
    cases v with
    | true => exact ite_ind (fun h => nomatch h.1) (fun _ => validated hb rfl ht)
    | false =>
      refine ite_ind (fun h => unresolved hb rfl ht (Option.isNone_iff_eq_none.1 h.2)) (fun h => ?_)
      cases hr : (validateTopicAlias c p.alias).1 with
      | none => exact absurd ⟨rfl, congrArg Option.isNone hr⟩ h
      | some t => exact resolved hb rfl ht t hr
  · have ht : p.topic ≠ [] := fun h => ht (List.isEmpty_iff.2 h)
    cases ha : p.alias with
    | none => exact auto hb ht ha
    | some a => exact ite_ind (fun h => manual hb ht a ha h) (fun h => range hb ht a ha (Bool.not_eq_true _ ▸ h))

/-- the alias stage refuses the packet, or hands `p` or what `autoAlias` made of it to the tail, in a context that `c`
    has reached by writing the alias table and the panic flag -/
theorem psV5PublishAlias_cases {Q : C → Prop} (c : C) (p : Pkt) (rel : Option Nat) (v : Bool)
    (refuse : ∀ (c' : C) (e : Nat), Footprint [] wTas c c' → Q (pubRefuseCleanup (c'.err e) p.pid))
    (tail : ∀ (c' : C) (q : Pkt), Footprint [] wAlias c c' → Aliased p q →
      (sizeOk c p = true → sizeOk c q = true) → Q (psV5PublishTail c' q rel)) :
    Q (psV5PublishAlias c p rel v) :=
  psV5PublishAlias_paths c p rel v (fun _ => refuse c _ (.of_s rfl)) (fun _ _ _ _ _ => refuse c _ (.of_s rfl))
    (fun _ _ _ _ => refuse _ _ (validateTopicAlias_fp c p.alias)) (fun _ _ _ => tail c p (.of_s rfl) .same id)
    (fun _ _ _ _ _ => tail _ p (validateTopicAlias_fp c p.alias).widen .same id)
    (fun _ _ a _ _ => tail _ p (tasInsertIf_fp _ c p.topic a _) .same id)
    (fun _ _ _ => tail _ _ (autoAlias_fp c p) (autoAlias_spec c p).1 (autoAlias_spec c p).2)

abbrev wPsV5Publish (a x : St) : St :=
  { a with pidMan := x.pidMan, panic := x.panic, store := x.store, puback := x.puback, pubrec := x.pubrec,
           sendSet := x.sendSet, tas := x.tas, sendCount := x.sendCount }

theorem psV5PublishAlias_fp (c : C) (p : Pkt) (rel : Option Nat) (v : Bool) :
    Footprint [.error, .released, .send, .timerReset] wPsV5Publish c (psV5PublishAlias c p rel v) :=
  psV5PublishAlias_cases c p rel v (fun _ e k => .step (k.widen.err (by decide) e) (pubRefuseCleanup_fp _ p.pid))
    (fun c' q k _ _ => k.widen.step (psV5PublishTail_fp c' q rel))

theorem psV5Publish_eq (c : C) (p : Pkt) : psV5Publish c p =
  if !sizeOk c p then
    match p.pid with
    | some id => releaseIfUsed (c.err eTooLarge) id
    | none => c.err eTooLarge
  else if p.qos > 0 then
    match p.pid with
    | none => c.setPanic "core.rs:process_send_v5_0_publish:packet_id().unwrap()"
    | some id =>
      if pubNotAllowed c.s then releaseIfUsed (c.err eNotAllowed) id
      else if !isUsed c.s id then c.err ePidInvalid
      else if willStore c.s then
        if p.topic.isEmpty then
          match (validateTopicAlias c p.alias).1 with
          | none => releaseIfUsed ((validateTopicAlias c p.alias).2.err eNotAllowed) id
          | some t =>
            psV5PublishAlias (addWait (storeAdd (wildcardCheck (validateTopicAlias c p.alias).2 t) id
              { p with topic := t, alias := none, dup := true } "core.rs:process_send_v5_0_publish:store.add().unwrap()") p.qos id) p none true
        else
          psV5PublishAlias (addWait (storeAdd c id { p with alias := none, dup := true }
            "core.rs:process_send_v5_0_publish:store.add().unwrap()") p.qos id) p none false
      else psV5PublishAlias (addWait c p.qos id) p (some id) false
  else if c.s.status ≠ .connected then c.err eNotAllowed
  else psV5PublishAlias c p none false := by
  rfl

/-- the tests that a QoS 1/2 PUBLISH with identifier `id` has passed when `process_send_v5_0_publish` turns to the
    store -/
structure PubTested (c : C) (p : Pkt) (id : Nat) : Prop extends PubChecked c p id where
  fits : sizeOk c p = true

/-- the paths through `process_send_v5_0_publish`.  Refusals: the packet is too large (`large`, `largeId`), may be
    neither sent nor stored now (`notAllowed`; `notConnected` for QoS 0), carries an identifier that is not in use
    (`pidInvalid`) or an alias that `validate_topic_alias` does not find (`unresolved`).  A panic.  The alias stage:
    after storing the packet with its topic resolved (`resolved`) or as it is (`stored`), after the wait-set entry
    alone (`wait`), or directly (`plain`, QoS 0). -/
theorem psV5Publish_paths {Q : C → Prop} (c : C) (p : Pkt)
    (large : sizeOk c p = false → p.pid = none → Q (c.err eTooLarge))
    (largeId : ∀ id, sizeOk c p = false → p.pid = some id → Q (releaseIfUsed (c.err eTooLarge) id))
    (panic : sizeOk c p = true → p.qos > 0 → p.pid = none →
      Q (c.setPanic "core.rs:process_send_v5_0_publish:packet_id().unwrap()"))
    (notAllowed : ∀ id, sizeOk c p = true → p.qos > 0 → p.pid = some id → pubNotAllowed c.s = true →
      Q (releaseIfUsed (c.err eNotAllowed) id))
    (pidInvalid : ∀ id, sizeOk c p = true → p.qos > 0 → p.pid = some id → pubNotAllowed c.s = false →
      isUsed c.s id = false → Q (c.err ePidInvalid))
    (unresolved : ∀ id, PubTested c p id → willStore c.s = true → p.topic = [] →
      (validateTopicAlias c p.alias).1 = none → Q (releaseIfUsed ((validateTopicAlias c p.alias).2.err eNotAllowed) id))
    (resolved : ∀ id t, PubTested c p id → willStore c.s = true → p.topic = [] →
      (validateTopicAlias c p.alias).1 = some t →
      Q (psV5PublishAlias (addWait (storeAdd (wildcardCheck (validateTopicAlias c p.alias).2 t) id
        { p with topic := t, alias := none, dup := true } "core.rs:process_send_v5_0_publish:store.add().unwrap()")
        p.qos id) p none true))
    (stored : ∀ id, PubTested c p id → willStore c.s = true → p.topic ≠ [] →
      Q (psV5PublishAlias (addWait (storeAdd c id { p with alias := none, dup := true }
        "core.rs:process_send_v5_0_publish:store.add().unwrap()") p.qos id) p none false))
    (wait : ∀ id, PubTested c p id → willStore c.s = false → Q (psV5PublishAlias (addWait c p.qos id) p (some id) false))
    (notConnected : sizeOk c p = true → ¬p.qos > 0 → c.s.status ≠ .connected → Q (c.err eNotAllowed))
    (plain : sizeOk c p = true → ¬p.qos > 0 → c.s.status = .connected → Q (psV5PublishAlias c p none false)) :
    Q (psV5Publish c p) := by
  rw [psV5Publish_eq]
  refine ite_ind (fun hz => ?_) (fun hz => ?_)
  · have hz : sizeOk c p = false := Bool.not_eq_true' _ ▸ hz
    cases hp : p.pid with
    | some id => exact largeId id hz hp
    | none => exact large hz hp
  have hz : sizeOk c p = true := Bool.not_eq_false _ ▸ Bool.not_eq_true' _ ▸ hz
  refine ite_ind (fun hq => ?_)
    (fun hq => ite_ind (notConnected hz hq) (fun hc => plain hz hq (Decidable.of_not_not hc)))
  cases hp : p.pid with
  | none => exact panic hz hq hp
  | some id =>
    refine ite_ind (notAllowed id hz hq hp) (fun ha => ?_)
    have ha : pubNotAllowed c.s = false := Bool.not_eq_true _ ▸ ha
    refine ite_ind (fun hu => pidInvalid id hz hq hp ha (Bool.not_eq_true' _ ▸ hu)) (fun hu => ?_)
    have k : PubTested c p id := ⟨⟨hq, hp, ha, Bool.not_eq_false _ ▸ Bool.not_eq_true' _ ▸ hu⟩, hz⟩
    refine ite_ind (fun hw => ite_ind (fun ht => ?_) (fun ht => ?_)) (fun hw => wait id k (Bool.not_eq_true _ ▸ hw))
    · cases hr : (validateTopicAlias c p.alias).1 with
      | none => exact unresolved id k hw (List.isEmpty_iff.1 ht) hr
      | some t => rw [← hp]; exact resolved id t k hw (List.isEmpty_iff.1 ht) hr
    · rw [← hp]; exact stored id k hw (fun h => ht (List.isEmpty_iff.2 h))

/-- what `process_send_v5_0_publish` writes before it enters the alias stage: what the alias lookup leaves, the stored
    copy and the wait-set entry -/
abbrev wPubStored (a x : St) : St :=
  { a with tas := x.tas, panic := x.panic, store := x.store, pubrec := x.pubrec, puback := x.puback }

/-- `process_send_v5_0_publish` refuses the packet (in `c`, or in what the alias lookup left of it), panics, or hands
    a packet that fits to the alias stage in a context that `c` has reached without an event -/
theorem psV5Publish_cases {Q : C → Prop} (c : C) (p : Pkt)
    (err : ∀ (c' : C) (e : Nat), Footprint [] wTas c c' → Q (c'.err e))
    (release : ∀ (c' : C) (e id : Nat), Footprint [] wTas c c' → Q (releaseIfUsed (c'.err e) id))
    (panic : Q (c.setPanic "core.rs:process_send_v5_0_publish:packet_id().unwrap()"))
    (alias : sizeOk c p = true → ∀ (c' : C) rel v, Footprint [] wPubStored c c' → Q (psV5PublishAlias c' p rel v)) :
    Q (psV5Publish c p) :=
  have hv : Footprint [] wPubStored c (validateTopicAlias c p.alias).2 := (validateTopicAlias_fp c p.alias).widen
  psV5Publish_paths c p (fun _ _ => err c _ (.of_s rfl)) (fun id _ _ => release c _ id (.of_s rfl))
    (fun _ _ _ => panic) (fun id _ _ _ _ => release c _ id (.of_s rfl)) (fun _ _ _ _ _ _ => err c _ (.of_s rfl))
    (fun id _ _ _ _ => release _ _ id (validateTopicAlias_fp c p.alias))
    (fun id t k _ _ _ => alias k.fits _ _ _
      (((hv.step (wildcardCheck_fp _ t)).step (storeAdd_fp ..)).step (addWait_fp _ p.qos id)))
    (fun id k _ _ => alias k.fits _ _ _ ((storeAdd_fp ..).widen.step (addWait_fp _ p.qos id)))
    (fun id k _ => alias k.fits _ _ _ (addWait_fp c p.qos id).widen) (fun _ _ _ => err c _ (.of_s rfl))
    (fun hz _ _ => alias hz c _ _ (.of_s rfl))

theorem psV5Publish_fp (c : C) (p : Pkt) :
    Footprint [.error, .released, .send, .timerReset] wPsV5Publish c (psV5Publish c p) :=
  psV5Publish_cases c p (fun _ e k => k.widen.err (by decide) e)
    (fun _ e id k => .step (k.widen.err (by decide) e) (releaseIfUsed_fp _ id)) (.of_s rfl)
    (fun _ c' rel v k => k.widen.step (psV5PublishAlias_fp c' p rel v))
theorem psV5Publish_s (c : C) (p : Pkt) : (psV5Publish c p).s = wPsV5Publish c.s (psV5Publish c p).s :=
  (psV5Publish_fp c p).s

/-! ## acknowledgements, PUBREL, SUBSCRIBE, PINGREQ, AUTH -/

theorem psV3Simple_eq (c : C) (p : Pkt) :
    psV3Simple c p = guarded c False (c.s.status ≠ .connected) none (sendPostProcess (c.push (.send p none))) := rfl

theorem psV3Simple_fp (c : C) (p : Pkt) : Footprint [.error, .send, .timerReset] wSendSet c (psV3Simple c p) :=
  psV3Simple_eq c p ▸ guarded_fp (.sendNow (.of_s rfl) p none)
theorem psV3Simple_s (c : C) (p : Pkt) : (psV3Simple c p).s = wSendSet c.s (psV3Simple c p).s := (psV3Simple_fp c p).s

theorem psV5Simple_eq (c : C) (p : Pkt) : psV5Simple c p =
    guarded c (!sizeOk c p) (c.s.status ≠ .connected) none (sendPostProcess (c.push (.send p none))) := rfl

theorem psV5Simple_fp (c : C) (p : Pkt) : Footprint [.error, .send, .timerReset] wSendSet c (psV5Simple c p) :=
  psV5Simple_eq c p ▸ guarded_fp (.sendNow (.of_s rfl) p none)
theorem psV5Simple_s (c : C) (p : Pkt) : (psV5Simple c p).s = wSendSet c.s (psV5Simple c p).s := (psV5Simple_fp c p).s

abbrev wPsV5Puback (a x : St) : St := { a with publishRecv := x.publishRecv, sendSet := x.sendSet }

theorem psV5Puback_eq (c : C) (p : Pkt) : psV5Puback c p = guarded c (!sizeOk c p) (c.s.status ≠ .connected) none
    (sendPostProcess (({ c with s := { c.s with publishRecv := del (p.pid.getD 0) c.s.publishRecv } } : C).push
      (.send p none))) := rfl

theorem psV5Puback_fp (c : C) (p : Pkt) : Footprint [.error, .send, .timerReset] wPsV5Puback c (psV5Puback c p) :=
  psV5Puback_eq c p ▸ guarded_fp (.sendNow (.of_s rfl) p none)
theorem psV5Puback_s (c : C) (p : Pkt) : (psV5Puback c p).s = wPsV5Puback c.s (psV5Puback c p).s :=
  (psV5Puback_fp c p).s

abbrev wPsV5Pubrec (a x : St) : St :=
  { a with publishRecv := x.publishRecv, sendSet := x.sendSet, handled := x.handled }

theorem psV5Pubrec_eq (c : C) (p : Pkt) : psV5Pubrec c p = guarded c (!sizeOk c p) (c.s.status ≠ .connected) none
    (let id := p.pid.getD 0
     let failure : Bool := match p.rc with | some rc => decide (rc ≥ 0x80) | none => false
     sendPostProcess ((if failure then
        ({ c with s := { c.s with publishRecv := del id c.s.publishRecv, handled := del id c.s.handled } } : C)
      else c).push (.send p none))) := rfl

/-- the paths through `process_send_v5_0_pubrec`.  Refusals: the packet exceeds the peer's Maximum Packet Size
    (`tooLarge`) or the connection is not up (`notConnected`).  Sent: with a failing reason code (`failed`), which ends
    the exchange, so that the identifier leaves `publishRecv` and `handled`; or with the state kept (`ok`). -/
theorem psV5Pubrec_paths {Q : C → Prop} (c : C) (p : Pkt)
    (tooLarge : sizeOk c p = false → Q (c.err eTooLarge))
    (notConnected : sizeOk c p = true → c.s.status ≠ .connected → Q (c.err eNotAllowed))
    (failed : sizeOk c p = true → c.s.status = .connected → ∀ rc, p.rc = some rc → rc ≥ 0x80 →
      Q (sendPostProcess (({ c with s := { c.s with
        publishRecv := del (p.pid.getD 0) c.s.publishRecv, handled := del (p.pid.getD 0) c.s.handled } } : C).push
          (.send p none))))
    (ok : sizeOk c p = true → c.s.status = .connected → (∀ rc, p.rc = some rc → rc < 0x80) →
      Q (sendPostProcess (c.push (.send p none)))) : Q (psV5Pubrec c p) := by
  rw [psV5Pubrec_eq]
  refine guarded_ind (fun hl => tooLarge (by simpa using hl)) (fun hl => notConnected (by simpa using hl))
    (fun hl hr => ?_)
  have hz : sizeOk c p = true := by simpa using hl
  have hc : c.s.status = .connected := Decidable.of_not_not hr
  cases hrc : p.rc with
  | none => exact ok hz hc (fun rc h => nomatch hrc.symm.trans h)
  | some rc =>
    dsimp only
    refine ite_ind (Q := fun x : C => Q (sendPostProcess (x.push (.send p none))))
      (fun h => failed hz hc rc hrc (of_decide_eq_true h)) (fun h => ok hz hc (fun rc' h' => ?_))
    exact Option.some.inj (hrc.symm.trans h') ▸ Nat.not_le.1 (fun hge => h (decide_eq_true hge))

theorem psV5Pubrec_fp (c : C) (p : Pkt) : Footprint [.error, .send, .timerReset] wPsV5Pubrec c (psV5Pubrec c p) :=
  psV5Pubrec_eq c p ▸ guarded_fp (.sendNow (ite_ind (fun _ => .of_s rfl) (fun _ => .of_s rfl)) p none)
theorem psV5Pubrec_s (c : C) (p : Pkt) : (psV5Pubrec c p).s = wPsV5Pubrec c.s (psV5Pubrec c p).s :=
  (psV5Pubrec_fp c p).s

theorem psV5Pubcomp_fp (c : C) (p : Pkt) : Footprint [.error, .send, .timerReset] wPsV5Puback c (psV5Pubcomp c p) :=
  psV5Puback_fp c p
theorem psV5Pubcomp_s (c : C) (p : Pkt) : (psV5Pubcomp c p).s = wPsV5Puback c.s (psV5Pubcomp c p).s :=
  psV5Puback_s c p

abbrev wPsPubrel (a x : St) : St :=
  { a with store := x.store, panic := x.panic, pubcomp := x.pubcomp, sendSet := x.sendSet }

theorem psPubrel_eq (c : C) (p : Pkt) : psPubrel c p =
    guarded c (p.ver = 5 ∧ !sizeOk c p) (c.s.status ≠ .connected ∧ !c.s.needStore) none
      (let id := p.pid.getD 0
       if !isUsed c.s id then c.err ePidInvalid
       else
         let c := if c.s.needStore then storeAdd c id p "core.rs:process_send_pubrel:store.add().unwrap()" else c
         sendIfConnected { c with s := { c.s with pubcomp := ins id c.s.pubcomp } } p none) := rfl

theorem psPubrel_fp (c : C) (p : Pkt) : Footprint [.error, .send, .timerReset] wPsPubrel c (psPubrel c p) := by
  rw [psPubrel_eq]
  refine guarded_fp ?_
  dsimp only
  refine ite_ind (fun _ => .err (.of_s rfl) (by decide) _) (fun _ => ?_)
  -- the PUBREL is stored if the session asks for it, and its PUBCOMP awaited
  have h : ∀ site, Footprint [.error, .send, .timerReset] wPsPubrel c
      (if c.s.needStore then storeAdd c (p.pid.getD 0) p site else c) :=
    fun _ => ite_ind (fun _ => (storeAdd_fp ..).widen) (fun _ => .of_s rfl)
  exact sendIfConnected_cases _ p none (fun _ => ((h _).set rfl).sendNow p none) (fun _ => (h _).set rfl)
theorem psPubrel_s (c : C) (p : Pkt) : (psPubrel c p).s = wPsPubrel c.s (psPubrel c p).s := (psPubrel_fp c p).s

abbrev wPsSubUnsub (a x : St) : St :=
  { a with pidMan := x.pidMan, panic := x.panic, suback := x.suback, unsuback := x.unsuback,
           sendSet := x.sendSet }

theorem psSubUnsub_eq (c : C) (p : Pkt) : psSubUnsub c p =
    guarded c (p.ver = 5 ∧ !sizeOk c p) (c.s.status ≠ .connected) (some (p.pid.getD 0))
      (let id := p.pid.getD 0
       if !isUsed c.s id then c.err ePidInvalid
       else
         let c := if p.kind = .subscribe then { c with s := { c.s with suback := ins id c.s.suback } }
                  else { c with s := { c.s with unsuback := ins id c.s.unsuback } }
         sendPostProcess (c.push (.send p (some id)))) := rfl

theorem psSubUnsub_fp (c : C) (p : Pkt) :
    Footprint [.error, .released, .send, .timerReset] wPsSubUnsub c (psSubUnsub c p) := by
  rw [psSubUnsub_eq]
  refine guarded_fp ?_ fun e => (refusal_fp c e _).widen
  dsimp only
  refine ite_ind (fun _ => .err (.of_s rfl) (by decide) _) (fun _ => ?_)
  exact .sendNow (ite_ind (fun _ => .of_s rfl) (fun _ => .of_s rfl)) p _
theorem psSubUnsub_s (c : C) (p : Pkt) : (psSubUnsub c p).s = wPsSubUnsub c.s (psSubUnsub c p).s :=
  (psSubUnsub_fp c p).s

abbrev wPsPingreq (a x : St) : St := { a with respSet := x.respSet, sendSet := x.sendSet }

theorem psPingreq_eq (c : C) (p : Pkt) : psPingreq c p = guarded c (p.ver = 5 ∧ !sizeOk c p) (c.s.status ≠ .connected) none
    (let c := c.push (.send p none)
     sendPostProcess (if c.s.respTimeoutMs ≠ 0 then
        ({ c with s := { c.s with respSet := true } }).push (.timerReset .pingrespRecv c.s.respTimeoutMs)
      else c)) := rfl

theorem psPingreq_fp (c : C) (p : Pkt) : Footprint [.error, .send, .timerReset] wPsPingreq c (psPingreq c p) := by
  rw [psPingreq_eq]
  refine guarded_fp (.step ?_ (sendPostProcess_fp _))
  have h : Footprint [.error, .send, .timerReset] wPsPingreq c (c.push (.send p none)) :=
    .send (.of_s rfl) (by decide) p none
  exact ite_ind (fun _ => .timerReset (h.set rfl) (by decide) _ _) (fun _ => h)
theorem psPingreq_s (c : C) (p : Pkt) : (psPingreq c p).s = wPsPingreq c.s (psPingreq c p).s := (psPingreq_fp c p).s

theorem psV5Auth_eq (c : C) (p : Pkt) : psV5Auth c p =
    guarded c (!sizeOk c p) (c.s.status = .disconnected) none (sendPostProcess (c.push (.send p none))) := rfl

theorem psV5Auth_fp (c : C) (p : Pkt) : Footprint [.error, .send, .timerReset] wSendSet c (psV5Auth c p) :=
  psV5Auth_eq c p ▸ guarded_fp (.sendNow (.of_s rfl) p none)
theorem psV5Auth_s (c : C) (p : Pkt) : (psV5Auth c p).s = wSendSet c.s (psV5Auth c p).s := (psV5Auth_fp c p).s

/-! ## the dispatchers -/

theorem processSend_cases {Q : C → Prop} (c : C) (p : Pkt)
    (connect3 : p.ver = 4 → p.kind = .connect → Q (psV3Connect c p))
    (connack3 : p.ver = 4 → p.kind = .connack → Q (psV3Connack c p))
    (publish3 : p.ver = 4 → p.kind = .publish → Q (psV3Publish c p))
    (simple3 : p.ver = 4 → p.kind ∈ [.puback, .pubrec, .pubcomp, .suback, .unsuback, .pingresp] →
      Q (psV3Simple c p))
    (disconnect3 : p.ver = 4 → p.kind = .disconnect → Q (psV3Disconnect c p))
    (auth3 : p.ver = 4 → p.kind = .auth → Q c)
    (pubrel : p.kind = .pubrel → Q (psPubrel c p))
    (subUnsub : p.kind = .subscribe ∨ p.kind = .unsubscribe → Q (psSubUnsub c p))
    (pingreq : p.kind = .pingreq → Q (psPingreq c p))
    (connect5 : p.ver ≠ 4 → p.kind = .connect → Q (psV5Connect c p))
    (connack5 : p.ver ≠ 4 → p.kind = .connack → Q (psV5Connack c p))
    (publish5 : p.ver ≠ 4 → p.kind = .publish → Q (psV5Publish c p))
    (puback5 : p.ver ≠ 4 → p.kind = .puback → Q (psV5Puback c p))
    (pubrec5 : p.ver ≠ 4 → p.kind = .pubrec → Q (psV5Pubrec c p))
    (pubcomp5 : p.ver ≠ 4 → p.kind = .pubcomp → Q (psV5Pubcomp c p))
    (disconnect5 : p.ver ≠ 4 → p.kind = .disconnect → Q (psV5Disconnect c p))
    (auth5 : p.ver ≠ 4 → p.kind = .auth → Q (psV5Auth c p))
    (simple5 : p.ver ≠ 4 → p.kind ∈ [.suback, .unsuback, .pingresp] → Q (psV5Simple c p)) :
    Q (processSend c p) := by
  unfold processSend
  by_cases hv : p.ver = 4
  · rw [if_pos hv]
    cases hk : p.kind
    · exact connect3 hv hk
    · exact connack3 hv hk
    · exact publish3 hv hk
    · exact simple3 hv (by rw [hk]; decide)
    · exact simple3 hv (by rw [hk]; decide)
    · exact pubrel hk
    · exact simple3 hv (by rw [hk]; decide)
    · exact subUnsub (.inl hk)
    · exact simple3 hv (by rw [hk]; decide)
    · exact subUnsub (.inr hk)
    · exact simple3 hv (by rw [hk]; decide)
    · exact pingreq hk
    · exact simple3 hv (by rw [hk]; decide)
    · exact disconnect3 hv hk
    · exact auth3 hv hk
  · rw [if_neg hv]
    cases hk : p.kind
    · exact connect5 hv hk
    · exact connack5 hv hk
    · exact publish5 hv hk
    · exact puback5 hv hk
    · exact pubrec5 hv hk
    · exact pubrel hk
    · exact pubcomp5 hv hk
    · exact subUnsub (.inl hk)
    · exact simple5 hv (by rw [hk]; decide)
    · exact subUnsub (.inr hk)
    · exact simple5 hv (by rw [hk]; decide)
    · exact pingreq hk
    · exact simple5 hv (by rw [hk]; decide)
    · exact disconnect5 hv hk
    · exact auth5 hv hk

theorem refuseSend_fp (c : C) (e : Nat) (p : Pkt) : Footprint [.error, .released] wPid c (refuseSend c e p) :=
  refusal_fp c e (initiatingId p)
theorem refuseSend_s (c : C) (e : Nat) (p : Pkt) : (refuseSend c e p).s = wPid c.s (refuseSend c e p).s :=
  (refuseSend_fp c e p).s
theorem refuseSend_ev (c : C) (e : Nat) (p : Pkt) : Appends [.error, .released] c (refuseSend c e p) :=
  (refuseSend_fp c e p).ev

theorem send_cases {Q : C → Prop} (c : C) (p : Pkt)
    (version : c.s.ver ≠ p.ver → Q (refuseSend c eVersionMismatch p))
    (role : c.s.ver = p.ver → roleMaySend c.cfg.role p = false → Q (refuseSend c eNotAllowed p))
    (ok : c.s.ver = p.ver → roleMaySend c.cfg.role p = true → Q (processSend c p)) : Q (send c p) := by
  unfold send
  by_cases hv : c.s.ver ≠ p.ver
  · rw [if_pos hv]; exact version hv
  · rw [if_neg hv]
    cases hr : roleMaySend c.cfg.role p
    · exact role (Decidable.of_not_not hv) hr
    · exact ok (Decidable.of_not_not hv) hr

/-- what a send may write: what a CONNECT writes, the Maximum Packet Size that a CONNECT or CONNACK of ours announces
    (`mpsRecv`), the timers, `panic` -/
abbrev wSend (a x : St) : St :=
  { a with sendMax := x.sendMax, recvMax := x.recvMax, sendCount := x.sendCount, tas := x.tas, tar := x.tar,
           publishRecv := x.publishRecv, needStore := x.needStore, suback := x.suback,
           unsuback := x.unsuback, isClient := x.isClient, keepAliveMs := x.keepAliveMs,
           serverKeepAliveMs := x.serverKeepAliveMs, recvTimeoutMs := x.recvTimeoutMs, status := x.status,
           pidMan := x.pidMan, puback := x.puback, pubrec := x.pubrec, pubcomp := x.pubcomp,
           store := x.store, handled := x.handled, sendSet := x.sendSet, mpsRecv := x.mpsRecv,
           recvSet := x.recvSet, respSet := x.respSet, panic := x.panic }

theorem processSend_fp (c : C) (p : Pkt) :
    Footprint [.error, .send, .timerReset, .timerCancel, .close, .released] wSend c (processSend c p) :=
  processSend_cases c p
    (fun _ _ => (psV3Connect_fp c p).widen)
    (fun _ _ => (psV3Connack_fp c p).widen)
    (fun _ _ => (psV3Publish_fp c p).widen)
    (fun _ _ => (psV3Simple_fp c p).widen)
    (fun _ _ => (psV3Disconnect_fp c p).widen)
    (fun _ _ => .of_s rfl)
    (fun _ => (psPubrel_fp c p).widen)
    (fun _ => (psSubUnsub_fp c p).widen)
    (fun _ => (psPingreq_fp c p).widen)
    (fun _ _ => (psV5Connect_fp c p).widen)
    (fun _ _ => (psV5Connack_fp c p).widen)
    (fun _ _ => (psV5Publish_fp c p).widen)
    (fun _ _ => (psV5Puback_fp c p).widen)
    (fun _ _ => (psV5Pubrec_fp c p).widen)
    (fun _ _ => (psV5Pubcomp_fp c p).widen)
    (fun _ _ => (psV5Disconnect_fp c p).widen)
    (fun _ _ => (psV5Auth_fp c p).widen)
    (fun _ _ => (psV5Simple_fp c p).widen)

theorem send_fp (c : C) (p : Pkt) :
    Footprint [.error, .send, .timerReset, .timerCancel, .close, .released] wSend c (send c p) :=
  send_cases c p (fun _ => (refuseSend_fp ..).widen) (fun _ _ => (refuseSend_fp ..).widen)
    (fun _ _ => processSend_fp c p)
theorem send_cfg (c : C) (p : Pkt) : (send c p).cfg = c.cfg := (send_fp c p).cfg
theorem send_s (c : C) (p : Pkt) : (send c p).s = wSend c.s (send c p).s := (send_fp c p).s
theorem send_ev (c : C) (p : Pkt) :
    Appends [.error, .send, .timerReset, .timerCancel, .close, .released] c (send c p) := (send_fp c p).ev

end Fp

end MqttVerif.Conn
