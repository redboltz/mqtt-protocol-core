import MqttVerif.Conn.Lemmas.FootprintEmits
/-!
# How a call changes `status` and `panic`

A write set that lists `status` or `panic` says that a function may change the field, not how.  Outside connection
establishment and `notify_closed` the status changes in one way only, an established connection is closed
(`Closes`), and `panic`, which is sticky, is set at a site named in the model (`Raises S`: at a site that `S` allows;
the lemma of a function asks `S` of the sites the function can reach, `DeallocSites S` standing for those of the
identifier allocator).  `Mild S` is both; `Mild Nowhere` says that `panic` is kept.  A function whose write set lists
one of the two fields has its lemma `f_mild` (`notifyClosed_raises` for `notify_closed`, which sets the status); for
the others `Mild.of_fp`, `Raises.of_fp` apply to the footprint.  Left out are connection establishment and the two
places where `publish_send_count += 1` can overflow, `send_stored` and `process_send_v5_0_publish`: whether they
panic depends on the state (`Conn/Lemmas/Credit.lean`).
-/
namespace MqttVerif.Conn
open MqttVerif

namespace Fp

/-- the status is kept, or an established connection is closed -/
def Closes (c c' : C) : Prop :=
  c'.s.status = c.s.status ∨ (c.s.status = .connected ∧ c'.s.status = .disconnected)

/-- the sticky panic flag is kept, or raised at a site that `S` allows -/
def Raises (S : String → Prop) (c c' : C) : Prop :=
  c'.s.panic = c.s.panic ∨ ∃ x, S x ∧ c'.s.panic = some (c.s.panic.getD x)

theorem Closes.trans {a c c' : C} (h : Closes a c) (h' : Closes c c') : Closes a c' := by
  rcases h' with e | ⟨e0, e1⟩
  · rw [Closes, e]; exact h
  · rcases h with e | ⟨_, e2⟩
    · exact .inr ⟨e ▸ e0, e1⟩
    · exact nomatch e2.symm.trans e0

theorem Closes.status {c c' : C} (h : Closes c c') : c'.s.status = c.s.status ∨ c'.s.status = .disconnected :=
  h.imp id (·.2)

/-- "status = connecting" is not changed by closing an established connection -/
theorem Closes.connecting {c c' : C} (h : Closes c c') : (c'.s.status = .connecting) = (c.s.status = .connecting) := by
  rcases h with e | ⟨e0, e1⟩
  · rw [e]
  · rw [e0, e1]; exact propext ⟨nofun, nofun⟩

theorem Raises.trans {S : String → Prop} {a c c' : C} (h : Raises S a c) (h' : Raises S c c') : Raises S a c' := by
  rcases h' with e | ⟨y, hy, e⟩
  · rw [Raises, e]; exact h
  · rcases h with e0 | ⟨x, hx, e0⟩
    · exact .inr ⟨y, hy, e0 ▸ e⟩
    · exact .inr ⟨x, hx, by rw [e, e0]; rfl⟩

theorem Raises.refl {S : String → Prop} (c : C) : Raises S c c := .inl rfl

/-- `hp` holds by `rfl` when `panic` is not set -/
theorem Raises.upd {S : String → Prop} {a c c' : C} (h : Raises S a c) (hp : c'.s.panic = c.s.panic := by rfl) :
    Raises S a c' :=
  h.trans (.inl hp)

theorem Raises.congr_left {S : String → Prop} {a c c' : C} (h : Raises S c c') (hp : c.s.panic = a.s.panic := by rfl) :
    Raises S a c' :=
  .trans (.inl hp) h

/-- a footprint that does not list `panic`: `hp` holds by `rfl` -/
theorem Raises.of_fp {S : String → Prop} {T : List EvTag} {w : St → St → St} {c c' : C} (h : Footprint T w c c')
    (hp : ∀ a x, (w a x).panic = a.panic := by exact fun _ _ => rfl) : Raises S c c' :=
  .inl (by rw [h.s]; exact hp _ _)

theorem Raises.mono {S S' : String → Prop} {c c' : C} (h : Raises S c c') (hS : ∀ x, S x → S' x) : Raises S' c c' :=
  h.imp id fun ⟨x, hx, e⟩ => ⟨x, hS x hx, e⟩

/-- a flag computed from `panic` that no site of `S` sets is kept -/
theorem Raises.keeps {S : String → Prop} {c c' : C} (h : Raises S c c') (f : Option String → Bool)
    (hf : ∀ x o, S x → f (some (o.getD x)) = f o) : f c'.s.panic = f c.s.panic := by
  rcases h with e | ⟨x, hx, e⟩
  · rw [e]
  · rw [e, hf x _ hx]

/-- what a handler outside connection establishment does to `status` and `panic` -/
structure Mild (S : String → Prop) (c c' : C) : Prop where
  closes : Closes c c'
  raises : Raises S c c'

/-- no site: `Mild Nowhere` keeps `panic` -/
abbrev Nowhere : String → Prop := fun _ => False

/-- the panic sites of `ValueAllocator::deallocate` -/
abbrev DeallocSites (S : String → Prop) : Prop := ∀ a v x, (Alloc.deallocate a v).1 = some x → S x

namespace Mild
variable {S : String → Prop} {T : List EvTag} {w : St → St → St} {a c c' : C}

/-- `hs`, `hp` hold by `rfl` when neither field is set -/
theorem keep (hs : c'.s.status = c.s.status := by rfl) (hp : c'.s.panic = c.s.panic := by rfl) : Mild S c c' :=
  ⟨.inl hs, .inl hp⟩

theorem refl (c : C) : Mild S c c := keep

theorem trans (h : Mild S a c) (h' : Mild S c c') : Mild S a c' := ⟨h.closes.trans h'.closes, h.raises.trans h'.raises⟩

theorem upd (h : Mild S a c) (hs : c'.s.status = c.s.status := by rfl) (hp : c'.s.panic = c.s.panic := by rfl) :
    Mild S a c' :=
  h.trans (keep hs hp)

theorem congr_left (h : Mild S c c') (hs : c.s.status = a.s.status := by rfl) (hp : c.s.panic = a.s.panic := by rfl) :
    Mild S a c' :=
  .trans (keep hs hp) h

theorem lift (h : Mild Nowhere c c') : Mild S c c' := ⟨h.closes, h.raises.mono nofun⟩

theorem setPanic (h : Mild S a c) {x : String} (hx : S x) : Mild S a (c.setPanic x) :=
  h.trans ⟨.inl rfl, .inr ⟨x, hx, rfl⟩⟩

theorem close (h : Mild S a c) (hc : c.s.status = .connected) (hs : c'.s.status = .disconnected)
    (hp : c'.s.panic = c.s.panic := by rfl) : Mild S a c' :=
  h.trans ⟨.inr ⟨hc, hs⟩, .inl hp⟩

/-- a footprint that lists neither field: `hs`, `hp` hold by `rfl` -/
theorem of_fp (h : Footprint T w c c') (hs : ∀ a x, (w a x).status = a.status := by exact fun _ _ => rfl)
    (hp : ∀ a x, (w a x).panic = a.panic := by exact fun _ _ => rfl) : Mild S c c' :=
  keep (by rw [h.s]; exact hs _ _) (by rw [h.s]; exact hp _ _)

theorem ite {p : Prop} [Decidable p] {x y : C} (hx : Mild S a x) (hy : Mild S a y) : Mild S a (if p then x else y) :=
  ite_both hx hy

theorem post (h : Mild S a c) : Mild S a (sendPostProcess c) := h.upd (by rw [sendPostProcess_s]) (by rw [sendPostProcess_s])

theorem refresh (h : Mild S a c) : Mild S a (refreshPingreqRecv c) :=
  h.upd (by rw [refreshPingreqRecv_s]) (by rw [refreshPingreqRecv_s])

theorem decSendCount (h : Mild S a c) : Mild S a (decSendCount c) :=
  h.upd (by rw [decSendCount_s]) (by rw [decSendCount_s])

theorem sendNow (h : Mild S a c) (e : Ev) : Mild S a (sendPostProcess (c.push e)) := post h.upd

theorem deliver (h : Mild S a c) (e : Ev) : Mild S a ((refreshPingreqRecv c).push e) := (refresh h).upd

/-- a delivery that is left out for a duplicate -/
theorem pushIf {b : Prop} [Decidable b] (h : Mild S a c) (e : Ev) : Mild S a (if b then c.push e else c) := ite h.upd h

theorem autoAck {due : Prop} [Decidable due] {site : String} {id : Nat} {send : C → C} (h : Mild S a c) (hx : S site)
    (hs : ∀ m, Mild S m (send m)) : Mild S a (autoAck c due site id send) :=
  autoAck_cases (fun _ => h) (fun _ _ => (h.setPanic hx).trans (hs _)) (fun _ _ => h.trans (hs _))

end Mild

variable {S : String → Prop}

/-! ## identifiers -/

theorem releaseId_mild (hd : DeallocSites S) (c : C) (id : Nat) : Mild S c (releaseId c id) := by
  unfold releaseId
  dsimp only
  split
  · exact .keep
  · exact (Mild.keep (c := c)).setPanic (hd _ _ _ ‹_›)

theorem releaseIfUsed_mild (hd : DeallocSites S) (c : C) (id : Nat) : Mild S c (releaseIfUsed c id) := by
  unfold releaseIfUsed
  exact .ite (releaseId_mild hd c id).upd .keep

theorem refuseSend_mild (hd : DeallocSites S) (c : C) (e : Nat) (p : Pkt) : Mild S c (refuseSend c e p) := by
  unfold refuseSend
  cases initiatingId p with
  | none => exact .keep
  | some id => exact (releaseIfUsed_mild hd _ id).congr_left

theorem releaseAll_mild (hd : DeallocSites S) (c : C) (l : List Nat) : Mild S c (releaseAll c l) := by
  induction l generalizing c with
  | nil => exact .refl c
  | cons x r ih => exact (releaseIfUsed_mild hd c x).trans (ih _)

theorem releasePacketId_mild (hd : DeallocSites S) (c : C) (id : Nat) : Mild S c (releasePacketId c id) :=
  releasePacketId_ind (Q := Mild S c) c id (releaseIfUsed_mild hd c id) (fun h => h.upd) (fun h => h.decSendCount)

theorem eraseStoredPublish_mild (hd : DeallocSites S) (c : C) (id : Nat) : Mild S c (eraseStoredPublish c id) :=
  eraseStoredPublish_cases (Q := Mild S c) c id .keep
    ((releaseIfUsed_mild hd _ id).congr_left (by rw [decSendCount_s]) (by rw [decSendCount_s]))

/-! ## closing -/

theorem psV5Disconnect_mild (c : C) (p : Pkt) : Mild Nowhere c (psV5Disconnect c p) := by
  unfold psV5Disconnect
  refine .ite .keep (ite_ind (fun _ => .keep) (fun hc => ?_))
  exact (Mild.keep).close (Decidable.not_not.mp hc) (by rw [push_s, push_s, cancelTimers_s])
    (by rw [push_s, push_s, cancelTimers_s])

theorem psV3Disconnect_mild (c : C) (p : Pkt) : Mild Nowhere c (psV3Disconnect c p) := by
  unfold psV3Disconnect
  refine ite_ind (fun _ => .keep) (fun hc => ?_)
  exact (Mild.keep).close (Decidable.not_not.mp hc) (by rw [push_s, push_s, cancelTimers_s])
    (by rw [push_s, push_s, cancelTimers_s])

theorem v5DisconnectOrClose_mild (c : C) (d : Pkt) : Mild Nowhere c (v5DisconnectOrClose c d) := by
  unfold v5DisconnectOrClose
  refine ite_ind (fun hc => ?_) (fun _ => psV5Disconnect_mild c d)
  exact (Mild.keep).close hc.1 (by rw [push_s, cancelTimers_s]) (by rw [push_s, cancelTimers_s])

theorem handleV5Error_mild (c : C) (e : Nat) : Mild Nowhere c (handleV5Error c e) :=
  (v5DisconnectOrClose_mild c _).upd

theorem vErr_mild (c : C) (e : Nat) : Mild Nowhere c (vErr c e) :=
  vErr_cases c e (fun _ => .keep) (fun _ => handleV5Error_mild c e)

/-! ## the send handlers -/

theorem storeAdd_mild {x : String} (hx : S x) (c : C) (id : Nat) (p : Pkt) : Mild S c (storeAdd c id p x) := by
  unfold storeAdd
  exact .ite ((Mild.keep).setPanic hx) .keep

theorem psSubUnsub_mild (hd : DeallocSites S) (c : C) (p : Pkt) : Mild S c (psSubUnsub c p) := by
  unfold psSubUnsub
  have hr : ∀ e id, Mild S c (releaseIfUsed (c.err e) id) := fun e id => (releaseIfUsed_mild hd _ id).congr_left
  exact .ite (hr _ _) (.ite (hr _ _) (.ite .keep (.sendNow (.ite .keep .keep) _)))

theorem psPubrel_mild (hx : S "core.rs:process_send_pubrel:store.add().unwrap()") (c : C) (p : Pkt) :
    Mild S c (psPubrel c p) := by
  unfold psPubrel
  refine .ite .keep (.ite .keep (.ite .keep ?_))
  have h : Mild S c (if c.s.needStore = true then
      storeAdd c (p.pid.getD 0) p "core.rs:process_send_pubrel:store.add().unwrap()" else c) :=
    .ite (storeAdd_mild hx c _ p) .keep
  exact .ite (.sendNow h.upd _) h.upd

theorem Mild.sendIfConnected (h : Mild S a c) (p : Pkt) (rel : Option Nat) : Mild S a (sendIfConnected c p rel) :=
  .ite (.sendNow h _) h

theorem psV3Publish_mild (h1 : S "core.rs:process_send_v3_1_1_publish:packet_id().unwrap()")
    (h2 : S "core.rs:process_send_v3_1_1_publish:store.add().unwrap()") (hd : DeallocSites S) (c : C) (p : Pkt) :
    Mild S c (psV3Publish c p) :=
  psV3Publish_paths c p (fun _ _ => (Mild.keep).setPanic h1) (fun id _ _ _ => (releaseIfUsed_mild hd _ id).congr_left)
    (fun _ _ _ _ _ => .keep)
    (fun id _ _ => .sendIfConnected ((storeAdd_mild h2 c id _).trans (.of_fp (addWait_fp _ p.qos id))) p _)
    (fun id _ _ => .sendIfConnected (.of_fp (addWait_fp c p.qos id)) p _) (fun _ _ => .keep)
    (fun _ _ => Mild.post .keep)

theorem pubRefuseCleanup_mild (hd : DeallocSites S) (c : C) (pid : Option Nat) : Mild S c (pubRefuseCleanup c pid) := by
  unfold pubRefuseCleanup
  cases pid with
  | none => exact .refl c
  | some id => exact .ite (releaseId_mild hd c id).upd .keep

theorem tasInsert_mild {x : String} (hx : S x) (c : C) (t : List Nat) (a : Nat) : Mild S c (tasInsert c t a x) := by
  unfold tasInsert
  cases c.s.tas with
  | none => exact .refl c
  | some t' => exact .ite ((Mild.keep).setPanic hx) .keep

theorem autoAlias_mild (hx : S "topic_alias_send.rs:insert_or_update:assert") (c : C) (p : Pkt) :
    Mild S c (autoAlias c p).1 :=
  autoAlias_outcomes (Q := fun r => Mild S c r.1) c p (.refl c) (fun _ _ _ _ _ _ _ => .refl c)
    (fun _ _ t _ _ _ => tasInsert_mild hx c _ t.lruAlias)

/-! ## the receive handlers -/

/-- the error paths raise nothing and close only an open connection; the delivery writes neither field -/
theorem ackIn_mild {c : C} {x : Except Nat Pkt} {set : List Nat} {taken : Pkt → Nat → C}
    (ht : ∀ p id, Mild S c (taken p id)) : Mild S c (ackIn c x set taken) :=
  ackIn_ind (fun e _ => (vErr_mild c e).lift) (fun _ _ _ => (vErr_mild c _).lift) (fun p _ _ => .deliver (ht p _) _)

theorem pubDone_mild (hd : DeallocSites S) (c : C) (p : Pkt) (id : Nat) : Mild S c (pubDone c p id) :=
  .ite (releaseIfUsed_mild hd c id).decSendCount (releaseIfUsed_mild hd c id)

theorem prPuback_mild (hd : DeallocSites S) (c : C) (x : Except Nat Pkt) : Mild S c (prPuback c x) :=
  prPuback_eq c x ▸ ackIn_mild fun p id => (pubDone_mild hd _ p id).congr_left

theorem prPubcomp_mild (hd : DeallocSites S) (c : C) (x : Except Nat Pkt) : Mild S c (prPubcomp c x) :=
  prPubcomp_eq c x ▸ ackIn_mild fun p id => (pubDone_mild hd _ p id).congr_left

theorem prPubrec_mild (hx : S "core.rs:process_send_pubrel:store.add().unwrap()") (hd : DeallocSites S) (c : C)
    (x : Except Nat Pkt) : Mild S c (prPubrec c x) :=
  prPubrec_eq c x ▸ ackIn_mild fun _ _ => pubrecDone_cases (fun _ _ _ => (psPubrel_mild hx _ _).congr_left)
    (fun _ _ => .keep) (fun _ => (releaseIfUsed_mild hd _ _).congr_left.decSendCount)

theorem prSubUnsuback_mild (hd : DeallocSites S) (c : C) (b : Bool) (x : Except Nat Pkt) :
    Mild S c (prSubUnsuback c b x) := by
  refine prSubUnsuback_eq c b x ▸ ackIn_mild fun _ id => (releaseIfUsed_mild hd _ id).congr_left ?_ ?_
  · cases b <;> rfl
  · cases b <;> rfl

theorem prV3Publish_mild (h1 : S "core.rs:process_recv_v3_1_1_publish:packet_id().unwrap()")
    (h2 : S "core.rs:process_recv_v3_1_1_publish:puback.build().unwrap()")
    (h3 : S "core.rs:process_recv_v3_1_1_publish:pubrec.build().unwrap()") (c : C) (x : Except Nat Pkt) :
    Mild S c (prV3Publish c x) :=
  have v3 : ∀ (q : C → Pkt) (m : C), Mild S m (psV3Simple m (q m)) := fun q m => .of_fp (psV3Simple_fp m _)
  have q2 : ∀ id, Mild S c (prV3Qos2 c id) := fun id => .refresh (.autoAck .keep h3 (v3 _))
  prV3Publish_paths (fun _ _ => .keep) (fun _ _ _ => .deliver (.refl c) _) (fun _ _ _ _ => (Mild.refl c).setPanic h1)
    (fun _ _ _ _ _ => .deliver (.autoAck (.refl c) h2 (v3 _)) _) (fun _ id _ _ _ _ _ => (q2 id).upd)
    (fun _ id _ _ _ _ _ => q2 id)

theorem prV5PublishAlias_mild (c : C) (p : Pkt) : Mild Nowhere c (prV5PublishAlias c p).1 :=
  prV5PublishAlias_ind (Q := fun r => Mild Nowhere c r.1) c p (fun _ => handleV5Error_mild c _) (fun _ _ => .keep)
    (fun _ _ _ _ _ _ _ _ _ _ => .keep) (fun _ _ _ _ _ _ _ => .keep)

/-! ## the stages of `process_recv_v5_0_publish` after the alias stage -/

/-- after the alias stage the receive-side alias table is not touched again -/
theorem prV5Publish_tar (c : C) (p : Pkt) : (prV5Publish c (.ok p)).s.tar = (prV5PublishAlias c p).1.s.tar := by
  have key := @ite_ind C (fun r => r.s.tar = (prV5PublishAlias c p).1.s.tar)
  rw [prV5Publish_eq]
  cases (prV5PublishAlias c p).2 with
  | none => rfl
  | some p' =>
    have h4 : (refreshPingreqRecv (prvAck (prvBook (prV5PublishAlias c p).1 p.qos (p.pid.getD 0)) p.qos (p.pid.getD 0)
        (p.qos = 2 ∧ p.pid.getD 0 ∈ (prV5PublishAlias c p).1.s.handled))).s.tar = (prV5PublishAlias c p).1.s.tar := by
      rw [refreshPingreqRecv_s, prvAck_s, prvBook_s]
    exact key (fun _ => rfl) (fun _ => key (fun _ => by rw [handleV5Error_s]) (fun _ => key (fun _ => h4) (fun _ => h4)))

theorem prvAck_mild (h2 : S "core.rs:process_recv_v5_0_publish:puback.build().unwrap()")
    (h3 : S "core.rs:process_recv_v5_0_publish:pubrec.build().unwrap()") {a : C} (c : C) (qos id : Nat) (already : Prop)
    [Decidable already] (h : Mild S a c) : Mild S a (prvAck c qos id already) :=
  (h.autoAck h2 fun m => .of_fp (psV5Puback_fp m _)).autoAck h3 fun m => .of_fp (psV5Pubrec_fp m _)

theorem prV5Publish_mild (h1 : S "core.rs:process_recv_v5_0_publish:packet_id().unwrap()")
    (h2 : S "core.rs:process_recv_v5_0_publish:puback.build().unwrap()")
    (h3 : S "core.rs:process_recv_v5_0_publish:pubrec.build().unwrap()") (c : C) (x : Except Nat Pkt) :
    Mild S c (prV5Publish c x) := by
  cases x with
  | error e =>
    unfold prV5Publish
    exact .ite (handleV5Error_mild c e).lift .keep
  | ok p =>
    rw [prV5Publish_eq]
    have ha : Mild S c (prV5PublishAlias c p).1 := (prV5PublishAlias_mild c p).lift
    cases (prV5PublishAlias c p).2 with
    | none => exact ha
    | some p' =>
      refine .ite (ha.setPanic h1) (.ite (ha.trans (handleV5Error_mild _ _).lift) ?_)
      have hb : Mild S c (prvBook (prV5PublishAlias c p).1 p.qos (p.pid.getD 0)) := ha.trans (.of_fp (prvBook_fp ..))
      exact .pushIf (prvAck_mild h2 h3 _ p.qos (p.pid.getD 0)
        (p.qos = 2 ∧ p.pid.getD 0 ∈ (prV5PublishAlias c p).1.s.handled) hb).refresh _

/-! ## the remaining calls -/

theorem notifyTimerFired_mild (hx : S "core.rs:notify_timer_fired:unreachable!(undetermined)") (c : C) (k : Timer) :
    Mild S c (notifyTimerFired c k) :=
  have h0 : Mild S c (unsetTimer c k) := .of_fp (unsetTimer_fp c k)
  notifyTimerFired_cases c k (fun _ _ _ _ _ => h0.trans (.of_fp (psPingreq_fp _ _))) (fun _ _ => h0.upd)
    (fun _ _ _ => h0.trans (v5DisconnectOrClose_mild _ _).lift) (fun _ _ => h0) (fun _ _ _ => h0.setPanic hx)

theorem drain_raises (hd : DeallocSites S) (c : C) (get : St → List Nat) (clr : St → St)
    (h : (clr c.s).panic = c.s.panic) : Raises S c (drain c get clr) :=
  .trans (.inl h) (releaseAll_mild hd _ _).raises

theorem closeConn_raises (hd : DeallocSites S) (c : C) : Raises S c (closeConn c) := by
  unfold closeConn
  refine Raises.trans (c := drain _ _ _) ?_ (drain_raises hd _ _ _ rfl)
  exact Raises.trans (c := { c with s := _ }) (.inl rfl) (drain_raises hd _ _ _ rfl)

theorem closeSession_raises (hd : DeallocSites S) (c : C) : Raises S c (closeSession c) := by
  unfold closeSession
  refine Raises.trans (c := drain (drain (drain _ _ _) _ _) _ _) ?_ (.inl rfl)
  refine Raises.trans (Raises.trans ?_ (drain_raises hd _ _ _ rfl)) (drain_raises hd _ _ _ rfl)
  exact Raises.trans (c := { c with s := _ }) (.inl rfl) (drain_raises hd _ _ _ rfl)

/-- `notify_closed` sets the status; it panics in the allocator only -/
theorem notifyClosed_raises (hd : DeallocSites S) (c : C) : Raises S c (notifyClosed c) := by
  rw [notifyClosed_stages]
  have h : Raises S c (if (!(closeConn c).s.needStore) = true then closeSession (closeConn c) else closeConn c) :=
    ite_both ((closeConn_raises hd c).trans (closeSession_raises hd _)) (closeConn_raises hd c)
  exact (h.trans (.inl rfl)).trans (.inl (by rw [cancelTimers_s]))

end Fp

end MqttVerif.Conn
