import MqttVerif.Monitors
import MqttVerif.Conn.Lemmas.FootprintSites
/-!
# C13 helper — what a call does to the receive alias table and to the events the receiver-side
ghost of the driver reads

The driver's receiver-side ghost (`ConnDrv.monitorCall`: `inTbl`, `ownTam`) reads, of the events of a
call, only

* `.recv p` with `p` a CONNECT or a successful CONNACK (`delivered`: the ghost table is emptied), and
* `.send p _` with `p` a v5.0 CONNECT or successful v5.0 CONNACK (`ownTam` := its Topic Alias Maximum).

`tg l` keeps exactly these events.  `K c` collects what the invariants of `Props/C13.lean` (receiver
side) read: the receive table `tar`, the protocol version, "status = connecting", `isClient`, and
`tg` of the events.  `K (f c) = K c` for a model function `f` follows from its footprint (`K_frame`) and,
where it sends or delivers, from the packets it emits (`K_emits`); a function that may close an established
connection keeps "status = connecting" as well (`Fp.Closes`, `K_closes`); the receive handlers that end
`Fp.Processed` are covered at once (`k_processed`).
Own namespace: may be imported next to any other lemma chain.
-/
namespace MqttVerif.Conn.TarGhost
open MqttVerif MqttVerif.Conn

/-- a sent packet the ghost `ownTam` reads: v5.0 CONNECT or v5.0 CONNACK with reason code 0 -/
def tgSend (p : Pkt) : Bool := p.ver = 5 ∧ (p.kind = .connect ∨ (p.kind = .connack ∧ p.rc = some 0))
/-- a delivered packet that makes the ghost table start afresh: CONNECT, or CONNACK with code 0 -/
def tgRecv (p : Pkt) : Bool := p.kind = .connect ∨ (p.kind = .connack ∧ p.rc = some 0)
def TGev : Ev → Bool
  | .send p _ => tgSend p
  | .recv p => tgRecv p
  | _ => false

def tg (l : List Ev) : List Ev := l.filter TGev

@[simp] theorem tg_nil : tg [] = [] := rfl
@[simp] theorem tg_append (a b : List Ev) : tg (a ++ b) = tg a ++ tg b := by simp [tg]
@[simp] theorem tg_cons (e : Ev) (l : List Ev) :
    tg (e :: l) = (if TGev e = true then [e] else []) ++ tg l := by
  cases h : TGev e <;> simp [tg, List.filter, h]
theorem mem_of_tg {e : Ev} {l : List Ev} (h : tg l = [e]) : e ∈ l :=
  (List.mem_filter.1 (h ▸ List.mem_singleton_self e : e ∈ tg l)).1
@[simp] theorem TGev_send (p : Pkt) (r : Option Nat) : TGev (.send p r) = tgSend p := rfl
@[simp] theorem TGev_recv (p : Pkt) : TGev (.recv p) = tgRecv p := rfl
@[simp] theorem TGev_error (e : Nat) : TGev (.error e) = false := rfl
@[simp] theorem TGev_close : TGev .close = false := rfl
@[simp] theorem TGev_released (id : Nat) : TGev (.released id) = false := rfl
@[simp] theorem TGev_tr (k : Timer) (ms : Nat) : TGev (.timerReset k ms) = false := rfl
@[simp] theorem TGev_tc (k : Timer) : TGev (.timerCancel k) = false := rfl

theorem tgSend_kind {p : Pkt} (h1 : p.kind ≠ .connect) (h2 : p.kind ≠ .connack) : tgSend p = false := by
  simp [tgSend, h1, h2]
theorem tgRecv_kind {p : Pkt} (h1 : p.kind ≠ .connect) (h2 : p.kind ≠ .connack) : tgRecv p = false := by
  simp [tgRecv, h1, h2]
theorem tgSend_ver {p : Pkt} (h : p.ver ≠ 5) : tgSend p = false := by simp [tgSend, h]

@[simp] theorem tg_mkAck (cfg : Cfg) (v : Nat) (k : Kind) (id : Nat) (h1 : k ≠ .connect) (h2 : k ≠ .connack) :
    tgSend (mkAck cfg v k id) = false := tgSend_kind h1 h2
@[simp] theorem tg_mkV5PubcompRc (cfg : Cfg) (id rc : Nat) : tgSend (mkV5PubcompRc cfg id rc) = false := by
  simp [tgSend, mkV5PubcompRc]
@[simp] theorem tg_mkV5Disconnect (rc : Nat) : tgSend (mkV5Disconnect rc) = false := by
  simp [tgSend, mkV5Disconnect]
@[simp] theorem tg_mkPingreq (v : Nat) : tgSend (mkPingreq v) = false := by simp [tgSend, mkPingreq]
@[simp] theorem tg_mkPingresp (v : Nat) : tgSend (mkPingresp v) = false := by simp [tgSend, mkPingresp]
@[simp] theorem tg_mkV3Connack (rc : Nat) : tgSend (mkV3Connack rc) = false := by simp [tgSend, mkV3Connack]

/-- what the receiver-side invariants read of a working context -/
abbrev KT := Option TAR × Nat × Prop × Bool × List Ev
def K (c : C) : KT := (c.s.tar, c.s.ver, c.s.status = .connecting, c.s.isClient, tg c.ev)

@[simp] theorem push_ev (c : C) (e : Ev) : (c.push e).ev = c.ev ++ [e] := rfl
@[simp] theorem push_s (c : C) (e : Ev) : (c.push e).s = c.s := rfl
@[simp] theorem err_ev (c : C) (e : Nat) : (c.err e).ev = c.ev ++ [.error e] := rfl
@[simp] theorem err_s (c : C) (e : Nat) : (c.err e).s = c.s := rfl
@[simp] theorem setPanic_ev (c : C) (x : String) : (c.setPanic x).ev = c.ev := rfl
@[simp] theorem setPanic_tar (c : C) (x : String) : (c.setPanic x).s.tar = c.s.tar := rfl
@[simp] theorem setPanic_ver (c : C) (x : String) : (c.setPanic x).s.ver = c.s.ver := rfl
@[simp] theorem setPanic_status (c : C) (x : String) : (c.setPanic x).s.status = c.s.status := rfl
@[simp] theorem setPanic_ic (c : C) (x : String) : (c.setPanic x).s.isClient = c.s.isClient := rfl
@[simp] theorem setPanic_store (c : C) (x : String) : (c.setPanic x).s.store = c.s.store := rfl
@[simp] theorem setPanic_mpsSend (c : C) (x : String) : (c.setPanic x).s.mpsSend = c.s.mpsSend := rfl

theorem ite_K (p : Prop) {_ : Decidable p} (a b : C) : K (if p then a else b) = if p then K a else K b :=
  apply_ite _ _ _ _
theorem ite_ev (p : Prop) {_ : Decidable p} (a b : C) : (if p then a else b).ev = if p then a.ev else b.ev :=
  apply_ite _ _ _ _
theorem ite_s (p : Prop) {_ : Decidable p} (a b : C) : (if p then a else b).s = if p then a.s else b.s :=
  apply_ite _ _ _ _
theorem ite_tg (p : Prop) {_ : Decidable p} (a b : List Ev) :
    tg (if p then a else b) = if p then tg a else tg b := apply_ite _ _ _ _

theorem tgBase : Emits.Base (fun e => TGev e = false) :=
  .of_class tgSend tgRecv fun _ h => tgSend_kind h.kind_ne h.kind_ne

theorem tg_emits {c c' : C} (h : Emits (fun e => TGev e = false) c c') : tg c'.ev = tg c.ev :=
  h.filter_eq TGev (fun _ he => he)

theorem K_tar {c c' : C} (hs : (c'.s.ver, c'.s.isClient) = (c.s.ver, c.s.isClient)) (hst : Fp.Closes c c')
    (h : Emits (fun e => TGev e = false) c c') : K c' = (c'.s.tar, (K c).2) := by
  injection hs with h2 h4
  unfold K
  rw [h2, hst.connecting, h4, tg_emits h]

theorem K_closes {c c' : C} (hs : (c'.s.tar, c'.s.ver, c'.s.isClient) = (c.s.tar, c.s.ver, c.s.isClient))
    (hst : Fp.Closes c c') (h : Emits (fun e => TGev e = false) c c') : K c' = K c := by
  have ht : c'.s.tar = c.s.tar := congrArg Prod.fst hs
  rw [K_tar (congrArg Prod.snd hs) hst h, ht]
  rfl

theorem K_emits {c c' : C}
    (hs : (c'.s.tar, c'.s.ver, c'.s.status, c'.s.isClient) = (c.s.tar, c.s.ver, c.s.status, c.s.isClient))
    (h : Emits (fun e => TGev e = false) c c') : K c' = K c := by
  injection hs with h1 hs
  injection hs with h2 hs
  injection hs with h3 h4
  exact K_closes (by rw [h1, h2, h4]) (.inl h3) h

theorem K_inj {c : C} {t : Option TAR} {v : Nat} {q : Prop} {i : Bool} {l : List Ev} (h : K c = (t, v, q, i, l)) :
    c.s.tar = t ∧ c.s.ver = v ∧ (c.s.status = .connecting) = q ∧ c.s.isClient = i ∧ tg c.ev = l := by
  simp only [K, Prod.mk.injEq] at h
  exact h

theorem K_frame {T : List EvTag} {c c' : C}
    (hs : (c'.s.tar, c'.s.ver, c'.s.status, c'.s.isClient) = (c.s.tar, c.s.ver, c.s.status, c.s.isClient))
    (h : Appends T c c') (hT : ∀ t ∈ T, t ≠ .send ∧ t ≠ .recv := by decide) : K c' = K c :=
  K_emits hs (h.emits tgBase hT)

theorem k_err (c : C) (e : Nat) : K (c.err e) = K c := K_frame rfl (Fp.err_ev c e)

theorem k_cancelTimers (c : C) : K (cancelTimers c) = K c :=
  K_frame (by rw [Fp.cancelTimers_s]) (Fp.cancelTimers_ev c)

theorem k_sendPostProcess (c : C) : K (sendPostProcess c) = K c :=
  K_frame (by rw [Fp.sendPostProcess_s]) (Fp.sendPostProcess_ev c)

@[simp] theorem initConn_ev (c : C) (b : Bool) : (initConn c b).ev = c.ev := rfl
theorem k_releasePacketId (c : C) (id : Nat) : K (releasePacketId c id) = K c :=
  K_frame (by rw [Fp.releasePacketId_s]) (Fp.releasePacketId_ev c id)
theorem k_connectRecvProp (c : C) (id v : Nat) : K (connectRecvProp c id v) = K c :=
  K_frame (by rw [Fp.connectRecvProp_s]) (.of_ev_eq (T := []) (Fp.connectRecvProp_ev c id v))
theorem k_connackRecvProp (c : C) (id v : Nat) : K (connackRecvProp c id v) = K c :=
  K_frame (by rw [Fp.connackRecvProp_s]) (Fp.connackRecvProp_ev c id v)

theorem k_propsFold (f : C → Nat → Nat → C) (hf : ∀ c id v, K (f c id v) = K c) (c : C)
    (l : List (Nat × Nat)) : K (propsFold f c l) = K c := by
  induction l generalizing c with
  | nil => rfl
  | cons x rest ih => obtain ⟨i, v⟩ := x; rw [propsFold, ih, hf]
theorem k_fold_connectRecvProp (c : C) (l : List (Nat × Nat)) : K (propsFold connectRecvProp c l) = K c :=
  k_propsFold _ k_connectRecvProp c l
theorem k_fold_connackRecvProp (c : C) (l : List (Nat × Nat)) : K (propsFold connackRecvProp c l) = K c :=
  k_propsFold _ k_connackRecvProp c l

theorem k_psV5Disconnect (c : C) (p : Pkt) (h : tgSend p = false) : K (psV5Disconnect c p) = K c :=
  K_closes (by rw [Fp.psV5Disconnect_s]) (Fp.psV5Disconnect_mild c p).closes
    ((Fp.psV5Disconnect_orCloses tgBase.quiet c p fun _ => h).emits' tgBase)
theorem k_psV3Disconnect (c : C) (p : Pkt) (h : tgSend p = false) : K (psV3Disconnect c p) = K c :=
  K_closes (by rw [Fp.psV3Disconnect_s]) (Fp.psV3Disconnect_mild c p).closes
    ((Fp.psV3Disconnect_orCloses tgBase.quiet c p h).emits' tgBase)
theorem k_handleV3Error (c : C) (e : Nat) : K (handleV3Error c e) = K c := K_frame rfl (Fp.handleV3Error_ev c e)
theorem k_v5DisconnectOrClose (c : C) (p : Pkt) (h : tgSend p = false) : K (v5DisconnectOrClose c p) = K c :=
  K_closes (by rw [Fp.v5DisconnectOrClose_s]) (Fp.v5DisconnectOrClose_mild c p).closes
    ((Fp.v5DisconnectOrClose_orCloses tgBase.quiet c p fun _ => h).emits' tgBase)
theorem k_handleV5Error (c : C) (e : Nat) : K (handleV5Error c e) = K c :=
  K_closes (by rw [Fp.handleV5Error_s]) (Fp.handleV5Error_mild c e).closes
    ((Fp.handleV5Error_orCloses tgBase.quiet (tgBase.closing c) e).emits' tgBase)

/-! ## `send_stored`: the resent packets are the stored ones -/

/-- no stored packet is a v5.0 CONNECT / successful CONNACK (the store holds PUBLISH / PUBREL only:
    `C05_store_kinds`; `restore_packets` of the implementation takes `GenericStorePacket`s) -/
def StoreTG (s : St) : Prop := ∀ x ∈ s.store, tgSend x.2 = false

theorem k_sendStored (c : C) (hl : StoreTG c.s) : K (sendStored c) = K c :=
  K_emits (by rw [Fp.sendStored_s]) (Fp.sendStored_adds tgBase.quiet c fun y hy _ => hl y hy)

theorem k_resendStored (c : C) (hl : StoreTG c.s) : K (resendStored c) = K c :=
  resendStored_ind (Q := fun x => K x = K c) c (k_sendStored c hl)
    (fun h => by rw [k_sendPostProcess]; exact h)

theorem k_psV3Publish (c : C) (p : Pkt) (h : tgSend p = false) : K (psV3Publish c p) = K c :=
  K_emits (by rw [Fp.psV3Publish_s]) (Fp.psV3Publish_adds tgBase.quiet c p fun _ => h)
theorem k_psV5Publish (c : C) (p : Pkt) (hk : p.kind = .publish) : K (psV5Publish c p) = K c :=
  K_emits (by rw [Fp.psV5Publish_s]) (Fp.psV5Publish_adds tgBase.quiet c p
    (fun q _ ha _ => tgSend_kind (by rw [ha.kind, hk]; decide) (by rw [ha.kind, hk]; decide)))
theorem k_psV3Simple (c : C) (p : Pkt) (h : tgSend p = false) : K (psV3Simple c p) = K c :=
  K_emits (by rw [Fp.psV3Simple_s]) (Fp.psV3Simple_adds tgBase.quiet c p h)
theorem k_psV5Simple (c : C) (p : Pkt) (h : tgSend p = false) : K (psV5Simple c p) = K c :=
  K_emits (by rw [Fp.psV5Simple_s]) (Fp.psV5Simple_adds tgBase.quiet c p fun _ => h)
theorem k_psV5Puback (c : C) (p : Pkt) (h : tgSend p = false) : K (psV5Puback c p) = K c :=
  K_emits (by rw [Fp.psV5Puback_s]) (Fp.psV5Puback_adds tgBase.quiet c p fun _ => h)
theorem k_psV5Pubrec (c : C) (p : Pkt) (h : tgSend p = false) : K (psV5Pubrec c p) = K c :=
  K_emits (by rw [Fp.psV5Pubrec_s]) (Fp.psV5Pubrec_adds tgBase.quiet c p fun _ => h)
theorem k_psV5Pubcomp (c : C) (p : Pkt) (h : tgSend p = false) : K (psV5Pubcomp c p) = K c := k_psV5Puback c p h
theorem k_psPubrel (c : C) (p : Pkt) (h : tgSend p = false) : K (psPubrel c p) = K c :=
  K_emits (by rw [Fp.psPubrel_s]) (Fp.psPubrel_adds tgBase.quiet c p fun _ => h)
theorem k_psSubUnsub (c : C) (p : Pkt) (h : tgSend p = false) : K (psSubUnsub c p) = K c :=
  K_emits (by rw [Fp.psSubUnsub_s]) (Fp.psSubUnsub_adds tgBase.quiet c p fun _ _ => h)
theorem k_psPingreq (c : C) (p : Pkt) (h : tgSend p = false) : K (psPingreq c p) = K c :=
  K_emits (by rw [Fp.psPingreq_s]) (Fp.psPingreq_adds tgBase.quiet c p fun _ => h)
theorem k_psV5Auth (c : C) (p : Pkt) (h : tgSend p = false) : K (psV5Auth c p) = K c :=
  K_emits (by rw [Fp.psV5Auth_s]) (Fp.psV5Auth_adds tgBase.quiet c p fun _ => h)
theorem k_refuseSend (c : C) (e : Nat) (p : Pkt) : K (refuseSend c e p) = K c :=
  K_frame (by rw [Fp.refuseSend_s]) (Fp.refuseSend_ev c e p)

theorem k_processSend_other (c : C) (p : Pkt) (h1 : p.kind ≠ .connect) (h2 : p.kind ≠ .connack) :
    K (processSend c p) = K c := by
  have h : tgSend p = false := tgSend_kind h1 h2
  exact Fp.processSend_cases (Q := fun r => K r = K c) c p (fun _ hk => absurd hk h1) (fun _ hk => absurd hk h2)
    (fun _ _ => k_psV3Publish c p h) (fun _ _ => k_psV3Simple c p h) (fun _ _ => k_psV3Disconnect c p h)
    (fun _ _ => rfl) (fun _ => k_psPubrel c p h) (fun _ => k_psSubUnsub c p h) (fun _ => k_psPingreq c p h)
    (fun _ hk => absurd hk h1) (fun _ hk => absurd hk h2) (fun _ hk => k_psV5Publish c p hk)
    (fun _ _ => k_psV5Puback c p h) (fun _ _ => k_psV5Pubrec c p h) (fun _ _ => k_psV5Pubcomp c p h)
    (fun _ _ => k_psV5Disconnect c p h) (fun _ _ => k_psV5Auth c p h) (fun _ _ => k_psV5Simple c p h)

theorem k_push (c : C) (e : Ev) (he : TGev e = false) : K (c.push e) = K c :=
  K_emits rfl ((Emits.refl c).push he)

theorem k_prV3Publish (c : C) (x : Except Nat Pkt) (hx : ∀ p, x = .ok p → tgRecv p = false) :
    K (prV3Publish c x) = K c :=
  K_emits (by rw [Fp.prV3Publish_s]) ((Fp.prV3Publish_orCloses (tgBase.own c) trivial x hx).emits' tgBase)

/-- the receive table after the alias stage of `process_recv_v5_0_publish` for the parsed PUBLISH `p`:
    a binding is registered iff there is a table, the topic is non-empty and the alias lies within
    `1..=max` -/
def aliasTar (o : Option TAR) (p : Pkt) : Option TAR :=
  match o, p.alias with
  | some t, some a =>
    if !p.topic.isEmpty ∧ 1 ≤ a ∧ a ≤ t.max then some (t.insertOrUpdate p.topic a) else some t
  | o, _ => o

theorem aliasTar_max {o : Option TAR} {p : Pkt} {t' : TAR} (h : aliasTar o p = some t') :
    ∃ t, o = some t ∧ t'.max = t.max := by
  unfold aliasTar at h
  cases o with
  | none => cases h
  | some t =>
    refine ⟨t, rfl, ?_⟩
    cases ha : p.alias with
    | none => rw [ha] at h; cases h; rfl
    | some a =>
      rw [ha] at h
      exact Fp.ite_both (Q := fun r => r = some t' → t'.max = t.max) (fun e => by cases e; rfl) (fun e => by cases e; rfl) h

theorem prV5PublishAlias_tar (c : C) (p : Pkt) : (prV5PublishAlias c p).1.s.tar = aliasTar c.s.tar p := by
  -- the table stays unless `p` has a topic and an alias in the range of a table that exists
  have keep : (∀ a t, p.alias = some a → c.s.tar = some t → p.topic ≠ [] → a ≠ 0 → a ≤ t.max → False) →
      c.s.tar = aliasTar c.s.tar p := by
    intro h
    unfold aliasTar
    cases ht : c.s.tar with
    | none => rfl
    | some t =>
      cases ha : p.alias with
      | none => rfl
      | some a => exact (if_neg fun k => h a t ha ht (by simpa using k.1) (by omega) k.2.2).symm
  refine Fp.prV5PublishAlias_ind (Q := fun r => r.1.s.tar = aliasTar c.s.tar p) c p (fun g => ?_)
    (fun _ ha => keep fun _ _ h => nomatch ha.symm.trans h) (fun _ _ _ he _ _ _ _ _ _ => keep fun _ _ _ _ hn _ _ => hn he)
    (fun a t he ha ht h0 hm => ?_)
  · rw [Fp.handleV5Error_s]
    refine keep fun a t ha ht hn h0 hm => ?_
    rcases g with ⟨he, _⟩ | ⟨a', ha', h⟩ | ⟨_, _, he, _⟩
    · exact hn he
    · cases ha.symm.trans ha'
      have := h t ht
      omega
    · exact hn he
  · rw [ht]
    unfold aliasTar
    rw [ha]
    exact (if_pos ⟨by simpa using he, by omega, hm⟩).symm

theorem k_prV5Publish_err (c : C) (e : Nat) : K (prV5Publish c (.error e)) = K c :=
  Fp.ite_ind (Q := fun r => K r = K c) (fun _ => k_handleV5Error c e) (fun _ => k_err c e)

/-- `process_recv_v5_0_publish` of a parsed PUBLISH: only the receive table changes, and exactly as
    the alias stage says — also when the packet is then refused (Receive Maximum exceeded) -/
theorem k_prV5Publish (c : C) (p : Pkt) (hk : p.kind = .publish) :
    K (prV5Publish c (.ok p)) = (aliasTar c.s.tar p, (K c).2) := by
  rw [← prV5PublishAlias_tar c p, ← Fp.prV5Publish_tar c p]
  refine K_tar (by rw [Fp.prV5Publish_s])
    (Fp.prV5Publish_mild (S := fun _ => True) trivial trivial trivial c (.ok p)).closes
    ((Fp.prV5Publish_orCloses (tgBase.own c) (tgBase.closing c) (.ok p) fun q q' hq h => ?_).emits' tgBase)
  have hq' : q'.kind = .publish := (Fp.prV5PublishAlias_kind h).trans (Except.ok.inj hq ▸ hk)
  exact tgRecv_kind (by rw [hq']; decide) (by rw [hq']; decide)

/-! The acknowledgement and plain handlers; `hx`: the parsed packet is no CONNECT / CONNACK. -/

theorem k_vErr (c : C) (e : Nat) : K (vErr c e) = K c :=
  K_closes (by rw [Fp.vErr_s]) (Fp.vErr_mild c e).closes
    ((Fp.vErr_orCloses tgBase.quiet (tgBase.closing c) e).emits' tgBase)

/-- off their error path these handlers write nothing that `K` reads -/
theorem k_processed {c r : C} {x : Except Nat Pkt} (h : Fp.Processed (fun e => TGev e = false) c x r)
    (hx : ∀ p, x = .ok p → tgRecv p = false) : K r = K c := by
  cases h with
  | refused e => exact k_vErr c e
  | delivered p m hp hm hs => exact K_emits (by rw [push_s, hs]) (hm.push (hx p hp))

theorem k_prPuback (c : C) (x : Except Nat Pkt) (hx : ∀ p, x = .ok p → tgRecv p = false) :
    K (prPuback c x) = K c :=
  k_processed (Fp.prPuback_processed tgBase.quiet c x) hx
theorem k_prPubrec (c : C) (x : Except Nat Pkt) (hx : ∀ p, x = .ok p → tgRecv p = false) :
    K (prPubrec c x) = K c :=
  k_processed (Fp.prPubrec_processed tgBase.quiet c x fun _ _ _ _ => tg_mkAck _ _ _ _ nofun nofun) hx
theorem k_prPubrel (c : C) (x : Except Nat Pkt) (hx : ∀ p, x = .ok p → tgRecv p = false) :
    K (prPubrel c x) = K c :=
  k_processed (Fp.prPubrel_processed (N := True) (tgBase.own c) x fun _ _ _ => trivial) hx
theorem k_prPubcomp (c : C) (x : Except Nat Pkt) (hx : ∀ p, x = .ok p → tgRecv p = false) :
    K (prPubcomp c x) = K c :=
  k_processed (Fp.prPubcomp_processed tgBase.quiet c x) hx
theorem k_prPlain (c : C) (x : Except Nat Pkt) (hx : ∀ p, x = .ok p → tgRecv p = false) :
    K (prPlain c x) = K c :=
  k_processed (Fp.prPlain_processed tgBase.quiet c x) hx
theorem k_prSubUnsuback (c : C) (b : Bool) (x : Except Nat Pkt) (hx : ∀ p, x = .ok p → tgRecv p = false) :
    K (prSubUnsuback c b x) = K c :=
  k_processed (Fp.prSubUnsuback_processed tgBase.quiet c b x) hx
theorem k_prPingreq (c : C) (x : Except Nat Pkt) (hx : ∀ p, x = .ok p → tgRecv p = false) :
    K (prPingreq c x) = K c :=
  k_processed (Fp.prPingreq_processed (N := True) (tgBase.own c) x fun _ _ _ => trivial) hx
theorem k_prPingresp (c : C) (x : Except Nat Pkt) (hx : ∀ p, x = .ok p → tgRecv p = false) :
    K (prPingresp c x) = K c :=
  k_processed (Fp.prPingresp_processed tgBase.quiet c x) hx
theorem k_prDisconnect (c : C) (x : Except Nat Pkt) (hx : ∀ p, x = .ok p → tgRecv p = false) :
    K (prDisconnect c x) = K c :=
  k_processed (Fp.prDisconnect_processed tgBase.quiet c x) hx

theorem k_notifyTimerFired (c : C) (k : Timer) : K (notifyTimerFired c k) = K c :=
  K_closes (by rw [Fp.notifyTimerFired_s]) (Fp.notifyTimerFired_mild (S := fun _ => True) trivial c k).closes
    (Fp.notifyTimerFired_emits tgBase c k)
theorem k_setPingreqSendInterval (c : C) (d : Option Nat) : K (setPingreqSendInterval c d) = K c :=
  K_frame (by rw [Fp.setPingreqSendInterval_s]) (Fp.setPingreqSendInterval_ev c d)
theorem k_eraseStoredPublish (c : C) (id : Nat) : K (eraseStoredPublish c id) = K c :=
  K_frame (by rw [Fp.eraseStoredPublish_s]) (Fp.eraseStoredPublish_ev c id)
theorem k_restoreOne (c : C) (p : Pkt) : K (restoreOne c p) = K c :=
  K_frame (by rw [Fp.restoreOne_s]) (.of_ev_eq (T := []) (Fp.restoreOne_ev c p))
theorem k_restorePackets (ps : List Pkt) : ∀ c, K (restorePackets c ps) = K c := by
  induction ps with
  | nil => intro c; rfl
  | cons p rest ih => intro c; rw [restorePackets, ih, k_restoreOne]

/-! ## the status, exactly, for the helpers the CONNECT / CONNACK handlers use -/

@[simp] theorem sendPostProcess_status (c : C) : (sendPostProcess c).s.status = c.s.status := by
  rcases sendPostProcess_s_cases c with h | h <;> rw [h]
@[simp] theorem clearStoreRelated_status (c : C) : (clearStoreRelated c).s.status = c.s.status := rfl
@[simp] theorem sendStored_status (c : C) : (sendStored c).s.status = c.s.status := by
  rw [Fp.sendStored_s]
@[simp] theorem resendStored_status (c : C) : (resendStored c).s.status = c.s.status := by
  rcases resendStored_eq c with h | h <;> rw [h] <;> simp
@[simp] theorem connectSendProp_status (c : C) (l : List (Nat × Nat)) :
    (propsFold connectSendProp c l).s.status = c.s.status := by rw [Fp.propsFold_connectSendProp_s]
@[simp] theorem connackRecvProp_status (c : C) (l : List (Nat × Nat)) :
    (propsFold connackRecvProp c l).s.status = c.s.status := by rw [Fp.propsFold_connackRecvProp_s]

end MqttVerif.Conn.TarGhost
