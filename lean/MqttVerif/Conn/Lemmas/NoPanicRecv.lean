import MqttVerif.Conn.Lemmas.NoPanicSend
import MqttVerif.Conn.Lemmas.FootprintIdsRecv
/-!
# C05 helpers — the `process_recv_*` tree keeps `GoodV` for every parser result that is
well formed (`WfParsedT`), i.e. for arbitrary peer bytes

Every handler keeps `Sane` (the walks, which give the reason why each panic site is unreachable); `StoreInv` comes from
what a received packet does to the identifier group (`RecvOut.si`).
-/
namespace MqttVerif.Conn
open MqttVerif

/-- what the L1 parsers guarantee about a packet parsed for protocol version `v` from a frame
    whose packet-type nibble is `t` (hypothesis here, theorem at L1):
    * it is a packet of version `v`;
    * a QoS>0 PUBLISH carries a non-zero identifier (parsers after the fix of finding #8);
    * a CONNACK's Receive Maximum / Maximum Packet Size are non-zero (parser-validated);
    * Receive Maximum is a two-byte integer. -/
def WfParsedT (v t : Nat) (p : Pkt) : Prop :=
  p.ver = v ∧
  (t = 3 → p.qos > 0 → ∃ id, p.pid = some id ∧ id ≠ 0) ∧
  (t = 2 → ∀ k x, (k, x) ∈ p.props → (k = pRM ∨ k = pMPS) → x ≠ 0) ∧
  (∀ k x, (k, x) ∈ p.props → k = pRM → x ≤ 65535)

def WfParsed (v fh : Nat) (p : Pkt) : Prop := WfParsedT v (fh / 16) p

/-- the hypothesis on the parser carried by a `recv` op: *successful* results are well formed;
    nothing is assumed about which inputs succeed -/
def ParserOk (parse : Nat → Nat → List Nat → Except Nat Pkt) : Prop :=
  ∀ v fh data p, parse v fh data = .ok p → WfParsed v fh p

theorem propsFold_inv {Q : C → Prop} {f : C → Nat → Nat → C} {P : Nat → Nat → Prop}
    (hf : ∀ c id v, P id v → Q c → Q (f c id v)) {c : C} (h : Q c)
    (l : List (Nat × Nat)) (hl : ∀ x, x ∈ l → P x.1 x.2) : Q (propsFold f c l) := by
  induction l generalizing c with
  | nil => exact h
  | cons x rest ih =>
    exact ih (hf c x.1 x.2 (hl x List.mem_cons_self) h) fun y hy => hl y (List.mem_cons_of_mem _ hy)

theorem Sane.deliver {c : C} (h : Sane c) (p : Pkt) : Sane ((refreshPingreqRecv c).push (.recv p)) := h.refresh

theorem Sane.vErr {c : C} (h : Sane c) (e : Nat) : Sane (vErr c e) := h.of_fp (Fp.vErr_fp c e)

/-! ## acknowledgements -/

theorem Sane.ackIn {c : C} (h : Sane c) {x : Except Nat Pkt} {set : List Nat} {taken : Pkt → Nat → C}
    (ht : ∀ p, x = .ok p → p.pid.getD 0 ∈ set → Sane (taken p (p.pid.getD 0))) : Sane (Fp.ackIn c x set taken) :=
  Fp.ackIn_ind (fun e _ => h.vErr e) (fun _ _ _ => h.vErr _) fun p hx hid => (ht p hx hid).deliver p

/-- the exchange of `id` ends: the identifier is released (the **site** `releaseId` stands behind `is_used_id`).
    `h` comes last so that the goal decides `c`: `Sane` does not read the wait sets and the store. -/
theorem Sane.pubDone (p : Pkt) (id : Nat) {c : C} (h : Sane c) : Sane (Fp.pubDone c p id) :=
  Fp.ite_both (h.release id).dec (h.release id)

theorem prPuback_sane {c : C} (h : Sane c) (x : Except Nat Pkt) : Sane (prPuback c x) :=
  Fp.prPuback_eq c x ▸ h.ackIn fun p _ _ => Sane.pubDone p _ h

theorem prPubcomp_sane {c : C} (h : Sane c) (x : Except Nat Pkt) : Sane (prPubcomp c x) :=
  Fp.prPubcomp_eq c x ▸ h.ackIn fun p _ _ => Sane.pubDone p _ h

/-- the automatic PUBREL follows the removal of the identifier from `pubrec` and of its stored PUBLISH: nothing is
    stored under it (the `store.add().unwrap()` **site**) -/
theorem prPubrec_sane {c : C} {x : Except Nat Pkt} (h : Sane c)
    (hs : StoreInv c.s.ver c.s.store c.s.puback c.s.pubrec c.s.pubcomp) (hp : ∀ p, x = .ok p → p.ver = c.s.ver) :
    Sane (prPubrec c x) := by
  refine Fp.prPubrec_eq c x ▸ h.ackIn fun p hx hid => ?_
  have h1 : Sane { c with s := { c.s with
    pubrec := del (p.pid.getD 0) c.s.pubrec,
    store := storeErase p.ver .pubrec (p.pid.getD 0) c.s.store } } := h
  refine Fp.pubrecDone_cases (fun _ _ _ => psPubrel_sane h1 ?_) (fun _ _ => h1) (fun _ => (h1.release _).dec)
  rw [storeHas_false, hp p hx]
  exact storeErase_gone hs (.inr (.inl ⟨rfl, hid⟩))

theorem prSubUnsuback_sane {c : C} (h : Sane c) (isSub : Bool) (x : Except Nat Pkt) :
    Sane (prSubUnsuback c isSub x) := by
  rw [Fp.prSubUnsuback_eq]
  refine h.ackIn fun _ _ _ => Sane.release ?_ _
  exact Fp.ite_both h h

/-! ## PUBLISH -/

/-- the parser's guarantee used at the `packet_id().unwrap()` / `build().unwrap()` **sites** -/
def PubParsedOk (p : Pkt) : Prop := p.qos > 0 → ∃ id, p.pid = some id ∧ id ≠ 0

/-- an acknowledgement the library sends itself: the **site** `build().unwrap()` is unreachable for an identifier
    other than 0 -/
theorem Sane.autoAck {c : C} (h : Sane c) {id : Nat} {due : Prop} [Decidable due] {site : String} {send : C → C}
    (hid : due → id ≠ 0) (hs : ∀ m, Sane m → Sane (send m)) : Sane (Fp.autoAck c due site id send) :=
  Fp.autoAck_cases (fun _ => h) (fun hd h0 => absurd h0 (hid hd)) (fun _ _ => hs c h)

theorem prV3Publish_sane {c : C} {x : Except Nat Pkt} (h : Sane c) (hp : ∀ p, x = .ok p → PubParsedOk p) :
    Sane (prV3Publish c x) := by
  have v3 : ∀ (q : C → Pkt) (m : C), Sane m → Sane (psV3Simple m (q m)) :=
    fun q m h' => h'.of_fp (Fp.psV3Simple_fp m _)
  have nz : ∀ p id, x = .ok p → p.qos ≠ 0 → p.pid = some id → id ≠ 0 := fun p id hx hq hpid => by
    obtain ⟨_, e, hid⟩ := hp p hx (Nat.pos_of_ne_zero hq)
    cases hpid.symm.trans e
    exact hid
  have h2 : ∀ id, id ≠ 0 → Sane (Fp.prV3Qos2 c id) := fun id hid =>
    have h1 : Sane { c with s := { c.s with handled := ins id c.s.handled } } := h
    (h1.autoAck (fun _ => hid) (v3 _)).refresh
  refine Fp.prV3Publish_paths (fun _ _ => h) (fun p _ _ => h.deliver p) (fun p hx hq hn => ?_)
    (fun p id hx hq hpid => Sane.deliver (h.autoAck (fun _ => nz p id hx (by omega) hpid) (v3 _)) p)
    (fun p id hx hq _ hpid _ => h2 id (nz p id hx hq hpid)) (fun p id hx hq _ hpid _ => h2 id (nz p id hx hq hpid))
  obtain ⟨_, e, _⟩ := hp p hx (Nat.pos_of_ne_zero hq)
  exact nomatch hn.symm.trans e

theorem prvAck_sane {c : C} (h : Sane c) (qos id : Nat) (already : Prop) [Decidable already] (hid : qos > 0 → id ≠ 0) :
    Sane (prvAck c qos id already) :=
  (h.autoAck (fun hb => hid (by omega)) fun m h' => h'.of_fp (Fp.psV5Puback_fp m _)).autoAck
      (fun hb => hid (by omega)) fun m h' => h'.of_fp (Fp.psV5Pubrec_fp m _)

theorem prV5Publish_sane {c : C} {x : Except Nat Pkt} (h : Sane c) (hp : ∀ p, x = .ok p → PubParsedOk p) :
    Sane (prV5Publish c x) := by
  cases x with
  | error e =>
    unfold prV5Publish
    exact Fp.ite_both (h.of_fp (Fp.handleV5Error_fp c e)) h
  | ok p =>
    have ha : Sane (prV5PublishAlias c p).1 := h.of_fp (Fp.prV5PublishAlias_fp c p)
    have hw := hp p rfl
    rw [prV5Publish_eq]
    cases (prV5PublishAlias c p).2 with
    | none => exact ha
    | some p' =>
      refine Fp.ite_ind (fun hc => ?_) fun _ => Fp.ite_both (ha.of_fp (Fp.handleV5Error_fp _ _)) ?_
      · obtain ⟨id, e, _⟩ := hw hc.1
        rw [e] at hc
        exact nomatch hc.2
      · have h4 := Sane.refresh (prvAck_sane (ha.of_fp (Fp.prvBook_fp _ p.qos (p.pid.getD 0))) p.qos (p.pid.getD 0)
          (p.qos = 2 ∧ p.pid.getD 0 ∈ (prV5PublishAlias c p).1.s.handled) fun hq => by
            obtain ⟨id, e, hne⟩ := hw hq
            rw [e]
            exact hne)
        exact Fp.ite_both h4 h4

/-! ## CONNECT / CONNACK -/

theorem Sane.connectIn {c : C} (h : Sane c) (hh : Headroom c.s) {x : Except Nat Pkt} {busy : C} {nack : C → Nat → C}
    {settle : Pkt → C → C} (hb : Sane busy) (hn : ∀ m e, Sane m → Headroom m.s → Sane (nack m e))
    (hs : ∀ p, x = .ok p → ∀ m, Sane m → Sane (settle p m)) : Sane (Fp.connectIn c x busy nack settle) := by
  have h1 : Sane { c with s := { c.s with status := .connecting } } := h
  have ha : ∀ ka, Sane (Fp.accepting c ka) := fun _ => h1.init false
  exact Fp.connectIn_ind (fun _ => hb) (fun _ e _ => (hn _ e h1 hh).push _) fun _ p hp => (hs p hp _ (ha _)).deliver p

theorem prV3Connect_sane {c : C} (h : Sane c) (hb : Headroom c.s) (x : Except Nat Pkt) : Sane (prV3Connect c x) :=
  Fp.prV3Connect_eq c x ▸ h.connectIn hb h (fun _ _ hm hh => psV3Connack_sane hm hh _) fun _ _ _ hm => Fp.ite_both hm.clear hm

theorem connectRecvProp_sane {c : C} {id v : Nat} (hv : id = pRM → v ≤ 65535) (h : Sane c) :
    Sane (connectRecvProp c id v) := by
  unfold connectRecvProp
  exact Fp.ite_both (Fp.ite_ind (fun hne => h.setTas (.some (TasInv.new hne))) fun _ => h)
    (Fp.ite_ind (fun hid => h.setSendMax (.some (hv hid))) fun _ => Fp.ite_both h (Fp.ite_both (Fp.ite_both h h) h))

theorem prV5Connect_sane {c : C} {x : Except Nat Pkt} (h : Sane c) (hb : Headroom c.s)
    (hp : ∀ p, x = .ok p → ∀ y ∈ p.props, y.1 = pRM → y.2 ≤ 65535) : Sane (prV5Connect c x) :=
  Fp.prV5Connect_eq c x ▸ h.connectIn hb (h.of_fp (Fp.handleV5Error_fp c _)) (fun _ _ hm hh => psV5Connack_sane hm hh _)
    fun p hx _ hm => propsFold_inv (fun _ _ _ => connectRecvProp_sane) (Fp.ite_both hm.clear hm) _ (hp p hx)

theorem Sane.connackIn {c : C} (h : Sane c) (hb : Headroom c.s) {x : Except Nat Pkt} {busy : C} {bad : Nat → C}
    {props : Pkt → C → C} (hbusy : Sane busy) (he : ∀ e, Sane (bad e))
    (hp : ∀ p, x = .ok p → ∀ m, Sane m → Headroom m.s → Sane (props p m) ∧ Headroom (props p m).s) :
    Sane (Fp.connackIn c x busy bad props) := by
  have h1 := fun p hx => hp p hx { c with s := { c.s with status := .connected } } h hb
  exact Fp.connackIn_ind (fun _ => hbusy) (fun _ e _ => he e) (fun _ p _ _ => h.push _)
    (fun _ p hx _ _ => (resendStored_sane (h1 p hx).1 (h1 p hx).2).push _) (fun _ p hx _ _ => (h1 p hx).1.clear.push _)

theorem prV3Connack_sane {c : C} (h : Sane c) (hb : Headroom c.s) (x : Except Nat Pkt) : Sane (prV3Connack c x) :=
  Fp.prV3Connack_eq c x ▸ h.connackIn hb h (fun _ => h) fun _ _ _ hm hh => ⟨hm, hh⟩

/-- **sites `assert!(val != 0)`**: the parser has checked Receive Maximum and Maximum Packet Size -/
theorem connackRecvProp_sane {c : C} {id v : Nat}
    (hv : ((id = pRM ∨ id = pMPS) → v ≠ 0) ∧ (id = pRM → v ≤ 65535)) (h : Sane c) :
    Sane (connackRecvProp c id v) := by
  unfold connackRecvProp
  refine Fp.ite_both (Fp.ite_ind (fun hne => h.setTas (.some (TasInv.new (Nat.ne_of_gt hne)))) fun _ => h) ?_
  refine Fp.ite_ind (fun hid => ?_) fun _ => Fp.ite_ind (fun hid => ?_) fun _ => Fp.ite_both ?_ ?_
  · rw [if_neg (hv.1 (.inl hid))]
    exact h.setSendMax (.some (hv.2 hid))
  · rw [if_neg (hv.1 (.inr hid))]
    exact h
  · exact Fp.ite_both (Fp.ite_both (Fp.ite_both h h) h) h
  · exact Fp.ite_both (Fp.ite_both (Sane.clear (c := { c with s := { c.s with needStore := false } }) h) h) h

theorem prV5Connack_sane {c : C} {x : Except Nat Pkt} (h : Sane c) (hb : Headroom c.s)
    (hp : ∀ p, x = .ok p → ∀ y ∈ p.props, ((y.1 = pRM ∨ y.1 = pMPS) → y.2 ≠ 0) ∧ (y.1 = pRM → y.2 ≤ 65535)) :
    Sane (prV5Connack c x) := by
  rw [Fp.prV5Connack_eq]
  refine h.connackIn hb (h.of_fp (Fp.handleV5Error_fp c _)) (fun _ => h) fun p hx m hm hh => ?_
  refine ⟨propsFold_inv (fun _ _ _ => connackRecvProp_sane) hm _ (hp p hx), ?_⟩
  -- the properties leave the store alone or, with a Session Expiry Interval of 0, empty it
  obtain ⟨cleared, -, hr⟩ := Fp.propsFold_connackRecvProp_ids m p.props
  show (propsFold connackRecvProp m p.props).s.ids.store.length ≤ _
  rw [hr.ids]
  cases cleared
  · exact hh
  · exact Nat.zero_le _

/-! ## dispatch, `process_recv_packet`, `recv` -/

section
variable {cfg : Cfg} {s : St} {t : Nat} {y : Except Nat Pkt} {mps : Nat} {l : List IdPrim}

/-- `hv`: the parser gives a packet the version it was asked for (part of `ParserOk`) -/
theorem RecvOut.si (ho : RecvOut cfg s t y mps l) (h : SI s.ver s.ids) (hne : s.ver ≠ 0)
    (hv : ∀ p, y = .ok p → p.ver = s.ver) : SI s.ver (IdPrim.runAll l s.ids).1 := by
  cases ho with
  | keep => exact h
  | connect p => exact h.openConn p.clean
  | connack p cleared =>
    rw [IdPrim.runAll_append]
    cases cleared
    · exact h.established p.sp _ _
    · exact (SI.clear _ _).established p.sp _ _
  | ack p k id ht hx hid hw hk =>
    rw [hv p hx]
    exact (h.ack hw (hk.imp_right fun h' => h'.symm.imp And.left fun e => e)).released id
  | pubrec p id rel ht hx hid hw hok hu =>
    rw [IdPrim.runAll_append, hv p hx]
    have h1 := h.ack hw (.inr (.inl rfl))
    cases rel
    · exact h1
    · -- awaited by PUBREC, hence by no other response
      exact h1.begin (fun m => h.2.1 id m hw) (fun m => (mem_del.1 m).2 rfl) (h.2.2.2.1 id hw) (.inl rfl) s.needStore
        fun _ => ⟨rfl, hne, .inr rfl, respOf_pubrel rfl⟩
  | suback p k id ht hx hid hw hk =>
    rcases hk with rfl | rfl
    · exact SI.released (l := [.unwait .suback id]) h id
    · exact SI.released (l := [.unwait .unsuback id]) h id

end

/-- every handler keeps `Sane`; `StoreInv` comes from what the call does to the identifier group -/
theorem dispatchRecv_goodV {c : C} {t : Nat} {x : Except Nat Pkt} (h : GoodV c.s)
    (hb : Headroom c.s) (hp : ∀ p, x = .ok p → WfParsedT c.s.ver t p) :
    GoodV (dispatchRecv c t x).s := by
  have hver : ∀ p, x = .ok p → p.ver = c.s.ver := fun p e => (hp p e).1
  have hs := h.sane
  have hv : (dispatchRecv c t x).s.ver = c.s.ver := (Fp.dispatchRecv_fp c t x).view (·.ver)
  obtain ⟨l, ho, hr⟩ := Fp.dispatchRecv_ids c t x
  refine .of_sane ?_ ?_ (hv ▸ h.ver)
  · exact Fp.dispatchRecv_cases c t x (fun _ _ => prV3Connect_sane hs hb x)
      (fun _ _ => prV5Connect_sane hs hb fun p e y hy => (hp p e).2.2.2 y.1 y.2 hy) (fun _ _ => prV3Connack_sane hs hb x)
      (fun ht _ => prV5Connack_sane hs hb fun p e y hy => ⟨(hp p e).2.2.1 ht y.1 y.2 hy, (hp p e).2.2.2 y.1 y.2 hy⟩)
      (fun ht _ => prV3Publish_sane hs fun p e => (hp p e).2.1 ht)
      (fun ht _ => prV5Publish_sane hs fun p e => (hp p e).2.1 ht) (fun _ => prPuback_sane hs x)
      (fun _ => prPubrec_sane hs h.store hver) (fun _ => hs.of_fp (Fp.prPubrel_fp c x)) (fun _ => prPubcomp_sane hs x)
      (fun _ => hs.of_fp (Fp.prPlain_fp c x)) (fun _ => prSubUnsuback_sane hs true x)
      (fun _ => prSubUnsuback_sane hs false x) (fun _ => hs.of_fp (Fp.prPingreq_fp c x))
      (fun _ => hs.of_fp (Fp.prPingresp_fp c x)) (fun _ => hs.of_fp (Fp.prDisconnect_fp c x)) fun _ => hs
  · rw [hv]
    show SI c.s.ver (dispatchRecv c t x).s.ids
    rw [hr.ids]
    exact ho.si h.store h.ver_ne hver

theorem Good.setVer0 {s : St} (h : Good s) (h0 : s.ver = 0) {v : Nat} (hv : v = 4 ∨ v = 5) :
    GoodV { s with ver := v } := by
  obtain ⟨⟨h1, h2, h3⟩, _⟩ := h
  rw [h0] at h2
  exact ⟨⟨h1, h2.setVer v, h3⟩, hv⟩

theorem Good.clearFlags {s : St} (h : Good s) :
    Good { s with sendSet := false, recvSet := false, respSet := false } := by
  refine ⟨h.1, ?_⟩
  have := h.2
  unfold VerTimer at *
  rcases this with e | e | e
  · exact Or.inl e
  · exact Or.inr (Or.inl e)
  · exact Or.inr (Or.inr ⟨e.1, e.2.1, rfl, rfl, rfl⟩)

theorem v5DisconnectOrClose_good {c : C} (h : Good c.s) (d : Pkt) : Good (v5DisconnectOrClose c d).s := by
  by_cases hv : c.s.ver = 0
  · have hs : c.s.status ≠ .connected := by
      have := h.2; unfold VerTimer at this
      rcases this with e | e | e
      · omega
      · omega
      · rw [e.2.1]; simp
    rw [v5DisconnectOrClose_s_of_not_connected hs]; exact h
  · refine GoodV.good ?_
    rw [Fp.v5DisconnectOrClose_s]
    exact h.goodV hv

theorem processRecvPacket_good {c : C} {fh : Nat} {data : List Nat} {parse : Nat → Except Nat Pkt}
    (h : Good c.s) (hb : Headroom c.s) (hp : ∀ v p, parse v = .ok p → WfParsed v fh p) :
    Good (processRecvPacket c fh data parse).s := by
  -- the CONNECT that opens an undetermined connection is dispatched under the version it names
  have first : ∀ v, v = 4 ∨ v = 5 → c.s.ver = 0 → fh / 16 = 1 →
      Good (dispatchRecv { c with s := { c.s with ver := v } } 1 (parse v)).s :=
    fun v hv h0 ht => (dispatchRecv_goodV (c := { c with s := { c.s with ver := v } }) (t := 1)
      (h.setVer0 h0 hv) hb fun p e => ht ▸ hp v p e).good
  refine Fp.processRecvPacket_cases (Q := fun r : C => Good r.s) c fh data parse
    (fun _ => v5DisconnectOrClose_good h _) (fun _ _ _ => h) (fun _ _ h0 ht _ _ => ?_) (fun _ _ h0 ht _ _ => ?_)
    (fun _ _ h0 => (dispatchRecv_goodV (h.goodV h0) hb (fun p e => hp _ p e)).good)
  · have := first 4 (.inl rfl) h0 ht
    rwa [Fp.dispatchRecv_connect, if_pos rfl] at this
  · have := first 5 (.inr rfl) h0 ht
    rwa [Fp.dispatchRecv_connect, if_neg (by decide : ¬5 = 4)] at this

theorem recv_rest (c : C) (inp : List Nat) (parse : Nat → Nat → List Nat → Except Nat Pkt) :
    (recv c inp parse).2 = (Framing.feed c.s.pb inp).2.2 := by
  unfold recv
  rcases Framing.feed c.s.pb inp with ⟨pb, out, rest⟩
  dsimp only
  split <;> rfl

theorem recv_good {c : C} {inp : List Nat} {parse : Nat → Nat → List Nat → Except Nat Pkt}
    (h : Good c.s) (hb : Headroom c.s) (hp : ParserOk parse) : Good (recv c inp parse).1.s := by
  have hinv : Framing.Inv c.s.pb := h.1.2.2.2.2.1
  have h1 : ∀ pb out rest, Framing.feed c.s.pb inp = (pb, out, rest) → Good { c.s with pb := pb } := by
    intro pb out rest e
    refine h.setPb ?_
    rw [show pb = (Framing.feed c.s.pb inp).1 by rw [e], Framing.feed_eq_spec _ _ hinv]
    exact (Framing.feedSpec_props _ _ hinv).1
  refine Fp.recv_cases (Q := fun r : C => Good r.s) c inp parse (fun pb rest e => h1 pb _ rest e)
    (fun pb fh data rest e => ?_) (fun pb rest e => ?_)
  · exact processRecvPacket_good (c := { c with s := { c.s with pb := pb } }) (h1 pb _ rest e) hb fun v p e => hp v _ _ p e
  · rw [Fp.err_s, Fp.push_s, Fp.cancelTimers_s]
    exact (h1 pb _ rest e).clearFlags

end MqttVerif.Conn
