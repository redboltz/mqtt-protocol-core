import MqttVerif.Conn.Lemmas.FootprintApi
/-!
# Calls that reach a packet handler

A `recv` call that hands one complete frame to `dispatchRecv`; a `send` call of a CONNECT / CONNACK that reaches
`processSend`: the handler the call runs, with the checks of `recv` / `send` discharged once.
-/
namespace MqttVerif.Conn
open MqttVerif

/-- this `recv` call completes a frame `(fh, data)` that reaches the per-type handlers: within
    the local Maximum Packet Size, of a type the role may receive, protocol version known -/
structure Delivers (cfg : Cfg) (s : St) (inp : List Nat) (pb' : Framing.PB) (fh : Nat) (data : List Nat) : Prop where
  feed : ∃ rest, Framing.feed s.pb inp = (pb', some (.complete fh data), rest)
  size : totalSize data.length ≤ s.mpsRecv
  can : canReceive cfg s (fh / 16) = true
  ver : s.ver ≠ 0

theorem step_recv_of_delivers {cfg : Cfg} {s : St} {inp : List Nat} {pb' : Framing.PB} {fh : Nat} {data : List Nat}
    (h : Delivers cfg s inp pb' fh data) (parse : Nat → Nat → List Nat → Except Nat Pkt) :
    step cfg s (.recv inp parse) =
      dispatchRecv { cfg := cfg, s := { s with pb := pb' } } (fh / 16) (parse s.ver fh data) := by
  obtain ⟨⟨rest, hf⟩, hs, hc, hv⟩ := h
  exact step_recv_dispatch hf hs hc hv parse

theorem step_recv_undetermined {cfg : Cfg} {s : St} {inp : List Nat} {pb' : Framing.PB} {fh : Nat} {data rest : List Nat}
    (hf : Framing.feed s.pb inp = (pb', some (.complete fh data), rest)) (hs : totalSize data.length ≤ s.mpsRecv)
    (hc : canReceive cfg s 1 = true) (h0 : s.ver = 0) (ht : fh / 16 = 1) (hl : 7 ≤ data.length)
    {v : Nat} (hv : v = data.getD 6 0) (h45 : v = 4 ∨ v = 5) (parse : Nat → Nat → List Nat → Except Nat Pkt) :
    step cfg s (.recv inp parse) =
      dispatchRecv { cfg := cfg, s := { s with pb := pb', ver := v } } 1 (parse v fh data) := by
  have hc' : canReceive cfg { s with pb := pb' } (fh / 16) = true := ht ▸ hc
  rw [step_recv_feed hf]
  refine Fp.processRecvPacket_cases (Q := (· = _)) _ fh data _ (fun h => absurd hs (Nat.not_le.2 h)) (fun e _ hr => ?_)
    (fun _ _ _ _ _ h4 => ?_) (fun _ _ _ _ _ h5 => ?_) (fun _ _ hn => absurd h0 hn)
  · rcases hr with ⟨h, _⟩ | ⟨_, _, ⟨_, h⟩ | ⟨_, _, _, h4, h5⟩⟩
    · exact nomatch hc'.symm.trans h
    · exact absurd (h ht) (Nat.not_lt.2 hl)
    · omega
  · cases hv.trans h4
    rfl
  · cases hv.trans h5
    rfl

theorem roleMaySend_connect {r : Role} {p : Pkt} (hk : p.kind = .connect) (hr : r ≠ .server) :
    roleMaySend r p = true := by
  cases r <;> simp_all [roleMaySend]

theorem roleMaySend_connack {r : Role} {p : Pkt} (hk : p.kind = .connack) (hr : r ≠ .client) :
    roleMaySend r p = true := by
  cases r <;> simp_all [roleMaySend]

theorem step_send_connect {cfg : Cfg} {s : St} {p : Pkt} (hk : p.kind = .connect) (hv : p.ver = s.ver)
    (hr : cfg.role ≠ .server) :
    step cfg s (.send p) =
      if p.ver = 4 then psV3Connect { cfg := cfg, s := s } p else psV5Connect { cfg := cfg, s := s } p := by
  rw [step_send_eq hv (roleMaySend_connect hk hr), processSend, hk]

theorem step_send_connack {cfg : Cfg} {s : St} {p : Pkt} (hk : p.kind = .connack) (hv : p.ver = s.ver)
    (hr : cfg.role ≠ .client) :
    step cfg s (.send p) =
      if p.ver = 4 then psV3Connack { cfg := cfg, s := s } p else psV5Connack { cfg := cfg, s := s } p := by
  rw [step_send_eq hv (roleMaySend_connack hk hr), processSend, hk]

theorem sizeOk_of_le {c : C} {p : Pkt} (h : p.sz c.cfg.pw ≤ c.s.mpsSend) : sizeOk c p = true := by
  simp only [sizeOk, Bool.not_eq_true', decide_eq_false_iff_not]; omega

end MqttVerif.Conn
