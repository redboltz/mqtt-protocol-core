import MqttVerif.Conn.Lemmas.Timers
import MqttVerif.Conn.Lemmas.FootprintApi
/-!
# Helper lemmas for C15: `process_recv_*`, the remaining public calls, `step`

The handlers of the packets that are not CONNECT, CONNACK, PINGRESP or DISCONNECT all end in one of the
ways listed by `Recvd`, and so does every refusal; between the start of the call and the re-arm of the receive
timer they only make automatic responses (`Auto`: steps of shape `Sent`).  A CONNECT on a `disconnected`
connection ends as `Welcomed` says, a CONNACK on one that is not `connected` as `Greeted` says; PINGRESP disarms
the response timer and DISCONNECT, like a framing error, every timer.  `dispatchRecv_walk` and `recv_walk` put
these together, and every property of C15 that speaks of `recv` goes through `recv_walk`.
-/
set_option linter.unusedVariables false
namespace MqttVerif.Conn
open MqttVerif Mon

@[simp] theorem anyReset_cancel1 (k : Timer) : anyReset [.timerCancel k] = false := rfl
@[simp] theorem anyReset_reset1 (k : Timer) (ms : Nat) : anyReset [.timerReset k ms] = true := rfl

/-! ## the shape of a receive handler -/

inductive Auto (c : C) : C → Prop
  | refl : Auto c c
  | step {m r : C} (h : Auto c m) (k : Sent m r) : Auto c r

theorem Auto.fr {c m r : C} (h : Auto c m) (k : TFr quietT m r) : Auto c r := h.step (.quiet k)

theorem Auto.autoAck {c m : C} (h : Auto c m) {due : Prop} [Decidable due] {site : String} {id : Nat} {send : C → C}
    (hs : ∀ x, Sent x (send x)) : Auto c (Fp.autoAck m due site id send) :=
  Fp.autoAck_cases (fun _ => h) (fun _ _ => (h.fr ((TFr.refl _ m).setPanic _)).step (hs _)) (fun _ _ => h.step (hs _))

theorem Inv.auto {a P c r} (h : Inv a P c) (k : Auto c r) : Inv a P r := by
  induction k with
  | refl => exact h
  | step _ s ih => exact ih.sent s

inductive Recvd (c : C) : C → Prop
  /-- refused: the error is reported last, after the connection has been ended if the error calls for it -/
  | refused {m x : C} (k : TFr quietT c m) (h : Ended m x) (e : Nat) : Recvd c (x.err e)
  /-- a panic site (C05) -/
  | panic (m : C) (site : String) (k : TFr quietT c m) : Recvd c (m.setPanic site)
  /-- accepted: `refresh_pingreq_recv` runs immediately before the notification -/
  | accepted (m : C) (p : Pkt) (k : Auto c m) : Recvd c ((refreshPingreqRecv m).push (.recv p))
  /-- a QoS 2 duplicate: answered and re-armed, not notified again -/
  | duplicate (m : C) (k : Auto c m) : Recvd c (refreshPingreqRecv m)

theorem Recvd.err (c : C) (e : Nat) : Recvd c (c.err e) := .refused (.refl _ c) (.kept (.refl _ c)) e

theorem Recvd.v3err (c : C) (e : Nat) : Recvd c (handleV3Error c e) :=
  .refused (.refl _ c) (.kept ((TFr.refl _ c).push .close (by decide))) e

theorem Recvd.v5err {c m : C} (k : TFr quietT c m) (e : Nat) : Recvd c (handleV5Error m e) :=
  .refused k (v5DisconnectOrClose_ended m _) e

theorem Recvd.vErr (c : C) (e : Nat) : Recvd c (vErr c e) :=
  Fp.ite_ind (fun _ => .v3err c e) (fun _ => .v5err (.refl _ c) e)

theorem Recvd.inv {a P c r} (h : Inv0 a P c) (k : Recvd c r) : Inv a P r := by
  cases k with
  | refused k x e => exact ((h.fr k).ended x).inv.err e
  | panic m site k => exact h.inv.fr (k.setPanic site)
  | accepted m p k => exact (refresh_inv (h.inv.auto k)).push _ rfl
  | duplicate m k => exact refresh_inv (h.inv.auto k)

theorem prV3Publish_recvd (c : C) (pp : Except Nat Pkt) : Recvd c (prV3Publish c pp) :=
  have v3 : ∀ (q : C → Pkt) (x : C), Sent x (psV3Simple x (q x)) := fun q x => psV3Simple_sent x _
  Fp.prV3Publish_paths (fun e _ => .v3err c e) (fun p _ _ => .accepted c p .refl) (fun _ _ _ _ => .panic c _ (.refl _ c))
    (fun p _ _ _ _ => .accepted _ p (Auto.refl.autoAck (v3 _)))
    (fun p _ _ _ _ _ _ => .accepted _ p ((Auto.refl.fr (TFr.refl _ c).upd).autoAck (v3 _)))
    (fun _ _ _ _ _ _ _ => .duplicate _ ((Auto.refl.fr (TFr.refl _ c).upd).autoAck (v3 _)))

/-- the alias stage of a received v5.0 PUBLISH: refused, or only the alias map has changed -/
inductive AliasOut (c : C) : C × Option Pkt → Prop
  | bad : AliasOut c (handleV5Error c eAliasInvalid, none)
  | ok (m : C) (p : Pkt) (k : TFr quietT c m) : AliasOut c (m, some p)

theorem prV5PublishAlias_out (c : C) (p : Pkt) : AliasOut c (prV5PublishAlias c p) :=
  Fp.prV5PublishAlias_cases c p .bad (fun c' p' hc he hs => .ok c' p' (.of_eqs hc he (by rw [hs]; rfl)))

theorem prvAck_auto {c m : C} (h : Auto c m) (qos id : Nat) (already : Prop) [Decidable already] :
    Auto c (prvAck m qos id already) :=
  (h.autoAck fun x => psV5Puback_sent x _).autoAck fun x => psV5Pubrec_sent x _

theorem prV5Publish_recvd (c : C) (pp : Except Nat Pkt) : Recvd c (prV5Publish c pp) := by
  cases pp with
  | error e =>
    unfold prV5Publish
    exact Fp.ite_ind (fun _ => .v5err (.refl _ c) e) (fun _ => .err c e)
  | ok p =>
    have ha := prV5PublishAlias_out c p
    rw [prV5Publish_eq]
    generalize prV5PublishAlias c p = r at ha ⊢
    cases ha with
    | bad => exact .v5err (.refl _ c) _
    | ok m p' k =>
      refine Fp.ite_ind (fun _ => Recvd.panic m _ k) (fun _ => Fp.ite_ind (fun _ => Recvd.v5err k _) (fun _ => ?_))
      have a := prvAck_auto (Auto.refl.fr (k.fp (Fp.prvBook_fp m p.qos (p.pid.getD 0)))) p.qos (p.pid.getD 0)
        (p.qos = 2 ∧ p.pid.getD 0 ∈ m.s.handled)
      exact Fp.ite_ind (fun _ => .accepted _ p' a) (fun _ => .duplicate _ a)

theorem Recvd.ackIn (c : C) (x : Except Nat Pkt) (set : List Nat) {taken : Pkt → Nat → C}
    (ht : ∀ p id, Auto c (taken p id)) : Recvd c (Fp.ackIn c x set taken) :=
  Fp.ackIn_ind (fun e _ => .vErr c e) (fun _ _ _ => .vErr c _) fun p _ _ => .accepted _ p (ht p _)

theorem pubDone_auto {c m : C} (k : TFr quietT c m) (p : Pkt) (id : Nat) : Auto c (Fp.pubDone m p id) :=
  Auto.refl.fr (k.fp (Fp.pubDone_fp m p id))

theorem pubrecDone_auto {c m : C} (k : TFr quietT c m) (p : Pkt) (id : Nat) : Auto c (Fp.pubrecDone m p id) :=
  Fp.pubrecDone_cases (fun _ _ _ => (Auto.refl.fr k).step (psPubrel_sent m _)) (fun _ _ => Auto.refl.fr k)
    (fun _ => Auto.refl.fr ((k.fp (Fp.releaseIfUsed_fp ..)).fp (Fp.decSendCount_fp _)))

theorem prPuback_recvd (c : C) (pp : Except Nat Pkt) : Recvd c (prPuback c pp) :=
  Fp.prPuback_eq c pp ▸ .ackIn c pp _ fun p _ => pubDone_auto (TFr.refl _ c).upd p _

theorem prPubcomp_recvd (c : C) (pp : Except Nat Pkt) : Recvd c (prPubcomp c pp) :=
  Fp.prPubcomp_eq c pp ▸ .ackIn c pp _ fun p _ => pubDone_auto (TFr.refl _ c).upd p _

theorem prPlain_recvd (c : C) (pp : Except Nat Pkt) : Recvd c (prPlain c pp) := by
  cases pp with
  | error e => exact .vErr c e
  | ok p => exact .accepted c p .refl

theorem prSubUnsuback_recvd (c : C) (b : Bool) (pp : Except Nat Pkt) : Recvd c (prSubUnsuback c b pp) :=
  Fp.prSubUnsuback_eq c b pp ▸ .ackIn c pp _ fun _ _ =>
    Auto.refl.fr ((TFr.ite (TFr.refl _ c).upd (TFr.refl _ c).upd).fp (Fp.releaseIfUsed_fp ..))

theorem prPubrec_recvd (c : C) (pp : Except Nat Pkt) : Recvd c (prPubrec c pp) :=
  Fp.prPubrec_eq c pp ▸ .ackIn c pp _ fun p _ => pubrecDone_auto (TFr.refl _ c).upd p _

theorem prPubrel_recvd (c : C) (pp : Except Nat Pkt) : Recvd c (prPubrel c pp) := by
  unfold prPubrel
  cases pp with
  | error e => exact .vErr c e
  | ok p =>
    dsimp -zeta only
    extract_lets id removed s1 c1 c2
    have a1 : Auto c c1 := Auto.refl.fr (TFr.refl _ c).upd
    have a2 : Auto c c2 := by
      refine Fp.ite_ind (fun _ => ?_) (fun _ => a1)
      exact Fp.ite_ind (fun _ => a1.step (psV3Simple_sent c1 _))
        (fun _ => Fp.ite_ind (fun _ => a1.step (psV5Puback_sent c1 _)) (fun _ => a1.step (psV5Puback_sent c1 _)))
    exact .accepted c2 p a2

theorem prPingreq_recvd (c : C) (pp : Except Nat Pkt) : Recvd c (prPingreq c pp) := by
  unfold prPingreq
  cases pp with
  | error e => exact .vErr c e
  | ok p =>
    dsimp -zeta only
    extract_lets c1
    have a1 : Auto c c1 := by
      refine Fp.ite_ind (fun _ => ?_) (fun _ => .refl)
      exact Fp.ite_ind (fun _ => Auto.refl.step (psV3Simple_sent c _)) (fun _ => Auto.refl.step (psV5Simple_sent c _))
    exact .accepted c1 p a1

/-! ## CONNECT and CONNACK received -/

/-- the keep-alive receive timeout a server derives from CONNECT: 1.5 × keep-alive, in ms -/
def recvTimeoutOf (keepAlive : Nat) : Nat := keepAlive * 1000 * 3 / 2

/-- how `prV…Connect` ends on a connection that is `disconnected`: a CONNECT that cannot be parsed is answered by a
    refusing CONNACK; a parsed one is delivered on the initialised connection, once the session and the v5.0
    properties are settled (a frame) -/
inductive Welcomed (c : C) : Except Nat Pkt → C → Prop
  | refused3 (e : Nat) : Welcomed c (.error e)
      ((psV3Connack { c with s := { c.s with status := .connecting } } (mkV3Connack (v3ConnectErrRc e))).err e)
  | refused5 (e : Nat) : Welcomed c (.error e)
      ((psV5Connack { c with s := { c.s with status := .connecting } } (mkV5Connack (v5ConnectErrRc e))).err e)
  | accepted (p : Pkt) (m : C) (k : TFr [] (Fp.accepting c p.keepAlive) m) :
      Welcomed c (.ok p) ((refreshPingreqRecv m).push (.recv p))

/-- a received CONNECT of either version: `nack` refuses as `Welcomed` says and `settle` is a frame -/
theorem connectIn_cases {Q : C → Prop} {c : C} {pp : Except Nat Pkt} {busy : C} {nack : C → Nat → C}
    {settle : Pkt → C → C}
    (hn : ∀ e, Welcomed c (.error e) ((nack { c with s := { c.s with status := .connecting } } e).err e))
    (hs : ∀ p {a m}, TFr [] a m → TFr [] a (settle p m)) (hbusy : c.s.status ≠ .disconnected → Q busy)
    (fresh : c.s.status = .disconnected → ∀ r, Welcomed c pp r → Q r) : Q (Fp.connectIn c pp busy nack settle) :=
  Fp.connectIn_ind hbusy (fun h e he => fresh h _ (he ▸ hn e))
    (fun h p hp => fresh h _ (hp ▸ .accepted p _ (hs p (.refl _ _))))

theorem prV3Connect_cases {Q : C → Prop} (c : C) (pp : Except Nat Pkt)
    (busy : c.s.status ≠ .disconnected → Q (handleV3Error c eProtocol))
    (fresh : c.s.status = .disconnected → ∀ r, Welcomed c pp r → Q r) : Q (prV3Connect c pp) :=
  Fp.prV3Connect_eq c pp ▸ connectIn_cases .refused3 (fun _ _ _ k => TFr.ite k.upd k.upd) busy fresh

theorem prV5Connect_cases {Q : C → Prop} (c : C) (pp : Except Nat Pkt)
    (busy : c.s.status ≠ .disconnected → Q (handleV5Error c eProtocol))
    (fresh : c.s.status = .disconnected → ∀ r, Welcomed c pp r → Q r) : Q (prV5Connect c pp) :=
  Fp.prV5Connect_eq c pp ▸ connectIn_cases .refused5
    (fun _ _ _ k => (TFr.ite k.upd k).fp (Fp.propsFold_connectRecvProp_fp ..)) busy fresh

/-- how a CONNACK is delivered on a connection that is not `connected`: as it is when it refuses; one with reason code 0
    establishes the connection, the properties `l` of a v5.0 CONNACK applied and the session resumed or cleared -/
inductive Greeted (c : C) : C → Prop
  | declined (p : Pkt) : Greeted c (c.push (.recv p))
  | established (p : Pkt) (l : List (Nat × Nat)) : Greeted c
      ((if p.sp then resendStored (propsFold connackRecvProp { c with s := { c.s with status := .connected } } l)
        else clearStoreRelated (propsFold connackRecvProp { c with s := { c.s with status := .connected } } l)).push
        (.recv p))

/-- a received CONNACK of either version: what `props` applies is a list `l p` of CONNACK properties -/
theorem connackIn_cases {Q : C → Prop} {c : C} {pp : Except Nat Pkt} {busy : C} {bad : Nat → C} {props : Pkt → C → C}
    (l : Pkt → List (Nat × Nat)) (hb : Recvd c busy) (he : ∀ e, Recvd c (bad e))
    (hp : ∀ p m, props p m = propsFold connackRecvProp m (l p)) (busy' : ∀ r, Recvd c r → Q r)
    (fresh : c.s.status ≠ .connected → ∀ r, Greeted c r → Q r) : Q (Fp.connackIn c pp busy bad props) := by
  refine Fp.connackIn_ind (fun _ => busy' _ hb) (fun _ e _ => busy' _ (he e)) (fun hs p _ _ => fresh hs _ (.declined p))
    (fun hs p _ _ hsp => fresh hs _ ?_) (fun hs p _ _ hsp => fresh hs _ ?_)
  · have g := Greeted.established (c := c) p (l p)
    rwa [if_pos hsp, ← hp] at g
  · have g := Greeted.established (c := c) p (l p)
    rwa [if_neg (Bool.eq_false_iff.1 hsp), ← hp] at g

theorem prV3Connack_cases {Q : C → Prop} (c : C) (pp : Except Nat Pkt) (busy : ∀ r, Recvd c r → Q r)
    (fresh : c.s.status ≠ .connected → ∀ r, Greeted c r → Q r) : Q (prV3Connack c pp) :=
  Fp.prV3Connack_eq c pp ▸ connackIn_cases (fun _ => []) (.v3err c _) (.v3err c) (fun _ _ => rfl) busy fresh

theorem prV5Connack_cases {Q : C → Prop} (c : C) (pp : Except Nat Pkt) (busy : ∀ r, Recvd c r → Q r)
    (fresh : c.s.status ≠ .connected → ∀ r, Greeted c r → Q r) : Q (prV5Connack c pp) :=
  Fp.prV5Connack_eq c pp ▸ connackIn_cases Pkt.props (.v5err (.refl _ c) _) (.err c) (fun _ _ => rfl) busy fresh

/-! ## the walks through `dispatchRecv` and `recv` -/

/-- CONNECT and CONNACK in their own shapes; PINGRESP disarms the response timer, DISCONNECT every timer; every other
    handler, and every refusal, ends in one of the ways of `Recvd` -/
theorem dispatchRecv_walk {Q : C → Prop} (c : C) (t : Nat) (pp : Except Nat Pkt)
    (connect : t = 1 → c.s.status = .disconnected → ∀ r, Welcomed c pp r → Q r)
    (connack : t = 2 → c.s.status ≠ .connected → ∀ r, Greeted c r → Q r)
    (pingresp : t = 13 → ∀ p, Q ((disarm c .pingrespRecv).push (.recv p)))
    (silenced : t = 14 → ∀ r, TFr [.recv, .close, .error] (cancelTimers c) r → Q r)
    (rest : ∀ r, Recvd c r → Q r) : Q (dispatchRecv c t pp) := by
  refine Fp.dispatchRecv_cases c t pp (fun h _ => prV3Connect_cases c pp (fun _ => rest _ (.v3err c _)) (connect h))
    (fun h _ => prV5Connect_cases c pp (fun _ => rest _ (.v5err (.refl _ c) _)) (connect h)) (fun h _ => prV3Connack_cases c pp rest (connack h))
    (fun h _ => prV5Connack_cases c pp rest (connack h))
    (fun _ _ => rest _ (prV3Publish_recvd c pp)) (fun _ _ => rest _ (prV5Publish_recvd c pp))
    (fun _ => rest _ (prPuback_recvd c pp)) (fun _ => rest _ (prPubrec_recvd c pp))
    (fun _ => rest _ (prPubrel_recvd c pp)) (fun _ => rest _ (prPubcomp_recvd c pp))
    (fun _ => rest _ (prPlain_recvd c pp)) (fun _ => rest _ (prSubUnsuback_recvd c true pp))
    (fun _ => rest _ (prSubUnsuback_recvd c false pp)) (fun _ => rest _ (prPingreq_recvd c pp))
    (fun h => ?_) (fun h => ?_) (fun _ => rest _ (.err c _))
  · cases pp with
    | error e => exact rest _ (.vErr c e)
    | ok p => exact pingresp h p
  · cases pp with
    | error e => exact rest _ (.vErr c e)
    | ok p => exact silenced h _ ((TFr.refl _ _).push (.recv p) List.mem_cons_self)

theorem dispatchRecv_connect (c : C) (pp : Except Nat Pkt) (hs : c.s.status = .disconnected) :
    Welcomed c pp (dispatchRecv c 1 pp) :=
  Fp.ite_ind (Q := Welcomed c pp) (fun _ => prV3Connect_cases c pp (fun h => absurd hs h) (fun _ _ k => k))
    (fun _ => prV5Connect_cases c pp (fun h => absurd hs h) (fun _ _ k => k))

theorem dispatchRecv_recvd (c : C) (t : Nat) (pp : Except Nat Pkt)
    (ht : t ≠ 1 ∧ t ≠ 2 ∧ t ≠ 13 ∧ t ≠ 14) : Recvd c (dispatchRecv c t pp) :=
  dispatchRecv_walk c t pp (fun h => absurd h ht.1) (fun h => absurd h ht.2.1) (fun h => absurd h ht.2.2.1)
    (fun h => absurd h ht.2.2.2) (fun _ k => k)

/-- `recv`, relative to the context `c'` in which the frame is handled (`c` with the bytes consumed and possibly the
    protocol version fixed): nothing complete yet (`idle`); a framing error silences the timers like a DISCONNECT -/
theorem recv_walk {Q : C → Prop} (c : C) (inp : List Nat) (parse : Nat → Nat → List Nat → Except Nat Pkt)
    (idle : ∀ c', TFr [] c c' → Q c')
    (connect : ∀ c' pp, TFr [] c c' → c'.s.status = .disconnected → ∀ r, Welcomed c' pp r → Q r)
    (connack : ∀ c', TFr [] c c' → c'.s.status ≠ .connected → ∀ r, Greeted c' r → Q r)
    (pingresp : ∀ c', TFr [] c c' → ∀ p, Q ((disarm c' .pingrespRecv).push (.recv p)))
    (silenced : ∀ c', TFr [] c c' → ∀ r, TFr [.recv, .close, .error] (cancelTimers c') r → Q r)
    (rest : ∀ c', TFr [] c c' → ∀ r, Recvd c' r → Q r) : Q (recv c inp parse).1 := by
  have fr : ∀ f : St → St, (∀ s, tview (f s) = tview s) → TFr [] c { c with s := f c.s } :=
    fun f hf => .of_eqs rfl rfl (hf _)
  refine Fp.recv_cases c inp parse (fun pb _ _ => idle _ (fr (fun s => { s with pb := pb }) (fun _ => rfl)))
    (fun pb fh data _ _ => ?_) (fun pb _ _ => silenced _ (fr (fun s => { s with pb := pb }) (fun _ => rfl)) _
      (((TFr.refl _ _).push .close (by decide)).err _))
  have k := fr (fun s => { s with pb := pb }) (fun _ => rfl)
  have k4 := fr (fun s => { s with pb := pb, ver := 4 }) (fun _ => rfl)
  have k5 := fr (fun s => { s with pb := pb, ver := 5 }) (fun _ => rfl)
  exact Fp.processRecvPacket_cases _ fh data _
    (fun _ => rest _ k _ (.refused (.refl _ _) (v5DisconnectOrClose_ended _ _) _)) (fun e _ _ => rest _ k _ (.err _ e))
    (fun _ _ _ _ _ _ => prV3Connect_cases _ _ (fun _ => rest _ k4 _ (.v3err _ _)) (connect _ _ k4))
    (fun _ _ _ _ _ _ => prV5Connect_cases _ _ (fun _ => rest _ k5 _ (.v5err (.refl _ _) _)) (connect _ _ k5))
    (fun _ _ _ => dispatchRecv_walk _ _ _ (fun _ => connect _ _ k) (fun _ => connack _ k) (fun _ => pingresp _ k)
      (fun _ => silenced _ k) (rest _ k))

/-! ## the invariant through `recv` -/

theorem Welcomed.inv {a P c pp r} (h : Inv0 a P c) (k : Welcomed c pp r) : Inv a P r := by
  have h1 := h.setStatus .connecting connecting_ne
  cases k with
  | refused3 e => exact (psV3Connack_inv h1 _).err e
  | refused5 e => exact (psV5Connack_inv h1 _).err e
  | accepted p m k =>
    have h2 : Inv a P (Fp.accepting c p.keepAlive) := h.inv.frame rfl rfl (fun q => absurd q connecting_ne)
    exact (refresh_inv (h2.fr k)).push _ rfl

/-- fix 999e935: `send_stored` followed, when something was resent, by the keep-alive re-arm -/
theorem resendStored_inv {a P c} (h : Inv a P c) (hs : c.s.status ≠ .disconnected) :
    Inv a P (resendStored c) :=
  have k : TFr sendT c (sendStored c) := (TFr.refl _ c).fp (Fp.sendStored_fp c)
  resendStored_ind (Q := fun x => Inv a P x) c (h.fr k) (fun h' => spp_inv h' (fun q => hs (k.status.symm.trans q)))

/-- one property of a received CONNACK (Server Keep Alive arms or disarms the PINGREQ timer) -/
theorem connackRecvProp_keeps {a P} (c : C) (id v : Nat) : Keeps a P c (connackRecvProp c id v) := by
  have panicThen : ∀ (b : Prop) [Decidable b] (x : String) (f : St → St), (∀ s, tview (f s) = tview s) →
      TFr [] c { (if b then c.setPanic x else c) with s := f (if b then c.setPanic x else c).s } :=
    fun b _ x f hf => (TFr.ite (p := b) ((TFr.refl _ c).setPanic x) (.refl _ c)).upd rfl (hf _)
  unfold connackRecvProp
  refine Fp.ite_ind (fun _ => .fr (TFr.ite (TFr.refl _ c).upd (.refl _ c))) (fun _ => Fp.ite_ind
    (fun _ => .fr (panicThen _ _ (fun s => { s with sendMax := some v }) (fun _ => rfl))) (fun _ => Fp.ite_ind
    (fun _ => .fr (panicThen _ _ (fun s => { s with mpsSend := v }) (fun _ => rfl))) (fun _ => Fp.ite_ind (fun _ => ?_)
    (fun _ => Fp.ite_ind (fun _ => .fr (TFr.ite (TFr.refl _ c).upd (TFr.refl _ c).upd)) (fun _ => .refl c)))))
  refine Keeps.trans (m := { c with s := { c.s with serverKeepAliveMs := some (v * 1000) } }) .upd ?_
  exact Fp.ite_ind (fun _ => Fp.ite_ind (fun _ => .disarm _ .pingreqSend) (fun _ => .arm _ .pingreqSend _)) (fun _ => .refl _)

theorem Greeted.inv {a P c r} (h : Inv0 a P c) (k : Greeted c r) : Inv a P r := by
  cases k with
  | declined p => exact h.inv.push _ rfl
  | established p l =>
    have k := Keeps.fold (a := a) (P := P) connackRecvProp_keeps { c with s := { c.s with status := .connected } } l
    have h1 := k.2 connected_ne' (h.inv.setStatus .connected connected_ne')
    have hs := fun q => connected_ne' (k.1.symm.trans q)
    exact Inv.push (Fp.ite_ind (fun _ => resendStored_inv h1 hs) (fun _ => h1.fr (T := []) (TFr.refl _ _).upd)) _ rfl

theorem recv_inv {a P c} (h : Inv0 a P c) (inp : List Nat)
    (parse : Nat → Nat → List Nat → Except Nat Pkt) : Inv a P (recv c inp parse).1 :=
  recv_walk c inp parse (fun _ k => h.inv.fr k) (fun _ _ k _ _ w => w.inv (h.fr k)) (fun _ k _ _ g => g.inv (h.fr k))
    (fun _ k _ => ((h.fr k).inv.disarm .pingrespRecv).push _ rfl)
    (fun _ k _ s => (cancelTimers_inv0 (h.fr k).inv.g (h.fr k).n0).inv.fr s) (fun _ k _ x => x.inv (h.fr k))

/-! ## the remaining public calls -/

/-- what `notify_timer_fired k` does first: the flag of the fired timer is cleared -/
def clearFlag (c : C) (k : Timer) : C := { c with s := c.s.setArmed k false }

theorem notifyTimerFired_inv {a P c} (k : Timer) (h : Inv0 a P (clearFlag c k)) :
    Inv a P (notifyTimerFired c k) := by
  have hp : ∀ x, Inv a P ((clearFlag c k).setPanic x) := fun x => h.inv.fr (T := []) ((TFr.refl _ _).setPanic x)
  cases k
  · exact Fp.ite_ind (fun _ => Fp.ite_ind (fun _ => psPingreq_inv h.inv _)
      (fun _ => Fp.ite_ind (fun _ => psPingreq_inv h.inv _) (fun _ => hp _))) (fun _ => h.inv)
  · exact Fp.ite_ind (fun _ => h.inv.push _ rfl) (fun _ => Fp.ite_ind
      (fun _ => Fp.ite_ind (fun _ => (h.ended (v5DisconnectOrClose_ended _ _)).inv) (fun _ => h.inv)) (fun _ => hp _))
  · exact Fp.ite_ind (fun _ => h.inv.push _ rfl) (fun _ => Fp.ite_ind
      (fun _ => Fp.ite_ind (fun _ => (h.ended (v5DisconnectOrClose_ended _ _)).inv) (fun _ => h.inv)) (fun _ => hp _))

theorem notifyClosed_inv0 {a P c} (h : Inv0 a P c) : Inv0 a P (notifyClosed c) := by
  rw [Fp.notifyClosed_stages]
  extract_lets c1
  have k : tev c1.ev = tev c.ev ∧ flagsOf c1.s = flagsOf c.s :=
    Fp.ite_ind (Q := fun x : C => tev x.ev = tev c.ev ∧ flagsOf x.s = flagsOf c.s)
      (fun _ => ⟨((Fp.closeConn_ev c).trans (Fp.closeSession_ev _)).tev_eq,
        by unfold flagsOf; rw [Fp.closeSession_s, Fp.closeConn_s]⟩)
      (fun _ => ⟨(Fp.closeConn_ev c).tev_eq, by unfold flagsOf; rw [Fp.closeConn_s]⟩)
  exact cancelTimers_inv0 (show timersStep a (tev c1.ev) = some (flagsOf c1.s) by rw [k.1, k.2]; exact h.inv.g)
    (show anyReset (tev c1.ev) = false by rw [k.1]; exact h.n0)

theorem setPingreqSendInterval_inv {a P c} (h : Inv0 a P c) (d : Option Nat) :
    Inv a P (setPingreqSendInterval c d) := by
  have h1 : Inv a P { c with s := { c.s with userInterval := d } } := h.inv.frame rfl rfl (fun q => q)
  cases d with
  | none => exact h1
  | some ms =>
    exact Fp.ite_ind (fun _ => h1.disarm .pingreqSend) (fun _ => Fp.ite_ind
      (fun hs => h1.arm (fun q => Status.noConfusion (hs.symm.trans q)) .pingreqSend ms) (fun _ => h1))

/-! ## `step` -/

/-- "disconnected means unarmed" -/
def DU (s : St) : Prop := s.status = .disconnected → flagsOf s = unarmed

instance (s : St) : Decidable (DU s) := by unfold DU; infer_instance

/-- the ghost flags an observer holds when the call starts: a fired timer is no longer armed -/
def startArmed (s : St) : Op → Armed
  | .timer k => (flagsOf s).set k false
  | _ => flagsOf s

theorem inv0_start (cfg : Cfg) (s : St) : Inv0 (flagsOf s) (DU s) { cfg := cfg, s := s } :=
  .of rfl (fun h => h) rfl

theorem step_inv (cfg : Cfg) (s : St) (op : Op) : Inv (startArmed s op) (DU s) (step cfg s op) := by
  have h0 := inv0_start cfg s
  have fr : ∀ {r : C}, TFr [.released] { cfg := cfg, s := s } r → Inv (flagsOf s) (DU s) r := fun k => h0.inv.fr k
  cases op with
  | send p => exact send_inv h0 p
  | recv inp parse => exact recv_inv h0 inp parse
  | timer k =>
    refine notifyTimerFired_inv k (.of ((flagsOf_setArmed s k false).symm ▸ rfl) (fun hp q => ?_) rfl)
    show flagsOf (s.setArmed k false) = unarmed
    rw [flagsOf_setArmed, hp ((status_setArmed s k false).symm.trans q)]
    cases k <;> rfl
  | closed => exact (notifyClosed_inv0 h0).inv
  | setInterval d => exact setPingreqSendInterval_inv h0 d
  | setFlag f b => cases f <;> exact fr (.of_eqs rfl rfl rfl)
  | release id => exact fr ((TFr.refl _ _).fp (Fp.releasePacketId_fp _ id))
  | erase id => exact fr ((TFr.refl _ _).fp (Fp.eraseStoredPublish_fp _ id))
  | restorePackets ps => exact fr ((TFr.refl _ _).fp (Fp.restorePackets_fp _ ps))
  | _ => exact fr (.of_eqs rfl rfl rfl)

end MqttVerif.Conn
