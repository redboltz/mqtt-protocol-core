import MqttVerif.Conn.Lemmas.Alias
/-!
# C13 helpers: `process_send_v5_0_publish` keeps the sender's alias table inside the ghost
receiver's table and emits only resolvable PUBLISH packets
-/
set_option linter.unusedSimpArgs false
set_option linter.unusedVariables false
set_option linter.unnecessarySimpa false
namespace MqttVerif.Conn
open MqttVerif

/-! ## the alias stage on the sending side -/

/-- invariant carried through `process_send_v5_0_publish`; `pm` is the table's maximum -/
structure PubInv (pm : Nat) (s : St) (peer : Mon.PeerTable) : Prop where
  tasOk : TasOkS s
  agree : Agree s peer
  max : ∀ t, s.tas = some t → t.max = pm

theorem slookup_range {pm : Nat} {s : St} {peer : Mon.PeerTable} (h : PubInv pm s peer) {a : Nat} {tp : List Nat}
    (hl : slookup s a = some tp) : 1 ≤ a ∧ a ≤ pm ∧ tp ≠ [] := by
  unfold slookup at hl
  split at hl
  · rename_i t ht
    have := (h.tasOk t ht).lookup_range hl
    rw [h.max t ht] at this; exact this
  · cases hl

/-- `PubInv` reads the alias table only -/
theorem PubInv.frame {pm : Nat} {s s' : St} {peer : Mon.PeerTable} (h : PubInv pm s peer)
    (htas : s'.tas = s.tas) : PubInv pm s' peer := by
  refine ⟨?_, ?_, ?_⟩
  · intro t ht; exact h.tasOk t (htas ▸ ht)
  · intro a tp hl; exact h.agree a tp (by simpa [slookup, htas] using hl)
  · intro t ht; exact h.max t (htas ▸ ht)

/-- the v5.0 PUBLISH packets the call from `c` to `c'` emits are processed by the ghost receiver `peer`, and `PubInv`
    holds for its table afterwards -/
def Sends (pm : Nat) (peer : Mon.PeerTable) (c c' : C) : Prop :=
  ∃ l peer', pubs c'.ev = pubs c.ev ++ l ∧ peerPubs pm peer l = some peer' ∧ PubInv pm c'.s peer'

theorem Sends.nothing {pm : Nat} {peer : Mon.PeerTable} {c c' : C} (hinv : PubInv pm c'.s peer)
    (hpubs : pubs c'.ev = pubs c.ev) : Sends pm peer c c' :=
  ⟨[], peer, by rw [hpubs, List.append_nil], rfl, hinv⟩

/-- `he` holds by `rfl` when the events of `a` are those of `c` -/
theorem Sends.congr_left {pm : Nat} {peer : Mon.PeerTable} {a c c' : C} (h : Sends pm peer c c')
    (he : c.ev = a.ev := by rfl) : Sends pm peer a c' := by
  obtain ⟨l, peer', h1, h2⟩ := h
  exact ⟨l, peer', he ▸ h1, h2⟩

/-! ### `validate_topic_alias` -/

theorem validateTopicAlias_spec (c : C) (ao : Option Nat) :
    (validateTopicAlias c ao).2.ev = c.ev ∧
    (∀ k, slookup (validateTopicAlias c ao).2.s k = slookup c.s k) ∧
    (TasOkS c.s → TasOkS (validateTopicAlias c ao).2.s) ∧
    (∀ pm, (∀ t, c.s.tas = some t → t.max = pm) → ∀ t, (validateTopicAlias c ao).2.s.tas = some t → t.max = pm) ∧
    (∀ tp, (validateTopicAlias c ao).1 = some tp → ∃ a, ao = some a ∧ slookup c.s a = some tp) := by
  unfold validateTopicAlias
  cases ao with
  | none => simp
  | some a =>
    dsimp only
    split
    · simp
    · cases htas : c.s.tas with
      | none => simp [htas]
      | some t =>
        simp only [htas]
        refine ⟨trivial, ?_, ?_, ?_, ?_⟩
        · intro k; simp [slookup, htas, TAS.get_lookup]
        · intro h t' ht'
          simp at ht'; subst ht'
          exact (h t htas).get a
        · intro pm h t' ht'
          simp at ht'; subst ht'
          simp [h t rfl]
        · intro tp htp
          exact ⟨a, rfl, by simpa [slookup, htas] using (TAS.get_some htp).2.2.1⟩

/-! ### `insert_or_update` through `tasInsert` -/

theorem tasInsert_spec (c : C) (topic : List Nat) (a : Nat) (site : String) :
    (tasInsert c topic a site).ev = c.ev ∧
    (TasOkS c.s → TasOkS (tasInsert c topic a site).s) ∧
    (∀ pm, (∀ t, c.s.tas = some t → t.max = pm) → ∀ t, (tasInsert c topic a site).s.tas = some t → t.max = pm) ∧
    (∀ t, c.s.tas = some t → topic ≠ [] → 1 ≤ a → a ≤ t.max →
      ∀ k, slookup (tasInsert c topic a site).s k = if k = a then some topic else slookup c.s k) := by
  unfold tasInsert
  cases htas : c.s.tas with
  | none => simp [htas, TasOkS]
  | some t =>
    simp only
    split
    · rename_i hbad
      refine ⟨rfl, ?_, ?_, ?_⟩
      · intro h t' ht'; exact h t' ht'
      · intro pm h t' ht'; exact h t' (htas.symm.trans ht')
      · intro t' ht' h1 h2 h3
        simp only [Option.some.injEq] at ht'; subst ht'
        exfalso
        rcases hbad with hb | hb | hb
        · simp at hb; exact h1 hb
        · omega
        · omega
    · rename_i hgood
      simp only [not_or, List.isEmpty_iff, Nat.not_lt] at hgood
      refine ⟨rfl, ?_, ?_, ?_⟩
      · intro h t' ht'
        simp at ht'; subst ht'
        exact (h t htas).insertOrUpdate hgood.1 ⟨hgood.2.1, by omega⟩
      · intro pm h t' ht'
        simp at ht'; subst ht'
        simp [h t rfl]
      · intro t' ht' _ _ _ k
        simp only [Option.some.injEq] at ht'; subst ht'
        simp [slookup, htas, insertOrUpdate_lookup]

/-! ### the tail: count and emit -/

theorem tail_pubs (c : C) (q : Pkt) (rel : Option Nat) :
    pubs (psV5PublishTail c q rel).ev =
      pubs c.ev ++ (if c.s.status = .connected then pubsOf (.send q rel) else []) := by
  rw [Fp.psV5PublishTail_eq, ← Fp.countSend_ev c q,
    ← show (Fp.countSend c q).s.status = c.s.status by rw [Fp.countSend_s]]
  refine Fp.sendIfConnected_cases (Q := fun r : C => pubs r.ev = _) _ q rel (fun h => ?_) (fun h => ?_)
  · rw [if_pos h]
    simp
  · rw [if_neg h]
    simp

theorem tail_inv {pm : Nat} {c : C} {q : Pkt} {rel : Option Nat} {peer : Mon.PeerTable}
    (hk : q.kind = .publish) (htas : TasOkS c.s)
    (hmax : ∀ t, c.s.tas = some t → t.max = pm)
    (hemit : c.s.status = .connected → q.ver = 5 →
      ∃ peer', Mon.peerStep pm peer q = some peer' ∧ Agree c.s peer')
    (hno : ¬ (c.s.status = .connected ∧ q.ver = 5) → Agree c.s peer) :
    Sends pm peer c (psV5PublishTail c q rel) := by
  have hframe : ∀ peer', Agree c.s peer' → PubInv pm (psV5PublishTail c q rel).s peer' := fun peer' ha =>
    PubInv.frame (s := c.s) ⟨htas, ha, hmax⟩ (by rw [Fp.psV5PublishTail_s])
  by_cases hc : c.s.status = .connected ∧ q.ver = 5
  · obtain ⟨peer', hp, ha⟩ := hemit hc.1 hc.2
    refine ⟨[q], peer', ?_, ?_, hframe peer' ha⟩
    · rw [tail_pubs]; simp [hc.1, pubsOf_send, hc.2, hk]
    · simp [peerPubs, hp]
  · refine ⟨[], peer, ?_, rfl, hframe peer (hno hc)⟩
    rw [tail_pubs]
    by_cases h1 : c.s.status = .connected
    · have : q.ver ≠ 5 := fun h => hc ⟨h1, h⟩
      simp [h1, pubsOf_send, this]
    · simp [h1]

/-- emitting a full topic with an in-range alias that the sender has just bound to it -/
theorem emit_bind {pm : Nat} {s : St} {peer : Mon.PeerTable} {q : Pkt} {a : Nat} {s0 : St}
    (hagree : Agree s0 peer) (hq : q.alias = some a) (ht : q.topic ≠ []) (h1 : 1 ≤ a) (h2 : a ≤ pm)
    (hl : ∀ k, slookup s k = if k = a then some q.topic else slookup s0 k) :
    ∃ peer', Mon.peerStep pm peer q = some peer' ∧ Agree s peer' := by
  refine ⟨(a, q.topic) :: peer.filter (·.1 ≠ a), ?_, ?_⟩
  · have : ¬ (a = 0 ∨ a > pm) := by omega
    simp [Mon.peerStep, hq, this, ht]
  · intro k tp hk
    rw [peerLookup_cons_filter]
    rw [hl k] at hk
    split
    · rename_i h; simpa [h] using hk
    · rename_i h; simp only [h, if_false] at hk; exact hagree k tp hk

/-- emitting an empty topic with an alias the sender has bound (hence the receiver too) -/
theorem emit_use {pm : Nat} {s : St} {peer : Mon.PeerTable} {q : Pkt} {a : Nat} {tp : List Nat}
    (hinv : PubInv pm s peer) (hq : q.alias = some a) (ht : q.topic = []) (hl : slookup s a = some tp) :
    Mon.peerStep pm peer q = some peer ∧ Mon.peerLookup a peer = some tp := by
  have hr := slookup_range hinv hl
  have hp := hinv.agree a tp hl
  have : ¬ (a = 0 ∨ a > pm) := by omega
  exact ⟨by simp [Mon.peerStep, hq, this, ht, hp], hp⟩


/-! ### automatic mapping / replacement -/

theorem slookup_none_of_tas {s : St} (h : s.tas = none) (k : Nat) : slookup s k = none := by
  simp [slookup, h]

theorem Agree.of_tas_none {s : St} (h : s.tas = none) (peer : Mon.PeerTable) : Agree s peer := by
  intro a tp hl; simp [slookup, h] at hl

theorem autoAlias_snd (c : C) (p : Pkt) :
    (autoAlias c p).2.kind = p.kind ∧ (autoAlias c p).2.ver = p.ver ∧ (autoAlias c p).2.qos = p.qos :=
  Fp.autoAlias_outcomes (Q := fun r => r.2.kind = p.kind ∧ r.2.ver = p.ver ∧ r.2.qos = p.qos) c p ⟨rfl, rfl, rfl⟩
    (fun _ _ _ _ _ _ _ => ⟨rfl, rfl, rfl⟩) (fun _ _ _ _ _ _ => ⟨rfl, rfl, rfl⟩)

theorem autoAlias_none (c : C) (p : Pkt) (h : c.s.status ≠ .connected ∨ c.s.tas = none) : autoAlias c p = (c, p) :=
  have hn : c.s.status = .connected → ∀ t, c.s.tas ≠ some t := fun hc t ht =>
    h.elim (fun h => h hc) (fun h => nomatch h.symm.trans ht)
  Fp.autoAlias_outcomes (Q := fun r => r = (c, p)) c p rfl (fun hc _ t _ ht _ _ => absurd ht (hn hc t))
    (fun hc _ t ht _ _ => absurd ht (hn hc t))

/-- what `autoAlias` hands to the tail is resolvable, and a rewrite to an empty topic uses an
    alias bound to the requested topic -/
theorem autoAlias_spec {pm : Nat} {c : C} {p : Pkt} {peer : Mon.PeerTable} (hinv : PubInv pm c.s peer)
    (ht : p.topic ≠ []) (ha : p.alias = none) :
    TasOkS (autoAlias c p).1.s ∧ (∀ t, (autoAlias c p).1.s.tas = some t → t.max = pm) ∧
    (∃ peer', Mon.peerStep pm peer (autoAlias c p).2 = some peer' ∧ Agree (autoAlias c p).1.s peer') ∧
    ((autoAlias c p).2.topic = [] →
      ∃ a, (autoAlias c p).2.alias = some a ∧ Mon.peerLookup a peer = some p.topic) := by
  refine Fp.autoAlias_outcomes (Q := fun r => TasOkS r.1.s ∧ (∀ t, r.1.s.tas = some t → t.max = pm) ∧
    (∃ peer', Mon.peerStep pm peer r.2 = some peer' ∧ Agree r.1.s peer') ∧
    (r.2.topic = [] → ∃ a, r.2.alias = some a ∧ Mon.peerLookup a peer = some p.topic)) c p ?_ ?_ ?_
  · exact ⟨hinv.tasOk, hinv.max, ⟨peer, peerStep_quiet pm peer p ⟨ha, ht⟩, hinv.agree⟩, fun h => absurd h ht⟩
  · intro _ _ t a htas hf _
    have hl : slookup c.s a = some p.topic := by
      simp only [slookup, htas]; exact (hinv.tasOk t htas).findByTopic hf
    obtain ⟨h1, h2⟩ := emit_use (q := { p with topic := [], alias := some a }) hinv rfl rfl hl
    exact ⟨hinv.tasOk, hinv.max, ⟨peer, h1, hinv.agree⟩, fun _ => ⟨a, rfl, h2⟩⟩
  · intro _ _ t htas _ _
    obtain ⟨e1, e2, e3, e4⟩ := tasInsert_spec c p.topic t.lruAlias "topic_alias_send.rs:insert_or_update:assert"
    have hr := (hinv.tasOk t htas).lruAlias
    have hm := hinv.max t htas
    exact ⟨e2 hinv.tasOk, e3 pm hinv.max,
      emit_bind (q := { p with alias := some t.lruAlias }) (s0 := c.s) hinv.agree rfl ht hr.1 (by omega)
        (e4 t htas ht hr.1 hr.2), fun h => absurd h ht⟩

/-! ### the alias stage as a whole -/

theorem refuse_inv {pm : Nat} {c : C} {peer : Mon.PeerTable} (hinv : PubInv pm c.s peer) (e : Nat) (pid : Option Nat) :
    Sends pm peer c (pubRefuseCleanup (c.err e) pid) :=
  .nothing (hinv.frame (by rw [Fp.pubRefuseCleanup_s]; rfl))
    ((Fp.pubRefuseCleanup_ev _ pid).pubs_eq.trans (Fp.err_ev c e).pubs_eq)

theorem validateTopicAliasRange_spec {s : St} {a : Nat} (h : validateTopicAliasRange s a = true) :
    ∃ t, s.tas = some t ∧ 1 ≤ a ∧ a ≤ t.max := by
  unfold validateTopicAliasRange at h
  split at h
  · cases h
  · rename_i t ht
    simp at h
    exact ⟨t, ht, by omega, by omega⟩

theorem psV5PublishAlias_inv {pm : Nat} {c : C} {p : Pkt} {rel : Option Nat} {v : Bool} {peer : Mon.PeerTable}
    (hk : p.kind = .publish) (hinv : PubInv pm c.s peer) (hver : p.ver = 5 ∨ c.s.tas = none)
    (hval : v = true → p.topic = [] → ∃ a tp, p.alias = some a ∧ slookup c.s a = some tp) :
    Sends pm peer c (psV5PublishAlias c p rel v) := by
  obtain ⟨e1, e2, e3, e4, e5⟩ := validateTopicAlias_spec c p.alias
  have hinv2 : PubInv pm (validateTopicAlias c p.alias).2.s peer :=
    ⟨e3 hinv.tasOk, fun a tp hl => hinv.agree a tp (by rw [← e2]; exact hl), e4 pm hinv.max⟩
  refine Fp.psV5PublishAlias_paths (Q := Sends pm peer c) c p rel v (fun _ => refuse_inv hinv _ _)
    (fun _ _ _ _ _ => refuse_inv hinv _ _) (fun _ _ _ _ => (refuse_inv hinv2 eNotAllowed p.pid).congr_left e1)
    (fun _ hv ht => ?_) (fun _ _ ht tp hr => ?_) (fun _ ht a ha hrange => ?_) (fun _ ht ha => ?_)
  · obtain ⟨a, tp, ha, hl⟩ := hval hv ht
    exact tail_inv hk hinv.tasOk hinv.max (fun _ _ => ⟨peer, (emit_use hinv ha ht hl).1, hinv.agree⟩)
      (fun _ => hinv.agree)
  · obtain ⟨a, ha, hl⟩ := e5 tp hr
    exact (tail_inv (rel := rel) hk hinv2.tasOk hinv2.max
      (fun _ _ => ⟨peer, (emit_use hinv2 ha ht (by rw [e2]; exact hl)).1, hinv2.agree⟩)
      (fun _ => hinv2.agree)).congr_left e1
  · -- a full topic with an alias given: bound when the packet goes out now
    obtain ⟨t, htas, h1, h2⟩ := validateTopicAliasRange_spec hrange
    have hv5 : p.ver = 5 := hver.resolve_right (fun h => nomatch h.symm.trans htas)
    have hm := hinv.max t htas
    by_cases hc : c.s.status = .connected
    · rw [if_pos hc]
      obtain ⟨i1, i2, i3, i4⟩ := tasInsert_spec c p.topic a "topic_alias_send.rs:insert_or_update:assert"
      have hb := emit_bind (q := p) (s0 := c.s) (pm := pm) hinv.agree ha ht h1 (by omega) (i4 t htas ht h1 h2)
      exact (tail_inv (rel := rel) hk (i2 hinv.tasOk) (i3 pm hinv.max) (fun _ _ => hb)
        (fun hno => absurd ⟨by rw [Fp.tasInsert_s]; exact hc, hv5⟩ hno)).congr_left i1
    · rw [if_neg hc]
      exact tail_inv hk hinv.tasOk hinv.max (fun h _ => absurd h hc) (fun _ => hinv.agree)
  · obtain ⟨a1, a2, a3, a4⟩ := autoAlias_spec hinv ht ha
    obtain ⟨k1, k2, -⟩ := autoAlias_snd c p
    refine (tail_inv (rel := rel) (k1.trans hk) a1 a2 (fun _ _ => a3)
      (fun hno => ?_)).congr_left (Fp.autoAlias_ev c p)
    -- not connected, or not v5.0 and hence no table: `autoAlias` does nothing
    have hnone : autoAlias c p = (c, p) := autoAlias_none c p (by
      by_cases hc : c.s.status = .connected
      · exact .inr (hver.resolve_left (fun h => hno ⟨by rw [Fp.autoAlias_s]; exact hc, k2.trans h⟩))
      · exact .inl hc)
    rw [hnone]; exact hinv.agree

theorem validateTopicAlias_tas_none (c : C) (ao : Option Nat) (h : c.s.tas = none) :
    (validateTopicAlias c ao).2.s.tas = none := by
  unfold validateTopicAlias
  cases ao with
  | none => simpa using h
  | some a => simp [validateTopicAliasRange, h]

/-- `process_send_v5_0_publish` keeps the sender's table inside the ghost receiver's table, and
    everything it emits is resolvable by that receiver -/
theorem psV5Publish_inv {pm : Nat} {c : C} {p : Pkt} {peer : Mon.PeerTable}
    (hk : p.kind = .publish) (hinv : PubInv pm c.s peer) (hver : p.ver = 5 ∨ c.s.tas = none) :
    Sends pm peer c (psV5Publish c p) := by
  obtain ⟨e1, e2, e3, e4, e5⟩ := validateTopicAlias_spec c p.alias
  have hinv2 : PubInv pm (validateTopicAlias c p.alias).2.s peer :=
    ⟨e3 hinv.tasOk, fun a tp hl => hinv.agree a tp (by rw [← e2]; exact hl), e4 pm hinv.max⟩
  have release : ∀ (c1 : C) (e id : Nat), PubInv pm c1.s peer → Sends pm peer c1 (releaseIfUsed (c1.err e) id) :=
    fun c1 e id h1 => .nothing (h1.frame (by rw [Fp.releaseIfUsed_s]; rfl))
      ((Fp.releaseIfUsed_ev _ id).pubs_eq.trans (Fp.err_ev c1 e).pubs_eq)
  refine Fp.psV5Publish_paths (Q := Sends pm peer c) c p
    (fun _ _ => .nothing (hinv.frame rfl) (Fp.err_ev c _).pubs_eq) (fun _ _ _ => release c _ _ hinv)
    (fun _ _ _ => .nothing (hinv.frame rfl) rfl) (fun _ _ _ _ _ => release c _ _ hinv)
    (fun _ _ _ _ _ _ => .nothing (hinv.frame rfl) (Fp.err_ev c _).pubs_eq)
    (fun id _ _ _ _ => (release _ _ id hinv2).congr_left e1)
    (fun id tp _ _ ht hr => ?_) (fun id _ _ ht => ?_) (fun id _ _ => ?_)
    (fun _ _ _ => .nothing (hinv.frame rfl) (Fp.err_ev c _).pubs_eq)
    (fun _ _ _ => psV5PublishAlias_inv hk hinv hver (fun h => nomatch h))
  · obtain ⟨a, ha, hl⟩ := e5 tp hr
    have htas : (addWait (storeAdd (wildcardCheck (validateTopicAlias c p.alias).2 tp) id
        { p with topic := tp, alias := none, dup := true } "core.rs:process_send_v5_0_publish:store.add().unwrap()")
        p.qos id).s.tas = (validateTopicAlias c p.alias).2.s.tas := by
      rw [Fp.addWait_s, Fp.storeAdd_s, Fp.wildcardCheck_s]
    exact (psV5PublishAlias_inv (rel := none) (v := true) hk (hinv2.frame htas)
      (hver.imp_right fun h => htas.trans (validateTopicAlias_tas_none c p.alias h))
      (fun _ _ => ⟨a, tp, ha, by unfold slookup; rw [htas]; exact (e2 a).trans hl⟩)).congr_left
      ((Fp.addWait_ev ..).trans ((Fp.storeAdd_ev ..).trans ((Fp.wildcardCheck_ev ..).trans e1)))
  · exact (psV5PublishAlias_inv (rel := none) (v := false) hk
      (hinv.frame (s' := (addWait (storeAdd c id _ _) p.qos id).s) (by rw [Fp.addWait_s, Fp.storeAdd_s]))
      (hver.imp_right fun h => by rw [Fp.addWait_s, Fp.storeAdd_s]; exact h) (fun h => nomatch h)).congr_left
      ((Fp.addWait_ev ..).trans (Fp.storeAdd_ev ..))
  · exact (psV5PublishAlias_inv (rel := some id) (v := false) hk
      (hinv.frame (s' := (addWait c p.qos id).s) (by rw [Fp.addWait_s]))
      (hver.imp_right fun h => by rw [Fp.addWait_s]; exact h) (fun h => nomatch h)).congr_left (Fp.addWait_ev ..)

/-- the form in which the store keeps a packet has no alias; its topic is the packet's own or the one the alias table
    has for its alias, neither of them empty -/
theorem StoredAs.pktQuiet {cfg : Cfg} {s : St} {p q : Pkt} (h : StoredAs cfg s p q) (ht : TasOkS s) : PktQuiet q := by
  cases h with
  | v3 hk hv => exact notPub_quiet (notPub_of_ver (p := { p with dup := true }) (by rw [show ({ p with dup := true } : Pkt).ver = 4 from hv]; decide))
  | v5 hk hv hte => exact fun _ _ => ⟨rfl, fun h => by rw [show p.topic = [] from h] at hte; cases hte⟩
  | v5topic t hk hv hte hl =>
    obtain ⟨a, -, hs⟩ := (validateTopicAlias_spec ⟨cfg, s, []⟩ p.alias).2.2.2.2 t hl
    refine fun _ _ => ⟨rfl, ?_⟩
    unfold slookup at hs
    cases htas : s.tas with
    | none => rw [htas] at hs; cases hs
    | some tb => rw [htas] at hs; exact ((ht tb htas).lookup_range hs).2.2
  | pubrel hk => exact notPub_quiet (notPub_of_kind (by rw [hk]; decide))

end MqttVerif.Conn
