import MqttVerif.Conn.Lemmas.FootprintApi
/-!
# Which packets a model function sends and delivers

`Appends` names the tags of the events a call adds; observations such as "the v5.0 PUBLISH packets sent", "the
CONNECT/CONNACK packets exchanged", "every packet sent fits the peer's limit" or "no packet is sent after the close
request" read the packets inside them.  `Emits Q c c'`: the events `c'` adds to `c` all satisfy `Q`.

Every model function that sends or delivers has one lemma: `Fp.f_adds : Emits Q c (f c ..)`, or, if it may give the
connection up, `Fp.f_orCloses : Emits.OrCloses Q D c (f c ..)`: it adds only `Q`-events, or does so up to a context from
which it cancels timers, sends at most packets that `D` allows, requests the close and then only reports errors
(`Emits.Closes`).  The handlers of the received packets other than CONNECT, CONNACK and PUBLISH have
`Fp.f_processed : Fp.Processed Q c x (f c x)`, which says more: they end on their error path `vErr`, or with the
delivery of the parsed packet, after `Q`-events and writes to the fields `Fp.wProcessed` names, `status` not among them
(`Fp.Processed.orCloses`, `Fp.dispatchRecv_processed`).  All end in `Fp.step_orCloses` for a whole call, and
`Fp.step_adds` for a `Q` that allows the close request and what is sent before it.  What `Q` and `D` must allow is asked
under the guards the model has checked when it gets there, above all the size check, read in the context of the call
(`Sized`, `Fr`):
* the events that any call may add (`Emits.Quiet`), the answers the library builds itself (`Emits.Own`), and what an API
  call sends besides (`Emits.Api`: PUBREL, stored packets, DISCONNECT, refusing CONNACK);
* the sending of the packet given (for a v5.0 PUBLISH also of what the automatic alias stage makes of it, `Aliased`), on
  the side of `D` if it gives the connection up (`Ends`);
* the delivery of the parsed packet (for a v5.0 PUBLISH with its alias resolved, `Resolved`).
A function that neither sends nor delivers is covered by its `Appends` footprint (`Emits.Quiet.of`).

A `Q` that does not look at sizes and allows closing (`Emits.Base Q`) meets every guard (`Emits.Base.quiet`, `own`,
`closing`, `api`), and a call that gives the connection up adds only `Q`-events as well (`Emits.OrCloses.emits'`,
`Fp.Processed.emits`): the last section has these bridges, and the lemmas for a whole call without their guards
(`Fp.send_emits`, `Fp.dispatchRecv_emits`, `Fp.notifyTimerFired_emits`, `Fp.step_emits`).
-/
namespace MqttVerif.Conn
open MqttVerif

/-! ## packet-level footprint of the events -/

/-- `Appends T` is the case `Q e := e.tag ∈ T` -/
def Emits (Q : Ev → Prop) (c c' : C) : Prop := ∃ l, c'.ev = c.ev ++ l ∧ ∀ e ∈ l, Q e

namespace Emits
variable {Q : Ev → Prop} {a c c' : C}

theorem refl (c : C) : Emits Q c c := ⟨[], by simp, by simp⟩

theorem trans (h : Emits Q a c) (h' : Emits Q c c') : Emits Q a c' := by
  obtain ⟨l, e, hl⟩ := h
  obtain ⟨l', e', hl'⟩ := h'
  refine ⟨l ++ l', by rw [e', e, List.append_assoc], ?_⟩
  intro x hx
  rcases List.mem_append.1 hx with hx | hx
  · exact hl x hx
  · exact hl' x hx

theorem push (h : Emits Q a c) {e : Ev} (he : Q e) : Emits Q a (c.push e) :=
  h.trans ⟨[e], rfl, fun x hx => by rw [List.mem_singleton.1 hx]; exact he⟩

theorem upd (h : Emits Q a c) (he : c'.ev = c.ev := by rfl) : Emits Q a c' := by
  obtain ⟨l, e, hl⟩ := h
  exact ⟨l, he.trans e, hl⟩

theorem congr_left (h : Emits Q c c') (he : c.ev = a.ev := by rfl) : Emits Q a c' := by
  obtain ⟨l, e, hl⟩ := h
  exact ⟨l, he ▸ e, hl⟩

theorem mono {Q' : Ev → Prop} (h : Emits Q c c') (hQ : ∀ e, Q e → Q' e) : Emits Q' c c' := by
  obtain ⟨l, e, hl⟩ := h
  exact ⟨l, e, fun x hx => hQ x (hl x hx)⟩

theorem setPanic (h : Emits Q a c) (x : String) : Emits Q a (c.setPanic x) := h.upd

theorem prefix_ev (h : Emits Q c c') : c.ev <+: c'.ev := by
  obtain ⟨l, e, _⟩ := h
  exact ⟨l, e.symm⟩

theorem filter_eq (h : Emits Q c c') (q : Ev → Bool) (hq : ∀ e, Q e → q e = false) :
    c'.ev.filter q = c.ev.filter q := by
  obtain ⟨l, e, hl⟩ := h
  have : l.filter q = [] := List.filter_eq_nil_iff.2 (fun x hx => by simp [hq x (hl x hx)])
  rw [e, List.filter_append, this, List.append_nil]

end Emits

/-! ## the context of a size check

A v5.0 packet is sent only if it fits the limit of the peer, so `Q` is asked of a packet only under the size check
that the model made, read in the context `c` of the call.  The check reads `cfg` and `mpsSend` (`Fr`). -/

def Fr (c c' : C) : Prop := c'.cfg = c.cfg ∧ c'.s.mpsSend = c.s.mpsSend

theorem Fr_ite' {b : Prop} [Decidable b] {c x y : C} : Fr c (if b then x else y) ↔ (b → Fr c x) ∧ (¬ b → Fr c y) := by
  split <;> simp_all

theorem Fr.rfl' {c : C} : Fr c c := ⟨rfl, rfl⟩
theorem Fr.trans {a b c : C} (h : Fr a b) (h' : Fr b c) : Fr a c := ⟨h'.1.trans h.1, h'.2.trans h.2⟩
theorem Fr.symm {a b : C} (h : Fr a b) : Fr b a := ⟨h.1.symm, h.2.symm⟩
theorem Fr.push {a c : C} (h : Fr a c) (e : Ev) : Fr a (c.push e) := h
theorem Fr.err {a c : C} (h : Fr a c) (e : Nat) : Fr a (c.err e) := h

/-- `hm` holds by `rfl` for every write set without `mpsSend` -/
theorem Fp.Footprint.fr {T : List EvTag} {w : St → St → St} {c r : C} (h : Fp.Footprint T w c r)
    (hm : ∀ a x, (w a x).mpsSend = a.mpsSend := by exact fun _ _ => rfl) : Fr c r :=
  ⟨h.cfg, (congrArg St.mpsSend h.s).trans (hm _ _)⟩

theorem sizeOk_congr {c c' : C} (h : Fr c c') (p : Pkt) : sizeOk c' p = sizeOk c p := by
  unfold sizeOk
  rw [h.1, h.2]

theorem sizeOk_iff {c : C} {p : Pkt} : sizeOk c p = true ↔ p.sz c.cfg.pw ≤ c.s.mpsSend := by
  simp [sizeOk]

theorem sizeOk_of_not {c : C} {p : Pkt} (h : ¬ (!sizeOk c p) = true) : sizeOk c p = true := by simpa using h

/-- a v5.0 packet is within the limit that context `c` checks against; a packet of another version is not checked -/
def Sized (c : C) (q : Pkt) : Prop := q.ver = 5 → sizeOk c q = true

theorem Sized.congr {c c' : C} {q : Pkt} (h : Sized c q) (hf : Fr c c') : Sized c' q :=
  fun hv => (sizeOk_congr hf q).trans (h hv)

theorem Sized.of_not {c : C} {p : Pkt} (h : ¬ (p.ver = 5 ∧ (!sizeOk c p) = true)) : Sized c p :=
  fun hv => sizeOk_of_not fun hn => h ⟨hv, hn⟩

/-- the packets a receive handler or an expired timer answers with, the PUBREL that follows a PUBREC apart -/
inductive Answer : Pkt → Prop
  | ack (cfg : Cfg) (v : Nat) (k : Kind) (id : Nat) (hk : k = .puback ∨ k = .pubrec ∨ k = .pubcomp) :
      Answer (mkAck cfg v k id)
  | pubcompRc (cfg : Cfg) (id rc : Nat) : Answer (mkV5PubcompRc cfg id rc)
  | pingreq (v : Nat) : Answer (mkPingreq v)
  | pingresp (v : Nat) : Answer (mkPingresp v)

theorem Answer.kind {q : Pkt} (h : Answer q) : q.kind ∈ [Kind.puback, .pubrec, .pubcomp, .pingreq, .pingresp] := by
  cases h with
  | ack cfg v k id hk =>
    show k ∈ _
    rcases hk with rfl | rfl | rfl <;> decide
  | pubcompRc => show Kind.pubcomp ∈ _; decide
  | pingreq => show Kind.pingreq ∈ _; decide
  | pingresp => show Kind.pingresp ∈ _; decide

/-- the CONNACK that answers a CONNECT the parser rejected -/
inductive Fp.Refusal : Pkt → Prop
  | v3 (e : Nat) : Fp.Refusal (mkV3Connack (v3ConnectErrRc e))
  | v5 (e : Nat) : Fp.Refusal (mkV5Connack (v5ConnectErrRc e))

namespace Emits
variable {Q : Ev → Prop} {N : Prop} {S : List (Nat × Pkt)} {a c c' : C}

/-- `Q` allows the events that any call may add besides sending, delivering and closing -/
def Quiet (Q : Ev → Prop) : Prop := ∀ e, e.tag ∈ [EvTag.released, .timerReset, .timerCancel, .error] → Q e

theorem Quiet.of (hq : Quiet Q) {T : List EvTag} (h : Appends T c c')
    (hT : T ⊆ [.released, .timerReset, .timerCancel, .error] := by decide) : Emits Q c c' := by
  obtain ⟨l, e, hl⟩ := h
  exact ⟨l, e, fun x hx => hq x (hT (hl x hx))⟩

theorem Quiet.err (hq : Quiet Q) (h : Emits Q a c) (e : Nat) : Emits Q a (c.err e) :=
  h.push (hq (.error e) (show EvTag.error ∈ _ by decide))

/-- besides, `Q` allows the answers that fit; `N` is what is known when an answer is not a v5.0 packet -/
structure Own (Q : Ev → Prop) (N : Prop) (c : C) : Prop where
  quiet : Quiet Q
  reply : ∀ q, Answer q → Sized c q → (q.ver ≠ 5 → N) → Q (.send q none)

theorem Own.congr (h : Own Q N c) (hf : Fr c c') : Own Q N c' :=
  ⟨h.quiet, fun q ha hz => h.reply q ha (hz.congr hf.symm)⟩

/-- `D` allows the DISCONNECT that the library sends before it closes, if it fits -/
def Closing (D : Pkt → Prop) (c : C) : Prop := ∀ rc, sizeOk c (mkV5Disconnect rc) = true → D (mkV5Disconnect rc)

theorem Closing.congr {D : Pkt → Prop} (h : Closing D c) (hf : Fr c c') : Closing D c' :=
  fun rc hz => h rc ((sizeOk_congr hf _).symm.trans hz)

/-- all that an API call sends of the library's own accord in context `c`.  `Q`: the answers, the PUBREL that answers a
    PUBREC, and of the stored packets `S` those that fit.  `D`: what is sent only to give the connection up, the
    DISCONNECT and the CONNACK that refuses a CONNECT. -/
structure Api (Q : Ev → Prop) (D : Pkt → Prop) (N : Prop) (S : List (Nat × Pkt)) (c : C) : Prop extends Own Q N c where
  pubrel : ∀ cfg v id, Sized c (mkAck cfg v .pubrel id) → (v ≠ 5 → N) → Q (.send (mkAck cfg v .pubrel id) none)
  stored : ∀ y ∈ S, sizeOk c y.2 = true → Q (.send y.2 none)
  disc : Closing D c
  refusal : ∀ q, Fp.Refusal q → Sized c q → (q.ver ≠ 5 → N) → D q

theorem Api.congr {D : Pkt → Prop} (h : Api Q D N S c) (hf : Fr c c') : Api Q D N S c' :=
  { h.toOwn.congr hf with
    pubrel := fun cfg v id hz => h.pubrel cfg v id (hz.congr hf.symm)
    stored := fun y hy hz => h.stored y hy ((sizeOk_congr hf _).symm.trans hz)
    disc := h.disc.congr hf
    refusal := fun q hq hz => h.refusal q hq (hz.congr hf.symm) }

/-! A call that gives the connection up requests the close after the last packet it sends: up to the close request it
cancels timers and sends what `D` allows (`Pre D`), after it it only reports errors (`Closes`).  Every call adds only
`Q`-events, or does so up to a context from which it gives the connection up (`OrCloses`). -/

def Pre (D : Pkt → Prop) (x : Ev) : Prop := x.tag = .timerCancel ∨ ∃ d, x = .send d none ∧ D d

theorem Pre.cancelled {D : Pkt → Prop} (h : Appends [.timerCancel] c c') : Emits (Pre D) c c' := by
  obtain ⟨l, e, hl⟩ := h
  exact ⟨l, e, fun x hx => .inl (List.mem_singleton.1 (hl x hx))⟩

def Closes (D : Pkt → Prop) (c r : C) : Prop :=
  ∃ (X : C) (e : List Ev), Emits (Pre D) c X ∧ r.ev = X.ev ++ .close :: e ∧ ∀ x ∈ e, x.tag = .error

namespace Closes
variable {D : Pkt → Prop} {r : C}

theorem close {X : C} (h : Emits (Pre D) c X) : Closes D c (X.push .close) :=
  ⟨X, [], h, rfl, fun _ hx => nomatch hx⟩

theorem err (h : Closes D c r) (e : Nat) : Closes D c (r.err e) := by
  obtain ⟨X, l, h1, h2, h3⟩ := h
  refine ⟨X, l ++ [.error e], h1, ?_, fun x hx => ?_⟩
  · show r.ev ++ [.error e] = _
    rw [h2, List.append_assoc, List.cons_append]
  · rcases List.mem_append.1 hx with hx | hx
    · exact h3 x hx
    · rw [List.mem_singleton.1 hx]; rfl

theorem congr_left (h : Closes D c r) (he : c.ev = a.ev := by rfl) : Closes D a r := by
  obtain ⟨X, l, h1, h2⟩ := h
  exact ⟨X, l, h1.congr_left he, h2⟩

/-- a packet that `D` allows was sent first -/
theorem after_send {p : Pkt} (hd : D p) (h : Closes D (c.push (.send p none)) r) : Closes D c r := by
  obtain ⟨X, l, h1, h2⟩ := h
  exact ⟨X, l, Emits.trans ((Emits.refl c).push (.inr ⟨p, rfl, hd⟩)) h1, h2⟩

theorem emits (h : Closes D c r) (hq : Quiet Q) (hc : Q .close) (hd : ∀ d, D d → Q (.send d none)) : Emits Q c r := by
  obtain ⟨X, l, h1, h2, h3⟩ := h
  refine (h1.mono fun x hx => ?_).trans ⟨.close :: l, h2, fun x hx => ?_⟩
  · rcases hx with hx | ⟨d, rfl, hd'⟩
    · exact hq x (by rw [hx]; decide)
    · exact hd d hd'
  · rcases List.mem_cons.1 hx with rfl | hx
    · exact hc
    · exact hq x (by rw [h3 x hx]; decide)

end Closes

def OrCloses (Q : Ev → Prop) (D : Pkt → Prop) (c r : C) : Prop := Emits Q c r ∨ ∃ c1, Emits Q c c1 ∧ Closes D c1 r

namespace OrCloses
variable {D : Pkt → Prop} {r : C}

theorem closes (h : Closes D c r) : OrCloses Q D c r := .inr ⟨c, .refl c, h⟩

theorem err (h : OrCloses Q D c r) (hq : Quiet Q) (e : Nat) : OrCloses Q D c (r.err e) :=
  h.imp (hq.err · e) fun ⟨c1, h1, h2⟩ => ⟨c1, h1, h2.err e⟩

theorem after (h : Emits Q a c) (h' : OrCloses Q D c r) : OrCloses Q D a r :=
  h'.imp h.trans fun ⟨c1, h1, h2⟩ => ⟨c1, h.trans h1, h2⟩

theorem congr_left (h : OrCloses Q D c r) (he : c.ev = a.ev := by rfl) : OrCloses Q D a r :=
  h.imp (·.congr_left he) fun ⟨c1, h1, h2⟩ => ⟨c1, h1.congr_left he, h2⟩

theorem emits (h : OrCloses Q D c r) (hq : Quiet Q) (hc : Q .close) (hd : ∀ d, D d → Q (.send d none)) :
    Emits Q c r :=
  h.elim id fun ⟨_, h1, h2⟩ => h1.trans (h2.emits hq hc hd)

end OrCloses

end Emits

/-- a property of a received CONNACK keeps the store or, when the server has no session, clears it; Maximum Packet Size
    sets the limit of the peer -/
theorem connackRecvProp_store_mps (c : C) (id v : Nat) :
    ((connackRecvProp c id v).s.store = c.s.store ∨ (connackRecvProp c id v).s.store = []) ∧
      (connackRecvProp c id v).s.mpsSend = if id = pMPS then v else c.s.mpsSend := by
  let Good : C → Prop := fun r =>
    (r.s.store = c.s.store ∨ r.s.store = []) ∧ r.s.mpsSend = if id = pMPS then v else c.s.mpsSend
  show Good (connackRecvProp c id v)
  unfold connackRecvProp
  refine Fp.ite_ind (fun h => ?_) (fun _ => ?_)
  · have hm : c.s.mpsSend = if id = pMPS then v else c.s.mpsSend := by rw [if_neg (by rw [h]; decide)]
    exact Fp.ite_ind (Q := Good) (fun _ => ⟨.inl rfl, hm⟩) (fun _ => ⟨.inl rfl, hm⟩)
  refine Fp.ite_ind (fun h => ?_) (fun _ => ?_)
  · have hm : c.s.mpsSend = if id = pMPS then v else c.s.mpsSend := by rw [if_neg (by rw [h]; decide)]
    by_cases hv : v = 0
    · rw [if_pos hv]; exact ⟨.inl rfl, hm⟩
    · rw [if_neg hv]; exact ⟨.inl rfl, hm⟩
  refine Fp.ite_ind (fun h => ?_) (fun h => ?_)
  · by_cases hv : v = 0
    · rw [if_pos hv]; exact ⟨.inl rfl, (if_pos h).symm⟩
    · rw [if_neg hv]; exact ⟨.inl rfl, (if_pos h).symm⟩
  have hm : c.s.mpsSend = if id = pMPS then v else c.s.mpsSend := (if_neg h).symm
  refine Fp.ite_ind (fun _ => ?_) (fun _ => ?_)
  · dsimp only
    refine Fp.ite_ind (fun _ => ?_) (fun _ => ⟨.inl rfl, hm⟩)
    refine Fp.ite_ind (fun _ => ?_) (fun _ => ⟨.inl rfl, hm⟩)
    exact Fp.ite_ind (Q := Good) (fun _ => ⟨.inl rfl, hm⟩) (fun _ => ⟨.inl rfl, hm⟩)
  refine Fp.ite_ind (fun _ => ?_) (fun _ => ⟨.inl rfl, hm⟩)
  exact Fp.ite_ind (Q := Good) (fun _ => ⟨.inr rfl, hm⟩) (fun _ => ⟨.inl rfl, hm⟩)

namespace Fp
variable {Q : Ev → Prop} {D : Pkt → Prop} {N : Prop} {S : List (Nat × Pkt)}

theorem ev_ite {b : Prop} [Decidable b] {x y c : C} (hx : x.ev = c.ev) (hy : y.ev = c.ev) :
    (if b then x else y).ev = c.ev :=
  ite_ind (Q := fun z : C => z.ev = c.ev) (fun _ => hx) (fun _ => hy)

/-! ### the gate of the send handlers: the body is asked about under the two tests that let it run -/

theorem refusal_adds (hq : Emits.Quiet Q) (c : C) (e : Nat) (rel : Option Nat) : Emits Q c (refusal c e rel) :=
  hq.of (refusal_fp c e rel).ev

section
variable {c : C} {large refuse : Prop} [Decidable large] [Decidable refuse] {rel : Option Nat} {body : C}

theorem guarded_adds (hq : Emits.Quiet Q) (hb : ¬large → ¬refuse → Emits Q c body) :
    Emits Q c (guarded c large refuse rel body) :=
  guarded_ind (fun _ => refusal_adds hq ..) (fun _ _ => refusal_adds hq ..) hb

theorem guarded_orCloses (hq : Emits.Quiet Q) (hb : ¬large → ¬refuse → Emits.OrCloses Q D c body) :
    Emits.OrCloses Q D c (guarded c large refuse rel body) :=
  guarded_ind (fun _ => .inl (refusal_adds hq ..)) (fun _ _ => .inl (refusal_adds hq ..)) hb

end

/-! ### giving the connection up: `hp` says that `D` allows the sending of the DISCONNECT given, if it fits -/

theorem psV5Disconnect_cases {J : C → Prop} (c : C) (p : Pkt) (large : sizeOk c p = false → J (c.err eTooLarge))
    (idle : c.s.status ≠ .connected → J (c.err eNotAllowed))
    (closes : sizeOk c p = true → c.s.status = .connected →
      J (((cancelTimers { c with s := { c.s with status := .disconnected } }).push (.send p none)).push .close)) :
    J (psV5Disconnect c p) :=
  psV5Disconnect_eq c p ▸ guarded_ind (fun h => large (Bool.not_eq_true' _ ▸ h)) (fun _ => idle)
    fun hz hc => closes (sizeOk_of_not hz) (Decidable.of_not_not hc)

theorem closeWith (c : C) (p : Pkt) (hp : D p) : Emits.Closes D c
    (((cancelTimers { c with s := { c.s with status := .disconnected } }).push (.send p none)).push .close) :=
  .close (((Emits.Pre.cancelled (cancelTimers_ev _)).congr_left).push (.inr ⟨p, rfl, hp⟩))

theorem psV5Disconnect_orCloses (hq : Emits.Quiet Q) (c : C) (p : Pkt) (hp : sizeOk c p = true → D p) :
    Emits.OrCloses Q D c (psV5Disconnect c p) :=
  psV5Disconnect_eq c p ▸ guarded_orCloses hq fun hz _ => .closes (closeWith c p (hp (sizeOk_of_not hz)))

theorem psV3Disconnect_orCloses (hq : Emits.Quiet Q) (c : C) (p : Pkt) (hp : D p) :
    Emits.OrCloses Q D c (psV3Disconnect c p) :=
  psV3Disconnect_eq c p ▸ guarded_orCloses hq fun _ _ => .closes (closeWith c p hp)

/-- on an established connection the library always closes, with or without the DISCONNECT -/
theorem v5DisconnectOrClose_closes (c : C) (d : Pkt) (hc : c.s.status = .connected) (hp : sizeOk c d = true → D d) :
    Emits.Closes D c (v5DisconnectOrClose c d) := by
  unfold v5DisconnectOrClose
  refine ite_ind (fun _ => (Emits.Closes.close (Emits.Pre.cancelled (cancelTimers_ev _))).congr_left) (fun hn => ?_)
  exact psV5Disconnect_cases c d (fun hl => absurd ⟨hc, by rw [hl]; rfl⟩ hn) (fun h => absurd hc h)
    (fun hz _ => closeWith c d (hp hz))

theorem v5DisconnectOrClose_orCloses (hq : Emits.Quiet Q) (c : C) (d : Pkt) (hp : sizeOk c d = true → D d) :
    Emits.OrCloses Q D c (v5DisconnectOrClose c d) := by
  by_cases hc : c.s.status = .connected
  · exact .closes (v5DisconnectOrClose_closes c d hc hp)
  · unfold v5DisconnectOrClose
    exact ite_ind (fun h => absurd h.1 hc) (fun _ => psV5Disconnect_orCloses hq c d hp)

theorem handleV3Error_closes (c : C) (e : Nat) : Emits.Closes D c (handleV3Error c e) :=
  (Emits.Closes.close (.refl c)).err e

theorem handleV5Error_orCloses (hq : Emits.Quiet Q) {c : C} (hD : Emits.Closing D c) (e : Nat) :
    Emits.OrCloses Q D c (handleV5Error c e) :=
  (v5DisconnectOrClose_orCloses hq c _ (hD _)).err hq e

theorem vErr_orCloses (hq : Emits.Quiet Q) {c : C} (hD : Emits.Closing D c) (e : Nat) :
    Emits.OrCloses Q D c (vErr c e) :=
  vErr_cases c e (fun _ => .closes (handleV3Error_closes c e)) (fun _ => handleV5Error_orCloses hq hD e)

/-! ### the senders: `hp` says that `Q` allows the sending of the packet given, if it passes the size check -/

theorem sendNow_adds (hq : Emits.Quiet Q) {a : C} (c : C) (p : Pkt) (rel : Option Nat) (h : Emits Q a c)
    (hp : Q (.send p rel)) : Emits Q a (sendPostProcess (c.push (.send p rel))) :=
  (h.push hp).trans (hq.of (sendPostProcess_ev _))

theorem psV3Simple_adds (hq : Emits.Quiet Q) (c : C) (p : Pkt) (hp : Q (.send p none)) :
    Emits Q c (psV3Simple c p) :=
  psV3Simple_eq c p ▸ guarded_adds hq fun _ _ => sendNow_adds hq c p none (.refl c) hp

/-- the v5.0 senders of a single packet: the packet is handed over in a context that has added no event -/
theorem sizedSend_adds (hq : Emits.Quiet Q) {c c' : C} {p : Pkt} {b : Prop} [Decidable b] {rel : Option Nat}
    (he : c'.ev = c.ev) (hp : sizeOk c p = true → Q (.send p none)) :
    Emits Q c (guarded c (!sizeOk c p) b rel (sendPostProcess (c'.push (.send p none)))) :=
  guarded_adds hq fun hz _ => sendNow_adds hq c' p none ((Emits.refl c).upd he) (hp (sizeOk_of_not hz))

theorem psV5Simple_adds (hq : Emits.Quiet Q) (c : C) (p : Pkt) (hp : sizeOk c p = true → Q (.send p none)) :
    Emits Q c (psV5Simple c p) := psV5Simple_eq c p ▸ sizedSend_adds hq rfl hp

theorem psV5Auth_adds (hq : Emits.Quiet Q) (c : C) (p : Pkt) (hp : sizeOk c p = true → Q (.send p none)) :
    Emits Q c (psV5Auth c p) := psV5Auth_eq c p ▸ sizedSend_adds hq rfl hp

theorem psV5Puback_adds (hq : Emits.Quiet Q) (c : C) (p : Pkt) (hp : sizeOk c p = true → Q (.send p none)) :
    Emits Q c (psV5Puback c p) := psV5Puback_eq c p ▸ sizedSend_adds hq rfl hp

theorem psV5Pubrec_adds (hq : Emits.Quiet Q) (c : C) (p : Pkt) (hp : sizeOk c p = true → Q (.send p none)) :
    Emits Q c (psV5Pubrec c p) := psV5Pubrec_eq c p ▸ sizedSend_adds hq (ev_ite rfl rfl) hp

theorem psV5Pubcomp_adds (hq : Emits.Quiet Q) (c : C) (p : Pkt) (hp : sizeOk c p = true → Q (.send p none)) :
    Emits Q c (psV5Pubcomp c p) := psV5Puback_adds hq c p hp

theorem sendIfConnected_adds (hq : Emits.Quiet Q) {a : C} (c : C) (p : Pkt) (rel : Option Nat) (h : Emits Q a c)
    (hp : Q (.send p rel)) : Emits Q a (sendIfConnected c p rel) :=
  sendIfConnected_cases c p rel (fun _ => sendNow_adds hq c p rel h hp) (fun _ => h)

theorem psPubrel_adds (hq : Emits.Quiet Q) (c : C) (p : Pkt) (hp : Sized c p → Q (.send p none)) :
    Emits Q c (psPubrel c p) := by
  rw [psPubrel_eq]
  refine guarded_adds hq fun hz _ => ite_ind (fun _ => hq.err (.refl c) _) (fun _ => ?_)
  have h : Emits Q c (if c.s.needStore = true then
      storeAdd c (p.pid.getD 0) p "core.rs:process_send_pubrel:store.add().unwrap()" else c) :=
    ite_ind (fun _ => (Emits.refl c).upd (storeAdd_ev _ _ _ _)) (fun _ => .refl c)
  exact sendIfConnected_adds hq _ p none h.upd (hp (.of_not hz))

theorem psV3Publish_adds (hq : Emits.Quiet Q) (c : C) (p : Pkt) (hp : ∀ r, Q (.send p r)) :
    Emits Q c (psV3Publish c p) :=
  psV3Publish_paths c p (fun _ _ => (Emits.refl c).setPanic _) (fun id _ _ _ => refusal_adds hq c _ (some id))
    (fun _ _ _ _ _ => hq.err (.refl c) _)
    (fun id _ _ => sendIfConnected_adds hq _ p _
      ((Emits.refl c).upd ((addWait_ev _ p.qos id).trans (storeAdd_ev ..))) (hp _))
    (fun id _ _ => sendIfConnected_adds hq _ p _ ((Emits.refl c).upd (addWait_ev c p.qos id)) (hp _))
    (fun _ _ => hq.err (.refl c) _) (fun _ _ => sendNow_adds hq c p none (.refl c) (hp _))

theorem psSubUnsub_adds (hq : Emits.Quiet Q) (c : C) (p : Pkt) (hp : Sized c p → ∀ r, Q (.send p r)) :
    Emits Q c (psSubUnsub c p) := by
  rw [psSubUnsub_eq]
  refine guarded_adds hq fun hz _ => ite_ind (fun _ => hq.err (.refl c) _) (fun _ => ?_)
  exact sendNow_adds hq _ p _ (ite_ind (fun _ => (Emits.refl c).upd) (fun _ => (Emits.refl c).upd))
    (hp (.of_not hz) _)

theorem psPingreq_adds (hq : Emits.Quiet Q) (c : C) (p : Pkt) (hp : Sized c p → Q (.send p none)) :
    Emits Q c (psPingreq c p) := by
  rw [psPingreq_eq]
  refine guarded_adds hq fun hz _ => ?_
  have h : Emits Q c (c.push (.send p none)) := (Emits.refl c).push (hp (.of_not hz))
  refine Emits.trans ?_ (hq.of (sendPostProcess_ev _))
  exact ite_ind (fun _ => (h.upd).push (hq (.timerReset _ _) (show EvTag.timerReset ∈ _ by decide))) (fun _ => h)

/-! ### CONNECT and CONNACK: the packet given, and after a CONNACK with Session Present the stored packets

`hst` says that `Q` allows the sending of every stored packet that fits. -/

theorem psV3Connect_adds (hq : Emits.Quiet Q) (c : C) (p : Pkt) (hp : Q (.send p none)) :
    Emits Q c (psV3Connect c p) :=
  psV3Connect_eq c p ▸ guarded_adds hq fun _ _ => sendNow_adds hq _ p none ((Emits.refl c).upd (ev_ite rfl rfl)) hp

theorem psV5Connect_adds (hq : Emits.Quiet Q) (c : C) (p : Pkt) (hp : sizeOk c p = true → Q (.send p none)) :
    Emits Q c (psV5Connect c p) :=
  psV5Connect_eq c p ▸ sizedSend_adds hq ((propsFold_keeps C.ev _ connectSendProp_ev _ _).trans (ev_ite rfl rfl)) hp

theorem sendStoredLoop_adds (hq : Emits.Quiet Q) (l : List (Nat × Pkt)) (c : C)
    (hl : ∀ y ∈ l, sizeOk c y.2 = true → Q (.send y.2 none)) : Emits Q c (sendStoredLoop c l).1 := by
  induction l generalizing c with
  | nil => exact .refl c
  | cons x rest ih =>
    obtain ⟨id, p⟩ := x
    have ih' : ∀ c1 : C, Fr c c1 → Emits Q c1 (sendStoredLoop c1 rest).1 := fun c1 hf =>
      ih c1 fun y hy hz => hl y (List.mem_cons_of_mem _ hy) ((sizeOk_congr hf _).symm.trans hz)
    rw [sendStoredLoop]
    refine ite_ind (Q := fun r : C × List (Nat × Pkt) => Emits Q c r.1) (fun _ => ?_) (fun hz => ?_)
    · exact ((hq.of (releaseIfUsed_ev _ _)).congr_left).trans
        (ih' _ (Fr.trans (c := releaseIfUsed _ _) (b := dropWait c id) ⟨rfl, rfl⟩ (releaseIfUsed_fp _ _).fr))
    · have hf := (ite_count_fp (c.s.sendMax.isSome = true) c "core.rs:send_stored:publish_send_count+=1").fr
      exact ((((Emits.refl c).upd (ite_count_fp ..).ev_eq).push
        (hl (id, p) List.mem_cons_self (sizeOk_iff.2 (Nat.le_of_not_gt hz)))).trans (ih' _ (hf.push _)))

theorem sendStored_adds (hq : Emits.Quiet Q) (c : C)
    (hst : ∀ y ∈ c.s.store, sizeOk c y.2 = true → Q (.send y.2 none)) : Emits Q c (sendStored c) := by
  unfold sendStored
  refine ((sendStoredLoop_adds hq _ _ ?_).congr_left ?_).upd
  · exact ite_ind (Q := fun x : C => ∀ y ∈ x.s.store, sizeOk x y.2 = true → Q (.send y.2 none)) (fun _ => hst)
      (fun _ => hst)
  · exact ev_ite rfl rfl

theorem resendStored_adds (hq : Emits.Quiet Q) (c : C)
    (hst : ∀ y ∈ c.s.store, sizeOk c y.2 = true → Q (.send y.2 none)) : Emits Q c (resendStored c) :=
  resendStored_ind c (sendStored_adds hq c hst) (fun h => h.trans (hq.of (sendPostProcess_ev _)))

theorem connackTail_closes (c : C) (p : Pkt) (hr : p.rc ≠ some 0) : Emits.Closes D c (connackTail c p) := by
  unfold connackTail
  rw [if_pos hr]
  exact (Emits.Closes.close (Emits.Pre.cancelled (cancelTimers_ev _))).congr_left

theorem connackTail_adds (hq : Emits.Quiet Q) (c : C) (p : Pkt) (hr : p.rc = some 0)
    (hst : ∀ y ∈ c.s.store, sizeOk c y.2 = true → Q (.send y.2 none)) : Emits Q c (connackTail c p) := by
  unfold connackTail
  rw [if_neg (not_not_intro hr)]
  refine Emits.trans ?_ (hq.of (sendPostProcess_ev _))
  exact ite_ind (fun _ => (sendStored_adds hq { c with s := { c.s with status := .connected } } hst).congr_left)
    (fun _ => (Emits.refl c).upd)

theorem connackTail_orCloses (hq : Emits.Quiet Q) (c : C) (p : Pkt)
    (hst : ∀ y ∈ c.s.store, sizeOk c y.2 = true → Q (.send y.2 none)) : Emits.OrCloses Q D c (connackTail c p) :=
  if hr : p.rc = some 0 then .inl (connackTail_adds hq c p hr hst) else .closes (connackTail_closes c p hr)

/-- a CONNACK that accepts is sent like any packet, and after it the stored packets if the session is resumed; one that
    refuses is the last packet sent -/
theorem connackSent_orCloses (hq : Emits.Quiet Q) {a : C} (c : C) (p : Pkt) (h : Emits Q a c)
    (hp : p.rc = some 0 → Q (.send p none)) (hd : p.rc ≠ some 0 → D p)
    (hst : p.rc = some 0 → ∀ y ∈ c.s.store, sizeOk c y.2 = true → Q (.send y.2 none)) :
    Emits.OrCloses Q D a (connackTail (c.push (.send p none)) p) := by
  by_cases hr : p.rc = some 0
  · exact .inl ((h.push (hp hr)).trans (connackTail_adds hq _ p hr (hst hr)))
  · exact .inr ⟨c, h, (connackTail_closes _ p hr).after_send (hd hr)⟩

theorem psV3Connack_orCloses (hq : Emits.Quiet Q) (c : C) (p : Pkt) (hp : p.rc = some 0 → Q (.send p none))
    (hd : p.rc ≠ some 0 → D p) (hst : p.rc = some 0 → ∀ y ∈ c.s.store, sizeOk c y.2 = true → Q (.send y.2 none)) :
    Emits.OrCloses Q D c (psV3Connack c p) :=
  psV3Connack_guarded c p ▸ guarded_orCloses hq fun _ _ => connackSent_orCloses hq c p (.refl c) hp hd hst

theorem psV5Connack_orCloses (hq : Emits.Quiet Q) (c : C) (p : Pkt)
    (hp : sizeOk c p = true → p.rc = some 0 → Q (.send p none)) (hd : sizeOk c p = true → p.rc ≠ some 0 → D p)
    (hst : p.rc = some 0 → ∀ y ∈ c.s.store, sizeOk c y.2 = true → Q (.send y.2 none)) :
    Emits.OrCloses Q D c (psV5Connack c p) := by
  rw [psV5Connack_guarded]
  refine guarded_orCloses hq fun hz _ => ?_
  -- the properties of an accepted CONNACK leave the store and the peer's limit alone
  have h : Emits Q c (if p.rc = some 0 then propsFold connackSendProp c p.props else c) ∧
      (if p.rc = some 0 then propsFold connackSendProp c p.props else c).s.store = c.s.store ∧
      Fr c (if p.rc = some 0 then propsFold connackSendProp c p.props else c) :=
    ite_ind (Q := fun x : C => Emits Q c x ∧ x.s.store = c.s.store ∧ Fr c x)
      (fun _ => ⟨hq.of (propsFold_ev _ connackSendProp_ev c _), by rw [propsFold_connackSendProp_s],
        (propsFold_connackSendProp_fp c _).fr⟩)
      (fun _ => ⟨.refl c, rfl, .rfl'⟩)
  generalize (if p.rc = some 0 then propsFold connackSendProp c p.props else c) = c1 at h
  exact connackSent_orCloses hq c1 p h.1 (hp (sizeOk_of_not hz)) (hd (sizeOk_of_not hz)) fun hr y hy hy' =>
    hst hr y (h.2.1 ▸ hy) ((sizeOk_congr h.2.2 _).symm.trans hy')

/-! ### the v5.0 PUBLISH handlers: the packet given, or what the automatic alias stage made of it -/

theorem psV5PublishTail_adds (hq : Emits.Quiet Q) (c : C) (p : Pkt) (rel : Option Nat) (hp : Q (.send p rel)) :
    Emits Q c (psV5PublishTail c p rel) :=
  psV5PublishTail_eq c p rel ▸ sendIfConnected_adds hq _ p rel ((Emits.refl c).upd (countSend_ev c p)) hp

/-- the alias stage checks no size but that of a packet it has rewritten -/
theorem psV5PublishAlias_adds (hq : Emits.Quiet Q) (c : C) (p : Pkt) (rel : Option Nat) (v : Bool)
    (hp : ∀ q, Aliased p q → (sizeOk c p = true → sizeOk c q = true) → Q (.send q rel)) :
    Emits Q c (psV5PublishAlias c p rel v) :=
  psV5PublishAlias_cases c p rel v
    (fun _ e k => (hq.err ((Emits.refl c).upd k.ev_eq) e).trans (hq.of (pubRefuseCleanup_ev _ _)))
    (fun c' q k ha hz => (psV5PublishTail_adds hq c' q rel (hp q ha hz)).congr_left k.ev_eq)

theorem psV5Publish_adds (hq : Emits.Quiet Q) (c : C) (p : Pkt)
    (hp : ∀ q r, Aliased p q → sizeOk c q = true → Q (.send q r)) : Emits Q c (psV5Publish c p) :=
  psV5Publish_cases c p (fun _ e k => hq.err ((Emits.refl c).upd k.ev_eq) e)
    (fun _ e id k => (hq.err ((Emits.refl c).upd k.ev_eq) e).trans (hq.of (releaseIfUsed_ev _ id)))
    ((Emits.refl c).setPanic _)
    (fun hz c' rel v k => (psV5PublishAlias_adds hq c' p rel v fun q hq' hz' =>
      hp q rel hq' ((sizeOk_congr k.fr q).symm.trans (hz' ((sizeOk_congr k.fr p).trans hz)))).congr_left k.ev_eq)

theorem processSend_connect (c : C) {p : Pkt} (h : p.kind = .connect) :
    processSend c p = if p.ver = 4 then psV3Connect c p else psV5Connect c p := by
  unfold processSend; rw [h]

theorem processSend_connack (c : C) {p : Pkt} (h : p.kind = .connack) :
    processSend c p = if p.ver = 4 then psV3Connack c p else psV5Connack c p := by
  unfold processSend; rw [h]

theorem processSend_disconnect (c : C) {p : Pkt} (h : p.kind = .disconnect) :
    processSend c p = if p.ver = 4 then psV3Disconnect c p else psV5Disconnect c p := by
  unfold processSend; rw [h]

theorem processSend_publish (c : C) {p : Pkt} (h : p.kind = .publish) :
    processSend c p = if p.ver = 4 then psV3Publish c p else psV5Publish c p := by
  unfold processSend; rw [h]

theorem processSend_pubrel (c : C) {p : Pkt} (h : p.kind = .pubrel) : processSend c p = psPubrel c p := by
  unfold processSend; rw [h]; exact ite_self _

theorem processSend_subUnsub (c : C) {p : Pkt} (h : p.kind = .subscribe ∨ p.kind = .unsubscribe) :
    processSend c p = psSubUnsub c p := by
  unfold processSend; rcases h with h | h <;> rw [h] <;> exact ite_self _

/-- a packet that closes nothing and lets nothing stored be sent -/
theorem processSend_adds_open (hq : Emits.Quiet Q) (c : C) (p : Pkt) (h1 : p.kind ≠ .connack)
    (h2 : p.kind ≠ .disconnect) (hp : ∀ q r, Aliased p q → Sized c q → Q (.send q r)) :
    Emits Q c (processSend c p) :=
  have h : Sized c p → ∀ r, Q (.send p r) := fun hz r => hp p r .same hz
  have h5 : sizeOk c p = true → Q (.send p none) := fun hz => h (fun _ => hz) none
  have h3 : p.ver = 4 → ∀ r, Q (.send p r) := fun h4 => h fun h5 => absurd (h4.symm.trans h5) (by decide)
  processSend_cases c p (fun h4 _ => psV3Connect_adds hq c p (h3 h4 _)) (fun _ hk => absurd hk h1)
    (fun h4 _ => psV3Publish_adds hq c p (h3 h4)) (fun h4 _ => psV3Simple_adds hq c p (h3 h4 _))
    (fun _ hk => absurd hk h2) (fun _ _ => .refl c) (fun _ => psPubrel_adds hq c p (h · none))
    (fun _ => psSubUnsub_adds hq c p h) (fun _ => psPingreq_adds hq c p (h · none))
    (fun _ _ => psV5Connect_adds hq c p h5) (fun _ hk => absurd hk h1)
    (fun _ _ => psV5Publish_adds hq c p fun q r hq' hz => hp q r hq' fun _ => hz)
    (fun _ _ => psV5Puback_adds hq c p h5) (fun _ _ => psV5Pubrec_adds hq c p h5)
    (fun _ _ => psV5Pubcomp_adds hq c p h5) (fun _ hk => absurd hk h2) (fun _ _ => psV5Auth_adds hq c p h5)
    (fun _ _ => psV5Simple_adds hq c p h5)

/-- a packet whose sending gives the connection up: a DISCONNECT, or a CONNACK that refuses -/
def Ends (p : Pkt) : Prop := p.kind = .disconnect ∨ p.kind = .connack ∧ p.rc ≠ some 0

theorem processSend_orCloses (hq : Emits.Quiet Q) (c : C) (p : Pkt)
    (hp : ¬ Ends p → ∀ q r, Aliased p q → Sized c q → Q (.send q r)) (hd : Ends p → Sized c p → D p)
    (hst : ∀ y ∈ c.s.store, sizeOk c y.2 = true → Q (.send y.2 none)) : Emits.OrCloses Q D c (processSend c p) := by
  have v3 : p.ver = 4 → Sized c p := fun h4 h5 => absurd (h4.symm.trans h5) (by decide)
  by_cases h1 : p.kind = .connack
  · have hp' : Sized c p → p.rc = some 0 → Q (.send p none) := fun hz hr =>
      hp (fun h => h.elim (fun h => nomatch h1.symm.trans h) (fun h => h.2 hr)) p none .same hz
    rw [processSend_connack c h1]
    exact ite_ind (fun h4 => psV3Connack_orCloses hq c p (hp' (v3 h4)) (fun hr => hd (.inr ⟨h1, hr⟩) (v3 h4))
        (fun _ => hst))
      (fun _ => psV5Connack_orCloses hq c p (fun hz => hp' fun _ => hz) (fun hz hr => hd (.inr ⟨h1, hr⟩) fun _ => hz)
        (fun _ => hst))
  by_cases h2 : p.kind = .disconnect
  · rw [processSend_disconnect c h2]
    exact ite_ind (fun h4 => psV3Disconnect_orCloses hq c p (hd (.inl h2) (v3 h4)))
      (fun _ => psV5Disconnect_orCloses hq c p fun hz => hd (.inl h2) fun _ => hz)
  · exact .inl (processSend_adds_open hq c p h1 h2 (hp fun h => h.elim h2 fun h => h1 h.1))

theorem send_orCloses (hq : Emits.Quiet Q) (c : C) (p : Pkt)
    (hp : c.s.ver = p.ver → ¬ Ends p → ∀ q r, Aliased p q → Sized c q → Q (.send q r))
    (hd : c.s.ver = p.ver → Ends p → Sized c p → D p)
    (hst : ∀ y ∈ c.s.store, sizeOk c y.2 = true → Q (.send y.2 none)) : Emits.OrCloses Q D c (send c p) :=
  send_cases c p (fun _ => .inl (hq.of (refuseSend_ev ..))) (fun _ _ => .inl (hq.of (refuseSend_ev ..)))
    (fun hv _ => processSend_orCloses hq c p (hp hv) (hd hv) hst)

/-! ### the receive side

`hr` says that `Q` allows the delivery of the parsed packet, `hrel` the PUBREL that answers a PUBREC, `hN` gives `N`
where an answer is built for a version other than 5.  A handler other than those of CONNECT and CONNACK gives the
connection up only on its error path (`vErr_orCloses`), and other than those of PUBLISH it ends in one of two ways
(`Processed`). -/

theorem deliver_adds (hq : Emits.Quiet Q) {a : C} (c : C) (p : Pkt) (h : Emits Q a c) (hp : Q (.recv p)) :
    Emits Q a ((refreshPingreqRecv c).push (.recv p)) :=
  (h.trans (hq.of (refreshPingreqRecv_ev c))).push hp

/-- what the handlers of the packets other than CONNECT, CONNACK and PUBLISH write before they deliver -/
abbrev wProcessed (a x : St) : St :=
  { a with sendSet := x.sendSet, recvSet := x.recvSet, respSet := x.respSet, puback := x.puback, pubrec := x.pubrec,
           pubcomp := x.pubcomp, store := x.store, pidMan := x.pidMan, panic := x.panic, sendCount := x.sendCount,
           handled := x.handled, publishRecv := x.publishRecv, suback := x.suback, unsuback := x.unsuback }

/-- how such a handler ends: on its error path `vErr`, the only place where it writes `status`; or with the delivery of
    the parsed packet, after `Q`-events -/
inductive Processed (Q : Ev → Prop) (c : C) (x : Except Nat Pkt) : C → Prop
  | refused (e : Nat) : Processed Q c x (vErr c e)
  | delivered (p : Pkt) (m : C) (hx : x = .ok p) (hm : Emits Q c m) (hs : m.s = wProcessed c.s m.s) :
      Processed Q c x (m.push (.recv p))

theorem Processed.deliver (hq : Emits.Quiet Q) {c : C} {x : Except Nat Pkt} (p : Pkt) (m : C) (hx : x = .ok p)
    (hm : Emits Q c m) (hf : Footprint [.error, .send, .released, .timerReset] wProcessed c m) :
    Processed Q c x ((refreshPingreqRecv m).push (.recv p)) :=
  .delivered p _ hx (hm.trans (hq.of (refreshPingreqRecv_ev m))) (hf.step (refreshPingreqRecv_fp m)).s

theorem Processed.orCloses {c r : C} {x : Except Nat Pkt} (h : Processed Q c x r) (hq : Emits.Quiet Q)
    (hD : Emits.Closing D c) (hr : ∀ p, x = .ok p → Q (.recv p)) : Emits.OrCloses Q D c r := by
  cases h with
  | refused e => exact vErr_orCloses hq hD e
  | delivered p m hx hm _ => exact .inl (hm.push (hr p hx))

theorem prPlain_processed (hq : Emits.Quiet Q) (c : C) (x : Except Nat Pkt) : Processed Q c x (prPlain c x) := by
  unfold prPlain
  cases x with
  | error e => exact .refused e
  | ok p => exact .deliver hq p c rfl (.refl c) (.of_s rfl)

theorem prPingresp_processed (hq : Emits.Quiet Q) (c : C) (x : Except Nat Pkt) : Processed Q c x (prPingresp c x) := by
  unfold prPingresp
  cases x with
  | error e => exact .refused e
  | ok p =>
    refine .delivered p _ rfl ?_ (ite_ind (Q := fun m : C => m.s = wProcessed c.s m.s) (fun _ => rfl) (fun _ => rfl))
    exact ite_ind (fun _ => ((Emits.refl c).upd).push (hq (.timerCancel _) (show EvTag.timerCancel ∈ _ by decide)))
      (fun _ => .refl c)

theorem prDisconnect_processed (hq : Emits.Quiet Q) (c : C) (x : Except Nat Pkt) :
    Processed Q c x (prDisconnect c x) := by
  unfold prDisconnect
  cases x with
  | error e => exact .refused e
  | ok p => exact .delivered p _ rfl (hq.of (cancelTimers_ev c)) (by rw [cancelTimers_s])

theorem prPingreq_processed {c : C} (hQ : Emits.Own Q N c) (x : Except Nat Pkt) (hN : ∀ p, x = .ok p → p.ver ≠ 5 → N) :
    Processed Q c x (prPingreq c x) := by
  unfold prPingreq
  cases x with
  | error e => exact .refused e
  | ok p =>
    refine .deliver hQ.quiet p _ rfl ?_ ?_
    · refine ite_ind (fun _ => ite_ind (fun h4 => ?_) (fun _ => ?_)) (fun _ => .refl c)
      · exact psV3Simple_adds hQ.quiet c _ (hQ.reply _ (.pingresp 4) nofun fun _ => hN p rfl (by omega))
      · exact psV5Simple_adds hQ.quiet c _ fun hz => hQ.reply _ (.pingresp 5) (fun _ => hz) (fun h => absurd rfl h)
    · refine ite_ind (fun _ => ?_) (fun _ => .of_s rfl)
      exact ite_ind (fun _ => (psV3Simple_fp c _).widen) (fun _ => (psV5Simple_fp c _).widen)

theorem ackIn_processed (hq : Emits.Quiet Q) {c : C} {x : Except Nat Pkt} {set : List Nat} {taken : Pkt → Nat → C}
    (hm : ∀ p, x = .ok p → Emits Q c (taken p (p.pid.getD 0)))
    (hf : ∀ p id, Footprint [.error, .send, .released, .timerReset] wProcessed c (taken p id)) :
    Processed Q c x (ackIn c x set taken) :=
  ackIn_ind (fun e _ => .refused e) (fun _ _ _ => .refused _) (fun p hx _ => .deliver hq p _ hx (hm p hx) (hf p _))

theorem pubDone_adds (hq : Emits.Quiet Q) (c : C) (p : Pkt) (id : Nat) : Emits Q c (pubDone c p id) :=
  hq.of (pubDone_fp c p id).ev

theorem prSubUnsuback_processed (hq : Emits.Quiet Q) (c : C) (b : Bool) (x : Except Nat Pkt) :
    Processed Q c x (prSubUnsuback c b x) :=
  prSubUnsuback_eq c b x ▸ ackIn_processed hq
    (fun _ _ => (hq.of (releaseIfUsed_ev _ _)).congr_left (ite_ind (Q := fun m : C => m.ev = c.ev) (fun _ => rfl) (fun _ => rfl)))
    (fun _ id => .step (ite_ind (fun _ => .of_s rfl) (fun _ => .of_s rfl)) (releaseIfUsed_fp _ id))

theorem prPuback_processed (hq : Emits.Quiet Q) (c : C) (x : Except Nat Pkt) : Processed Q c x (prPuback c x) :=
  prPuback_eq c x ▸ ackIn_processed hq (fun p _ => (pubDone_adds hq _ p _).congr_left)
    (fun p id => .step (.of_s rfl) (pubDone_fp _ p id))

theorem prPubcomp_processed (hq : Emits.Quiet Q) (c : C) (x : Except Nat Pkt) : Processed Q c x (prPubcomp c x) :=
  prPubcomp_eq c x ▸ ackIn_processed hq (fun p _ => (pubDone_adds hq _ p _).congr_left)
    (fun p id => .step (.of_s rfl) (pubDone_fp _ p id))

theorem prPubrec_processed (hq : Emits.Quiet Q) (c : C) (x : Except Nat Pkt)
    (hrel : ∀ p cfg, x = .ok p → Sized c (mkAck cfg p.ver .pubrel (p.pid.getD 0)) →
      Q (.send (mkAck cfg p.ver .pubrel (p.pid.getD 0)) none)) : Processed Q c x (prPubrec c x) := by
  refine prPubrec_eq c x ▸ ackIn_processed hq (fun p hx => ?_) (fun p id => .step (.of_s rfl) (pubrecDone_fp _ p id))
  refine pubrecDone_cases (fun _ _ _ => ?_) (fun _ _ => (Emits.refl c).upd) (fun _ => ?_)
  · exact Emits.congr_left (psPubrel_adds hq _ _ fun hz => hrel p _ hx (hz.congr ⟨rfl, rfl⟩))
  · refine Emits.upd ?_ (decSendCount_ev _)
    exact (hq.of (releaseIfUsed_ev _ _)).congr_left

theorem prPubrel_processed {c : C} (hQ : Emits.Own Q N c) (x : Except Nat Pkt) (hN : ∀ p, x = .ok p → p.ver ≠ 5 → N) :
    Processed Q c x (prPubrel c x) := by
  unfold prPubrel
  cases x with
  | error e => exact .refused e
  | ok p =>
    refine .deliver hQ.quiet p _ rfl ?_ ?_
    -- the answer is built and checked in a context that differs from `c` in `handled`
    · have h5 : ∀ (c' : C) (q : Pkt), Fr c c' → Answer q → q.ver = 5 → sizeOk c' q = true → Q (.send q none) :=
        fun c' q hf ha hv hz => hQ.reply q ha (fun _ => (sizeOk_congr hf q).symm.trans hz) (fun h => absurd hv h)
      refine ite_ind (fun _ => ?_) (fun _ => (Emits.refl c).upd)
      refine ite_ind (fun h4 => ?_) (fun _ => ite_ind (fun _ => ?_) (fun _ => ?_))
      · exact Emits.congr_left (psV3Simple_adds hQ.quiet _ _
          (hQ.reply _ (.ack _ 4 _ _ (.inr (.inr rfl))) nofun fun _ => hN p rfl (by omega)))
      · exact Emits.congr_left (psV5Pubcomp_adds hQ.quiet _ _ (h5 _ _ ⟨rfl, rfl⟩ (.ack _ 5 _ _ (.inr (.inr rfl))) rfl))
      · exact Emits.congr_left (psV5Pubcomp_adds hQ.quiet _ _ (h5 _ _ ⟨rfl, rfl⟩ (.pubcompRc _ _ _) rfl))
    · have h : Footprint [.error, .send, .released, .timerReset] wProcessed c
          { c with s := { c.s with handled := del (p.pid.getD 0) c.s.handled } } := .of_s rfl
      refine ite_ind (fun _ => ?_) (fun _ => h)
      refine ite_ind (fun _ => h.step (psV3Simple_fp _ _)) (fun _ => ?_)
      exact ite_ind (fun _ => h.step (psV5Pubcomp_fp _ _)) (fun _ => h.step (psV5Pubcomp_fp _ _))

/-- `dispatchRecv_cases` with one hypothesis for these handlers -/
theorem dispatchRecv_processed {J : C → Prop} {c : C} (hQ : Emits.Own Q N c) (t : Nat) (x : Except Nat Pkt)
    (hN : ∀ p, x = .ok p → p.ver ≠ 5 → N)
    (hrel : ∀ p cfg, x = .ok p → Sized c (mkAck cfg p.ver .pubrel (p.pid.getD 0)) →
      Q (.send (mkAck cfg p.ver .pubrel (p.pid.getD 0)) none))
    (connect3 : t = 1 → c.s.ver = 4 → J (prV3Connect c x)) (connect5 : t = 1 → c.s.ver ≠ 4 → J (prV5Connect c x))
    (connack3 : t = 2 → c.s.ver = 4 → J (prV3Connack c x)) (connack5 : t = 2 → c.s.ver ≠ 4 → J (prV5Connack c x))
    (publish3 : t = 3 → c.s.ver = 4 → J (prV3Publish c x)) (publish5 : t = 3 → c.s.ver ≠ 4 → J (prV5Publish c x))
    (rest : ∀ r, Processed Q c x r → J r) (err : J (c.err eMalformed)) : J (dispatchRecv c t x) :=
  have hq := hQ.quiet
  dispatchRecv_cases c t x connect3 connect5 connack3 connack5 publish3 publish5
    (fun _ => rest _ (prPuback_processed hq c x)) (fun _ => rest _ (prPubrec_processed hq c x hrel))
    (fun _ => rest _ (prPubrel_processed hQ x hN)) (fun _ => rest _ (prPubcomp_processed hq c x))
    (fun _ => rest _ (prPlain_processed hq c x)) (fun _ => rest _ (prSubUnsuback_processed hq c true x))
    (fun _ => rest _ (prSubUnsuback_processed hq c false x)) (fun _ => rest _ (prPingreq_processed hQ x hN))
    (fun _ => rest _ (prPingresp_processed hq c x)) (fun _ => rest _ (prDisconnect_processed hq c x)) fun _ => err

theorem autoAck_adds {a c : C} {due : Prop} [Decidable due] {site : String} {id : Nat} {send : C → C} (h : Emits Q a c)
    (hs : ∀ m, Emits Q m (send m)) : Emits Q a (autoAck c due site id send) :=
  autoAck_ind (fun _ => h) fun _ m hm _ => h.trans (Emits.congr_left (hs m) hm.ev_eq)

theorem prV3Publish_orCloses {c : C} (hQ : Emits.Own Q N c) (hN : N) (x : Except Nat Pkt)
    (hr : ∀ p, x = .ok p → Q (.recv p)) : Emits.OrCloses Q D c (prV3Publish c x) :=
  have hq := hQ.quiet
  have v3 : ∀ (k : Kind) (id : Nat), k = .puback ∨ k = .pubrec ∨ k = .pubcomp → ∀ m : C,
      Emits Q m (psV3Simple m (mkAck m.cfg 4 k id)) :=
    fun k id hk m => psV3Simple_adds hq m _ (hQ.reply _ (.ack _ 4 _ _ hk) nofun fun _ => hN)
  have q2 : ∀ id, Emits Q c (prV3Qos2 c id) := fun id =>
    (autoAck_adds (Emits.refl c).upd (v3 .pubrec id (.inr (.inl rfl)))).trans (hq.of (refreshPingreqRecv_ev _))
  prV3Publish_paths (fun e _ => .closes (handleV3Error_closes c e))
    (fun p hx _ => .inl (deliver_adds hq c p (.refl c) (hr p hx)))
    (fun _ _ _ _ => .inl ((Emits.refl c).setPanic _))
    (fun p id hx _ _ => .inl (deliver_adds hq _ p (autoAck_adds (.refl c) (v3 .puback id (.inl rfl))) (hr p hx)))
    (fun p id hx _ _ _ _ => .inl ((q2 id).push (hr p hx))) (fun p id _ _ _ _ _ => .inl (q2 id))

/-- the alias stage of a received PUBLISH reports the alias as invalid, or adds no event and leaves what the size check
    reads -/
theorem prV5PublishAlias_stage (c : C) (p : Pkt) :
    (prV5PublishAlias c p).1 = handleV5Error c eAliasInvalid ∧ (prV5PublishAlias c p).2 = none ∨
      (prV5PublishAlias c p).1.ev = c.ev ∧ Fr c (prV5PublishAlias c p).1 :=
  prV5PublishAlias_cases
    (Q := fun r => r.1 = handleV5Error c eAliasInvalid ∧ r.2 = none ∨ r.1.ev = c.ev ∧ Fr c r.1) c p
    (.inl ⟨rfl, rfl⟩) (fun _ _ hc he hs => .inr ⟨he, hc, by rw [hs]⟩)

theorem prvBook_fr (c : C) (qos id : Nat) : Fr c (prvBook c qos id) := (prvBook_fp c qos id).fr

theorem prvAck_adds {a c : C} (hQ : Emits.Own Q N c) (qos id : Nat) (already : Prop) [Decidable already]
    (h : Emits Q a c) : Emits Q a (prvAck c qos id already) :=
  -- the packet is built and checked in a context `m` that differs from `c` in `panic`
  have reply : ∀ (k : Kind), k = .puback ∨ k = .pubrec ∨ k = .pubcomp → ∀ m : C, Footprint [] wPanic c m →
      sizeOk m (mkAck m.cfg 5 k id) = true → Q (.send (mkAck m.cfg 5 k id) none) :=
    fun k hk m hm hz => hQ.reply _ (.ack _ 5 _ id hk) (fun _ => (sizeOk_congr hm.fr _).symm.trans hz) (fun h => absurd rfl h)
  prvAck_cases (fun _ _ => h)
    (fun _ _ _ m hm _ => h.trans
      (Emits.congr_left (psV5Puback_adds hQ.quiet m _ (reply .puback (.inl rfl) m hm)) hm.ev_eq))
    (fun _ _ _ m hm _ => h.trans
      (Emits.congr_left (psV5Pubrec_adds hQ.quiet m _ (reply .pubrec (.inr (.inl rfl)) m hm)) hm.ev_eq))

theorem prV5Publish_orCloses {c : C} (hQ : Emits.Own Q N c) (hD : Emits.Closing D c) (x : Except Nat Pkt)
    (hr : ∀ p p', x = .ok p → (prV5PublishAlias c p).2 = some p' → Q (.recv p')) :
    Emits.OrCloses Q D c (prV5Publish c x) := by
  have hq := hQ.quiet
  cases x with
  | error e =>
    unfold prV5Publish
    exact ite_ind (fun _ => handleV5Error_orCloses hq hD e) (fun _ => .inl (hq.err (.refl c) e))
  | ok p =>
    rw [prV5Publish_eq]
    cases h2 : (prV5PublishAlias c p).2 with
    | none =>
      rcases prV5PublishAlias_stage c p with ⟨h1, _⟩ | ⟨he, _⟩
      · exact h1 ▸ handleV5Error_orCloses hq hD _
      · exact .inl ((Emits.refl c).upd he)
    | some p' =>
      rcases prV5PublishAlias_stage c p with ⟨_, hn⟩ | ⟨he, hf⟩
      · exact nomatch hn.symm.trans h2
      have h1 : Emits Q c (prV5PublishAlias c p).1 := (Emits.refl c).upd he
      refine ite_ind (fun _ => .inl (h1.setPanic _)) (fun _ => ite_ind
        (fun _ => .after h1 (handleV5Error_orCloses hq (hD.congr hf) _)) (fun _ => .inl ?_))
      have h4 := (prvAck_adds (hQ.congr (hf.trans (prvBook_fr _ p.qos (p.pid.getD 0)))) p.qos (p.pid.getD 0)
        (p.qos = 2 ∧ p.pid.getD 0 ∈ (prV5PublishAlias c p).1.s.handled)
        (h1.upd (prvBook_ev _ p.qos (p.pid.getD 0)))).trans (hq.of (refreshPingreqRecv_ev _))
      exact ite_ind (fun _ => h4.push (hr p p' rfl h2)) (fun _ => h4)

/-! ### CONNECT and CONNACK received

A CONNECT that cannot be parsed is answered by a refusing CONNACK, a CONNACK with Session Present by the stored packets.
A v5.0 CONNECT that is accepted, and a v5.0 CONNACK that accepts, set the limit of the peer: the hypotheses are read in
the context the call returns, in which the stored packets are sent.  Each lemma is stated once for the shape of the
handler (`connectIn_orCloses`, `connackIn_orCloses`), where `H` stands for those hypotheses. -/

/-- `H`: what is asked of `Q` and `D` where the connection is given up, read in the context the call returns -/
theorem connectIn_orCloses {H : C → Prop} (hq : Emits.Quiet Q) {c : C} {x : Except Nat Pkt} {busy : C}
    {nack : C → Nat → C} {settle : Pkt → C → C} (hr : ∀ p, x = .ok p → Q (.recv p))
    (hbusy : H busy → Emits.OrCloses Q D c busy)
    (hnack : ∀ e, H ((nack { c with s := { c.s with status := .connecting } } e).err e) →
      Emits.OrCloses Q D c (nack { c with s := { c.s with status := .connecting } } e))
    (hsettle : ∀ p, (settle p (accepting c p.keepAlive)).ev = c.ev) :
    H (connectIn c x busy nack settle) → Emits.OrCloses Q D c (connectIn c x busy nack settle) :=
  connectIn_ind (Q := fun r => H r → Emits.OrCloses Q D c r) (fun _ => hbusy) (fun _ e _ h => (hnack e h).err hq e)
    (fun _ p hx _ => .inl (deliver_adds hq _ p ((Emits.refl c).upd (hsettle p)) (hr p hx)))

theorem prV3Connect_orCloses (hq : Emits.Quiet Q) (c : C) (x : Except Nat Pkt) (hr : ∀ p, x = .ok p → Q (.recv p))
    (hd : ∀ e, D (mkV3Connack (v3ConnectErrRc e))) : Emits.OrCloses Q D c (prV3Connect c x) :=
  prV3Connect_eq c x ▸ connectIn_orCloses (H := fun _ => True) hq hr (fun _ => .closes (handleV3Error_closes c _))
    (fun e _ => (psV3Connack_orCloses hq { c with s := { c.s with status := .connecting } } _
      (fun h => absurd h (v3ConnectErrRc_ne e)) (fun _ => hd e) (fun h => absurd h (v3ConnectErrRc_ne e))).congr_left)
    (fun _ => ev_ite rfl rfl) trivial

theorem prV5Connect_orCloses (hq : Emits.Quiet Q) (c : C) (x : Except Nat Pkt) (hr : ∀ p, x = .ok p → Q (.recv p))
    (hD : Emits.Closing D (prV5Connect c x))
    (hd : ∀ e, sizeOk (prV5Connect c x) (mkV5Connack (v5ConnectErrRc e)) = true → D (mkV5Connack (v5ConnectErrRc e))) :
    Emits.OrCloses Q D c (prV5Connect c x) := by
  revert hD hd
  rw [prV5Connect_eq]
  refine fun hD hd => connectIn_orCloses hq hr (H := fun r => Emits.Closing D r ∧
      ∀ e, sizeOk r (mkV5Connack (v5ConnectErrRc e)) = true → D (mkV5Connack (v5ConnectErrRc e)))
    (fun h => handleV5Error_orCloses hq (h.1.congr (handleV5Error_fp c _).fr.symm) _) (fun e h => ?_)
    (fun p => (propsFold_connectRecvProp_ev _ _).trans (ev_ite rfl rfl))
    ⟨hD, hd⟩
  -- the refusing CONNACK is checked against the limit it is sent under
  have hf :=
    (psV5Connack_fp { c with s := { c.s with status := .connecting } } (mkV5Connack (v5ConnectErrRc e))).fr.err e
  exact (psV5Connack_orCloses hq _ _ (fun _ h => absurd h (v5ConnectErrRc_ne e))
    (fun hz _ => h.2 e ((sizeOk_congr hf _).trans hz)) (fun h => absurd h (v5ConnectErrRc_ne e))).congr_left

theorem propsFold_connackRecvProp_store (c : C) (l : List (Nat × Nat)) :
    ∀ y ∈ (propsFold connackRecvProp c l).s.store, y ∈ c.s.store :=
  propsFold_rel (R := fun a b : C => ∀ y ∈ b.s.store, y ∈ a.s.store) connackRecvProp (fun _ _ h => h)
    (fun _ _ _ h h' y hy => h y (h' y hy))
    (fun c id v _ hy => (connackRecvProp_store_mps c id v).1.elim (fun e => e ▸ hy) (fun e => nomatch e ▸ hy)) c l

/-- `H` as in `connectIn_orCloses`; `hst`: when the session is resumed, `Q` allows the sending of every stored packet
    that fits, in the context the properties leave -/
theorem connackIn_orCloses {H : C → Prop} (hq : Emits.Quiet Q) {c : C} {x : Except Nat Pkt} {busy : C} {bad : Nat → C}
    {props : Pkt → C → C} (hr : ∀ p, x = .ok p → Q (.recv p)) (hbusy : H busy → Emits.OrCloses Q D c busy)
    (hbad : ∀ e, H (bad e) → Emits.OrCloses Q D c (bad e))
    (hprops : ∀ p, Emits Q c (props p { c with s := { c.s with status := .connected } }))
    (hst : ∀ p, H ((resendStored (props p { c with s := { c.s with status := .connected } })).push (.recv p)) →
      ∀ y ∈ (props p { c with s := { c.s with status := .connected } }).s.store,
        sizeOk (props p { c with s := { c.s with status := .connected } }) y.2 = true → Q (.send y.2 none)) :
    H (connackIn c x busy bad props) → Emits.OrCloses Q D c (connackIn c x busy bad props) :=
  connackIn_ind (Q := fun r => H r → Emits.OrCloses Q D c r) (fun _ => hbusy) (fun _ e _ => hbad e)
    (fun _ p hx _ _ => .inl ((Emits.refl c).push (hr p hx)))
    (fun _ p hx _ _ h => .inl (((hprops p).trans (resendStored_adds hq _ (hst p h))).push (hr p hx)))
    (fun _ p hx _ _ _ => .inl ((hprops p).upd.push (hr p hx)))

theorem prV3Connack_orCloses (hq : Emits.Quiet Q) (c : C) (x : Except Nat Pkt) (hr : ∀ p, x = .ok p → Q (.recv p))
    (hst : ∀ y ∈ c.s.store, sizeOk c y.2 = true → Q (.send y.2 none)) : Emits.OrCloses Q D c (prV3Connack c x) :=
  prV3Connack_eq c x ▸ connackIn_orCloses (H := fun _ => True) hq hr (fun _ => .closes (handleV3Error_closes c _))
    (fun e _ => .closes (handleV3Error_closes c e)) (fun _ => (Emits.refl c).upd) (fun _ _ => hst) trivial

theorem prV5Connack_orCloses (hq : Emits.Quiet Q) (c : C) (x : Except Nat Pkt) (hr : ∀ p, x = .ok p → Q (.recv p))
    (hD : Emits.Closing D (prV5Connack c x))
    (hst : ∀ y ∈ c.s.store, sizeOk (prV5Connack c x) y.2 = true → Q (.send y.2 none)) :
    Emits.OrCloses Q D c (prV5Connack c x) := by
  revert hD hst
  rw [prV5Connack_eq]
  exact fun hD hst => connackIn_orCloses hq hr
    (H := fun r => Emits.Closing D r ∧ ∀ y ∈ c.s.store, sizeOk r y.2 = true → Q (.send y.2 none))
    (fun h => handleV5Error_orCloses hq (h.1.congr (handleV5Error_fp c _).fr.symm) _)
    (fun e _ => .inl (hq.err (.refl c) e)) (fun p => (hq.of (propsFold_ev _ connackRecvProp_ev _ _)).congr_left)
    (fun p h y hy hz =>
      h.2 y (propsFold_connackRecvProp_store { c with s := { c.s with status := .connected } } p.props y hy)
        ((sizeOk_congr ((resendStored_fp _).fr.push _) _).trans hz))
    ⟨hD, hst⟩

theorem notifyTimerFired_orCloses {c : C} (hQ : Emits.Own Q N c) (hD : Emits.Closing D c) (hN : c.s.ver ≠ 5 → N)
    (k : Timer) : Emits.OrCloses Q D c (notifyTimerFired c k) :=
  have he := unsetTimer_ev c k
  have hf : Fr c (unsetTimer c k) := (unsetTimer_fp c k).fr
  notifyTimerFired_cases c k
    (fun v _ _ hv _ => .inl ((psPingreq_adds hQ.quiet _ _ fun hz =>
      hQ.reply _ (.pingreq v) (hz.congr hf.symm) fun hn => hN (by rw [hv]; exact hn)).congr_left he))
    (fun _ _ => .closes (.close ((Emits.refl c).upd he)))
    (fun _ _ _ => (v5DisconnectOrClose_orCloses hQ.quiet _ _ ((hD.congr hf) _)).congr_left he)
    (fun _ _ => .inl ((Emits.refl c).upd he)) (fun _ _ _ => .inl (((Emits.refl c).upd he).setPanic _))

/-- the expiry of a keep-alive timeout on an established connection gives the connection up, whatever fits the peer -/
theorem notifyTimerFired_closes {c : C} (hD : Emits.Closing D c) (k : Timer) (hk : k = .pingreqRecv ∨ k = .pingrespRecv)
    (hc : c.s.status = .connected) (hv : c.s.ver = 4 ∨ c.s.ver = 5) : Emits.Closes D c (notifyTimerFired c k) :=
  have he := unsetTimer_ev c k
  notifyTimerFired_cases c k (fun _ h => absurd h (by rcases hk with rfl | rfl <;> nofun))
    (fun _ _ => .close ((Emits.refl c).upd he))
    (fun _ _ _ => (v5DisconnectOrClose_closes _ _ (by rw [unsetTimer_s]; exact hc)
      (hD.congr (unsetTimer_fp c k).fr _)).congr_left he)
    (fun _ h => absurd hc h) (fun _ h4 h5 => absurd hv (not_or.2 ⟨h4, h5⟩))

/-! ### the dispatchers and the API calls

What `Q` must allow: for `send` the packet given (`hp`; `hd`: what `D` must allow, if it gives the connection up), for
`recv` what the parser returns (`hr`), and what the library sends of its own accord (`hL`), read in the context the call
returns. -/

theorem dispatchRecv_fr (c : C) (t : Nat) (x : Except Nat Pkt) (ht : 3 ≤ t) : Fr c (dispatchRecv c t x) :=
  dispatchRecv_cases (Q := Fr c) c t x (fun h => absurd (h ▸ ht) (by decide)) (fun h => absurd (h ▸ ht) (by decide))
      (fun h => absurd (h ▸ ht) (by decide)) (fun h => absurd (h ▸ ht) (by decide))
    (fun _ _ => (prV3Publish_fp c x).fr) (fun _ _ => (prV5Publish_fp c x).fr) (fun _ => (prPuback_fp c x).fr)
    (fun _ => (prPubrec_fp c x).fr) (fun _ => (prPubrel_fp c x).fr) (fun _ => (prPubcomp_fp c x).fr)
    (fun _ => (prPlain_fp c x).fr) (fun _ => (prSubUnsuback_fp c _ x).fr) (fun _ => (prSubUnsuback_fp c _ x).fr)
    (fun _ => (prPingreq_fp c x).fr) (fun _ => (prPingresp_fp c x).fr) (fun _ => (prDisconnect_fp c x).fr) fun _ => .rfl'

theorem dispatchRecv_lt3 {J : C → Prop} (c : C) (t : Nat) (x : Except Nat Pkt) (ht : ¬ 3 ≤ t)
    (connect3 : t = 1 → c.s.ver = 4 → J (prV3Connect c x)) (connect5 : t = 1 → c.s.ver ≠ 4 → J (prV5Connect c x))
    (connack3 : t = 2 → c.s.ver = 4 → J (prV3Connack c x)) (connack5 : t = 2 → c.s.ver ≠ 4 → J (prV5Connack c x))
    (err : J (c.err eMalformed)) : J (dispatchRecv c t x) :=
  have no : ∀ {n : Nat} {A : Prop}, 3 ≤ n → t = n → A := fun hn h => absurd (h ▸ hn) ht
  dispatchRecv_cases c t x connect3 connect5 connack3 connack5 (fun h _ => no (by decide) h)
    (fun h _ => no (by decide) h) (no (by decide)) (no (by decide)) (no (by decide)) (no (by decide))
    (fun h => h.elim (no (by decide)) fun h => h.elim (no (by decide)) fun h => no (by decide) h.1) (no (by decide))
    (no (by decide)) (no (by decide)) (no (by decide)) (no (by decide)) fun _ => err

theorem dispatchRecv_orCloses (c : C) (t : Nat) (x : Except Nat Pkt) (hN1 : c.s.ver ≠ 5 → N)
    (hN2 : ∀ p, x = .ok p → p.ver ≠ 5 → N) (hr : ∀ p p', x = .ok p → Resolved p p' → Q (.recv p'))
    (hL : Emits.Api Q D N c.s.store (dispatchRecv c t x)) : Emits.OrCloses Q D c (dispatchRecv c t x) := by
  have hq := hL.quiet
  have h : ∀ p, x = .ok p → Q (.recv p) := fun p hp => hr p p hp .same
  by_cases ht : 3 ≤ t
  · have hL := hL.congr (dispatchRecv_fr c t x ht).symm
    have hQ := hL.toOwn
    have hD := hL.disc
    exact dispatchRecv_processed hQ t x hN2 (fun p cfg hp hz => hL.pubrel cfg p.ver _ hz (hN2 p hp))
      (fun h => absurd (h ▸ ht) (by decide)) (fun h => absurd (h ▸ ht) (by decide))
      (fun h => absurd (h ▸ ht) (by decide)) (fun h => absurd (h ▸ ht) (by decide))
      (fun _ h4 => prV3Publish_orCloses hQ (hN1 (by omega)) x h)
      (fun _ _ => prV5Publish_orCloses hQ hD x fun p p' hp h' => hr p p' hp (prV5PublishAlias_resolved c p p' h'))
      (fun _ k => k.orCloses hq hD h) (.inl (hq.err (.refl c) _))
  · revert hL
    exact dispatchRecv_lt3 (J := fun r : C => Emits.Api Q D N c.s.store r → Emits.OrCloses Q D c r) c t x ht
      (fun _ h4 hL => prV3Connect_orCloses hq c x h fun e => hL.refusal _ (.v3 e) nofun fun _ => hN1 (by omega))
      (fun _ _ hL => prV5Connect_orCloses hq c x h hL.disc fun e hz =>
        hL.refusal _ (.v5 e) (fun _ => hz) fun h5 => absurd rfl h5)
      (fun _ _ hL => prV3Connack_orCloses hq c x h (hL.congr (prV3Connack_fp c x).fr.symm).stored)
      (fun _ _ hL => prV5Connack_orCloses hq c x h hL.disc hL.stored) (fun _ => .inl (hq.err (.refl c) _))

theorem processRecvPacket_orCloses (c : C) (fh : Nat) (data : List Nat) (parse : Nat → Except Nat Pkt)
    (hN1 : c.s.ver ≠ 5 → N) (hN2 : ∀ p, parse c.s.ver = .ok p → p.ver ≠ 5 → N)
    (hr : ∀ v p p', parse v = .ok p → Resolved p p' → Q (.recv p'))
    (hL : Emits.Api Q D N c.s.store (processRecvPacket c fh data parse)) :
    Emits.OrCloses Q D c (processRecvPacket c fh data parse) := by
  have hq := hL.quiet
  revert hL
  exact processRecvPacket_cases (Q := fun r : C => Emits.Api Q D N c.s.store r → Emits.OrCloses Q D c r) c fh data parse
    (fun _ hL => (v5DisconnectOrClose_orCloses hq c _
      ((hL.disc.congr ((v5DisconnectOrClose_fp c _).fr.err _).symm) _)).err hq _)
    (fun e _ _ _ => .inl (hq.err (.refl c) e))
    (fun _ _ h0 _ _ _ hL => (prV3Connect_orCloses hq { c with s := { c.s with ver := 4 } } _ (fun p hp => hr 4 p p hp .same)
      fun e => hL.refusal _ (.v3 e) nofun fun _ => hN1 (by omega)).congr_left)
    (fun _ _ _ _ _ _ hL => (prV5Connect_orCloses hq { c with s := { c.s with ver := 5 } } _ (fun p hp => hr 5 p p hp .same)
      hL.disc fun e hz => hL.refusal _ (.v5 e) (fun _ => hz) fun h5 => absurd rfl h5).congr_left)
    (fun _ _ _ hL => dispatchRecv_orCloses c _ _ hN1 hN2 (hr _) hL)

theorem recv_orCloses (c : C) (inp : List Nat) (parse : Nat → Nat → List Nat → Except Nat Pkt) (hN1 : c.s.ver ≠ 5 → N)
    (hN2 : ∀ fh d p, parse c.s.ver fh d = .ok p → p.ver ≠ 5 → N)
    (hr : ∀ v fh d p p', parse v fh d = .ok p → Resolved p p' → Q (.recv p'))
    (hL : Emits.Api Q D N c.s.store (recv c inp parse).1) : Emits.OrCloses Q D c (recv c inp parse).1 := by
  revert hL
  exact recv_cases (Q := fun r : C => Emits.Api Q D N c.s.store r → Emits.OrCloses Q D c r) c inp parse
    (fun _ _ _ _ => .inl (Emits.refl c).upd)
    (fun pb fh data _ _ hL => (processRecvPacket_orCloses { c with s := { c.s with pb := pb } } fh data _ hN1
      (hN2 fh data) (fun v => hr v fh data) hL).congr_left)
    (fun _ _ _ _ => .closes (((Emits.Closes.close (Emits.Pre.cancelled (cancelTimers_ev _))).congr_left).err _))

theorem step_orCloses (cfg : Cfg) (s : St) (op : Op) (hN1 : s.ver ≠ 5 → N)
    (hN2 : ∀ inp parse, op = .recv inp parse → ∀ fh d p, parse s.ver fh d = .ok p → p.ver ≠ 5 → N)
    (hp : ∀ p, op = .send p → s.ver = p.ver → ¬ Ends p → ∀ q r, Aliased p q → Sized (step cfg s op) q → Q (.send q r))
    (hd : ∀ p, op = .send p → s.ver = p.ver → Ends p → Sized (step cfg s op) p → D p)
    (hr : ∀ inp parse, op = .recv inp parse → ∀ v fh d p p', parse v fh d = .ok p → Resolved p p' → Q (.recv p'))
    (hL : Emits.Api Q D N s.store (step cfg s op)) : Emits.OrCloses Q D ⟨cfg, s, []⟩ (step cfg s op) := by
  have hq := hL.quiet
  cases op with
  | send p =>
    have hf : Fr ⟨cfg, s, []⟩ (send ⟨cfg, s, []⟩ p) := (send_fp _ p).fr
    exact send_orCloses hq _ p (fun hv hn q r hq' hz => hp p rfl hv hn q r hq' (hz.congr hf))
      (fun hv he hz => hd p rfl hv he (hz.congr hf)) (hL.congr hf.symm).stored
  | recv inp parse => exact recv_orCloses _ inp parse hN1 (hN2 inp parse rfl) (hr inp parse rfl) hL
  | timer k =>
    have hL := hL.congr (notifyTimerFired_fp ⟨cfg, s, []⟩ k).fr.symm
    exact notifyTimerFired_orCloses hL.toOwn hL.disc hN1 k
  | closed => exact .inl (hq.of (notifyClosed_ev _))
  | setInterval d => exact .inl (hq.of (setPingreqSendInterval_ev _ d))
  | release id => exact .inl (hq.of (releasePacketId_ev _ id))
  | erase id => exact .inl (hq.of (eraseStoredPublish_ev _ id))
  | restorePackets ps => exact .inl ((Emits.refl _).upd (restorePackets_ev _ ps))
  | _ => exact .inl (Emits.refl _).upd

/-- for a `Q` that allows the close request and whatever is sent before it, a call adds only `Q`-events -/
theorem step_adds (cfg : Cfg) (s : St) (op : Op) (hc : Q .close) (hN1 : s.ver ≠ 5 → N)
    (hN2 : ∀ inp parse, op = .recv inp parse → ∀ fh d p, parse s.ver fh d = .ok p → p.ver ≠ 5 → N)
    (hp : ∀ p, op = .send p → s.ver = p.ver → ∀ q r, Aliased p q → Sized (step cfg s op) q → Q (.send q r))
    (hr : ∀ inp parse, op = .recv inp parse → ∀ v fh d p p', parse v fh d = .ok p → Resolved p p' → Q (.recv p'))
    (hL : Emits.Api Q (fun d => Q (.send d none)) N s.store (step cfg s op)) :
    Emits Q ⟨cfg, s, []⟩ (step cfg s op) :=
  (step_orCloses cfg s op hN1 hN2 (fun p h hv _ => hp p h hv) (fun p h hv _ => hp p h hv p none .same) hr hL).emits
    hL.quiet hc fun _ => id

end Fp

/-! ## predicates that do not look at sizes

`Emits.Base Q`: `Q` allows every event that is neither a send nor a delivery, and the sending of every packet the
library builds itself on an established connection, whether it fits or not.  The usual `Q` says that an event is outside
a class of packets (`Emits.Base.of_class`). -/

/-- the packets the library builds and sends of its own accord on an established connection -/
inductive Reply : Pkt → Prop
  | ack (cfg : Cfg) (v : Nat) (k : Kind) (id : Nat) (hk : k = .puback ∨ k = .pubrec ∨ k = .pubrel ∨ k = .pubcomp) :
      Reply (mkAck cfg v k id)
  | pubcompRc (cfg : Cfg) (id rc : Nat) : Reply (mkV5PubcompRc cfg id rc)
  | pingreq (v : Nat) : Reply (mkPingreq v)
  | pingresp (v : Nat) : Reply (mkPingresp v)
  | disconnect (rc : Nat) : Reply (mkV5Disconnect rc)

theorem Answer.reply {q : Pkt} (h : Answer q) : Reply q := by
  cases h with
  | ack cfg v k id hk => exact .ack cfg v k id (hk.elim .inl fun h => .inr (h.elim .inl fun h => .inr (.inr h)))
  | pubcompRc cfg id rc => exact .pubcompRc cfg id rc
  | pingreq v => exact .pingreq v
  | pingresp v => exact .pingresp v

theorem Reply.kind {q : Pkt} (h : Reply q) :
    q.kind ∈ [Kind.puback, .pubrec, .pubrel, .pubcomp, .pingreq, .pingresp, .disconnect] := by
  cases h with
  | ack cfg v k id hk =>
    show k ∈ _
    rcases hk with rfl | rfl | rfl | rfl <;> decide
  | pubcompRc => show Kind.pubcomp ∈ _; decide
  | pingreq => show Kind.pingreq ∈ _; decide
  | pingresp => show Kind.pingresp ∈ _; decide
  | disconnect => show Kind.disconnect ∈ _; decide

/-- the form in which a property that depends on the kind of a packet uses `Reply.kind` -/
theorem Reply.kind_ne {q : Pkt} (h : Reply q) {k : Kind}
    (hk : k ∉ [Kind.puback, .pubrec, .pubrel, .pubcomp, .pingreq, .pingresp, .disconnect] := by decide) : q.kind ≠ k :=
  fun e => hk (e ▸ h.kind)

structure Emits.Base (Q : Ev → Prop) : Prop where
  silent : ∀ e, e.tag ≠ .send → e.tag ≠ .recv → Q e
  reply : ∀ q r, Reply q → Q (.send q r)

/-- whether an event belongs to a class of packets, `snd` of those sent and `rcv` of those delivered -/
def Ev.inClass (snd rcv : Pkt → Bool) : Ev → Bool
  | .send p _ => snd p
  | .recv p => rcv p
  | _ => false

namespace Emits
variable {Q : Ev → Prop} {S : List (Nat × Pkt)} {a c : C}

/-- the events outside a class that none of the library's own packets belongs to -/
theorem Base.of_class (snd rcv : Pkt → Bool) (h : ∀ q, Reply q → snd q = false) :
    Base (fun e => e.inClass snd rcv = false) where
  silent e hs hr := by
    cases e with
    | send => exact absurd rfl hs
    | recv => exact absurd rfl hr
    | _ => rfl
  reply q _ hq := h q hq

theorem Base.quiet (hQ : Base Q) : Quiet Q := fun e he =>
  hQ.silent e (fun h => by rw [h] at he; exact absurd he (by decide))
    (fun h => by rw [h] at he; exact absurd he (by decide))

theorem Base.close (hQ : Base Q) : Q .close := hQ.silent _ (by simp [Ev.tag]) (by simp [Ev.tag])

theorem Base.pubrel (hQ : Base Q) (cfg : Cfg) (v id : Nat) : Q (.send (mkAck cfg v .pubrel id) none) :=
  hQ.reply _ none (.ack cfg v .pubrel id (.inr (.inr (.inl rfl))))

theorem Base.own (hQ : Base Q) (c : C) : Own Q True c := ⟨hQ.quiet, fun q ha _ _ => hQ.reply q none ha.reply⟩

theorem Base.closing (hQ : Base Q) (c : C) : Closing (fun d => Q (.send d none)) c :=
  fun rc _ => hQ.reply _ none (.disconnect rc)

theorem Base.api (hQ : Base Q) (hc : ∀ q r, Fp.Refusal q → Q (.send q r)) (hst : ∀ y ∈ S, ∀ r, Q (.send y.2 r))
    (c : C) : Api Q (fun d => Q (.send d none)) True S c :=
  { hQ.own c with
    pubrel := fun cfg v id _ _ => hQ.pubrel cfg v id
    stored := fun y hy _ => hst y hy none
    disc := hQ.closing c
    refusal := fun q hq _ _ => hc q none hq }

theorem err (h : Emits Q a c) (hQ : Base Q) (e : Nat) : Emits Q a (c.err e) := hQ.quiet.err h e

theorem OrCloses.emits' {r : C} (h : OrCloses Q (fun d => Q (.send d none)) c r) (hQ : Base Q) : Emits Q c r :=
  h.emits hQ.quiet hQ.close fun _ => id

end Emits

theorem Appends.emits {Q : Ev → Prop} {T : List EvTag} {c c' : C} (h : Appends T c c') (hQ : Emits.Base Q)
    (hT : ∀ t ∈ T, t ≠ .send ∧ t ≠ .recv := by decide) : Emits Q c c' := by
  obtain ⟨l, e, hl⟩ := h
  exact ⟨l, e, fun x hx => hQ.silent x (hT _ (hl x hx)).1 (hT _ (hl x hx)).2⟩

theorem Fp.Processed.emits {Q : Ev → Prop} {c r : C} {x : Except Nat Pkt} (h : Fp.Processed Q c x r)
    (hQ : Emits.Base Q) (hr : ∀ p, x = .ok p → Q (.recv p)) : Emits Q c r :=
  (h.orCloses hQ.quiet (hQ.closing c) hr).emits' hQ

namespace Fp
variable {Q : Ev → Prop}

/-! ### a whole call

`hp`: `Q` allows the sending of the packet given, `hr` the delivery of what the parser returns, `hst` the sending of the
stored packets, `hc` that of the CONNACK that refuses a CONNECT. -/

theorem send_emits (hQ : Emits.Base Q) (c : C) (p : Pkt) (hp : ∀ q r, Aliased p q → Q (.send q r))
    (hst : ∀ y ∈ c.s.store, ∀ r, Q (.send y.2 r)) : Emits Q c (send c p) :=
  (send_orCloses hQ.quiet c p (fun _ _ q r hq _ => hp q r hq) (fun _ _ _ => hp p none .same)
    fun y hy _ => hst y hy none).emits' hQ

theorem notifyTimerFired_emits (hQ : Emits.Base Q) (c : C) (k : Timer) : Emits Q c (notifyTimerFired c k) :=
  (notifyTimerFired_orCloses (hQ.own c) (hQ.closing c) (fun _ => trivial) k).emits' hQ

theorem dispatchRecv_emits (hQ : Emits.Base Q) (hc : ∀ q r, Refusal q → Q (.send q r)) (c : C) (t : Nat)
    (x : Except Nat Pkt) (hr : ∀ p p', x = .ok p → Resolved p p' → Q (.recv p'))
    (hst : ∀ y ∈ c.s.store, ∀ r, Q (.send y.2 r)) : Emits Q c (dispatchRecv c t x) :=
  (dispatchRecv_orCloses c t x (fun _ => trivial) (fun _ _ _ => trivial) hr (hQ.api hc hst _)).emits' hQ

theorem step_emits (hQ : Emits.Base Q) (hc : ∀ q r, Refusal q → Q (.send q r)) (cfg : Cfg) (s : St) (op : Op)
    (hp : ∀ p, op = .send p → ∀ q r, Aliased p q → Q (.send q r))
    (hr : ∀ inp parse, op = .recv inp parse → ∀ v fh d p p', parse v fh d = .ok p → Resolved p p' → Q (.recv p'))
    (hst : ∀ y ∈ s.store, ∀ r, Q (.send y.2 r)) : Emits Q ⟨cfg, s, []⟩ (step cfg s op) :=
  step_adds cfg s op hQ.close (fun _ => trivial) (fun _ _ _ _ _ _ _ _ => trivial)
    (fun p h _ q r hq _ => hp p h q r hq) hr (hQ.api hc hst _)

end Fp

end MqttVerif.Conn
