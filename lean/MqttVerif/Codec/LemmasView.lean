import MqttVerif.Codec.LemmasKinds
import MqttVerif.Codec.View
/-!
What the connection model may assume of a parsed packet (`WfParsed`).
For every frame the parsers accept (bytes `< 256`, id width 2 or 4), the interface view
satisfies: PUBLISH has `qos ≤ 2`, a packet id iff `qos > 0`, and that id is in `[1, 256^pw − 1]`;
PUBACK/PUBREC/PUBREL/PUBCOMP/SUBSCRIBE/SUBACK/UNSUBSCRIBE/UNSUBACK carry an id in that range;
Receive Maximum and Maximum Packet Size values among the connection-relevant properties are
non-zero; `topic_name_extracted` is false.
-/
namespace MqttVerif.Codec
open MqttVerif.Conn (Pkt Kind)

theorem connProps_nonzero (ps : Props) (h : propsValid ps) :
    ∀ id v, (id, v) ∈ connProps ps → (id = 33 ∨ id = 39) → v ≠ 0 := by
  intro id v hm hid
  simp only [connProps, List.mem_filterMap] at hm
  obtain ⟨p, hp, he⟩ := hm
  have hv := h p hp
  cases p with
  | u16 i w =>
    simp only [connProp?] at he
    split at he
    · simp only [Option.some.injEq, Prod.mk.injEq] at he
      obtain ⟨rfl, rfl⟩ := he
      exact hv (by omega)
    · simp at he
  | u32 i w =>
    simp only [connProp?] at he
    split at he
    · simp only [Option.some.injEq, Prod.mk.injEq] at he
      obtain ⟨rfl, rfl⟩ := he
      exact hv (by omega)
    · simp at he
  | _ => simp [connProp?] at he

def idKinds : List Kind :=
  [.puback, .pubrec, .pubrel, .pubcomp, .subscribe, .suback, .unsubscribe, .unsuback]

structure WfParsed (pw : Nat) (v : Pkt) : Prop where
  publish : v.kind = .publish →
    v.qos ≤ 2 ∧ (v.qos = 0 → v.pid = none) ∧ (v.qos > 0 → ∃ id, v.pid = some id ∧ 1 ≤ id ∧ id ≤ 256 ^ pw - 1)
  ackId : v.kind ∈ idKinds → ∃ id, v.pid = some id ∧ 1 ≤ id ∧ id ≤ 256 ^ pw - 1
  props : ∀ id val, (id, val) ∈ v.props → (id = 33 ∨ id = 39) → val ≠ 0
  notExtracted : v.extracted = false

theorem idIn_le {pw id : Nat} (h : IdIn pw id) : 1 ≤ id ∧ id ≤ 256 ^ pw - 1 := ⟨h.1, by have := h.2; omega⟩

/-! The side conditions on the kind are stated as Boolean equations so that they hold by `rfl` for the view of each
constructor. -/

theorem wf_plain (pw : Nat) (v : Pkt) (hk : (v.kind == .publish) = false) (hk2 : idKinds.contains v.kind = false)
    (hp : v.props = []) (hx : v.extracted = false) : WfParsed pw v :=
  ⟨fun h => absurd h (ne_of_beq_false hk), fun h => absurd (List.contains_iff_mem.2 h) (by rw [hk2]; decide),
    fun id val hm => (by rw [hp] at hm; cases hm), hx⟩

theorem wf_id (pw : Nat) (v : Pkt) (id : Nat) (hk : (v.kind == .publish) = false) (hpid : v.pid = some id)
    (hid : IdIn pw id) (hp : v.props = []) (hx : v.extracted = false) : WfParsed pw v :=
  ⟨fun h => absurd h (ne_of_beq_false hk), fun _ => ⟨id, hpid, idIn_le hid⟩,
    fun i val hm => (by rw [hp] at hm; cases hm), hx⟩

theorem wf_props (pw : Nat) (v : Pkt) (ps : Props) (hk : (v.kind == .publish) = false)
    (hk2 : idKinds.contains v.kind = false) (hp : v.props = connProps ps) (hv : propsValid ps)
    (hx : v.extracted = false) : WfParsed pw v :=
  ⟨fun h => absurd h (ne_of_beq_false hk), fun h => absurd (List.contains_iff_mem.2 h) (by rw [hk2]; decide),
    fun id val hm => by rw [hp] at hm; exact connProps_nonzero ps hv id val hm, hx⟩

theorem wf_publish (pw ver size fh : Nat) (topic : List Nat) (pid : Option Nat) (props : Props) (payload : List Nat)
    (h : PubOk pw (fh % 16) pid) : WfParsed pw (viewPublish ver size fh topic pid props payload) := by
  obtain ⟨h1, h2, h3⟩ := h
  have e : fh % 16 / 2 % 4 = fh / 2 % 4 := by omega
  rw [e] at h1 h2 h3
  refine ⟨fun _ => ⟨h1, h2, fun hq => ?_⟩, fun hk => by simp [viewPublish, idKinds] at hk, fun id val hm => by simp [viewPublish] at hm, rfl⟩
  obtain ⟨id, hp, hid⟩ := h3 hq
  exact ⟨id, hp, idIn_le hid⟩

/-- What holds of whatever `Packet.parse` selects.  The guard (ids of 2 or 4 bytes, a body the framing layer can deliver)
    is needed for "no panic" only. -/
theorem Packet.parse_tri (version pw fh : Nat) (body : List Nat) (r : PRes Packet)
    (h : Packet.parse version pw fh body = some r) :
    Tri ((pw = 2 ∨ pw = 4) ∧ body.length < vbiMax) r fun p c =>
      c ≤ body.length ∧ (pw = 2 ∨ pw = 4 → p.size = (p.encode pw).length) ∧ (isBytes body → WfParsed pw (view p))
        ∧ (version = 4 ∨ version = 5 → p.version = version) := by
  have le : (pw = 2 ∨ pw = 4) ∧ body.length < vbiMax → body.length ≤ vbiMax := fun g => Nat.le_of_lt g.2
  have p1 : (pw = 2 ∨ pw = 4) ∧ body.length < vbiMax → pw + 1 ≤ vbiMax := fun g => by unfold vbiMax; omega
  have p0 : (pw = 2 ∨ pw = 4) ∧ body.length < vbiMax → pw ≤ vbiMax := fun g => by unfold vbiMax; omega
  have tt : (pw = 2 ∨ pw = 4) ∧ body.length < vbiMax → True := fun _ => trivial
  refine (Packet.parse_cases
    (Q := fun v5 r => Tri _ r fun q c => c ≤ body.length ∧ (pw = 2 ∨ pw = 4 → q.size = (q.encode pw).length)
      ∧ (isBytes body → WfParsed pw (view q)) ∧ q.version = if v5 = true then 5 else 4) h
    ((Connect5.parse_tri body).map le fun a _ h =>
      ⟨h.1, fun _ => h.2.1, fun _ => wf_props pw _ a.props rfl rfl rfl h.2.2.2 rfl, rfl⟩)
    ((Connack5.parse_tri body).map le fun a _ h =>
      ⟨h.1, fun _ => h.2.1, fun _ => wf_props pw _ a.props rfl rfl rfl h.2.2.1 rfl, rfl⟩)
    ((Publish5.parse_tri pw _ body).map And.right fun a _ h =>
      ⟨h.1, h.2.1, fun hb => wf_publish pw 5 a.size a.fh a.topic a.pid a.props a.payload (h.2.2.1 hb), rfl⟩)
    ((Ack5.parse_tri .puback pw body).map le fun a _ h =>
      ⟨h.1, h.2.1, fun hb => wf_id pw _ a.pid rfl rfl (h.2.2 hb) rfl rfl, rfl⟩)
    ((Ack5.parse_tri .pubrec pw body).map le fun a _ h =>
      ⟨h.1, h.2.1, fun hb => wf_id pw _ a.pid rfl rfl (h.2.2 hb) rfl rfl, rfl⟩)
    ((Ack5.parse_tri .pubrel pw body).map le fun a _ h =>
      ⟨h.1, h.2.1, fun hb => wf_id pw _ a.pid rfl rfl (h.2.2 hb) rfl rfl, rfl⟩)
    ((Ack5.parse_tri .pubcomp pw body).map le fun a _ h =>
      ⟨h.1, h.2.1, fun hb => wf_id pw _ a.pid rfl rfl (h.2.2 hb) rfl rfl, rfl⟩)
    ((Subscribe5.parse_tri pw body).map le fun a _ h =>
      ⟨h.1, h.2.1, fun hb => wf_id pw _ a.pid rfl rfl (h.2.2 hb) rfl rfl, rfl⟩)
    ((Codes5.parse_tri subackRc5Ok 0x90 pw body).map le fun a _ h =>
      ⟨h.1, h.2.1, fun hb => wf_id pw _ a.pid rfl rfl (h.2.2 hb) rfl rfl, rfl⟩)
    ((Unsubscribe5.parse_tri pw body).map le fun a _ h =>
      ⟨h.1, h.2.1, fun hb => wf_id pw _ a.pid rfl rfl (h.2.2 hb) rfl rfl, rfl⟩)
    ((Codes5.parse_tri unsubackRc5Ok 0xb0 pw body).map le fun a _ h =>
      ⟨h.1, h.2.1, fun hb => wf_id pw _ a.pid rfl rfl (h.2.2 hb) rfl rfl, rfl⟩)
    ((Empty.parse_tri 0xc0 body).map tt fun _ _ h => ⟨h.1, fun _ => h.2, fun _ => wf_plain pw _ rfl rfl rfl rfl, rfl⟩)
    ((Empty.parse_tri 0xd0 body).map tt fun _ _ h => ⟨h.1, fun _ => h.2, fun _ => wf_plain pw _ rfl rfl rfl rfl, rfl⟩)
    ((Disconnect5.parse_tri body).map le fun _ _ h => ⟨h.1, fun _ => h.2, fun _ => wf_plain pw _ rfl rfl rfl rfl, rfl⟩)
    ((Auth5.parse_tri body).map le fun _ _ h => ⟨h.1, fun _ => h.2, fun _ => wf_plain pw _ rfl rfl rfl rfl, rfl⟩)
    ((Connect3.parse_tri body).map le fun _ _ h => ⟨h.1, fun _ => h.2.1, fun _ => wf_plain pw _ rfl rfl rfl rfl, rfl⟩)
    ((Connack3.parse_tri body).map tt fun _ _ h => ⟨h.1, fun _ => h.2, fun _ => wf_plain pw _ rfl rfl rfl rfl, rfl⟩)
    ((Publish3.parse_tri pw _ body).map le fun a _ h =>
      ⟨h.1, h.2.1, fun hb => wf_publish pw 4 a.size a.fh a.topic a.pid [] a.payload (h.2.2.1 hb), rfl⟩)
    ((Ack3.parse_tri .puback pw body).map p1 fun a _ h =>
      ⟨h.1, h.2.1, fun hb => wf_id pw _ a.pid rfl rfl (h.2.2 hb) rfl rfl, rfl⟩)
    ((Ack3.parse_tri .pubrec pw body).map p1 fun a _ h =>
      ⟨h.1, h.2.1, fun hb => wf_id pw _ a.pid rfl rfl (h.2.2 hb) rfl rfl, rfl⟩)
    ((Ack3.parse_tri .pubrel pw body).map p1 fun a _ h =>
      ⟨h.1, h.2.1, fun hb => wf_id pw _ a.pid rfl rfl (h.2.2 hb) rfl rfl, rfl⟩)
    ((Ack3.parse_tri .pubcomp pw body).map p1 fun a _ h =>
      ⟨h.1, h.2.1, fun hb => wf_id pw _ a.pid rfl rfl (h.2.2 hb) rfl rfl, rfl⟩)
    ((Subscribe3.parse_tri pw body).map le fun a _ h =>
      ⟨h.1, h.2.1, fun hb => wf_id pw _ a.pid rfl rfl (h.2.2 hb) rfl rfl, rfl⟩)
    ((Suback3.parse_tri pw body).map le fun a _ h =>
      ⟨h.1, h.2.1, fun hb => wf_id pw _ a.pid rfl rfl (h.2.2 hb) rfl rfl, rfl⟩)
    ((Unsubscribe3.parse_tri pw body).map le fun a _ h =>
      ⟨h.1, h.2.1, fun hb => wf_id pw _ a.pid rfl rfl (h.2.2 hb) rfl rfl, rfl⟩)
    ((Unsuback3.parse_tri pw body).map p0 fun a _ h =>
      ⟨h.1, h.2.1, fun hb => wf_id pw _ a.pid rfl rfl (h.2.2 hb) rfl rfl, rfl⟩)
    ((Empty.parse_tri 0xc0 body).map tt fun _ _ h => ⟨h.1, fun _ => h.2, fun _ => wf_plain pw _ rfl rfl rfl rfl, rfl⟩)
    ((Empty.parse_tri 0xd0 body).map tt fun _ _ h => ⟨h.1, fun _ => h.2, fun _ => wf_plain pw _ rfl rfl rfl rfl, rfl⟩)
    ((Empty.parse_tri 0xe0 body).map tt fun _ _ h => ⟨h.1, fun _ => h.2, fun _ => wf_plain pw _ rfl rfl rfl rfl, rfl⟩)).mono
    fun q _ ⟨h1, h2, h3, h4⟩ => ⟨h1, h2, h3, ?_⟩
  rintro (e | e) <;> subst e <;> exact h4

theorem Packet.parse_wfParsed (version pw fh : Nat) (body : List Nat) (p : Packet) (c : Nat) (hb : isBytes body)
    (h : Packet.parse version pw fh body = some (.ok p c)) : WfParsed pw (view p) :=
  ((Packet.parse_tri version pw fh body _ h).post p c rfl).2.2.1 hb

/-- in terms of the oracle the connection driver checks -/
theorem parseView_wfParsed (version pw fh : Nat) (body : List Nat) (v : Pkt) (hb : isBytes body)
    (h : parseView version pw fh body = .ok v) : WfParsed pw v := by
  unfold parseView at h
  split at h
  · rename_i p c hp
    injection h with h
    subst h
    exact Packet.parse_wfParsed version pw fh body p c hb hp
  · cases h
  · cases h
  · cases h

end MqttVerif.Codec
