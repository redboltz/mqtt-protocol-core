import MqttVerif.Codec.LemmasRTAll
import MqttVerif.Codec.Abs
/-!
C03: the encoder shaped after the Rust code produces the bytes that the reference encoder of `Spec/WireSpec.lean`
prescribes.  Here for the field encodings, the property table and the flag bytes, on which the per-kind proofs rest.
-/
namespace MqttVerif.Codec
open MqttVerif.Spec.Wire

theorem spec_twoByte (n : Nat) : twoByte n = encU16 n := rfl
theorem spec_fourByte (n : Nat) : fourByte n = encU32 n := rfl
theorem spec_packetId (pw id : Nat) : packetId pw id = encId pw id := rfl
theorem spec_lenPrefixed (bs : List Nat) : lenPrefixed bs = encStr bs := rfl

theorem varInt_small (x : Nat) (h : x < 128) : varInt x = [x] := by
  rw [varInt]; simp [h]

theorem varInt_step (x : Nat) (h : ¬ x < 128) : varInt x = (x % 128 + 128) :: varInt (x / 128) := by
  rw [varInt]; simp [h]

theorem spec_varInt (v : Nat) (hv : v ≤ vbiMax) : varInt v = vbiEnc v := by
  unfold vbiMax at hv
  unfold vbiEnc
  simp only [vbiEncAux]
  by_cases h1 : v < 128
  · rw [varInt_small v h1, if_neg (by omega), Nat.mod_eq_of_lt h1]
  · rw [varInt_step v h1, if_pos (by omega)]
    by_cases h2 : v / 128 < 128
    · rw [varInt_small _ h2, if_neg (by omega), Nat.mod_eq_of_lt h2]
    · rw [varInt_step _ h2, if_pos (by omega)]
      by_cases h3 : v / 128 / 128 < 128
      · rw [varInt_small _ h3, if_neg (by omega), Nat.mod_eq_of_lt h3]
      · rw [varInt_step _ h3, if_pos (by omega)]
        have h4 : v / 128 / 128 / 128 < 128 := by omega
        rw [varInt_small _ h4, if_neg (by omega), Nat.mod_eq_of_lt h4]

def Shape.data : Shape → PData
  | .u8 => .byte | .u16 => .twoByteInt | .u32 => .fourByteInt | .vbi => .varByteInt
  | .str => .utf8 | .bin => .binary | .pair => .utf8Pair

theorem propShape_le (id : Nat) (h : propShape id ≠ none) : id < 43 := by
  unfold propShape at h
  split at h <;> first | omega | (exact absurd rfl h)

/-- the 27 identifiers and their data types: the library's table is Table 2-4 -/
theorem propTable_eq_spec : ∀ id, id < 43 → (propShape id).map Shape.data = propertyType id := by decide

theorem propertyType_of_shape (id : Nat) (sh : Shape) (h : propShape id = some sh) : propertyType id = some sh.data := by
  have hl := propShape_le id (by rw [h]; simp)
  have := propTable_eq_spec id hl
  rw [h] at this
  exact this.symm

theorem spec_prop (p : Property) (h : p.ok = true) : encodeProp p.abs = p.encode := by
  cases p with
  | u8 id v =>
    simp only [Property.ok, Bool.and_eq_true, beq_iff_eq] at h
    have hl := propShape_le id (by rw [h.1]; simp)
    simp [encodeProp, Property.abs, propertyType_of_shape id _ h.1, Shape.data, varInt_small id (by omega), Property.encode]
  | u16 id v =>
    simp only [Property.ok, Bool.and_eq_true, beq_iff_eq] at h
    have hl := propShape_le id (by rw [h.1.1]; simp)
    simp [encodeProp, Property.abs, propertyType_of_shape id _ h.1.1, Shape.data, varInt_small id (by omega), Property.encode,
      spec_twoByte]
  | u32 id v =>
    simp only [Property.ok, Bool.and_eq_true, beq_iff_eq] at h
    have hl := propShape_le id (by rw [h.1.1]; simp)
    simp [encodeProp, Property.abs, propertyType_of_shape id _ h.1.1, Shape.data, varInt_small id (by omega), Property.encode,
      spec_fourByte]
  | vbi id v =>
    simp only [Property.ok, Bool.and_eq_true, beq_iff_eq, decide_eq_true_eq] at h
    have hl := propShape_le id (by rw [h.1.1]; simp)
    simp [encodeProp, Property.abs, propertyType_of_shape id _ h.1.1, Shape.data, varInt_small id (by omega), Property.encode,
      spec_varInt v h.1.2]
  | str id s =>
    simp only [Property.ok, Bool.and_eq_true, beq_iff_eq] at h
    have hl := propShape_le id (by rw [h.1]; simp)
    simp [encodeProp, Property.abs, propertyType_of_shape id _ h.1, Shape.data, varInt_small id (by omega), Property.encode,
      spec_lenPrefixed]
  | bin id b =>
    simp only [Property.ok, Bool.and_eq_true, beq_iff_eq] at h
    have hl := propShape_le id (by rw [h.1.1]; simp)
    simp [encodeProp, Property.abs, propertyType_of_shape id _ h.1.1, Shape.data, varInt_small id (by omega), Property.encode,
      spec_lenPrefixed]
  | pair id k v =>
    simp only [Property.ok, Bool.and_eq_true, beq_iff_eq] at h
    have hl := propShape_le id (by rw [h.1.1]; simp)
    simp [encodeProp, Property.abs, propertyType_of_shape id _ h.1.1, Shape.data, varInt_small id (by omega), Property.encode,
      spec_lenPrefixed]

theorem spec_propsBytes (ps : Props) (h : propsOk ps = true) : propsBytes ps.abs = Props.encode ps := by
  induction ps with
  | nil => rfl
  | cons p ps ih =>
    simp only [propsOk, List.all_cons, Bool.and_eq_true] at h
    have := ih (by simpa [propsOk] using h.2)
    simp only [propsBytes, Props.abs, List.map_cons, List.flatten_cons, Props.encode] at this ⊢
    rw [spec_prop p h.1, this]

theorem spec_propertiesField (ps : Props) (pl : Nat) (hok : propsOk ps = true) (hpl : pl = ps.size) (hm : pl ≤ vbiMax) :
    propertiesField ps.abs = vbiEnc pl ++ Props.encode ps := by
  unfold propertiesField
  rw [spec_propsBytes ps hok, Props.encode_length ps hok, ← hpl, spec_varInt pl hm]

theorem spec_of_parts (pw : Nat) (a : APkt) (fh rl : Nat) (body enc : List Nat)
    (hfh : a.type.value * 16 + a.flags = fh) (hb : a.body pw = body)
    (henc : enc = fh :: vbiEnc rl ++ body) (hrl : rl = body.length) (hm : rl ≤ vbiMax) : a.encode pw = enc := by
  unfold APkt.encode
  rw [hfh, hb, henc, ← hrl, spec_varInt rl hm]

theorem b2n_bit (x : Nat) (h : x ≤ 1) : b2n (x == 1) = x := by
  have : x = 0 ∨ x = 1 := by omega
  rcases this with h | h <;> subst h <;> rfl

theorem spec_entries (es : List SubEntry) :
    ((es.map fun e => (e.topic, e.opts)).map fun f => lenPrefixed f.1 ++ [f.2]).flatten = entriesEncode es := by
  simp only [entriesEncode, List.map_map, Function.comp_def, spec_lenPrefixed]
  rfl

theorem spec_topics (ts : List (List Nat)) : (ts.map lenPrefixed).flatten = topicsEncode ts := rfl

theorem spec_optProps (ps : Option Props) (pl : Nat)
    (h : ∀ q, ps = some q → propsOk q = true ∧ pl = q.size ∧ pl ≤ vbiMax) :
    optProperties (ps.map Props.abs) = encOptProps pl ps := by
  cases ps with
  | none => rfl
  | some q =>
    obtain ⟨a, b, c⟩ := h q rfl
    simp only [Option.map_some, optProperties, encOptProps]
    exact spec_propertiesField q pl a b c

/-- PUBLISH fixed header: type 3, DUP / QoS / RETAIN -/
theorem spec_publish_fh (fh : Nat) (h1 : fh / 16 = 3) (h2 : fh < 64) :
    3 * 16 + (8 * b2n (fh / 8 % 2 == 1) + 2 * (fh / 2 % 4) + b2n (fh % 2 == 1)) = fh := by
  rw [b2n_bit (fh / 8 % 2) (by omega), b2n_bit (fh % 2) (by omega)]
  omega

theorem isSome_ite {α : Type} (b : Bool) (x : α) : (if b = true then some x else none).isSome = b := by
  cases b <;> rfl

theorem mod_two_le (x : Nat) : x % 2 ≤ 1 := by omega

theorem byte_fields : ∀ f, f < 256 →
    f = 128 * (f / 128 % 2) + 64 * (f / 64 % 2) + (32 * (f / 32 % 2) + 8 * (f / 8 % 4) + 4 * (f / 4 % 2))
          + 2 * (f / 2 % 2) + f % 2 := by
  decide +kernel

theorem spec_connect_flags (flags : Nat) (wp : Option Props) (wt wpay un pwd : List Nat)
    (hb : flags < 256) (hr : flags % 2 = 0) (hw : willFlag flags = false → flags / 8 % 4 = 0 ∧ flags / 32 % 2 = 0) :
    connectFlags (flags / 2 % 2 == 1)
      (if willFlag flags then
          some { qos := flags / 8 % 4, retain := flags / 32 % 2 == 1, props := wp.map Props.abs, topic := wt, payload := wpay }
        else none)
      (if userNameFlag flags then some un else none) (if passwordFlag flags then some pwd else none) = flags := by
  have hd := byte_fields flags hb
  unfold connectFlags
  rw [isSome_ite, isSome_ite]
  unfold userNameFlag passwordFlag
  rw [b2n_bit _ (mod_two_le _), b2n_bit _ (mod_two_le _), b2n_bit _ (mod_two_le _)]
  by_cases hwf : willFlag flags = true
  · rw [if_pos hwf]
    dsimp only
    rw [b2n_bit _ (mod_two_le _)]
    simp only [willFlag, beq_iff_eq] at hwf
    rw [hwf, hr] at hd
    exact hd.symm
  · rw [if_neg hwf]
    dsimp only
    simp only [Bool.not_eq_true] at hwf
    obtain ⟨a, b⟩ := hw hwf
    simp only [willFlag, beq_eq_false_iff_ne, ne_eq] at hwf
    rw [a, b, (Nat.mod_two_eq_zero_or_one _).resolve_right hwf, hr] at hd
    exact hd.symm

end MqttVerif.Codec
