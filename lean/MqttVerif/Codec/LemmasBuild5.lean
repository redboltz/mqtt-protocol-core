import MqttVerif.Codec.LemmasBuild
/-!
The v5.0 builders: the statements of `LemmasBuild`, with the property checks (`propsChecks`) added and the
two nested `usize → u32` casts (property length, remaining length) both shown not to truncate.
-/
namespace MqttVerif.Codec

/-- the three property checks, from: constructed properties (`typed`), the placement validator of
    `validate()`, and the `property_length` that `build()` computed -/
theorem propsChecks_ok {al un : List Nat} {props : Option Props} {pl : Nat}
    (ht : optPropsTyped props = true) (hv : ∀ ps, props = some ps → validateProps al un ps = none)
    (hpl : pl = (props.getD []).size) (hmax : pl ≤ vbiMax) :
    allOk (propsChecks al un pl (props.getD [])) = true := by
  simp only [propsChecks, allOk_cns, allOk_nl, Bool.and_true, Bool.and_eq_true]
  refine ⟨propsOk_getD ht, allowed_getD hv, ?_, decide_eq_true hmax⟩
  rw [hpl]; exact beq_self_eq_true _

theorem codesOk_getD {ok : Nat → Bool} {codes : Option (List Nat)} (ht : optCodesTyped ok codes = true) :
    codesOk ok (codes.getD []) = true := by
  cases codes with
  | none => simp [codesOk]
  | some cs => exact ht

theorem Connack5Args.build_ok {pw : Nat} {a : Connack5Args} {p : Connack5}
    (ht : (Args.connack5 a).typed pw = true) (hf : (Args.connack5 a).fits32 pw) (h : a.build = .ok p) :
    allOk p.checks = true ∧ (Packet.connack5 p).abs = (Args.connack5 a).abs := by
  obtain ⟨ht1, ht2⟩ : optCodeTyped connectRcOk a.rc = true ∧ optPropsTyped a.props = true := Bool.and_eq_true_iff.1 ht
  have hf : 2 + 4 + (a.props.getD []).size < 4294967296 := hf
  unfold Connack5Args.build at h
  split at h
  · cases h
  · rename_i sp hsp
    split at h
    · cases h
    · rename_i rc hrc
      obtain ⟨hv, h⟩ := checkProps_ok h
      try dsimp only at h
      have hvs := vbiSize_le (a.props.getD []).size
      obtain ⟨hmax1, h⟩ := vbiB_ok (by omega) h
      obtain ⟨hmax2, h⟩ := vbiB_ok (by omega) h
      cases h
      refine ⟨?_, by simp [Packet.abs, Args.abs, hsp, hrc, bitN_mod_beq]⟩
      rw [hrc] at ht1
      simp only [Connack5.checks, allOk_append, allOk_cns, allOk_nl, Bool.and_true, Bool.and_eq_true]
      refine ⟨⟨⟨?_, ht1⟩, propsChecks_ok ht2 hv rfl hmax1⟩, ?_, decide_eq_true hmax2⟩
      · cases sp <;> simp [bitN]
      · simp <;> omega

/-! ### PUBACK / PUBREC / PUBREL / PUBCOMP -/

theorem Ack5Args.build_ok {k : AckKind} {pw : Nat} {a : Ack5Args} {p : Ack5}
    (ht : (optPidTyped pw a.pid && optCodeTyped k.rcOk a.rc && optPropsTyped a.props) = true)
    (hf : pw + 1 + 4 + optPropsSize a.props < 4294967296) (h : a.build pw = .ok p) :
    allOk (p.checks k pw) = true ∧
      Spec.Wire.APkt.ack k.cp p.pid p.rc (p.props.map Props.abs) = .ack k.cp (a.pid.getD 0) a.rc (a.props.map Props.abs) := by
  simp only [Bool.and_eq_true] at ht
  obtain ⟨⟨ht1, ht2⟩, ht3⟩ := ht
  unfold Ack5Args.build at h
  obtain ⟨id, hid, hne, h⟩ := needPid_ok h
  obtain ⟨hrp, h⟩ := ite_bErr_ok h
  obtain ⟨hv, h⟩ := checkProps_ok h
  have hvs := vbiSize_le (optPropsSize a.props)
  obtain ⟨hmax1, h⟩ := vbiB_ok (by omega) h
  try dsimp only at h
  obtain ⟨hmax2, h⟩ := vbiB_ok (by split <;> split <;> omega) h
  cases h
  rw [hid] at ht1 ⊢
  refine ⟨?_, rfl⟩
  simp only [Ack5.checks, allOk_append, allOk_cns, allOk_nl, Bool.and_true, Bool.and_eq_true]
  refine ⟨⟨⟨idOk_of_typed ht1 hne, optCode_match' ht2, ?_, ?_⟩, ?_⟩, ?_, decide_eq_true hmax2⟩
  · exact isSome_or_isNone hrp
  · cases hp : a.props <;> simp [optPropsSize]
  · cases hp : a.props with
    | none => rfl
    | some ps =>
      have := propsChecks_ok (al := ackAllowed) (un := ackUniq) (props := some ps) (pl := ps.size)
        (by simpa [hp] using ht3) (fun ps' h' => by cases h'; exact hv ps hp) rfl
        (by simpa [hp, optPropsSize] using hmax1)
      simpa [optPropsChecks, optPropsSize] using this
  · simp only [rcPropsRemaining, beq_iff_eq]
    cases hp : a.props <;> simp [optPropsSize] <;> omega

/-- property length and Remaining Length as the v5.0 builders of SUBSCRIBE, UNSUBSCRIBE and their acknowledgements
    compute them (`n`: the size of what follows the property list) -/
theorem propsRemLen_ok {α : Type} {s1 s2 : String} {al un : List Nat} {props : Option Props} {ps : Props} {pw n : Nat}
    {k : Nat → Nat → BRes α} {p : α} (ht : optPropsTyped props = true) (hps : ps = props.getD [])
    (hf : pw + 4 + ps.size + n < 4294967296)
    (h : checkProps (validateProps al un) props (vbiB s1 ps.size fun pl =>
      vbiB s2 (pw + vbiSize pl + ps.size + n) fun rl => k pl rl) = .ok p) :
    allOk (propsChecks al un ps.size ps) = true ∧ pw + vbiSize ps.size + ps.size + n ≤ vbiMax
      ∧ k ps.size (pw + vbiSize ps.size + ps.size + n) = .ok p := by
  subst hps
  obtain ⟨hv, h⟩ := checkProps_ok h
  have hvs := vbiSize_le (props.getD []).size
  obtain ⟨hmax1, h⟩ := vbiB_ok (by omega) h
  obtain ⟨hmax2, h⟩ := vbiB_ok (by omega) h
  exact ⟨propsChecks_ok ht hv rfl hmax1, hmax2, h⟩

/-! ### SUBACK / UNSUBACK -/

theorem Codes5Args.build_ok {rcOk : Nat → Bool} {pw : Nat} {a : Codes5Args} {p : Codes5}
    (ht : (optPidTyped pw a.pid && optCodesTyped rcOk a.codes && optPropsTyped a.props) = true)
    (hf : pw + 4 + (a.props.getD []).size + (a.codes.getD []).length < 4294967296) (h : a.build pw = .ok p) :
    allOk (p.checks rcOk pw) = true ∧ p.pid = a.pid.getD 0 ∧ p.props = a.props.getD [] ∧ p.codes = a.codes.getD [] := by
  simp only [Bool.and_eq_true] at ht
  obtain ⟨⟨ht1, ht2⟩, ht3⟩ := ht
  unfold Codes5Args.build at h
  obtain ⟨id, hid, hne, h⟩ := needPid_ok h
  obtain ⟨hne2, h⟩ := ite_bErr_ok h
  obtain ⟨hp, hmax, h⟩ := propsRemLen_ok ht3 rfl hf h
  cases h
  rw [hid] at ht1 ⊢
  refine ⟨?_, rfl, rfl, rfl⟩
  simp only [Codes5.checks, allOk_append, allOk_cns, allOk_nl, Bool.and_true, Bool.and_eq_true]
  refine ⟨⟨⟨idOk_of_typed ht1 hne, ?_, codesOk_getD ht2⟩, hp⟩, beq_self_eq_true _,
    decide_eq_true hmax⟩
  simp [listEmptyOrUnset_false hne2]

theorem Subscribe5Args.build_ok {pw : Nat} {a : Subscribe5Args} {p : Subscribe5}
    (ht : (Args.subscribe5 a).typed pw = true) (hf : (Args.subscribe5 a).fits32 pw) (h : a.build pw = .ok p) :
    allOk (p.checks pw) = true ∧ (Packet.subscribe5 p).abs = (Args.subscribe5 a).abs := by
  simp only [Args.typed, Bool.and_eq_true] at ht
  obtain ⟨⟨ht1, ht2⟩, ht3⟩ := ht
  have hf : pw + 4 + (a.props.getD []).size + entriesSize (a.entries.getD []) < 4294967296 := hf
  unfold Subscribe5Args.build at h
  obtain ⟨hlong, h⟩ := ite_bErr_ok h
  obtain ⟨id, hid, hne, h⟩ := needPid_ok h
  obtain ⟨hne2, h⟩ := ite_bErr_ok h
  try dsimp only at h
  obtain ⟨hshare, h⟩ := ite_bErr_ok h
  obtain ⟨hp, hmax, h⟩ := propsRemLen_ok ht3 rfl hf h
  cases h
  rw [hid] at ht1
  refine ⟨?_, by simp [Packet.abs, Args.abs, hid]⟩
  simp only [Subscribe5.checks, allOk_append, allOk_cns, allOk_nl, Bool.and_true, Bool.and_eq_true]
  refine ⟨⟨⟨idOk_of_typed ht1 hne, ?_, entryOk_of_typed ht2 hlong, ?_⟩, hp⟩,
    beq_self_eq_true _, decide_eq_true hmax⟩
  · simp [listEmptyOrUnset_false hne2]
  · simpa using hshare

theorem Unsubscribe5Args.build_ok {pw : Nat} {a : Unsubscribe5Args} {p : Unsubscribe5}
    (ht : (Args.unsubscribe5 a).typed pw = true) (hf : (Args.unsubscribe5 a).fits32 pw) (h : a.build pw = .ok p) :
    allOk (p.checks pw) = true ∧ (Packet.unsubscribe5 p).abs = (Args.unsubscribe5 a).abs := by
  simp only [Args.typed, Bool.and_eq_true] at ht
  obtain ⟨⟨ht1, ht2⟩, ht3⟩ := ht
  have hf : pw + 4 + (a.props.getD []).size + topicsSize (a.topics.getD []) < 4294967296 := hf
  unfold Unsubscribe5Args.build at h
  obtain ⟨hlong, h⟩ := ite_bErr_ok h
  obtain ⟨hshare, h⟩ := ite_bErr_ok h
  obtain ⟨id, hid, hne, h⟩ := needPid_ok h
  obtain ⟨hne2, h⟩ := ite_bErr_ok h
  obtain ⟨hp, hmax, h⟩ := propsRemLen_ok ht3 rfl hf h
  cases h
  rw [hid] at ht1
  refine ⟨?_, by simp [Packet.abs, Args.abs, hid]⟩
  simp only [Unsubscribe5.checks, allOk_append, allOk_cns, allOk_nl, Bool.and_true, Bool.and_eq_true]
  refine ⟨⟨⟨idOk_of_typed ht1 hne, ?_, strOk_of_typed ht2 hlong, ?_⟩, hp⟩,
    beq_self_eq_true _, decide_eq_true hmax⟩
  · simp [listEmptyOrUnset_false hne2]
  · simpa using hshare

theorem Publish5Args.build_ok {pw : Nat} {a : Publish5Args} {p : Publish5}
    (ht : (Args.publish5 a).typed pw = true) (hf : (Args.publish5 a).fits32 pw) (h : a.build pw = .ok p) :
    allOk (p.checks pw) = true ∧ (Packet.publish5 p).abs = (Args.publish5 a).abs := by
  simp only [Args.typed, Bool.and_eq_true] at ht
  obtain ⟨⟨⟨ht1, ht2⟩, ht3⟩, ht4⟩ := ht
  have hf : strSize (a.topic.getD []) + pw + 4 + (a.props.getD []).size + (a.payload.getD []).length < 4294967296 := hf
  unfold Publish5Args.build at h
  obtain ⟨hts, h⟩ := ite_bErr_ok h
  try dsimp only at h
  obtain ⟨hv, h⟩ := checkProps_ok h
  try dsimp only at h
  obtain ⟨hte, h⟩ := ite_bErr_ok h
  obtain ⟨hpb, h⟩ := ite_bErr_ok h
  obtain ⟨_, h⟩ := ite_bErr_ok h
  try dsimp only at h
  have hvs := vbiSize_le (a.props.getD []).size
  obtain ⟨hmax1, h⟩ := vbiB_ok (by omega) h
  try dsimp only at h
  obtain ⟨hmax2, h⟩ := vbiB_ok (by split <;> omega) h
  cases h
  rw [publishHeader_getD] at hmax2 ⊢
  obtain ⟨-, -, f3, f4, f5⟩ := fhOf_facts a.qos a.dup a.retain (qos_le_of_typed ht2)
  refine ⟨?_, by simp [Packet.abs, Args.abs, f3, f4, f5, bitN_beq]⟩
  have hne : (!(a.topic.getD []).isEmpty || decide (countId 35 (a.props.getD []) > 0)) = true := by
    cases ht : a.topic with
    | none => simpa [ht, Nat.pos_iff_ne_zero] using hte
    | some t =>
      simp only [ht, Bool.and_eq_true, Bool.not_eq_true', decide_eq_false_iff_not, not_and] at hte
      cases he : t.isEmpty with
      | false => simp [he]
      | true => simpa [he, Nat.pos_iff_ne_zero] using hte he
  obtain ⟨hhead, hrem⟩ := publishHead_ok ht1 ht2 ht3 hts hne hpb
  rw [hrem] at hmax2 ⊢
  simp only [Publish5.checks, allOk_append, allOk_cns, allOk_nl, Bool.and_true, Bool.and_eq_true, Publish5.remaining]
  refine ⟨⟨hhead, propsChecks_ok ht4 hv rfl hmax1⟩, ?_, decide_eq_true hmax2⟩
  simp only [beq_iff_eq]
  omega

/-! ### DISCONNECT / AUTH -/

theorem buildRcProps_ok {site : String} {rc : Option Nat} {props : Option Props} {p : RcProps5}
    (hf : 1 + 4 + optPropsSize props < 4294967296) (h : buildRcProps site rc props = .ok p) :
    p.rc = rc ∧ p.props = props ∧ p.propLen = props.map Props.size ∧ optPropsSize props ≤ vbiMax
      ∧ p.remLen = rcPropsRemaining rc props (optPropsSize props) ∧ p.remLen ≤ vbiMax := by
  unfold buildRcProps at h
  cases props with
  | none =>
    simp only at h
    obtain ⟨hmax, h⟩ := vbiB_ok (by split <;> omega) h
    cases h
    refine ⟨rfl, rfl, rfl, by simp [optPropsSize, vbiMax], ?_, hmax⟩
    simp [rcPropsRemaining, optPropsSize]
  | some ps =>
    simp only [optPropsSize] at hf
    simp only at h
    have hvs := vbiSize_le ps.size
    obtain ⟨hmax1, h⟩ := vbiB_ok (by omega) h
    obtain ⟨hmax2, h⟩ := vbiB_ok (by split <;> omega) h
    cases h
    refine ⟨rfl, rfl, rfl, hmax1, ?_, hmax2⟩
    simp [rcPropsRemaining, optPropsSize]; omega

theorem RcProps5.baseChecks_ok {rcOk : Nat → Bool} {rc : Option Nat} {props : Option Props} {p : RcProps5}
    (ht1 : optCodeTyped rcOk rc = true) (ht2 : optPropsTyped props = true)
    (hrp : ¬ (rc.isNone && props.isSome) = true)
    (h : p.rc = rc ∧ p.props = props ∧ p.propLen = props.map Props.size ∧ optPropsSize props ≤ vbiMax
      ∧ p.remLen = rcPropsRemaining rc props (optPropsSize props) ∧ p.remLen ≤ vbiMax) :
    allOk (p.baseChecks rcOk) = true := by
  obtain ⟨h1, h2, h3, h4, h5, h6⟩ := h
  simp only [RcProps5.baseChecks, allOk_cns, allOk_nl, Bool.and_true, Bool.and_eq_true, h1, h2, h3]
  refine ⟨optCode_match' ht1, ?_, ?_, ?_, ?_, ?_, decide_eq_true h6⟩
  · exact isSome_or_isNone hrp
  · cases props <;> rfl
  · cases props with
    | none => rfl
    | some ps => exact ht2
  · cases props with
    | none => rfl
    | some ps => simp only [optPropsSize] at h4; simp [h4]
  · rw [h5]
    cases props <;> simp [optPropsSize]

theorem Disconnect5Args.build_ok {pw : Nat} {a : RcProps5Args} {p : RcProps5}
    (ht : (Args.disconnect5 a).typed pw = true) (hf : (Args.disconnect5 a).fits32 pw)
    (h : Disconnect5Args.build a = .ok p) :
    allOk (Disconnect5.checks p) = true ∧ (Packet.disconnect5 p).abs = (Args.disconnect5 a).abs := by
  obtain ⟨ht1, ht2⟩ : optCodeTyped disconnectRcOk a.rc = true ∧ optPropsTyped a.props = true := Bool.and_eq_true_iff.1 ht
  have hf : 1 + 4 + optPropsSize a.props < 4294967296 := hf
  unfold Disconnect5Args.build at h
  obtain ⟨hrp, h⟩ := ite_bErr_ok h
  obtain ⟨hv, h⟩ := checkProps_ok h
  have hb := buildRcProps_ok hf h
  refine ⟨?_, by simp [Packet.abs, Args.abs, hb.1, hb.2.1]⟩
  simp only [Disconnect5.checks, allOk_append, allOk_cns, allOk_nl, Bool.and_true]
  refine ⟨RcProps5.baseChecks_ok ht1 ht2 hrp hb, ?_⟩
  rw [hb.2.1]
  cases hp : a.props with
  | none => rfl
  | some ps => exact validateProps_eq_none.1 (hv ps hp)

theorem Auth5Args.build_ok {pw : Nat} {a : RcProps5Args} {p : RcProps5}
    (ht : (Args.auth5 a).typed pw = true) (hf : (Args.auth5 a).fits32 pw) (h : Auth5Args.build a = .ok p) :
    allOk (Auth5.checks p) = true ∧ (Packet.auth5 p).abs = (Args.auth5 a).abs := by
  obtain ⟨ht1, ht2⟩ : optCodeTyped authRcOk a.rc = true ∧ optPropsTyped a.props = true := Bool.and_eq_true_iff.1 ht
  have hf : 1 + 4 + optPropsSize a.props < 4294967296 := hf
  unfold Auth5Args.build at h
  try dsimp only at h
  obtain ⟨hrp, h⟩ := ite_bErr_ok h
  split at h
  · cases h
  · rename_i hva
    have hsz : optPropsSize (authPropsOf a) = optPropsSize a.props := by
      unfold authPropsOf
      cases a.props with
      | none => cases a.rc <;> rfl
      | some ps => rfl
    have hty : optPropsTyped (authPropsOf a) = true := by
      unfold authPropsOf
      cases hp : a.props with
      | none => cases a.rc <;> rfl
      | some ps => simpa [hp] using ht2
    have hb := buildRcProps_ok (by rw [hsz]; exact hf) h
    refine ⟨?_, by simp [Packet.abs, Args.abs, hb.1, hb.2.1]⟩
    simp only [Auth5.checks, allOk_append, allOk_cns, allOk_nl, Bool.and_true]
    refine ⟨RcProps5.baseChecks_ok ht1 hty hrp hb, ?_⟩
    rw [hb.1, hb.2.1, hva]; rfl

theorem Connect5Args.build_ok {pw : Nat} {a : Connect5Args} {p : Connect5}
    (ht : (Args.connect5 a).typed pw = true) (hf : (Args.connect5 a).fits32 pw) (h : a.build = .ok p) :
    allOk p.checks = true ∧ (Packet.connect5 p).abs = (Args.connect5 a).abs := by
  simp only [Args.typed, Bool.and_eq_true] at ht
  obtain ⟨⟨⟨⟨⟨⟨ht1, ht2⟩, ht3⟩, ht4⟩, ht5⟩, ht6⟩, ht7⟩ := ht
  have hf : 10 + 4 + (a.props.getD []).size + strSize (a.clientId.getD []) + 4 + (a.willProps.getD []).size
      + strSize (willTopicOf a.will) + strSize (willPayloadOf a.will) + strSize (a.userName.getD [])
      + strSize (a.password.getD []) < 4294967296 := hf
  unfold Connect5Args.build at h
  obtain ⟨hl1, h⟩ := ite_bErr_ok h
  obtain ⟨hl2, h⟩ := ite_bErr_ok h
  obtain ⟨hl3, h⟩ := ite_bErr_ok h
  obtain ⟨hl4, h⟩ := ite_bErr_ok h
  try dsimp only at h
  obtain ⟨hpu, h⟩ := ite_bErr_ok h
  obtain ⟨hwp, h⟩ := ite_bErr_ok h
  obtain ⟨hv1, h⟩ := checkProps_ok h
  obtain ⟨hv2, h⟩ := checkProps_ok h
  try dsimp only at h
  have e1 : asU32 (a.props.getD []).size = (a.props.getD []).size := asU32_of_lt (by omega)
  have e2 : asU32 (a.willProps.getD []).size = (a.willProps.getD []).size := asU32_of_lt (by omega)
  have e3 : a.remaining < 4294967296 := by
    unfold Connect5Args.remaining
    rw [e1, e2]
    have := vbiSize_le (a.props.getD []).size
    have := vbiSize_le (a.willProps.getD []).size
    have := ite_zero_le (a.will.isSome = true) (vbiSize (a.willProps.getD []).size + (a.willProps.getD []).size
      + strSize (willTopicOf a.will) + strSize (willPayloadOf a.will))
    have := ite_zero_le (a.userName.isSome = true) (strSize (a.userName.getD []))
    have := ite_zero_le (a.password.isSome = true) (strSize (a.password.getD []))
    omega
  obtain ⟨hmax1, h⟩ := vbiB_ok (by omega) h
  obtain ⟨hmax2, h⟩ := vbiB_ok (by omega) h
  obtain ⟨hmax3, h⟩ := vbiB_ok e3 h
  cases h
  have w4 := (will_ok ht2 hl2).2.2.2
  refine ⟨?_, absConnect_eq 5 _ _ _ _ _ (some _) _ (some _) w4⟩
  obtain ⟨-, -, f3, f4, f5, -⟩ := connectFlagsOf_facts a.cleanStart a.will a.userName.isSome a.password.isSome w4
  rw [f3] at hwp
  rw [Connect5.checks, allOk_append, allOk_append]
  refine ⟨⟨connectHead_ok ht1 ht2 ht3 ht4 ht5 hl1 hl2 hl3 hl4 hpu, propsChecks_ok ht6 hv1 rfl hmax1⟩, ?_⟩
  simp only [Connect5.remaining, allOk_cns, allOk_nl, Bool.and_true, Bool.and_eq_true, f3, f4, f5]
  refine ⟨propsOk_getD ht7, allowed_getD hv2, ⟨beq_self_eq_true _, decide_eq_true hmax2⟩, ?_, ?_, decide_eq_true hmax3⟩
  · cases hw : a.will.isSome with
    | true => rfl
    | false =>
      cases hwps : a.willProps with
      | none => rfl
      | some wp => simpa [hw, hwps] using hwp
  · simp only [beq_iff_eq, Connect5Args.remaining, e1, e2]

end MqttVerif.Codec
