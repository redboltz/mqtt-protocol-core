import MqttVerif.Codec.Build
import MqttVerif.Codec.Lemmas
/-!
The v3.1.1 builders establish `wf` and keep the requested field values.
Per argument structure: `X.build_ok : a.build = .ok p → allOk (p.checks) ∧ (Packet.X p).abs = (Args.X a).abs` (the
checks of `Packet.wf`; the fields are the arguments, defaults filled in), under `Args.typed` (what the Rust argument
types guarantee) and `Args.fits32` (no `usize → u32` cast truncates).
-/
namespace MqttVerif.Codec

theorem bErr_ne_ok {α : Type} (e : Err) (p : α) : (bErr e : BRes α) ≠ .ok p := by
  intro h; cases h

theorem asU32_of_lt {n : Nat} (h : n < 4294967296) : asU32 n = n := Nat.mod_eq_of_lt h

/-- on a size that the `usize → u32` cast does not truncate -/
theorem vbiB_ok {α : Type} {site : String} {n : Nat} {k : Nat → BRes α} {p : α} (hn : n < 4294967296)
    (h : vbiB site n k = .ok p) : n ≤ vbiMax ∧ k n = .ok p := by
  unfold vbiB at h
  rw [asU32_of_lt hn] at h
  split at h
  · exact ⟨‹_›, h⟩
  · cases h

theorem needPid_ok {α : Type} {pid : Option Nat} {k : Nat → BRes α} {p : α}
    (h : needPid pid k = .ok p) : ∃ id, pid = some id ∧ id ≠ 0 ∧ k id = .ok p := by
  unfold needPid at h
  split at h
  · cases h
  · rename_i id
    split at h
    · cases h
    · exact ⟨id, rfl, ‹_›, h⟩

theorem ite_bErr_ok {α : Type} {c : Prop} [Decidable c] {e : Err} {x : BRes α} {p : α}
    (h : (if c then bErr e else x) = .ok p) : ¬ c ∧ x = .ok p := by
  split at h
  · cases h
  · exact ⟨‹_›, h⟩

theorem checkProps_ok {α : Type} {validate : Props → Option Err} {props : Option Props} {k : BRes α} {p : α}
    (h : checkProps validate props k = .ok p) : (∀ ps, props = some ps → validate ps = none) ∧ k = .ok p := by
  unfold checkProps at h
  split at h
  · exact ⟨fun _ h' => (by cases h'), h⟩
  · rename_i ps
    split at h
    · cases h
    · exact ⟨fun ps' h' => (by cases h'; assumption), h⟩

theorem allowed_getD {al un : List Nat} {props : Option Props}
    (hv : ∀ ps, props = some ps → validateProps al un ps = none) : propsAllowed al un (props.getD []) = true := by
  cases props with
  | none => simp [propsAllowed, countId]
  | some ps => exact validateProps_eq_none.1 (hv ps rfl)

theorem or_of_not_and_not {p u : Bool} (h : ¬ (p && !u) = true) : (!p || u) = true := by
  cases p <;> cases u <;> simp at h ⊢

theorem isSome_or_isNone {α β : Type} {x : Option α} {y : Option β} (h : ¬ (x.isNone && y.isSome) = true) :
    (x.isSome || y.isNone) = true := by
  cases x <;> cases y <;> simp at h ⊢

theorem ite_zero_le (c : Prop) [Decidable c] (x : Nat) : (if c then x else 0) ≤ x := by
  split <;> omega

theorem idOk_of_typed {pw id : Nat} (ht : optPidTyped pw (some id) = true) (hne : id ≠ 0) : idOk pw id = true := by
  simp only [optPidTyped] at ht
  have h0 : (id != 0) = true := by simpa using hne
  simp only [idOk, h0, Bool.true_and]
  exact ht

theorem optCode_match' {ok : Nat → Bool} {rc : Option Nat} :
    optCodeTyped ok rc = true → (match rc with | some rc => ok rc | none => true) = true := by
  cases rc with
  | none => intro _; rfl
  | some c => intro ht; exact ht

theorem propsOk_getD {props : Option Props} (ht : optPropsTyped props = true) : propsOk (props.getD []) = true := by
  cases props with
  | none => simp [propsOk]
  | some ps => simpa [optPropsTyped] using ht

theorem listEmptyOrUnset_false {α : Type} {l : Option (List α)} (h : ¬ listEmptyOrUnset l = true) :
    (l.getD []).isEmpty = false := by
  cases l with
  | none => simp [listEmptyOrUnset] at h
  | some x => simpa [listEmptyOrUnset] using h

theorem buildEmpty_ok {p : Empty} (h : buildEmpty = .ok p) : allOk p.checks = true := by
  cases h; decide

theorem bitN_mod_beq (b : Bool) : (bitN b % 2 == 1) = b := by cases b <;> rfl

theorem Connack3Args.build_ok {pw : Nat} {a : Connack3Args} {p : Connack3}
    (ht : (Args.connack3 a).typed pw = true) (h : a.build = .ok p) :
    allOk p.checks = true ∧ (Packet.connack3 p).abs = (Args.connack3 a).abs := by
  have ht : optCodeTyped (fun c => decide (c ≤ 5)) a.rc = true := ht
  unfold Connack3Args.build at h
  split at h
  · cases h
  · rename_i sp hsp
    split at h
    · cases h
    · rename_i rc hrc
      cases h
      rw [hrc] at ht
      simp only [optCodeTyped, decide_eq_true_eq] at ht
      refine ⟨?_, by simp [Packet.abs, Args.abs, hsp, hrc, bitN_mod_beq]⟩
      cases sp <;> simp [Connack3.checks, allOk, bitN, ht]

theorem Ack3Args.build_ok {k : AckKind} {pw : Nat} (hpw : pw = 2 ∨ pw = 4) {a : Ack3Args} {p : Ack3}
    (ht : (optPidTyped pw a.pid && optCodeTyped k.rcOk a.rc) = true) (h : a.build pw = .ok p) :
    allOk (p.checks k pw) = true ∧ Spec.Wire.APkt.ack k.cp p.pid p.rc none = .ack k.cp (a.pid.getD 0) a.rc none := by
  obtain ⟨ht1, ht2⟩ := Bool.and_eq_true_iff.1 ht
  unfold Ack3Args.build at h
  obtain ⟨id, hid, hne, h⟩ := needPid_ok h
  obtain ⟨_, h⟩ := vbiB_ok (by split <;> omega) h
  cases h
  rw [hid] at ht1 ⊢
  refine ⟨?_, rfl⟩
  simp only [Ack3.checks, allOk_cns, allOk_nl, Bool.and_true, Bool.and_eq_true]
  exact ⟨idOk_of_typed ht1 hne, optCode_match' ht2, by simp⟩

theorem Unsuback3Args.build_ok {pw : Nat} (hpw : pw = 2 ∨ pw = 4) {a : Unsuback3Args} {p : Unsuback3}
    (ht : (Args.unsuback3 a).typed pw = true) (h : a.build pw = .ok p) :
    allOk (p.checks pw) = true ∧ (Packet.unsuback3 p).abs = (Args.unsuback3 a).abs := by
  have ht1 : optPidTyped pw a.pid = true := ht
  unfold Unsuback3Args.build at h
  obtain ⟨id, hid, hne, h⟩ := needPid_ok h
  obtain ⟨_, h⟩ := vbiB_ok (by omega) h
  cases h
  rw [hid] at ht1
  refine ⟨?_, by simp [Packet.abs, Args.abs, hid]⟩
  simp [Unsuback3.checks, allOk, idOk_of_typed ht1 hne]

theorem Suback3Args.build_ok {pw : Nat} {a : Suback3Args} {p : Suback3}
    (ht : (Args.suback3 a).typed pw = true) (hf : (Args.suback3 a).fits32 pw) (h : a.build pw = .ok p) :
    allOk (p.checks pw) = true ∧ (Packet.suback3 p).abs = (Args.suback3 a).abs := by
  obtain ⟨ht1, ht2⟩ : optPidTyped pw a.pid = true ∧ optCodesTyped subackRc3Ok a.codes = true := Bool.and_eq_true_iff.1 ht
  have hf : pw + (a.codes.getD []).length < 4294967296 := hf
  unfold Suback3Args.build at h
  obtain ⟨id, hid, hne, h⟩ := needPid_ok h
  obtain ⟨hne2, h⟩ := ite_bErr_ok h
  obtain ⟨hmax, h⟩ := vbiB_ok hf h
  cases h
  rw [hid] at ht1
  refine ⟨?_, by simp [Packet.abs, Args.abs, hid]⟩
  have hc : codesOk subackRc3Ok (a.codes.getD []) = true := by
    cases hcs : a.codes with
    | none => simp [codesOk]
    | some cs => simpa [optCodesTyped, codesOk, hcs] using ht2
  simp [Suback3.checks, allOk, idOk_of_typed ht1 hne, listEmptyOrUnset_false hne2, hc, hmax]

theorem entryOk_of_typed {es : Option (List SubEntry)} (ht : optEntriesTyped es = true)
    (hl : ¬ entriesTooLong es = true) : (es.getD []).all entryOk = true := by
  cases es with
  | none => simp
  | some l =>
    simp only [optEntriesTyped, List.all_eq_true, Bool.and_eq_true, decide_eq_true_eq] at ht
    simp only [entriesTooLong, List.any_eq_true, not_exists, not_and, tooLong, decide_eq_true_eq] at hl
    simp only [Option.getD_some, List.all_eq_true]
    intro e he
    have := ht e he
    have hle := hl e he
    simp [entryOk, strOk, this.1.1, this.1.2, this.2]
    omega

theorem Subscribe3Args.build_ok {pw : Nat} {a : Subscribe3Args} {p : Subscribe3}
    (ht : (Args.subscribe3 a).typed pw = true) (hf : (Args.subscribe3 a).fits32 pw) (h : a.build pw = .ok p) :
    allOk (p.checks pw) = true ∧ (Packet.subscribe3 p).abs = (Args.subscribe3 a).abs := by
  obtain ⟨ht1, ht2⟩ : optPidTyped pw a.pid = true ∧ optEntriesTyped a.entries = true := Bool.and_eq_true_iff.1 ht
  have hf : pw + entriesSize (a.entries.getD []) < 4294967296 := hf
  unfold Subscribe3Args.build at h
  obtain ⟨hlong, h⟩ := ite_bErr_ok h
  obtain ⟨id, hid, hne, h⟩ := needPid_ok h
  obtain ⟨hne2, h⟩ := ite_bErr_ok h
  obtain ⟨hmax, h⟩ := vbiB_ok hf h
  cases h
  rw [hid] at ht1
  refine ⟨?_, by simp [Packet.abs, Args.abs, hid]⟩
  simp [Subscribe3.checks, allOk, idOk_of_typed ht1 hne, listEmptyOrUnset_false hne2,
    entryOk_of_typed ht2 hlong, hmax]

theorem strOk_of_typed {ts : Option (List (List Nat))} (ht : optTopicsTyped ts = true)
    (hl : ¬ topicsTooLong ts = true) : (ts.getD []).all strOk = true := by
  cases ts with
  | none => simp
  | some l =>
    simp only [optTopicsTyped, List.all_eq_true] at ht
    simp only [topicsTooLong, List.any_eq_true, not_exists, not_and, tooLong, decide_eq_true_eq] at hl
    simp only [Option.getD_some, List.all_eq_true]
    intro t hin
    have hle := hl t hin
    simp [strOk, ht t hin]
    omega

theorem Unsubscribe3Args.build_ok {pw : Nat} {a : Unsubscribe3Args} {p : Unsubscribe3}
    (ht : (Args.unsubscribe3 a).typed pw = true) (hf : (Args.unsubscribe3 a).fits32 pw) (h : a.build pw = .ok p) :
    allOk (p.checks pw) = true ∧ (Packet.unsubscribe3 p).abs = (Args.unsubscribe3 a).abs := by
  obtain ⟨ht1, ht2⟩ : optPidTyped pw a.pid = true ∧ optTopicsTyped a.topics = true := Bool.and_eq_true_iff.1 ht
  have hf : pw + topicsSize (a.topics.getD []) < 4294967296 := hf
  unfold Unsubscribe3Args.build at h
  obtain ⟨hlong, h⟩ := ite_bErr_ok h
  obtain ⟨id, hid, hne, h⟩ := needPid_ok h
  obtain ⟨hne2, h⟩ := ite_bErr_ok h
  obtain ⟨hmax, h⟩ := vbiB_ok hf h
  cases h
  rw [hid] at ht1
  refine ⟨?_, by simp [Packet.abs, Args.abs, hid]⟩
  simp [Unsubscribe3.checks, allOk, idOk_of_typed ht1 hne, listEmptyOrUnset_false hne2,
    strOk_of_typed ht2 hlong, hmax]


/-! ### PUBLISH -/


theorem bitN_le (b : Bool) : bitN b ≤ 1 := by cases b <;> simp [bitN]

theorem bitN_beq (b : Bool) : (bitN b == 1) = b := by cases b <;> rfl

/-- the header byte the PUBLISH setters leave behind -/
def fhOf (qos : Option Nat) (dup retain : Option Bool) : Nat :=
  48 + 8 * bitN (dup.getD false) + 2 * qos.getD 0 + bitN (retain.getD false)

theorem publishHeader_getD (qos : Option Nat) (dup retain : Option Bool) :
    (publishHeader qos dup retain).getD 48 = fhOf qos dup retain := by
  unfold publishHeader fhOf
  split
  · rename_i h
    simp only [Bool.and_eq_true, Option.isNone_iff_eq_none] at h
    obtain ⟨⟨h1, h2⟩, h3⟩ := h
    subst h1 h2 h3
    rfl
  · rfl

theorem fhOf_facts (qos : Option Nat) (dup retain : Option Bool) (hq : qos.getD 0 ≤ 2) :
    fhOf qos dup retain / 16 = 3 ∧ fhOf qos dup retain < 64 ∧ fhOf qos dup retain / 2 % 4 = qos.getD 0
      ∧ fhOf qos dup retain / 8 % 2 = bitN (dup.getD false) ∧ fhOf qos dup retain % 2 = bitN (retain.getD false) := by
  unfold fhOf
  have := bitN_le (dup.getD false)
  have := bitN_le (retain.getD false)
  omega

theorem publishPidBad_false {qos : Option Nat} {dup retain : Option Bool} {pid : Option Nat} (hq : qos.getD 0 ≤ 2)
    (h : ¬ publishPidBad (publishHeader qos dup retain) pid = true) :
    ((qos.getD 0 = 0) ↔ pid = none) ∧ ∀ id, pid = some id → id ≠ 0 := by
  unfold publishPidBad publishHeader at h
  split at h
  · rename_i hd heq
    split at heq
    · cases heq
    · cases heq
      have hb1 := bitN_le (dup.getD false)
      have hb2 := bitN_le (retain.getD false)
      have hq2 : (48 + 8 * bitN (dup.getD false) + 2 * qos.getD 0 + bitN (retain.getD false)) / 2 % 4 = qos.getD 0 := by omega
      rw [hq2] at h
      split at h
      · rename_i h0
        cases pid with
        | none => simp [h0]
        | some id => simp at h
      · rename_i h0
        cases pid with
        | none => simp at h
        | some id => simp at h; simp [h0, h]
  · rename_i heq
    split at heq
    · rename_i hall
      simp only [Bool.and_eq_true, Option.isNone_iff_eq_none] at hall
      cases pid with
      | none => simp [hall.1.1]
      | some id => simp at h
    · cases heq



theorem qos_le_of_typed {qos : Option Nat} (ht : optCodeTyped (fun q => decide (q ≤ 2)) qos = true) : qos.getD 0 ≤ 2 := by
  cases qos with
  | none => simp
  | some q => simpa [optCodeTyped] using ht

theorem topicSetter_ok {t : Option (List Nat)} (ht : optStrTyped t = true) (h : ¬ topicSetterFails t = true) :
    noWildcard (t.getD []) = true ∧ strOk (t.getD []) = true := by
  cases t with
  | none => simp [noWildcard, strOk, utf8Ok, utf8Go]
  | some s =>
    simp only [topicSetterFails, tooLong, Bool.or_eq_true, decide_eq_true_eq, not_or] at h
    simp only [optStrTyped] at ht
    simp only [Option.getD_some, noWildcard, strOk, ht, Bool.and_true, decide_eq_true_eq]
    refine ⟨?_, by omega⟩
    have h1 := h.1.2
    have h2 := h.2
    simp only [List.contains_iff_mem] at h1 h2
    simp [h1, h2]

/-- What both PUBLISH builders have tested when they compute the Remaining Length: the head checks hold, and the
    packet identifier is counted exactly when there is one (`aliasOk`: a Topic Alias property stands in for the
    topic). -/
theorem publishHead_ok {pw : Nat} {topic : Option (List Nat)} {qos : Option Nat} {dup retain : Option Bool}
    {pid : Option Nat} {aliasOk : Bool} (ht1 : optStrTyped topic = true)
    (ht2 : optCodeTyped (fun q => decide (q ≤ 2)) qos = true) (ht3 : optPidTyped pw pid = true)
    (hts : ¬ topicSetterFails topic = true) (hne : (!(topic.getD []).isEmpty || aliasOk) = true)
    (hpb : ¬ publishPidBad (publishHeader qos dup retain) pid = true) :
    allOk (publishHeadChecks pw (fhOf qos dup retain) (topic.getD []) pid aliasOk) = true ∧
      (if fhOf qos dup retain / 2 % 4 ≠ 0 ∧ pid.isSome = true then pw else 0) = (if pid.isSome = true then pw else 0) := by
  have hq := qos_le_of_typed ht2
  obtain ⟨f1, f2, f3, -, -⟩ := fhOf_facts qos dup retain hq
  obtain ⟨hiff, hnz⟩ := publishPidBad_false hq hpb
  obtain ⟨hw, hs⟩ := topicSetter_ok ht1 hts
  simp only [publishHeadChecks, allOk_cns, allOk_nl, Bool.and_true, Bool.and_eq_true]
  rw [f3]
  refine ⟨⟨by simp [f1, f2], by simp [hq], hne, hw, hs, ?_, ?_⟩, ?_⟩
  · cases hp : pid with
    | none => simp [hiff.mpr hp]
    | some id => simp; intro h0; have := hiff.mp h0; simp [hp] at this
  · cases hp : pid with
    | none => rfl
    | some id => rw [hp] at ht3; exact idOk_of_typed ht3 (hnz id hp)
  · cases hp : pid with
    | none => simp
    | some id => simp; intro h0; have := hiff.mp h0; simp [hp] at this

theorem Publish3Args.build_ok {pw : Nat} {a : Publish3Args} {p : Publish3}
    (ht : (Args.publish3 a).typed pw = true) (hf : (Args.publish3 a).fits32 pw) (h : a.build pw = .ok p) :
    allOk (p.checks pw) = true ∧ (Packet.publish3 p).abs = (Args.publish3 a).abs := by
  simp only [Args.typed, Bool.and_eq_true] at ht
  obtain ⟨⟨ht1, ht2⟩, ht3⟩ := ht
  have hf : strSize (a.topic.getD []) + pw + (a.payload.getD []).length < 4294967296 := hf
  unfold Publish3Args.build at h
  obtain ⟨hts, h⟩ := ite_bErr_ok h
  dsimp only at h
  obtain ⟨hte, h⟩ := ite_bErr_ok h
  obtain ⟨hpb, h⟩ := ite_bErr_ok h
  obtain ⟨_, h⟩ := ite_bErr_ok h
  obtain ⟨hmax, h⟩ := vbiB_ok (by split <;> omega) h
  cases h
  rw [publishHeader_getD] at hmax ⊢
  obtain ⟨-, -, f3, f4, f5⟩ := fhOf_facts a.qos a.dup a.retain (qos_le_of_typed ht2)
  refine ⟨?_, by simp [Packet.abs, Args.abs, f3, f4, f5, bitN_beq]⟩
  have hne : (!(a.topic.getD []).isEmpty || false) = true := by
    cases ht : a.topic with
    | none => simp [ht] at hte
    | some t => simpa [ht] using hte
  obtain ⟨hhead, hrem⟩ := publishHead_ok ht1 ht2 ht3 hts hne hpb
  rw [hrem] at hmax ⊢
  simp only [Publish3.checks, allOk_append, allOk_cns, allOk_nl, Bool.and_true, Bool.and_eq_true, Publish3.remaining]
  exact ⟨hhead, by simp [hmax]⟩


/-! ### CONNECT -/


def willQosOf : Option WillArgs → Nat
  | some w => w.qos
  | none => 0
def willRetainOf : Option WillArgs → Bool
  | some w => w.retain
  | none => false

theorem flagsByte_fields {u p r q w c : Nat} (hu : u ≤ 1) (hp : p ≤ 1) (hr : r ≤ 1) (hq : q ≤ 3) (hw : w ≤ 1) (hc : c ≤ 1) :
    let f := 128 * u + 64 * p + (32 * r + 8 * q + 4 * w) + 2 * c
    f < 256 ∧ f % 2 = 0 ∧ f / 4 % 2 = w ∧ f / 128 % 2 = u ∧ f / 64 % 2 = p ∧ f / 8 % 4 = q ∧ f / 32 % 2 = r
      ∧ f / 2 % 2 = c := by
  omega

theorem connectFlagsOf_eq (cs : Option Bool) (will : Option WillArgs) (u pf : Bool) :
    connectFlagsOf cs will u pf = 128 * bitN u + 64 * bitN pf
      + (32 * bitN (willRetainOf will) + 8 * willQosOf will + 4 * bitN will.isSome) + 2 * bitN (cs.getD true) := by
  cases will <;> rfl

theorem connectFlagsOf_facts (cs : Option Bool) (will : Option WillArgs) (u pf : Bool) (hq : willQosOf will ≤ 2) :
    connectFlagsOf cs will u pf < 256 ∧ connectFlagsOf cs will u pf % 2 = 0
      ∧ willFlag (connectFlagsOf cs will u pf) = will.isSome
      ∧ userNameFlag (connectFlagsOf cs will u pf) = u
      ∧ passwordFlag (connectFlagsOf cs will u pf) = pf
      ∧ connectFlagsOf cs will u pf / 8 % 4 = willQosOf will
      ∧ connectFlagsOf cs will u pf / 32 % 2 = bitN (willRetainOf will)
      ∧ connectFlagsOf cs will u pf / 2 % 2 = bitN (cs.getD true) := by
  obtain ⟨h1, h2, h3, h4, h5, h6, h7, h8⟩ := flagsByte_fields (bitN_le u) (bitN_le pf) (bitN_le (willRetainOf will))
    (Nat.le_succ_of_le hq) (bitN_le will.isSome) (bitN_le (cs.getD true))
  rw [← connectFlagsOf_eq] at h1 h2 h3 h4 h5 h6 h7 h8
  unfold willFlag userNameFlag passwordFlag
  rw [h3, h4, h5, bitN_beq, bitN_beq, bitN_beq]
  exact ⟨h1, h2, rfl, rfl, rfl, h6, h7, h8⟩

theorem utf8Ok_nil : utf8Ok [] = true := by decide

theorem strOk_getD {s : Option (List Nat)} (ht : optStrTyped s = true) (hl : ¬ optTooLong s = true) :
    strOk (s.getD []) = true := by
  cases s with
  | none => simp [strOk, utf8Ok_nil]
  | some x =>
    simp only [optTooLong, tooLong, decide_eq_true_eq] at hl
    simp only [optStrTyped] at ht
    simp only [Option.getD_some, strOk, ht, Bool.and_true, decide_eq_true_eq]
    omega

theorem binOk_getD {s : Option (List Nat)} (hl : ¬ optTooLong s = true) : binOk (s.getD []) = true := by
  cases s with
  | none => simp [binOk]
  | some x =>
    simp only [optTooLong, tooLong, decide_eq_true_eq] at hl
    simp only [Option.getD_some, binOk, decide_eq_true_eq]
    omega

theorem bytesOk_getD {s : Option (List Nat)} (ht : optBinTyped s = true) : bytesOk (s.getD []) = true := by
  cases s with
  | none => simp [bytesOk]
  | some x => exact ht

theorem will_ok {w : Option WillArgs} (ht : willTyped w = true) (hl : ¬ willTooLong w = true) :
    strOk (willTopicOf w) = true ∧ binOk (willPayloadOf w) = true ∧ bytesOk (willPayloadOf w) = true ∧ willQosOf w ≤ 2 := by
  cases w with
  | none => simp [willTopicOf, willPayloadOf, willQosOf, strOk, binOk, bytesOk, utf8Ok_nil]
  | some x =>
    simp only [willTooLong, tooLong, Bool.or_eq_true, decide_eq_true_eq, not_or] at hl
    simp only [willTyped, Bool.and_eq_true, decide_eq_true_eq] at ht
    obtain ⟨⟨u1, u2⟩, u3⟩ := ht
    refine ⟨?_, ?_, u2, u3⟩
    · simp only [willTopicOf, Option.map_some, Option.getD_some, strOk, u1, Bool.and_true]; exact decide_eq_true (by omega)
    · simp only [willPayloadOf, Option.map_some, Option.getD_some, binOk]; exact decide_eq_true (by omega)

theorem u16_getD {v : Option Nat} (ht : optU16Typed v = true) : v.getD 0 < 65536 := by
  cases v with
  | none => simp
  | some x => simpa [optU16Typed] using ht

theorem isEmpty_getD_of_none {s : Option (List Nat)} : (s.isSome || (s.getD []).isEmpty) = true := by
  cases s <;> simp

theorem optSome_getD (s : Option (List Nat)) : (if s.isSome = true then some (s.getD []) else none) = s := by
  cases s <;> rfl

/-- the CONNECT flags byte read back: the abstract packet has the arguments -/
theorem absConnect_eq (level : Nat) (cs : Option Bool) (will : Option WillArgs) (user pass : Option (List Nat))
    (ka : Nat) (props : Option Props) (cid : List Nat) (wprops : Option Props) (hq : willQosOf will ≤ 2) :
    absConnect level (connectFlagsOf cs will user.isSome pass.isSome) ka props cid wprops (willTopicOf will)
        (willPayloadOf will) (user.getD []) (pass.getD [])
      = .connect level (cs.getD true) ka (props.map Props.abs) cid (will.map (absWill wprops)) user pass := by
  obtain ⟨_, _, f3, f4, f5, f6, f7, f8⟩ := connectFlagsOf_facts cs will user.isSome pass.isSome hq
  unfold absConnect
  rw [f3, f4, f5, f6, f7, f8, bitN_beq, bitN_beq, optSome_getD, optSome_getD]
  cases will <;> rfl

/-- what both CONNECT builders have tested when they compute the Remaining Length: the flag checks, the keep-alive
    and the strings -/
theorem connectHead_ok {cs : Option Bool} {will : Option WillArgs} {cid user pass : Option (List Nat)} {ka : Option Nat}
    (ht1 : optStrTyped cid = true) (ht2 : willTyped will = true) (ht3 : optStrTyped user = true)
    (ht4 : optBinTyped pass = true) (ht5 : optU16Typed ka = true) (hl1 : ¬ optTooLong cid = true)
    (hl2 : ¬ willTooLong will = true) (hl3 : ¬ optTooLong user = true) (hl4 : ¬ optTooLong pass = true)
    (hpu : ¬ (passwordFlag (connectFlagsOf cs will user.isSome pass.isSome) &&
      !userNameFlag (connectFlagsOf cs will user.isSome pass.isSome)) = true) :
    allOk (connectFlagChecks (connectFlagsOf cs will user.isSome pass.isSome) (willTopicOf will) (willPayloadOf will)
        (user.getD []) (pass.getD []) ++
      [("keep_alive_u16", decide (ka.getD 0 < 65536)),
       ("strings", strOk (cid.getD []) && strOk (willTopicOf will) && binOk (willPayloadOf will) &&
          bytesOk (willPayloadOf will) && strOk (user.getD []) && binOk (pass.getD []) && bytesOk (pass.getD []))]) =
      true := by
  obtain ⟨w1, w2, w3, w4⟩ := will_ok ht2 hl2
  obtain ⟨f1, f2, f3, f4, f5, f6, f7, _⟩ := connectFlagsOf_facts cs will user.isSome pass.isSome w4
  rw [f4, f5] at hpu
  simp only [connectFlagChecks, allOk_append, allOk_cns, allOk_nl, Bool.and_true, Bool.and_eq_true, f3, f4, f5]
  refine ⟨⟨by simpa using f1, by simp [f2], by simp [f6, w4], ?_, or_of_not_and_not hpu,
      ⟨⟨?_, isEmpty_getD_of_none⟩, isEmpty_getD_of_none⟩⟩,
    by simpa using u16_getD ht5,
    ⟨⟨⟨⟨⟨strOk_getD ht1 hl1, w1⟩, w2⟩, w3⟩, strOk_getD ht3 hl3⟩, binOk_getD hl4⟩, bytesOk_getD ht4⟩
  · rw [f6, f7]
    cases will <;> simp [willQosOf, willRetainOf, bitN]
  · cases will <;> simp [willTopicOf, willPayloadOf]

theorem Connect3Args.build_ok {pw : Nat} {a : Connect3Args} {p : Connect3}
    (ht : (Args.connect3 a).typed pw = true) (hf : (Args.connect3 a).fits32 pw) (h : a.build = .ok p) :
    allOk p.checks = true ∧ (Packet.connect3 p).abs = (Args.connect3 a).abs := by
  simp only [Args.typed, Bool.and_eq_true] at ht
  obtain ⟨⟨⟨⟨ht1, ht2⟩, ht3⟩, ht4⟩, ht5⟩ := ht
  have hf : a.remaining < 4294967296 := hf
  unfold Connect3Args.build at h
  obtain ⟨hl1, h⟩ := ite_bErr_ok h
  obtain ⟨hl2, h⟩ := ite_bErr_ok h
  obtain ⟨hl3, h⟩ := ite_bErr_ok h
  obtain ⟨hl4, h⟩ := ite_bErr_ok h
  dsimp only at h
  obtain ⟨hpu, h⟩ := ite_bErr_ok h
  obtain ⟨hmax, h⟩ := vbiB_ok hf h
  cases h
  have w4 := (will_ok ht2 hl2).2.2.2
  refine ⟨?_, absConnect_eq 4 _ _ _ _ _ none _ none w4⟩
  obtain ⟨-, -, f3, f4, f5, -⟩ := connectFlagsOf_facts a.cleanSession a.will a.userName.isSome a.password.isSome w4
  show allOk ((connectFlagChecks _ _ _ _ _ ++ [_, _]) ++ [_]) = true
  rw [allOk_append]
  refine ⟨connectHead_ok ht1 ht2 ht3 ht4 ht5 hl1 hl2 hl3 hl4 hpu, ?_⟩
  simp only [allOk_cns, allOk_nl, Bool.and_true, Bool.and_eq_true, Connect3.remaining, f3, f4, f5]
  simp only [Connect3Args.remaining, beq_self_eq_true, true_and]
  exact decide_eq_true hmax


end MqttVerif.Codec
