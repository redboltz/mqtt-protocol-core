import MqttVerif.Codec.LemmasRT
/-!
Per-kind round trip (C02): `parse (body (encode p)) = ok p |body|` and `size p = |encode p|`, for every packet
satisfying the well-formedness checks of `Wf.lean` (what `build()` establishes).
-/
namespace MqttVerif.Codec

theorem frameBody_enc (fh rl : Nat) (body : List Nat) (h : rl ≤ vbiMax) :
    frameBody (fh :: vbiEnc rl ++ body) = some (fh, rl, body) := by
  unfold frameBody
  simp only [List.cons_append]
  rw [vbiDec_enc rl body h]
  simp only
  rw [← vbiEnc_length rl h]
  simp

theorem size_of_frame (fh rl : Nat) (body : List Nat) (h : rl ≤ vbiMax) (hb : body.length = rl) :
    sizeOfRem rl = (fh :: vbiEnc rl ++ body).length := by
  simp only [sizeOfRem, List.length_cons, List.length_append, vbiEnc_length _ h, hb]
  omega

theorem vbiOf_le {α : Type} (site : String) (n : Nat) (k : Nat → PRes α) (h : n ≤ vbiMax) : vbiOf site n k = k n := by
  unfold vbiOf; rw [if_pos h]

theorem idOk_iff (pw id : Nat) : idOk pw id = true ↔ id ≠ 0 ∧ (if pw = 2 then id < 65536 else id < 4294967296) := by
  unfold idOk
  by_cases h : pw = 2 <;> simp [h]

theorem parseIdFront_at {site : String} {pw id : Nat} {d rest : List Nat} (h : At d 0 (encId pw id ++ rest))
    (hpw : pw = 2 ∨ pw = 4) (hid : idOk pw id = true) : parseIdFront site pw d = .ok id pw := by
  obtain ⟨hnz, hr⟩ := (idOk_iff pw id).1 hid
  have hl := encId_length pw id hpw
  have hlen := h.len
  rw [List.length_append] at hlen
  unfold parseIdFront
  rw [if_neg (by omega), h.slice0 hl, allZero_encId pw id hpw hnz hr]
  simp only [Bool.false_eq_true, if_false, beNat_encId pw id hpw hr]

/-- A kind's round trip from its walk: on every buffer that reads `body`, the parser returns `p` and the length of the
    buffer, and that length is the cached Remaining Length. -/
theorem roundtrip_of {α : Type} {parse : List Nat → PRes α} {p : α} {fh rl : Nat} {enc body : List Nat}
    (henc : enc = fh :: vbiEnc rl ++ body) (hmax : rl ≤ vbiMax)
    (hwalk : ∀ d, At d 0 body → rl = d.length ∧ parse d = .ok p d.length) :
    parse body = .ok p body.length ∧ enc = fh :: vbiEnc rl ++ body ∧ sizeOfRem rl = enc.length ∧ rl = body.length
      ∧ rl ≤ vbiMax := by
  obtain ⟨hbl, hp⟩ := hwalk body (At.zero body)
  exact ⟨hp, henc, henc ▸ size_of_frame fh rl body hmax hbl.symm, hbl, hmax⟩

/-! ### PINGREQ / PINGRESP / DISCONNECT v3.1.1 -/

theorem Empty.roundtrip (fh : Nat) (p : Empty) (h : allOk p.checks = true) :
    Empty.parse [] = .ok p 0 ∧ p.encode fh = fh :: vbiEnc p.remLen ++ [] ∧ p.size = (p.encode fh).length
      ∧ p.remLen = ([] : List Nat).length ∧ p.remLen ≤ vbiMax := by
  simp only [Empty.checks, allOk_cns, allOk_nl, Bool.and_true, beq_iff_eq] at h
  cases p with
  | mk rl =>
    simp only at h
    subst h
    exact ⟨rfl, rfl, rfl, rfl, Nat.zero_le _⟩

def Connack3.body (p : Connack3) : List Nat := [p.flags, p.rc]

theorem Connack3.roundtrip (p : Connack3) (h : allOk p.checks = true) :
    Connack3.parse p.body = .ok p p.body.length ∧ p.encode = 0x20 :: vbiEnc p.remLen ++ p.body
      ∧ p.size = p.encode.length ∧ p.remLen = p.body.length ∧ p.remLen ≤ vbiMax := by
  simp only [Connack3.checks, allOk_cns, allOk_nl, Bool.and_true, Bool.and_eq_true, beq_iff_eq,
    decide_eq_true_eq] at h
  obtain ⟨hf, hrc, hrl⟩ := h
  refine roundtrip_of rfl (by rw [hrl]; decide) fun d h0 => ?_
  cases h0.zero_eq
  refine ⟨hrl, ?_⟩
  unfold Connack3.parse Connack3.body
  rw [if_neg (by simp), idx_cons_zero, idx_cons_succ, idx_cons_zero, if_neg (by omega)]
  rw [show p.flags % 2 = p.flags by omega]
  cases p
  cases hrl
  rfl

/-! ### PUBACK / PUBREC / PUBREL / PUBCOMP v3.1.1 -/

def Ack3.body (pw : Nat) (p : Ack3) : List Nat := encId pw p.pid ++ encOptByte p.rc

theorem Ack3.roundtrip (k : AckKind) (pw : Nat) (p : Ack3) (hpw : pw = 2 ∨ pw = 4)
    (h : allOk (p.checks k pw) = true) :
    Ack3.parse k pw (p.body pw) = .ok p (p.body pw).length ∧ p.encode k pw = k.fh :: vbiEnc p.remLen ++ p.body pw
      ∧ p.size = (p.encode k pw).length ∧ p.remLen = (p.body pw).length ∧ p.remLen ≤ vbiMax := by
  simp only [Ack3.checks, allOk_cns, allOk_nl, Bool.and_true, Bool.and_eq_true, beq_iff_eq] at h
  obtain ⟨hid, hrc, hrl⟩ := h
  obtain ⟨hnz, hr⟩ := (idOk_iff pw p.pid).1 hid
  have hil := encId_length pw p.pid hpw
  have hmax : p.remLen ≤ vbiMax := by
    unfold vbiMax; rcases hpw with h | h <;> subst h <;> split at hrl <;> omega
  refine roundtrip_of (by simp [Ack3.encode, Ack3.body]) hmax fun d h0 => ?_
  have h1 := h0.adv0 hil
  have hlen := h1.len
  unfold Ack3.parse
  rw [if_neg (by omega), h0.slice0 hil, allZero_encId pw p.pid hpw hnz hr]
  simp only [Bool.false_eq_true, if_false, beNat_encId pw p.pid hpw hr]
  cases p with
  | mk rl pid rc =>
    dsimp only at hrc hrl h1 hlen hmax ⊢
    cases rc with
    | none =>
      simp only [encOptByte, List.length_nil, Nat.add_zero, Option.isSome_none, Bool.false_eq_true, if_false] at hrl hlen
      subst hrl
      rw [if_neg (by omega), vbiOf_le _ _ _ hmax, hlen]
      exact ⟨rfl, rfl⟩
    | some c =>
      simp only [encOptByte, List.length_cons, List.length_nil, Option.isSome_some, if_true] at hrl hlen
      subst hrl
      rw [if_pos (by omega), h1.idx, if_neg (by simpa using hrc), vbiOf_le _ _ _ hmax, hlen]
      exact ⟨rfl, rfl⟩

def Unsuback3.body (pw : Nat) (p : Unsuback3) : List Nat := encId pw p.pid

theorem Unsuback3.roundtrip (pw : Nat) (p : Unsuback3) (hpw : pw = 2 ∨ pw = 4) (h : allOk (p.checks pw) = true) :
    Unsuback3.parse pw (p.body pw) = .ok p (p.body pw).length ∧ p.encode pw = 0xb0 :: vbiEnc p.remLen ++ p.body pw
      ∧ p.size = (p.encode pw).length ∧ p.remLen = (p.body pw).length ∧ p.remLen ≤ vbiMax := by
  simp only [Unsuback3.checks, allOk_cns, allOk_nl, Bool.and_true, Bool.and_eq_true, beq_iff_eq] at h
  obtain ⟨hid, hrl⟩ := h
  have hmax : p.remLen ≤ vbiMax := by unfold vbiMax; omega
  refine roundtrip_of rfl hmax fun d h0 => ?_
  have h0' : At d 0 (encId pw p.pid ++ []) := by rw [List.append_nil]; exact h0
  have hbl : p.remLen = d.length := by rw [hrl]; exact (h0'.adv0 (encId_length pw p.pid hpw)).len
  refine ⟨hbl, ?_⟩
  unfold Unsuback3.parse
  rw [parseIdFront_at h0' hpw hid, bind_ok, ← hbl, ← hrl, vbiOf_le _ _ _ hmax]

def Suback3.body (pw : Nat) (p : Suback3) : List Nat := encId pw p.pid ++ p.codes

theorem Suback3.roundtrip (pw : Nat) (p : Suback3) (hpw : pw = 2 ∨ pw = 4) (h : allOk (p.checks pw) = true) :
    Suback3.parse pw (p.body pw) = .ok p (p.body pw).length ∧ p.encode pw = 0x90 :: vbiEnc p.remLen ++ p.body pw
      ∧ p.size = (p.encode pw).length ∧ p.remLen = (p.body pw).length ∧ p.remLen ≤ vbiMax := by
  simp only [Suback3.checks, allOk_cns, allOk_nl, Bool.and_true, Bool.and_eq_true, beq_iff_eq,
    decide_eq_true_eq] at h
  obtain ⟨hid, hne, hco, hrl, hmax⟩ := h
  refine roundtrip_of (by simp [Suback3.encode, Suback3.body]) hmax fun d h0 => ?_
  have h1 := h0.adv0 (encId_length pw p.pid hpw)
  have hbl : p.remLen = d.length := by rw [hrl]; exact h1.len
  refine ⟨hbl, ?_⟩
  unfold Suback3.parse
  rw [parseIdFront_at h0 hpw hid, bind_ok, h1.sliceFrom, if_neg (by simp [hco]), if_neg (by simpa using hne), ← hbl, ← hrl,
    vbiOf_le _ _ _ hmax]

def Unsubscribe3.body (pw : Nat) (p : Unsubscribe3) : List Nat := encId pw p.pid ++ topicsEncode p.topics

theorem Unsubscribe3.roundtrip (pw : Nat) (p : Unsubscribe3) (hpw : pw = 2 ∨ pw = 4)
    (h : allOk (p.checks pw) = true) :
    Unsubscribe3.parse pw (p.body pw) = .ok p (p.body pw).length
      ∧ p.encode pw = 0xa2 :: vbiEnc p.remLen ++ p.body pw
      ∧ p.size = (p.encode pw).length ∧ p.remLen = (p.body pw).length ∧ p.remLen ≤ vbiMax := by
  simp only [Unsubscribe3.checks, allOk_cns, allOk_nl, Bool.and_true, Bool.and_eq_true, beq_iff_eq,
    decide_eq_true_eq] at h
  obtain ⟨hid, hne, hts, hrl, hmax⟩ := h
  have htl := topicsEncode_length p.topics
  refine roundtrip_of (by simp [Unsubscribe3.encode, Unsubscribe3.body]) hmax fun d h0 => ?_
  have h1 := h0.adv0 (encId_length pw p.pid hpw)
  have hbl : p.remLen = d.length := by rw [hrl, ← htl]; exact h1.len
  refine ⟨hbl, ?_⟩
  unfold Unsubscribe3.parse
  rw [parseIdFront_at h0 hpw hid, bind_ok, h1.sliceFrom, htl, topicsLoop_enc _ _ hts (Nat.le_refl _), bind_ok,
    if_neg (by simpa using hne), ← hbl, ← hrl, vbiOf_le _ _ _ hmax]

def Subscribe3.body (pw : Nat) (p : Subscribe3) : List Nat := encId pw p.pid ++ entriesEncode p.entries

theorem Subscribe3.roundtrip (pw : Nat) (p : Subscribe3) (hpw : pw = 2 ∨ pw = 4)
    (h : allOk (p.checks pw) = true) :
    Subscribe3.parse pw (p.body pw) = .ok p (p.body pw).length
      ∧ p.encode pw = 0x82 :: vbiEnc p.remLen ++ p.body pw
      ∧ p.size = (p.encode pw).length ∧ p.remLen = (p.body pw).length ∧ p.remLen ≤ vbiMax := by
  simp only [Subscribe3.checks, allOk_cns, allOk_nl, Bool.and_true, Bool.and_eq_true, beq_iff_eq,
    decide_eq_true_eq] at h
  obtain ⟨hid, hne, hes, hrl, hmax⟩ := h
  have hel := entriesEncode_length p.entries
  refine roundtrip_of (by simp [Subscribe3.encode, Subscribe3.body]) hmax fun d h0 => ?_
  have h1 := h0.adv0 (encId_length pw p.pid hpw)
  have hbl : p.remLen = d.length := by rw [hrl, ← hel]; exact h1.len
  refine ⟨hbl, ?_⟩
  unfold Subscribe3.parse
  rw [parseIdFront_at h0 hpw hid, bind_ok, h1.sliceFrom, hel, entriesLoop_enc _ _ hes (Nat.le_refl _), bind_ok,
    if_neg (by simpa using hne), ← hbl, ← hrl, vbiOf_le _ _ _ hmax]

/-! ## v5.0 -/

theorem parsePropsAt_at {site : String} {validate : Props → Option Err} {d r : List Nat} {c pl : Nat} {ps : Props}
    (h : At d c (vbiEnc pl ++ (Props.encode ps ++ r))) (hok : propsOk ps = true) (hpl : pl = ps.size) (hs : pl ≤ vbiMax)
    (hv : validate ps = none) : parsePropsAt site validate d c = .ok (ps, pl) (vbiSize pl + ps.size) := by
  subst hpl
  unfold parsePropsAt
  rw [h.sliceFrom, ← List.append_assoc, Props.parse_enc ps r hok hs, bind_ok, hv]
  exact vbiOf_le _ _ _ hs

theorem propsChecks_iff (allowed uniq : List Nat) (propLen : Nat) (ps : Props) :
    allOk (propsChecks allowed uniq propLen ps) = true ↔
      propsOk ps = true ∧ propsAllowed allowed uniq ps = true ∧ propLen = ps.size ∧ propLen ≤ vbiMax := by
  simp [allOk, propsChecks]

/-- every check list that caches a Remaining Length ends with its check -/
theorem allOk_remlen {cs : List (String × Bool)} {rl x : Nat} :
    allOk (cs ++ [("remlen", rl == x && decide (rl ≤ vbiMax))]) = true ↔ allOk cs = true ∧ rl = x ∧ rl ≤ vbiMax := by
  rw [allOk_append, allOk_cns, allOk_nl, Bool.and_true, Bool.and_eq_true, beq_iff_eq, decide_eq_true_eq]

/-- the v5.0 check lists: the kind's own checks, those of its property list, the Remaining Length -/
theorem allOk_v5 {cs : List (String × Bool)} {allowed uniq : List Nat} {propLen rl x : Nat} {ps : Props} :
    allOk (cs ++ propsChecks allowed uniq propLen ps ++ [("remlen", rl == x && decide (rl ≤ vbiMax))]) = true ↔
      allOk cs = true ∧ (propsOk ps = true ∧ propsAllowed allowed uniq ps = true ∧ propLen = ps.size ∧ propLen ≤ vbiMax)
        ∧ rl = x ∧ rl ≤ vbiMax := by
  rw [allOk_remlen, allOk_append, propsChecks_iff, and_assoc]

/-- the cursor behind the head that SUBSCRIBE, UNSUBSCRIBE and their acknowledgements share in v5.0 -/
theorem At.idProps {pw pid propLen : Nat} {ps : Props} {d tail : List Nat}
    (h : At d 0 (encId pw pid ++ (vbiEnc propLen ++ (Props.encode ps ++ tail)))) (hpw : pw = 2 ∨ pw = 4)
    (hpo : propsOk ps = true) (hplm : propLen ≤ vbiMax) : At d (pw + (vbiSize propLen + ps.size)) tail := by
  have := ((h.adv0 (encId_length pw pid hpw)).adv (vbiEnc_length _ hplm)).adv (Props.encode_length ps hpo)
  rwa [Nat.add_assoc] at this

/-- that head (id, property list, rest of the body), run on an encoding: the continuation receives what was encoded -/
theorem idProps_enc {α : Type} {s1 s2 s3 : String} {validate : Props → Option Err} {pw pid propLen : Nat} {ps : Props}
    {data tail : List Nat} {k : Nat → Nat → Props × Nat → Nat → List Nat → PRes α} {r : PRes α}
    (h : At data 0 (encId pw pid ++ (vbiEnc propLen ++ (Props.encode ps ++ tail)))) (hpw : pw = 2 ∨ pw = 4)
    (hid : idOk pw pid = true) (hpo : propsOk ps = true) (hpl : propLen = ps.size) (hplm : propLen ≤ vbiMax)
    (hv : validate ps = none) (hk : k pid pw (ps, propLen) (vbiSize propLen + ps.size) tail = r) :
    ((parseIdFront s1 pw data).bind fun id cursor => (parsePropsAt s2 validate data cursor).bind fun pp pc =>
      sliceFrom s3 data (cursor + pc) fun rest => k id cursor pp pc rest) = r := by
  rw [parseIdFront_at h hpw hid, bind_ok, parsePropsAt_at (h.adv0 (encId_length pw pid hpw)) hpo hpl hplm hv, bind_ok,
    (h.idProps hpw hpo hplm).sliceFrom]
  exact hk

/-! ### SUBACK / UNSUBACK v5.0 -/

def Codes5.body (pw : Nat) (p : Codes5) : List Nat :=
  encId pw p.pid ++ (vbiEnc p.propLen ++ (Props.encode p.props ++ p.codes))

theorem Codes5.roundtrip (rcOk : Nat → Bool) (fh pw : Nat) (p : Codes5) (hpw : pw = 2 ∨ pw = 4)
    (h : allOk (p.checks rcOk pw) = true) :
    Codes5.parse rcOk pw (p.body pw) = .ok p (p.body pw).length
      ∧ p.encode fh pw = fh :: vbiEnc p.remLen ++ p.body pw
      ∧ p.size = (p.encode fh pw).length ∧ p.remLen = (p.body pw).length ∧ p.remLen ≤ vbiMax := by
  obtain ⟨h1, ⟨hpo, hpa, hpl, hplm⟩, hrl, hmax⟩ := allOk_v5.1 h
  simp only [allOk_cns, allOk_nl, Bool.and_true, Bool.and_eq_true] at h1
  obtain ⟨hid, hne, hco⟩ := h1
  refine roundtrip_of (by simp [Codes5.encode, Codes5.body]) hmax fun d h0 => ?_
  have hbl : p.remLen = d.length := by have := (h0.idProps hpw hpo hplm).len; omega
  refine ⟨hbl, ?_⟩
  unfold Codes5.parse
  refine idProps_enc h0 hpw hid hpo hpl hplm (validateProps_eq_none.2 hpa) ?_
  rw [if_neg (by simp [hco]), if_neg (by simpa using hne), ← Nat.add_assoc, ← hbl, ← hrl, vbiOf_le _ _ _ hmax]

def Unsubscribe5.body (pw : Nat) (p : Unsubscribe5) : List Nat :=
  encId pw p.pid ++ (vbiEnc p.propLen ++ (Props.encode p.props ++ topicsEncode p.topics))

theorem Unsubscribe5.roundtrip (pw : Nat) (p : Unsubscribe5) (hpw : pw = 2 ∨ pw = 4)
    (h : allOk (p.checks pw) = true) :
    Unsubscribe5.parse pw (p.body pw) = .ok p (p.body pw).length
      ∧ p.encode pw = 0xa2 :: vbiEnc p.remLen ++ p.body pw
      ∧ p.size = (p.encode pw).length ∧ p.remLen = (p.body pw).length ∧ p.remLen ≤ vbiMax := by
  obtain ⟨h1, ⟨hpo, hpa, hpl, hplm⟩, hrl, hmax⟩ := allOk_v5.1 h
  simp only [allOk_cns, allOk_nl, Bool.and_true, Bool.and_eq_true] at h1
  obtain ⟨hid, hne, hts, hsh⟩ := h1
  have htl := topicsEncode_length p.topics
  refine roundtrip_of (by simp [Unsubscribe5.encode, Unsubscribe5.body]) hmax fun d h0 => ?_
  have hbl : p.remLen = d.length := by have := (h0.idProps hpw hpo hplm).len; omega
  refine ⟨hbl, ?_⟩
  unfold Unsubscribe5.parse
  refine idProps_enc h0 hpw hid hpo hpl hplm (validateProps_eq_none.2 hpa) ?_
  rw [htl, topicsLoop_enc _ _ hts (Nat.le_refl _), bind_ok, if_neg (by simpa using hne), if_neg (by simp [hsh]),
    ← Nat.add_assoc, ← hbl, ← hrl, vbiOf_le _ _ _ hmax]

def Subscribe5.body (pw : Nat) (p : Subscribe5) : List Nat :=
  encId pw p.pid ++ (vbiEnc p.propLen ++ (Props.encode p.props ++ entriesEncode p.entries))

theorem Subscribe5.roundtrip (pw : Nat) (p : Subscribe5) (hpw : pw = 2 ∨ pw = 4)
    (h : allOk (p.checks pw) = true) :
    Subscribe5.parse pw (p.body pw) = .ok p (p.body pw).length
      ∧ p.encode pw = 0x82 :: vbiEnc p.remLen ++ p.body pw
      ∧ p.size = (p.encode pw).length ∧ p.remLen = (p.body pw).length ∧ p.remLen ≤ vbiMax := by
  obtain ⟨h1, ⟨hpo, hpa, hpl, hplm⟩, hrl, hmax⟩ := allOk_v5.1 h
  simp only [allOk_cns, allOk_nl, Bool.and_true, Bool.and_eq_true] at h1
  obtain ⟨hid, hne, hes, hsh⟩ := h1
  have htl := entriesEncode_length p.entries
  refine roundtrip_of (by simp [Subscribe5.encode, Subscribe5.body]) hmax fun d h0 => ?_
  have hbl : p.remLen = d.length := by have := (h0.idProps hpw hpo hplm).len; omega
  refine ⟨hbl, ?_⟩
  unfold Subscribe5.parse
  refine idProps_enc h0 hpw hid hpo hpl hplm (validateProps_eq_none.2 hpa) ?_
  rw [htl, entriesLoop_enc _ _ hes (Nat.le_refl _), bind_ok, if_neg (by simpa using hne), if_neg (by simp [hsh]),
    ← Nat.add_assoc, ← hbl, ← hrl, vbiOf_le _ _ _ hmax]

def Connack5.body (p : Connack5) : List Nat := [p.flags, p.rc] ++ (vbiEnc p.propLen ++ (Props.encode p.props ++ []))

theorem Connack5.roundtrip (p : Connack5) (h : allOk p.checks = true) :
    Connack5.parse p.body = .ok p p.body.length ∧ p.encode = 0x20 :: vbiEnc p.remLen ++ p.body
      ∧ p.size = p.encode.length ∧ p.remLen = p.body.length ∧ p.remLen ≤ vbiMax := by
  obtain ⟨h1, ⟨hpo, hpa, hpl, hplm⟩, hrl, hmax⟩ := allOk_v5.1 h
  simp only [allOk_cns, allOk_nl, Bool.and_true, Bool.and_eq_true, decide_eq_true_eq] at h1
  obtain ⟨hf, hrc⟩ := h1
  refine roundtrip_of (by simp [Connack5.encode, Connack5.body]) hmax fun d h0 => ?_
  have h1 := h0.adv0 (a := [p.flags, p.rc]) (n := 2) rfl
  have hbl : p.remLen = d.length := by
    have := ((h1.adv (vbiEnc_length _ hplm)).adv (Props.encode_length _ hpo)).len
    rw [List.length_nil] at this
    omega
  have hpos := vbiSize_pos p.propLen
  refine ⟨hbl, ?_⟩
  unfold Connack5.parse
  rw [if_neg (by omega), h0.idx, if_neg (by omega), (h0.adv0 (a := [p.flags]) (n := 1) rfl).idx, if_neg (by simp [hrc]),
    parsePropsAt_at (validate := validateConnackProps) h1 hpo hpl hplm (validateProps_eq_none.2 hpa), bind_ok]
  dsimp only
  rw [show 2 + (vbiSize p.propLen + p.props.size) = p.remLen by omega, vbiOf_le _ _ _ hmax, ← hbl]

/-! ### `[rc [props]]` tails: acks, DISCONNECT, AUTH -/

theorem rcProps_length (rc : Option Nat) (propLen : Nat) (props : Option Props)
    (hp : ∀ ps, props = some ps → propsOk ps = true ∧ ps.size ≤ vbiMax ∧ propLen = ps.size) :
    (encOptByte rc ++ encOptProps propLen props).length = rcPropsRemaining rc props propLen := by
  unfold rcPropsRemaining
  cases props with
  | none => cases rc <;> rfl
  | some ps =>
    obtain ⟨h1, h2, h3⟩ := hp ps rfl
    subst h3
    cases rc <;> simp [encOptByte, encOptProps, optPropsSize, vbiEnc_length _ h2, Props.encode_length ps h1] <;> omega

theorem parseRcProps_at {site : String} {rcOk : Nat → Bool} {validate : Props → Option Err} {d : List Nat}
    {rc : Option Nat} {props : Option Props} {propLen c : Nat} (h : At d c (encOptByte rc ++ encOptProps propLen props))
    (hrc : ∀ x, rc = some x → rcOk x = true) (hneed : rc.isSome = true ∨ props = none)
    (hp : ∀ ps, props = some ps → propsOk ps = true ∧ ps.size ≤ vbiMax ∧ validate ps = none ∧ propLen = ps.size)
    (hnone : props = none → propLen = 0) :
    parseRcProps site rcOk validate d c = .ok (rc, props, propLen) d.length := by
  unfold parseRcProps
  cases rc with
  | none =>
    cases hneed.resolve_left (by simp)
    have hlen : c = d.length := h.len
    rw [if_neg (by omega), hnone rfl, ← hlen]
  | some x =>
    have h1 : At d (c + 1) (encOptProps propLen props) := h.adv (a := [x]) rfl
    rw [if_pos (by have := h1.le; omega), h.idx, if_neg (by simp [hrc x rfl])]
    dsimp only
    cases props with
    | none =>
      have hlen : c + 1 = d.length := h1.len
      rw [if_neg (by omega), hnone rfl, ← hlen]
    | some ps =>
      obtain ⟨hok, hs, hv, hpl⟩ := hp ps rfl
      have h2 : At d (c + 1) (vbiEnc propLen ++ (Props.encode ps ++ [])) := by rw [List.append_nil]; exact h1
      have hlen := ((h2.adv (vbiEnc_length _ (hpl ▸ hs))).adv (Props.encode_length ps hok)).len
      have hpos := vbiSize_pos propLen
      rw [List.length_nil] at hlen
      rw [if_pos (by omega), parsePropsAt_at h2 hok hpl (hpl ▸ hs) hv, bind_ok]
      dsimp only
      congr 1
      omega

def Ack5.body (pw : Nat) (p : Ack5) : List Nat := encId pw p.pid ++ (encOptByte p.rc ++ encOptProps p.propLen p.props)

theorem optPropsChecks_some (allowed uniq : List Nat) (propLen : Nat) (props : Option Props)
    (h : allOk (optPropsChecks allowed uniq propLen props) = true) :
    ∀ ps, props = some ps → propsOk ps = true ∧ ps.size ≤ vbiMax ∧ validateProps allowed uniq ps = none ∧ propLen = ps.size := by
  intro ps hps
  subst hps
  simp only [optPropsChecks, propsChecks_iff] at h
  obtain ⟨h1, h2, h3, h4⟩ := h
  exact ⟨h1, by omega, validateProps_eq_none.2 h2, h3⟩

theorem Ack5.roundtrip (k : AckKind) (pw : Nat) (p : Ack5) (hpw : pw = 2 ∨ pw = 4)
    (h : allOk (p.checks k pw) = true) :
    Ack5.parse k pw (p.body pw) = .ok p (p.body pw).length ∧ p.encode k pw = k.fh :: vbiEnc p.remLen ++ p.body pw
      ∧ p.size = (p.encode k pw).length ∧ p.remLen = (p.body pw).length ∧ p.remLen ≤ vbiMax := by
  obtain ⟨h12, hrl, hmax⟩ := allOk_remlen.1 h
  obtain ⟨h1, h2⟩ := allOk_append.1 h12
  simp only [allOk_cns, allOk_nl, Bool.and_true, Bool.and_eq_true, beq_iff_eq, idOk_iff, Bool.or_eq_true,
    Option.isNone_iff_eq_none] at h1
  obtain ⟨⟨hnz, hr⟩, hrc, hneed, habs⟩ := h1
  have hps := optPropsChecks_some _ _ _ _ h2
  have hil := encId_length pw p.pid hpw
  refine roundtrip_of (by simp [Ack5.encode, Ack5.body]) hmax fun d h0 => ?_
  have h1 := h0.adv0 hil
  have hbl : p.remLen = d.length := by
    rw [hrl, ← rcProps_length p.rc p.propLen p.props fun ps e => ⟨(hps ps e).1, (hps ps e).2.1, (hps ps e).2.2.2⟩]
    exact h1.len
  refine ⟨hbl, ?_⟩
  unfold Ack5.parse
  rw [if_neg (by have := h1.le; omega), h0.slice0 hil, allZero_encId pw p.pid hpw hnz hr]
  simp only [Bool.false_eq_true, if_false]
  rw [parseRcProps_at (validate := validateAckProps) h1 (fun c e => by rw [e] at hrc; exact hrc) hneed hps
    (fun e => habs.resolve_left (by rw [e]; simp)), bind_ok]
  dsimp only
  rw [show pw + (if p.rc.isSome = true then 1 else 0) + (if p.props.isSome = true then vbiSize p.propLen else 0)
      + optPropsSize p.props = p.remLen by rw [hrl]; unfold rcPropsRemaining; omega,
    vbiOf_le _ _ _ hmax, beNat_encId pw p.pid hpw hr]

def RcProps5.body (p : RcProps5) : List Nat := encOptByte p.rc ++ encOptProps (p.propLen.getD 0) p.props

theorem rcProps5_encode (fh rl : Nat) (rc : Option Nat) (props : Option Props) (pl : Nat) :
    RcProps5.encode fh ⟨rl, rc, props.map (fun _ => pl), props⟩ = fh :: vbiEnc rl ++ (encOptByte rc ++ encOptProps pl props) := by
  cases props <;> simp [RcProps5.encode, encOptProps]

/-- what DISCONNECT and AUTH share: the frame, and the walk along `parseRcProps` for whatever validator accepts the
    properties -/
theorem RcProps5.base (rcOk : Nat → Bool) (fh : Nat) (p : RcProps5) (h : allOk (p.baseChecks rcOk) = true) :
    p.encode fh = fh :: vbiEnc p.remLen ++ p.body ∧ p.remLen ≤ vbiMax
      ∧ p.remLen = rcPropsRemaining p.rc p.props (p.propLen.getD 0)
      ∧ p.propLen = p.props.map (fun _ => p.propLen.getD 0)
      ∧ ∀ (site : String) (validate : Props → Option Err) (d : List Nat),
          (∀ ps, p.props = some ps → validate ps = none) → At d 0 p.body →
          p.remLen = d.length ∧ parseRcProps site rcOk validate d 0 = .ok (p.rc, p.props, p.propLen.getD 0) d.length := by
  simp only [RcProps5.baseChecks, allOk_cns, allOk_nl, Bool.and_true, Bool.and_eq_true, beq_iff_eq,
    decide_eq_true_eq, Bool.or_eq_true, Option.isNone_iff_eq_none] at h
  obtain ⟨hrc, hneed, hiff, hpo, hpl, hrl, hmax⟩ := h
  cases p with
  | mk rl rc propLen props =>
    dsimp only at hrc hneed hiff hpo hpl hrl hmax ⊢
    have hps : ∀ ps, props = some ps → propsOk ps = true ∧ ps.size ≤ vbiMax ∧ propLen.getD 0 = ps.size := by
      intro ps e; subst e
      simp only [Bool.and_eq_true, beq_iff_eq, decide_eq_true_eq] at hpl hpo
      exact ⟨hpo, hpl.2, by rw [hpl.1]; rfl⟩
    have hmap : propLen = props.map (fun _ => propLen.getD 0) := by
      cases props <;> cases propLen <;> simp at hiff ⊢
    have henc := rcProps5_encode fh rl rc props (propLen.getD 0)
    rw [← hmap] at henc
    refine ⟨henc, hmax, hrl, hmap, fun site validate d hval h0 => ⟨?_, ?_⟩⟩
    · rw [hrl, ← rcProps_length rc _ props hps, ← Nat.zero_add (List.length _)]
      exact h0.len
    · refine parseRcProps_at h0 (fun c e => by subst e; simpa using hrc) hneed
        (fun ps e => ⟨(hps ps e).1, (hps ps e).2.1, hval ps e, (hps ps e).2.2⟩) fun e => ?_
      rw [hmap, e]
      rfl

theorem Disconnect5.roundtrip (p : RcProps5) (h : allOk (Disconnect5.checks p) = true) :
    Disconnect5.parse p.body = .ok p p.body.length ∧ p.encode 0xe0 = 0xe0 :: vbiEnc p.remLen ++ p.body
      ∧ p.size = (p.encode 0xe0).length ∧ p.remLen = p.body.length ∧ p.remLen ≤ vbiMax := by
  unfold Disconnect5.checks at h
  rw [allOk_append] at h
  obtain ⟨hb, ha⟩ := h
  obtain ⟨henc, hmax, hrl, hpl, hparse⟩ := RcProps5.base disconnectRcOk 0xe0 p hb
  refine roundtrip_of henc hmax fun d h0 => ?_
  have hv : ∀ ps, p.props = some ps → validateDisconnectProps ps = none := by
    intro ps e
    simp only [allOk_cns, allOk_nl, Bool.and_true, e] at ha
    exact validateProps_eq_none.2 ha
  obtain ⟨hbl, hp⟩ := hparse "v5_0::disconnect::parse" validateDisconnectProps d hv h0
  refine ⟨hbl, ?_⟩
  unfold Disconnect5.parse
  rw [hp, bind_ok]
  dsimp only
  rw [← hrl, vbiOf_le _ _ _ hmax, ← hpl]

theorem Auth5.roundtrip (p : RcProps5) (h : allOk (Auth5.checks p) = true) :
    Auth5.parse p.body = .ok p p.body.length ∧ p.encode 0xf0 = 0xf0 :: vbiEnc p.remLen ++ p.body
      ∧ p.size = (p.encode 0xf0).length ∧ p.remLen = p.body.length ∧ p.remLen ≤ vbiMax := by
  unfold Auth5.checks at h
  rw [allOk_append] at h
  obtain ⟨hb, ha⟩ := h
  obtain ⟨henc, hmax, hrl, hpl, hparse⟩ := RcProps5.base authRcOk 0xf0 p hb
  refine roundtrip_of henc hmax fun d h0 => ?_
  obtain ⟨hbl, hp⟩ := hparse "v5_0::auth::parse" (fun _ => none) d (fun _ _ => rfl) h0
  simp only [allOk_cns, allOk_nl, Bool.and_true, Option.isNone_iff_eq_none] at ha
  refine ⟨hbl, ?_⟩
  unfold Auth5.parse
  rw [hp, bind_ok]
  dsimp only
  rw [ha]
  dsimp only
  rw [← hrl, vbiOf_le _ _ _ hmax, ← hpl]

/-! ### PUBLISH -/

theorem encOptId_length (pw : Nat) (pid : Option Nat) (hpw : pw = 2 ∨ pw = 4) :
    (encOptId pw pid).length = if pid.isSome then pw else 0 := by
  cases pid with
  | none => rfl
  | some id => simp [encOptId, encId_length pw id hpw]

theorem parsePublishHead_at {v5 : Bool} {pw flags : Nat} {d topic rest : List Nat} {pid : Option Nat}
    (h : At d 0 (encStr topic ++ (encOptId pw pid ++ rest)))
    (hpw : pw = 2 ∨ pw = 4) (hq : flags / 2 % 4 ≤ 2) (hiff : (flags / 2 % 4 == 0) = pid.isNone)
    (hpid : ∀ id, pid = some id → idOk pw id = true) (ht : strOk topic = true)
    (hnw : noWildcard topic = true) (hne : v5 = false → topic.isEmpty = false) :
    parsePublishHead v5 pw flags d = .ok (topic, pid) (strSize topic + (if pid.isSome then pw else 0)) := by
  obtain ⟨hl, hu⟩ := (strOk_iff topic).1 ht
  unfold parsePublishHead
  dsimp only
  rw [if_neg (by omega), h.sliceFrom, decStr_enc topic _ hl hu, bind_ok]
  have hcond : ((!v5 && topic.isEmpty) || topic.contains 35 || topic.contains 43) = false := by
    simp only [noWildcard, Bool.not_eq_true', Bool.or_eq_false_iff] at hnw
    cases v5 with
    | true => rw [hnw.1, hnw.2]; rfl
    | false => rw [hne rfl, hnw.1, hnw.2]; rfl
  rw [hcond]
  simp only [Bool.false_eq_true, if_false]
  cases pid with
  | none =>
    simp only [Option.isNone_none, beq_iff_eq] at hiff
    rw [if_neg (by omega)]
    rfl
  | some id =>
    simp only [Option.isNone_some, beq_eq_false_iff_ne, ne_eq] at hiff
    obtain ⟨hnz, hr⟩ := (idOk_iff pw id).1 (hpid id rfl)
    have hil := encId_length pw id hpw
    have h1 : At d (strSize topic) (encId pw id ++ rest) := h.adv0 (encStr_length topic)
    have hlen := h1.len
    rw [List.length_append, hil] at hlen
    rw [if_pos hiff, if_neg (by omega), h1.slice hil, allZero_encId pw id hpw hnz hr]
    simp only [Bool.false_eq_true, if_false, beNat_encId pw id hpw hr, Option.isSome_some, if_true]

def Publish3.body (pw : Nat) (p : Publish3) : List Nat := encStr p.topic ++ (encOptId pw p.pid ++ p.payload)

theorem publishHeadChecks_iff (pw fh : Nat) (topic : List Nat) (pid : Option Nat) (aliasOk : Bool)
    (h : allOk (publishHeadChecks pw fh topic pid aliasOk) = true) :
    (fh / 16 = 3 ∧ fh < 64) ∧ fh / 2 % 4 ≤ 2 ∧ strOk topic = true ∧ ((fh / 2 % 4 == 0) = pid.isNone)
      ∧ (∀ id, pid = some id → idOk pw id = true) ∧ noWildcard topic = true
      ∧ (aliasOk = false → topic.isEmpty = false) := by
  simp only [publishHeadChecks, allOk_cns, allOk_nl, Bool.and_true, Bool.and_eq_true, beq_iff_eq,
    decide_eq_true_eq] at h
  obtain ⟨hfh, hq, hne, hnw, hts, hiff, hpid⟩ := h
  refine ⟨hfh, hq, hts, ?_, ?_, hnw, ?_⟩
  · cases pid <;> simp_all
  · intro id e; subst e; simpa using hpid
  · intro ha; subst ha; simpa using hne

/-- a PUBLISH header byte is rebuilt from its low nibble, which carries the QoS bits -/
theorem publishFh_eq {fh : Nat} (h : fh / 16 = 3) : fh % 16 / 2 % 4 = fh / 2 % 4 ∧ 0x30 + fh % 16 % 16 = fh := by
  omega

theorem Publish3.roundtrip (pw : Nat) (p : Publish3) (hpw : pw = 2 ∨ pw = 4) (h : allOk (p.checks pw) = true) :
    Publish3.parse pw (p.fh % 16) (p.body pw) = .ok p (p.body pw).length
      ∧ p.encode pw = p.fh :: vbiEnc p.remLen ++ p.body pw
      ∧ p.size = (p.encode pw).length ∧ p.remLen = (p.body pw).length ∧ p.remLen ≤ vbiMax := by
  obtain ⟨hh, hrl, hmax⟩ := allOk_remlen.1 h
  obtain ⟨⟨hf1, hf2⟩, hq, hts, hiff, hpid, hnw, hne⟩ := publishHeadChecks_iff _ _ _ _ _ hh
  obtain ⟨hqf, hfh⟩ := publishFh_eq hf1
  refine roundtrip_of (by simp [Publish3.encode, Publish3.body]) hmax fun d h0 => ?_
  have h1 := (h0.adv0 (encStr_length _)).adv (encOptId_length pw p.pid hpw)
  have hbl : p.remLen = d.length := hrl.trans h1.len
  refine ⟨hbl, ?_⟩
  unfold Publish3.parse
  rw [parsePublishHead_at h0 hpw (hqf ▸ hq) (hqf ▸ hiff) hpid hts hnw (fun _ => hne rfl), bind_ok]
  dsimp only
  rw [h1.usub, h1.sliceFrom, h1.len, ← hbl, vbiOf_le _ _ _ hmax, hfh]

def Publish5.body (pw : Nat) (p : Publish5) : List Nat :=
  encStr p.topic ++ (encOptId pw p.pid ++ (vbiEnc p.propLen ++ (Props.encode p.props ++ p.payload)))

theorem Publish5.roundtrip (pw : Nat) (p : Publish5) (hpw : pw = 2 ∨ pw = 4) (h : allOk (p.checks pw) = true) :
    Publish5.parse pw (p.fh % 16) (p.body pw) = .ok p (p.body pw).length
      ∧ p.encode pw = p.fh :: vbiEnc p.remLen ++ p.body pw
      ∧ p.size = (p.encode pw).length ∧ p.remLen = (p.body pw).length ∧ p.remLen ≤ vbiMax := by
  obtain ⟨hh, ⟨hpo, hpa, hpl, hplm⟩, hrl, hmax⟩ := allOk_v5.1 h
  obtain ⟨⟨hf1, hf2⟩, hq, hts, hiff, hpid, hnw, hne⟩ := publishHeadChecks_iff _ _ _ _ _ hh
  obtain ⟨hqf, hfh⟩ := publishFh_eq hf1
  have hvl := vbiEnc_length p.propLen hplm
  have hpos := vbiSize_pos p.propLen
  refine roundtrip_of (by simp [Publish5.encode, Publish5.body]) hmax fun d h0 => ?_
  have h1 := (h0.adv0 (encStr_length _)).adv (encOptId_length pw p.pid hpw)
  have h2 := (h1.adv hvl).adv (Props.encode_length p.props hpo)
  have hbl : p.remLen = d.length := by have := h2.len; rw [hrl, Publish5.remaining]; omega
  refine ⟨hbl, ?_⟩
  unfold Publish5.parse
  rw [parsePublishHead_at h0 hpw (hqf ▸ hq) (hqf ▸ hiff) hpid hts hnw (fun h => by simp at h), bind_ok,
    if_pos (by have := h1.len; rw [List.length_append, hvl] at this; omega),
    parsePropsAt_at (validate := validatePublishProps) h1 hpo hpl hplm (validateProps_eq_none.2 hpa), bind_ok, bind_ok]
  dsimp only
  rw [← Nat.add_assoc, h2.usub, h2.sliceFrom, h2.len, ← hbl, vbiOf_le _ _ _ hmax, hfh]

end MqttVerif.Codec
