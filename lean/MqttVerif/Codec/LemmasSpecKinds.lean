import MqttVerif.Codec.LemmasSpec
/-!
C03: `encode p = WireSpec.encode (abs p)` for every well-formed packet of the 29 kinds.  The frame
(`fh :: vbi remLen ++ body`, `remLen = |body|`) is taken from the round-trip results, so only bodies are compared.
-/
namespace MqttVerif.Codec
open MqttVerif.Spec.Wire

theorem optLenPrefixed_ite (b : Bool) (x : List Nat) :
    optLenPrefixed (if b = true then some x else none) = if b = true then encStr x else [] := by
  cases b <;> rfl

theorem willBytes_ite (b : Bool) (w : AWill) :
    willBytes (if b = true then some w else none)
      = if b = true then optProperties w.props ++ (encStr w.topic ++ encStr w.payload) else [] := by
  cases b
  · rfl
  · simp [willBytes, lenPrefixed, encStr, twoByte]

theorem spec_connect_body (pw level flags ka : Nat) (props wprops : Option Props) (cid wt wpay un pwd : List Nat)
    (h : allOk (connectFlagChecks flags wt wpay un pwd) = true) :
    (absConnect level flags ka props cid wprops wt wpay un pwd).body pw =
      connectBody level flags ka ++ (optProperties (props.map Props.abs) ++ (encStr cid ++
        ((if willFlag flags then optProperties (wprops.map Props.abs) ++ (encStr wt ++ encStr wpay) else [])
          ++ ((if userNameFlag flags then encStr un else []) ++ (if passwordFlag flags then encStr pwd else []))))) := by
  obtain ⟨hb, _, _, _, _, hfl⟩ := connectFlagChecks_iff _ _ _ _ _ h
  simp only [absConnect, APkt.body]
  rw [spec_connect_flags flags wprops wt wpay un pwd hb (by omega)
      (fun hw => by simp only [willFlag, beq_eq_false_iff_ne] at hw; omega),
    optLenPrefixed_ite, optLenPrefixed_ite, willBytes_ite]
  simp [connectBody, lenPrefixed, twoByte, encStr, encU16]

theorem spec_connect3_body (pw : Nat) (q : Connect3) (h : allOk q.checks = true) :
    (Packet.abs (.connect3 q)).body pw = q.body := by
  unfold Connect3.checks at h
  rw [allOk_append] at h
  rw [Packet.abs, spec_connect_body pw 4 q.flags q.keepAlive none none q.clientId _ _ _ _ h.1]
  simp [Connect3.body, tailEnc, willEnc, Connect3.tail, optProperties]

theorem spec_connect5_body (pw : Nat) (q : Connect5) (h : allOk q.checks = true) :
    (Packet.abs (.connect5 q)).body pw = q.body := by
  unfold Connect5.checks at h
  rw [allOk_append, allOk_append, allOk_append, propsChecks_iff] at h
  obtain ⟨⟨⟨hf, _⟩, hpo, _, hpl, hpm⟩, h4⟩ := h
  simp only [allOk_cns, allOk_nl, Bool.and_true, Bool.and_eq_true, beq_iff_eq, decide_eq_true_eq] at h4
  obtain ⟨hwo, _, ⟨hwl, hwm⟩, _⟩ := h4
  rw [Packet.abs, spec_connect_body pw 5 q.flags q.keepAlive (some q.props) (some q.willProps) q.clientId _ _ _ _ hf]
  simp [Connect5.body, tailEnc, willEnc, Connect5.tail, optProperties, spec_propertiesField q.props q.propLen hpo hpl hpm,
    spec_propertiesField q.willProps q.willPropLen hwo hwl hwm]

/-- the Session Present bit of a CONNACK flags byte `≤ 1` is the byte -/
theorem b2n_low (x : Nat) (h : x ≤ 1) : b2n (x % 2 == 1) = x := by
  rw [b2n_bit (x % 2) (by omega)]
  omega

theorem spec_connack3_body (pw : Nat) (q : Connack3) (h : allOk q.checks = true) :
    (Packet.abs (.connack3 q)).body pw = q.body := by
  simp only [Connack3.checks, allOk_cns, allOk_nl, Bool.and_true, Bool.and_eq_true, decide_eq_true_eq] at h
  simp only [Packet.abs, APkt.body, Connack3.body, optProperties, List.append_nil, b2n_low q.flags h.1]

theorem spec_connack5_body (pw : Nat) (q : Connack5) (h : allOk q.checks = true) :
    (Packet.abs (.connack5 q)).body pw = q.body := by
  obtain ⟨h1, ⟨hpo, _, hpl, hpm⟩, _⟩ := allOk_v5.1 h
  simp only [allOk_cns, allOk_nl, Bool.and_true, Bool.and_eq_true, decide_eq_true_eq] at h1
  simp [Packet.abs, APkt.body, Connack5.body, optProperties, spec_propertiesField q.props q.propLen hpo hpl hpm,
    b2n_low q.flags h1.1]

theorem spec_publish3_body (pw : Nat) (q : Publish3) : (Packet.abs (.publish3 q)).body pw = q.body pw := by
  simp only [Packet.abs, APkt.body, Publish3.body, optProperties, spec_lenPrefixed, List.append_nil, List.append_assoc]
  cases q.pid <;> rfl

theorem spec_publish5_body (pw : Nat) (q : Publish5) (h : allOk (q.checks pw) = true) :
    (Packet.abs (.publish5 q)).body pw = q.body pw := by
  obtain ⟨_, ⟨hpo, _, hpl, hpm⟩, _⟩ := allOk_v5.1 h
  simp only [Packet.abs, APkt.body, Publish5.body, optProperties, spec_lenPrefixed, List.append_assoc,
    spec_propertiesField q.props q.propLen hpo hpl hpm]
  cases q.pid <;> rfl

theorem spec_ack3_body (pw : Nat) (t : CPType) (q : Ack3) :
    (APkt.ack t q.pid q.rc none).body pw = q.body pw := by
  simp only [APkt.body, Ack3.body, optProperties, List.append_nil, spec_packetId]
  cases q.rc <;> rfl

theorem spec_ack5_body (k : AckKind) (pw : Nat) (t : CPType) (q : Ack5) (h : allOk (q.checks k pw) = true) :
    (APkt.ack t q.pid q.rc (q.props.map Props.abs)).body pw = q.body pw := by
  have hp := optPropsChecks_some _ _ _ _ (allOk_append.1 (allOk_remlen.1 h).1).2
  simp only [APkt.body, Ack5.body, spec_packetId, List.append_assoc,
    spec_optProps q.props q.propLen fun ps e => ⟨(hp ps e).1, (hp ps e).2.2.2, (hp ps e).2.2.2 ▸ (hp ps e).2.1⟩]
  cases q.rc <;> rfl

theorem spec_codes5_body (rcOk : Nat → Bool) (pw : Nat) (q : Codes5) (h : allOk (q.checks rcOk pw) = true) :
    packetId pw q.pid ++ optProperties (some q.props.abs) ++ q.codes = q.body pw := by
  obtain ⟨_, ⟨hpo, _, hpl, hpm⟩, _⟩ := allOk_v5.1 h
  simp only [Codes5.body, optProperties, spec_packetId, spec_propertiesField q.props q.propLen hpo hpl hpm, List.append_assoc]

theorem spec_subscribe5_body (pw : Nat) (q : Subscribe5) (h : allOk (q.checks pw) = true) :
    (Packet.abs (.subscribe5 q)).body pw = q.body pw := by
  obtain ⟨_, ⟨hpo, _, hpl, hpm⟩, _⟩ := allOk_v5.1 h
  simp only [Packet.abs, APkt.body, Subscribe5.body, optProperties, spec_packetId, spec_entries,
    spec_propertiesField q.props q.propLen hpo hpl hpm, List.append_assoc]

theorem spec_unsubscribe5_body (pw : Nat) (q : Unsubscribe5) (h : allOk (q.checks pw) = true) :
    (Packet.abs (.unsubscribe5 q)).body pw = q.body pw := by
  obtain ⟨_, ⟨hpo, _, hpl, hpm⟩, _⟩ := allOk_v5.1 h
  simp only [Packet.abs, APkt.body, Unsubscribe5.body, optProperties, spec_packetId, spec_topics,
    spec_propertiesField q.props q.propLen hpo hpl hpm, List.append_assoc]

theorem spec_rcprops5_body (rcOk : Nat → Bool) (pw : Nat) (q : RcProps5) (h : allOk (q.baseChecks rcOk) = true) :
    optByte q.rc ++ optProperties (q.props.map Props.abs) = q.body := by
  simp only [RcProps5.baseChecks, allOk_cns, allOk_nl, Bool.and_true, Bool.and_eq_true, beq_iff_eq,
    decide_eq_true_eq, Bool.or_eq_true, Option.isNone_iff_eq_none] at h
  obtain ⟨_, _, _, hpo, hpl, _, _⟩ := h
  have hp : ∀ ps, q.props = some ps → propsOk ps = true ∧ q.propLen.getD 0 = ps.size ∧ q.propLen.getD 0 ≤ vbiMax := by
    intro ps e
    rw [e] at hpo hpl
    simp only [Bool.and_eq_true, beq_iff_eq, decide_eq_true_eq] at hpl hpo
    refine ⟨hpo, ?_, ?_⟩ <;> rw [hpl.1] <;> simp [hpl.2]
  unfold RcProps5.body
  rw [spec_optProps q.props (q.propLen.getD 0) hp]
  cases q.rc <;> rfl

theorem Packet.spec_body (pw : Nat) (p : Packet) (h : p.wf pw = true) : (Packet.abs p).body pw = p.body pw := by
  cases p with
  | connect3 q => exact spec_connect3_body pw q h
  | connack3 q => exact spec_connack3_body pw q h
  | publish3 q => exact spec_publish3_body pw q
  | puback3 q => exact spec_ack3_body pw .PUBACK q
  | pubrec3 q => exact spec_ack3_body pw .PUBREC q
  | pubrel3 q => exact spec_ack3_body pw .PUBREL q
  | pubcomp3 q => exact spec_ack3_body pw .PUBCOMP q
  | subscribe3 q =>
    simp only [Packet.abs, APkt.body, Packet.body, Subscribe3.body, optProperties, spec_packetId, spec_entries, List.append_nil]
  | suback3 q => simp only [Packet.abs, APkt.body, Packet.body, Suback3.body, optProperties, spec_packetId, List.append_nil]
  | unsubscribe3 q =>
    simp only [Packet.abs, APkt.body, Packet.body, Unsubscribe3.body, optProperties, spec_packetId, spec_topics, List.append_nil]
  | unsuback3 q => simp only [Packet.abs, APkt.body, Packet.body, Unsuback3.body, optProperties, spec_packetId, List.append_nil]
  | pingreq3 q => rfl
  | pingresp3 q => rfl
  | disconnect3 q => rfl
  | connect5 q => exact spec_connect5_body pw q h
  | connack5 q => exact spec_connack5_body pw q h
  | publish5 q => exact spec_publish5_body pw q h
  | puback5 q => exact spec_ack5_body .puback pw .PUBACK q h
  | pubrec5 q => exact spec_ack5_body .pubrec pw .PUBREC q h
  | pubrel5 q => exact spec_ack5_body .pubrel pw .PUBREL q h
  | pubcomp5 q => exact spec_ack5_body .pubcomp pw .PUBCOMP q h
  | subscribe5 q => exact spec_subscribe5_body pw q h
  | suback5 q => exact spec_codes5_body subackRc5Ok pw q h
  | unsubscribe5 q => exact spec_unsubscribe5_body pw q h
  | unsuback5 q => exact spec_codes5_body unsubackRc5Ok pw q h
  | pingreq5 q => rfl
  | pingresp5 q => rfl
  | disconnect5 q => exact spec_rcprops5_body disconnectRcOk pw q (allOk_append.1 h).1
  | auth5 q => exact spec_rcprops5_body authRcOk pw q (allOk_append.1 h).1

/-- the header byte: type (Table 2-1) and reserved flags (Table 2-2) by evaluation; PUBLISH from its DUP / QoS / RETAIN bits -/
theorem Packet.spec_fh (pw : Nat) (p : Packet) (h : p.wf pw = true) :
    (Packet.abs p).type.value * 16 + (Packet.abs p).flags = p.fh := by
  cases p with
  | publish3 q => exact spec_publish_fh q.fh (Publish3.fh_ok h).1 (Publish3.fh_ok h).2
  | publish5 q => exact spec_publish_fh q.fh (Publish5.fh_ok h).1 (Publish5.fh_ok h).2
  | _ => rfl

/-- **C03, encoder direction.** For every well-formed packet of the 29 kinds and both id widths the
    impl-shaped serialisation is exactly what the reference encoder of `WireSpec` prescribes for
    the packet's field values. -/
theorem Packet.spec_eq (pw : Nat) (p : Packet) (hpw : pw = 2 ∨ pw = 4) (h : p.wf pw = true) :
    (Packet.abs p).encode pw = p.encode pw := by
  obtain ⟨_, henc, _, hrl, hm⟩ := Packet.frame pw p hpw h
  exact spec_of_parts pw _ p.fh p.remLen (p.body pw) _ (Packet.spec_fh pw p h) (Packet.spec_body pw p h) henc hrl hm

end MqttVerif.Codec
