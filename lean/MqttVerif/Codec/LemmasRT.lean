import MqttVerif.Codec.Lemmas
/-!
Round trip of the combinators (C02): `decode (encode x ++ rest) = ok x |encode x|`, with an arbitrary `rest`
so that the rules compose, for the variable-byte integer (all values ≤ 268 435 455), length-prefixed
strings / binaries, sub entries, every property shape, and property lists of any length (induction).
-/
namespace MqttVerif.Codec

@[simp] theorem bind_ok {α β : Type} (a : α) (c : Nat) (f : α → Nat → PRes β) : (PRes.ok a c).bind f = f a c := rfl
@[simp] theorem mapErr_ok {α : Type} (a : α) (c : Nat) (e : Err) : (PRes.ok a c).mapErr e = .ok a c := rfl

/-! ### index / slice sites -/

theorem idx_cons_zero {α : Type} (site : String) (b : Nat) (l : List Nat) (k : Nat → PRes α) :
    idx site (b :: l) 0 k = k b := rfl

theorem idx_cons_succ {α : Type} (site : String) (b : Nat) (l : List Nat) (i : Nat) (k : Nat → PRes α) :
    idx site (b :: l) (i + 1) k = idx site l i k := by
  simp [idx]

/-- The cursor of a walk along a parser: from position `c` on, the buffer `d` reads `s`.  A walk starts from `At.zero`,
    answers each index / slice site from the `At` of its position and moves on with `adv`; the buffer can stay a
    variable, so that the terms do not grow with the packet. -/
structure At (d : List Nat) (c : Nat) (s : List Nat) : Prop where
  le : c ≤ d.length
  eq : d.drop c = s

theorem At.zero (d : List Nat) : At d 0 d := ⟨Nat.zero_le _, rfl⟩

theorem At.zero_eq {d s : List Nat} (h : At d 0 s) : d = s := h.eq

theorem At.len {d s : List Nat} {c : Nat} (h : At d c s) : c + s.length = d.length := by
  have := h.le
  rw [← h.eq, List.length_drop]
  omega

theorem At.adv {d a s : List Nat} {c n : Nat} (h : At d c (a ++ s)) (hn : a.length = n) : At d (c + n) s := by
  subst hn
  refine ⟨by have := h.len; rw [List.length_append] at this; omega, ?_⟩
  rw [← List.drop_drop, h.eq, List.drop_left]

theorem At.adv0 {d a s : List Nat} {n : Nat} (h : At d 0 (a ++ s)) (hn : a.length = n) : At d n s :=
  Nat.zero_add n ▸ h.adv hn

theorem At.sliceFrom {α : Type} {d s : List Nat} {c : Nat} (h : At d c s) (site : String) (k : List Nat → PRes α) :
    sliceFrom site d c k = k s := by
  unfold Codec.sliceFrom
  rw [if_pos h.le, h.eq]

theorem At.slice {α : Type} {d b r : List Nat} {c n : Nat} (h : At d c (b ++ r)) (hn : b.length = n) (site : String)
    (k : List Nat → PRes α) : slice site d c (c + n) k = k b := by
  subst hn
  have := h.len
  rw [List.length_append] at this
  unfold Codec.slice
  rw [if_pos ⟨by omega, by omega⟩, h.eq, Nat.add_sub_cancel_left, List.take_left]

theorem At.slice0 {α : Type} {d b r : List Nat} {n : Nat} (h : At d 0 (b ++ r)) (hn : b.length = n) (site : String)
    (k : List Nat → PRes α) : Codec.slice site d 0 n k = k b :=
  Nat.zero_add n ▸ h.slice hn site k

theorem At.idx {α : Type} {d s : List Nat} {c x : Nat} (h : At d c (x :: s)) (site : String) (k : Nat → PRes α) :
    idx site d c k = k x := by
  unfold Codec.idx
  rw [show d[c]? = some x by rw [← Nat.add_zero c, ← List.getElem?_drop, h.eq]; rfl]

theorem At.usub {α : Type} {d s : List Nat} {c : Nat} (h : At d c s) (site : String) (k : Nat → PRes α) :
    usub site d.length c k = k s.length := by
  unfold Codec.usub
  rw [if_pos h.le, ← h.len, Nat.add_sub_cancel_left]

/-! ### big-endian integers, packet ids -/

theorem encU16_length (v : Nat) : (encU16 v).length = 2 := rfl
theorem encU32_length (v : Nat) : (encU32 v).length = 4 := rfl

theorem encId_length (pw v : Nat) (hpw : pw = 2 ∨ pw = 4) : (encId pw v).length = pw := by
  unfold encId
  rcases hpw with h | h <;> subst h <;> simp [encU16, encU32]

theorem beNat_encId (pw v : Nat) (hpw : pw = 2 ∨ pw = 4) (hv : if pw = 2 then v < 65536 else v < 4294967296) :
    beNat (encId pw v) = v := by
  unfold encId
  rcases hpw with h | h <;> subst h
  · simp only [if_true] at hv ⊢
    simp only [encU16, beNat, List.foldl_cons, List.foldl_nil]
    omega
  · simp only [show ¬ (4 = 2) by decide, if_false] at hv ⊢
    simp only [encU32, beNat, List.foldl_cons, List.foldl_nil]
    omega

theorem allZero_encId (pw v : Nat) (hpw : pw = 2 ∨ pw = 4) (hv : v ≠ 0)
    (hr : if pw = 2 then v < 65536 else v < 4294967296) : allZero (encId pw v) = false := by
  unfold encId allZero
  rcases hpw with h | h <;> subst h
  · simp only [if_true] at hr ⊢
    simp only [encU16, List.all_cons, List.all_nil, Bool.and_true]
    have : ¬ (v / 256 = 0 ∧ v % 256 = 0) := by omega
    simp only [Bool.and_eq_false_iff, beq_eq_false_iff_ne, ne_eq]
    omega
  · simp only [show ¬ (4 = 2) by decide, if_false] at hr ⊢
    simp only [encU32, List.all_cons, List.all_nil, Bool.and_true]
    simp only [Bool.and_eq_false_iff, beq_eq_false_iff_ne, ne_eq]
    omega

theorem vbiDecAux_last {fuel b mult value i len : Nat} {rest : List Nat} (hb : b < 128)
    (hv : value + b * mult ≤ vbiMax) (hs : vbiSize (value + b * mult) = i + 1) :
    vbiDecAux (fuel + 1) (b :: rest) mult value i len = .ok (value + b * mult) (i + 1) := by
  rw [vbiDecAux]
  simp only [Nat.mod_eq_of_lt hb]
  rw [if_neg (by omega), if_pos hb, if_pos hs]

theorem vbiDecAux_more {fuel b mult value i len : Nat} {rest : List Nat} (hb : 128 ≤ b)
    (hv : value + b % 128 * mult ≤ vbiMax) :
    vbiDecAux (fuel + 1) (b :: rest) mult value i len
      = vbiDecAux fuel rest (mult * 128) (value + b % 128 * mult) (i + 1) len := by
  rw [vbiDecAux, if_neg (by omega), if_neg (by omega)]

/-- `decode_stream (from_u32 v ++ rest) = Ok(v, size v)` for every `v ≤ 268435455` -/
theorem vbiDec_enc (v : Nat) (rest : List Nat) (hv : v ≤ vbiMax) :
    vbiDec (vbiEnc v ++ rest) = .ok v (vbiSize v) := by
  rw [vbiEnc_eq v hv]
  have hs (x k : Nat) (hx : x = v) (hk : vbiSize v = k) : vbiSize x = k := by rw [hx, hk]
  unfold vbiMax at hv
  unfold vbiDec
  have e (x : Nat) : (x % 128 + 128) % 128 = x % 128 := by omega
  by_cases h1 : v < 128
  · have hsz : vbiSize v = 1 := by unfold vbiSize; rw [if_pos h1]
    rw [if_pos h1, hsz, List.singleton_append, vbiDecAux_last h1 (by unfold vbiMax; omega) (hs _ _ (by omega) hsz)]
    congr 1; omega
  rw [if_neg h1]
  by_cases h2 : v < 16384
  · have hsz : vbiSize v = 2 := by unfold vbiSize; rw [if_neg h1, if_pos h2]
    rw [if_pos h2, hsz, List.cons_append, List.cons_append, vbiDecAux_more (by omega) (by unfold vbiMax; omega), e,
      vbiDecAux_last (by omega) (by unfold vbiMax; omega) (hs _ _ (by omega) hsz)]
    congr 1; omega
  rw [if_neg h2]
  by_cases h3 : v < 2097152
  · have hsz : vbiSize v = 3 := by unfold vbiSize; rw [if_neg h1, if_neg h2, if_pos h3]
    rw [if_pos h3, hsz, List.cons_append, List.cons_append, List.cons_append,
      vbiDecAux_more (by omega) (by unfold vbiMax; omega), e, vbiDecAux_more (by omega) (by unfold vbiMax; omega), e,
      vbiDecAux_last (by omega) (by unfold vbiMax; omega) (hs _ _ (by omega) hsz)]
    congr 1; omega
  · have hsz : vbiSize v = 4 := by unfold vbiSize; rw [if_neg h1, if_neg h2, if_neg h3]
    rw [if_neg h3, hsz, List.cons_append, List.cons_append, List.cons_append, List.cons_append,
      vbiDecAux_more (by omega) (by unfold vbiMax; omega), e, vbiDecAux_more (by omega) (by unfold vbiMax; omega), e,
      vbiDecAux_more (by omega) (by unfold vbiMax; omega), e,
      vbiDecAux_last (by omega) (by unfold vbiMax; omega) (hs _ _ (by omega) hsz)]
    congr 1; omega

/-! ### MqttString / MqttBinary / SubEntry -/

theorem decBin_enc (b rest : List Nat) (hl : b.length ≤ 65535) :
    decBin (encStr b ++ rest) = .ok b (strSize b) := by
  unfold decBin encStr strSize
  simp only [List.cons_append, List.length_cons, List.length_append]
  rw [if_neg (by omega), idx_cons_zero, idx_cons_succ, idx_cons_zero]
  have hn : b.length / 256 * 256 + b.length % 256 = b.length := by omega
  simp only [hn]
  rw [if_neg (by omega)]
  exact ((At.zero _).adv0 (a := [_, _]) rfl).slice rfl _ _

theorem decStr_enc (s rest : List Nat) (hl : s.length ≤ 65535) (hu : utf8Ok s = true) :
    decStr (encStr s ++ rest) = .ok s (strSize s) := by
  unfold decStr encStr strSize
  simp only [List.cons_append, List.length_cons, List.length_append]
  rw [if_neg (by omega), idx_cons_zero, idx_cons_succ, idx_cons_zero]
  have hn : s.length / 256 * 256 + s.length % 256 = s.length := by omega
  simp only [hn]
  rw [if_neg (by omega)]
  exact (((At.zero _).adv0 (a := [_, _]) rfl).slice rfl _ _).trans (if_pos hu)

theorem strOk_iff (s : List Nat) : strOk s = true ↔ s.length ≤ 65535 ∧ utf8Ok s = true := by
  simp [strOk]

theorem SubEntry.encode_length (e : SubEntry) : e.encode.length = e.size := by
  simp [SubEntry.encode, SubEntry.size, encStr_length]

theorem SubEntry.parse_enc (e : SubEntry) (rest : List Nat) (h : entryOk e = true) :
    SubEntry.parse (e.encode ++ rest) = .ok e e.size := by
  simp only [entryOk, Bool.and_eq_true, strOk_iff, decide_eq_true_eq] at h
  obtain ⟨⟨⟨hl, hu⟩, ho⟩, _⟩ := h
  have h0 : At (e.encode ++ rest) 0 (encStr e.topic ++ (e.opts :: rest)) := by
    rw [SubEntry.encode, List.append_assoc]
    exact At.zero _
  have h1 := h0.adv0 (encStr_length e.topic)
  have hlen := h1.len
  generalize e.encode ++ rest = d at h0 h1 hlen
  unfold SubEntry.parse SubEntry.size
  rw [h0.sliceFrom, decStr_enc _ _ hl hu, bind_ok]
  dsimp only
  rw [if_neg (by rw [List.length_cons] at hlen; omega), h1.idx, if_pos ho]

/-! ### properties -/

theorem parseU8_enc (id v : Nat) (rest : List Nat) (hv : validU8 id v = true) :
    parseU8 id (v :: rest) = .ok (.u8 id v) 1 := by
  unfold parseU8
  rw [if_neg (by simp), idx_cons_zero, if_pos hv]

theorem parseU16_enc (id v : Nat) (rest : List Nat) (hr : v < 65536) (hv : validU16 id v = true) :
    parseU16 id (encU16 v ++ rest) = .ok (.u16 id v) 2 := by
  unfold parseU16 encU16
  simp only [List.cons_append, List.nil_append, List.length_cons]
  rw [if_neg (by omega), idx_cons_zero, idx_cons_succ, idx_cons_zero]
  have : v / 256 * 256 + v % 256 = v := by omega
  simp only [this]
  rw [if_pos hv]

theorem parseU32_enc (id v : Nat) (rest : List Nat) (hr : v < 4294967296) (hv : validU32 id v = true) :
    parseU32 id (encU32 v ++ rest) = .ok (.u32 id v) 4 := by
  unfold parseU32 encU32
  simp only [List.cons_append, List.nil_append, List.length_cons]
  rw [if_neg (by omega), idx_cons_zero, idx_cons_succ, idx_cons_zero, idx_cons_succ, idx_cons_succ, idx_cons_zero,
    idx_cons_succ, idx_cons_succ, idx_cons_succ, idx_cons_zero]
  have : ((v / 16777216 * 256 + v / 65536 % 256) * 256 + v / 256 % 256) * 256 + v % 256 = v := by omega
  simp only [this]
  rw [if_pos hv]

theorem parseVbi_enc (id v : Nat) (rest : List Nat) (hr : v ≤ vbiMax) (hv : validVbi id v = true) :
    parseVbi id (vbiEnc v ++ rest) = .ok (.vbi id v) (vbiSize v) := by
  unfold parseVbi
  rw [vbiDec_enc v rest hr]
  simp only
  rw [if_pos hv]

theorem parsePStr_enc (id : Nat) (s rest : List Nat) (h : strOk s = true) :
    parsePStr id (encStr s ++ rest) = .ok (.str id s) (strSize s) := by
  obtain ⟨hl, hu⟩ := (strOk_iff s).1 h
  unfold parsePStr
  rw [decStr_enc s rest hl hu, bind_ok]

theorem parsePBin_enc (id : Nat) (b rest : List Nat) (h : b.length ≤ 65535) :
    parsePBin id (encStr b ++ rest) = .ok (.bin id b) (strSize b) := by
  unfold parsePBin
  rw [decBin_enc b rest h, bind_ok]

theorem parsePair_enc (id : Nat) (k v rest : List Nat) (hk : strOk k = true) (hv : strOk v = true) :
    parsePair id (encStr k ++ encStr v ++ rest) = .ok (.pair id k v) (strSize k + strSize v) := by
  obtain ⟨hkl, hku⟩ := (strOk_iff k).1 hk
  obtain ⟨hvl, hvu⟩ := (strOk_iff v).1 hv
  unfold parsePair
  rw [List.append_assoc, decStr_enc k _ hkl hku, bind_ok, ((At.zero _).adv0 (encStr_length k)).sliceFrom,
    decStr_enc v rest hvl hvu, bind_ok]

theorem Property.parse_cons (id : Nat) (tail : List Nat) :
    Property.parse (id :: tail) =
      match propShape id with
      | none => .err .MalformedPacket
      | some sh =>
        (match sh with
          | .u8 => parseU8 id tail
          | .u16 => parseU16 id tail
          | .u32 => parseU32 id tail
          | .vbi => parseVbi id tail
          | .str => parsePStr id tail
          | .bin => parsePBin id tail
          | .pair => parsePair id tail).bind fun p l => .ok p (l + 1) := by
  unfold Property.parse
  rw [if_neg (by simp), idx_cons_zero]
  cases propShape id with
  | none => rfl
  | some sh =>
    simp only
    exact ((At.zero _).adv0 (a := [id]) rfl).sliceFrom _ _

theorem Property.encode_length (p : Property) (h : p.ok = true) : p.encode.length = p.size := by
  refine p.encode_length_of fun id v e => ?_
  subst e
  simp only [Property.ok, Bool.and_eq_true, decide_eq_true_eq] at h
  exact h.1.2

/-- `Property::parse` inverts `to_continuous_buffer` for every property a constructor can produce -/
theorem Property.parse_enc (p : Property) (rest : List Nat) (h : p.ok = true) :
    Property.parse (p.encode ++ rest) = .ok p p.size := by
  cases p with
  | u8 id v =>
    simp only [Property.ok, Bool.and_eq_true, beq_iff_eq] at h
    simp only [Property.encode, List.cons_append, List.nil_append, Property.parse_cons, h.1,
      parseU8_enc id v rest h.2, bind_ok, Property.size]
  | u16 id v =>
    simp only [Property.ok, Bool.and_eq_true, beq_iff_eq, decide_eq_true_eq] at h
    simp only [Property.encode, List.cons_append, Property.parse_cons, h.1.1,
      parseU16_enc id v rest h.1.2 h.2, bind_ok, Property.size]
  | u32 id v =>
    simp only [Property.ok, Bool.and_eq_true, beq_iff_eq, decide_eq_true_eq] at h
    simp only [Property.encode, List.cons_append, Property.parse_cons, h.1.1,
      parseU32_enc id v rest h.1.2 h.2, bind_ok, Property.size]
  | vbi id v =>
    simp only [Property.ok, Bool.and_eq_true, beq_iff_eq, decide_eq_true_eq] at h
    simp only [Property.encode, List.cons_append, Property.parse_cons, h.1.1,
      parseVbi_enc id v rest h.1.2 h.2, bind_ok, Property.size]
    congr 1; omega
  | str id s =>
    simp only [Property.ok, Bool.and_eq_true, beq_iff_eq] at h
    simp only [Property.encode, List.cons_append, Property.parse_cons, h.1,
      parsePStr_enc id s rest h.2, bind_ok, Property.size]
    congr 1; omega
  | bin id b =>
    simp only [Property.ok, Bool.and_eq_true, beq_iff_eq, binOk, decide_eq_true_eq] at h
    simp only [Property.encode, List.cons_append, Property.parse_cons, h.1.1,
      parsePBin_enc id b rest h.1.2, bind_ok, Property.size]
    congr 1; omega
  | pair id k v =>
    simp only [Property.ok, Bool.and_eq_true, beq_iff_eq] at h
    simp only [Property.encode, List.cons_append, Property.parse_cons, h.1.1,
      parsePair_enc id k v rest h.1.2 h.2, bind_ok, Property.size]
    congr 1; omega

theorem Props.encode_length (ps : Props) (h : propsOk ps = true) : (Props.encode ps).length = ps.size :=
  Props.encode_length_of fun p hp => p.encode_length (List.all_eq_true.1 h p hp)

theorem Property.size_pos (p : Property) : 1 ≤ p.size := by
  cases p <;> simp [Property.size] <;> omega

theorem itemsLoop_enc {α : Type} {item : List Nat → PRes α} {site : String} {enc : α → List Nat} {size : α → Nat}
    {ok : α → Bool} (hitem : ∀ a rest, ok a = true → item (enc a ++ rest) = .ok a (size a))
    (hlen : ∀ a, ok a = true → (enc a).length = size a) (hpos : ∀ a, 1 ≤ size a)
    (xs : List α) (fuel : Nat) (h : xs.all ok = true) (hf : (xs.map size).sum ≤ fuel) :
    itemsLoop item site fuel (xs.map enc).flatten = .ok xs (xs.map size).sum := by
  induction xs generalizing fuel with
  | nil => cases fuel <;> rfl
  | cons x xs ih =>
    simp only [List.all_cons, Bool.and_eq_true] at h
    simp only [List.map_cons, List.sum_cons, List.flatten_cons] at hf ⊢
    have hl := hlen x h.1
    have := hpos x
    cases fuel with
    | zero => omega
    | succ fuel =>
      unfold itemsLoop
      have hne : (enc x ++ (xs.map enc).flatten).isEmpty = false := by
        cases he : enc x with
        | nil => rw [he] at hl; simp at hl; omega
        | cons a l => rfl
      rw [hne]
      simp only [Bool.false_eq_true, if_false]
      rw [hitem x _ h.1, bind_ok]
      rw [show List.drop (size x) (enc x ++ (xs.map enc).flatten) = (xs.map enc).flatten by rw [← hl]; simp]
      rw [ih fuel h.2 (by omega), bind_ok]

theorem propsLoop_enc (ps : Props) (fuel : Nat) (h : propsOk ps = true) (hf : ps.size ≤ fuel) :
    propsLoop fuel (Props.encode ps) = .ok ps ps.size := by
  rw [propsLoop_eq]
  exact itemsLoop_enc Property.parse_enc Property.encode_length Property.size_pos ps fuel h hf

theorem Props.parse_enc (ps : Props) (rest : List Nat) (h : propsOk ps = true) (hs : ps.size ≤ vbiMax) :
    Props.parse (vbiEnc ps.size ++ Props.encode ps ++ rest) = .ok ps (vbiSize ps.size + ps.size) := by
  unfold Props.parse
  have hne : (vbiEnc ps.size ++ Props.encode ps ++ rest).isEmpty = false := by
    have hlen := vbiEnc_length ps.size hs
    have hpos := vbiSize_pos ps.size
    cases hv : vbiEnc ps.size with
    | nil => rw [hv] at hlen; simp at hlen; omega
    | cons a l => simp
  rw [hne]
  simp only [Bool.false_eq_true, if_false]
  rw [List.append_assoc, vbiDec_enc _ _ hs]
  simp only
  by_cases h0 : ps.size = 0
  · rw [if_pos h0]
    have : ps = [] := by
      cases ps with
      | nil => rfl
      | cons p ps => rw [Props.size_cons] at h0; have := Property.size_pos p; omega
    subst this
    simp [Props.size]
  · rw [if_neg h0]
    have hel := Props.encode_length ps h
    have hvl := vbiEnc_length ps.size hs
    rw [if_neg (by simp [hel, hvl])]
    rw [((At.zero _).adv0 hvl).slice hel]
    rw [hel, propsLoop_enc ps ps.size h (Nat.le_refl _), bind_ok]

theorem entriesEncode_cons (e : SubEntry) (es : List SubEntry) :
    entriesEncode (e :: es) = e.encode ++ entriesEncode es := by simp [entriesEncode]
theorem topicsEncode_cons (t : List Nat) (ts : List (List Nat)) :
    topicsEncode (t :: ts) = encStr t ++ topicsEncode ts := by simp [topicsEncode]

theorem entriesEncode_length (es : List SubEntry) : (entriesEncode es).length = entriesSize es := by
  induction es with
  | nil => rfl
  | cons e es ih => rw [entriesEncode_cons, entriesSize_cons, List.length_append, SubEntry.encode_length, ih]

theorem topicsEncode_length (ts : List (List Nat)) : (topicsEncode ts).length = topicsSize ts := by
  induction ts with
  | nil => rfl
  | cons t ts ih => rw [topicsEncode_cons, topicsSize_cons, List.length_append, encStr_length, ih]

theorem entriesLoop_enc (es : List SubEntry) (fuel : Nat) (h : es.all entryOk = true) (hf : entriesSize es ≤ fuel) :
    entriesLoop fuel (entriesEncode es) = .ok es (entriesSize es) := by
  rw [entriesLoop_eq]
  exact itemsLoop_enc SubEntry.parse_enc (fun e _ => SubEntry.encode_length e)
    (fun e => by unfold SubEntry.size strSize; omega) es fuel h hf

theorem topicsLoop_enc (ts : List (List Nat)) (fuel : Nat) (h : ts.all strOk = true) (hf : topicsSize ts ≤ fuel) :
    topicsLoop fuel (topicsEncode ts) = .ok ts (topicsSize ts) := by
  rw [topicsLoop_eq]
  exact itemsLoop_enc (fun t rest ht => decStr_enc t rest ((strOk_iff t).1 ht).1 ((strOk_iff t).1 ht).2)
    (fun t _ => encStr_length t) (fun t => by unfold strSize; omega) ts fuel h hf

end MqttVerif.Codec
