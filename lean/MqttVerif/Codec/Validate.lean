import MqttVerif.Spec.Placement
/-!
# Hand model of the `validate_*_properties` functions (src/mqtt/packet/v5_0/*.rs)

Every one of the 13 `validate_<packet>_properties` functions and `validate_auth_packet` has
the same shape in Rust:

```rust
let mut count_a = 0; let mut count_b = 0; …
for prop in props {
    match prop {
        Property::A(_) => count_a += 1,        // arm `count`
        Property::UserProperty(_) => {}        // arm `free`
        _ => return Err(MqttError::ProtocolError),   // arm `reject`
    }
}
if count_a > 1 || count_b > 1 … { return Err(MqttError::ProtocolError); }
Ok(())
```

They look at the *variant* of each property only, never at its value (values are checked
by the property constructors / `Property::parse`), so the model works on the list of
property kinds.  The enumeration of kinds (`PropId`, = the variants of `Property` = the
variants of `PropertyId`) and of locations is shared with `Spec.Placement`; nothing else of
the specification is used here: each `…Arm` function below is a transcription of the `match`
of the corresponding Rust function, arm by arm.

The loop is modelled as written (left to right, one counter per kind, early return on the
first kind without an arm); `validateWith_ok_iff` then characterises the verdict for
property lists of ANY length and order.
-/
namespace MqttVerif.Codec.Validate
open MqttVerif.Spec.Placement (PropId Location)

/-- what the `match` of a validator does with a property kind -/
inductive Arm
  | count    -- `Property::X(_) => count_x += 1`
  | free     -- `Property::X(_) => {}`
  | reject   -- `_ => return Err(MqttError::ProtocolError)`
deriving DecidableEq, Repr

inductive Verdict
  | ok
  | protocolError
deriving DecidableEq, Repr

abbrev Counters := PropId → Nat

def Counters.zero : Counters := fun _ => 0

def Counters.bump (c : Counters) (p : PropId) : Counters :=
  fun q => if q = p then c q + 1 else c q

/-- `for prop in props { match prop { … } }`; `none` = the early `return Err(ProtocolError)` -/
def loop (arm : PropId → Arm) : List PropId → Counters → Option Counters
  | [], c => some c
  | p :: ps, c =>
    match arm p with
    | .count => loop arm ps (c.bump p)
    | .free => loop arm ps c
    | .reject => none

/-- `if count_a > 1 || count_b > 1 || … { return Err(ProtocolError) }` (counters of kinds
    without a counting arm stay 0, so the disjunction may range over all kinds) -/
def anyAboveOne (c : Counters) : Bool :=
  PropId.all.any fun p => decide (c p > 1)

def validateWith (arm : PropId → Arm) (ps : List PropId) : Verdict :=
  match loop arm ps Counters.zero with
  | none => .protocolError
  | some c => if anyAboveOne c then .protocolError else .ok

/-! ## the fourteen `match`es, transcribed -/

/-- connect.rs `validate_connect_properties` -/
def connectArm : PropId → Arm
  | .sessionExpiryInterval => .count
  | .receiveMaximum => .count
  | .maximumPacketSize => .count
  | .topicAliasMaximum => .count
  | .requestResponseInformation => .count
  | .requestProblemInformation => .count
  | .userProperty => .free
  | .authenticationMethod => .count
  | .authenticationData => .count
  | _ => .reject

/-- connect.rs `validate_will_properties` -/
def willArm : PropId → Arm
  | .willDelayInterval => .count
  | .payloadFormatIndicator => .count
  | .messageExpiryInterval => .count
  | .contentType => .count
  | .responseTopic => .count
  | .correlationData => .count
  | .userProperty => .free
  | _ => .reject

/-- connack.rs `validate_connack_properties` -/
def connackArm : PropId → Arm
  | .sessionExpiryInterval => .count
  | .receiveMaximum => .count
  | .maximumQoS => .count
  | .retainAvailable => .count
  | .maximumPacketSize => .count
  | .assignedClientIdentifier => .count
  | .topicAliasMaximum => .count
  | .reasonString => .count
  | .wildcardSubscriptionAvailable => .count
  | .subscriptionIdentifierAvailable => .count
  | .sharedSubscriptionAvailable => .count
  | .serverKeepAlive => .count
  | .responseInformation => .count
  | .serverReference => .count
  | .authenticationMethod => .count
  | .authenticationData => .count
  | .userProperty => .free
  | _ => .reject

/-- publish.rs `validate_publish_properties` -/
def publishArm : PropId → Arm
  | .contentType => .count
  | .correlationData => .count
  | .messageExpiryInterval => .count
  | .payloadFormatIndicator => .count
  | .responseTopic => .count
  | .subscriptionIdentifier => .free
  | .topicAlias => .count
  | .userProperty => .free
  | _ => .reject

/-- puback.rs / pubrec.rs / pubrel.rs / pubcomp.rs / suback.rs / unsuback.rs: Reason String
    counted, User Property free -/
def ackArm : PropId → Arm
  | .reasonString => .count
  | .userProperty => .free
  | _ => .reject

/-- subscribe.rs `validate_subscribe_properties` -/
def subscribeArm : PropId → Arm
  | .subscriptionIdentifier => .count
  | .userProperty => .free
  | _ => .reject

/-- unsubscribe.rs `validate_unsubscribe_properties` -/
def unsubscribeArm : PropId → Arm
  | .userProperty => .free
  | _ => .reject

/-- disconnect.rs `validate_disconnect_properties` -/
def disconnectArm : PropId → Arm
  | .sessionExpiryInterval => .count
  | .reasonString => .count
  | .userProperty => .free
  | .serverReference => .count
  | _ => .reject

/-- auth.rs `validate_auth_packet`, the `match` inside `if let Some(properties) = props` -/
def authArm : PropId → Arm
  | .authenticationMethod => .count
  | .authenticationData => .count
  | .reasonString => .count
  | .userProperty => .free
  | _ => .reject

def arm : Location → PropId → Arm
  | .connect => connectArm
  | .will => willArm
  | .connack => connackArm
  | .publish => publishArm
  | .puback => ackArm
  | .pubrec => ackArm
  | .pubrel => ackArm
  | .pubcomp => ackArm
  | .subscribe => subscribeArm
  | .suback => ackArm
  | .unsubscribe => unsubscribeArm
  | .unsuback => ackArm
  | .disconnect => disconnectArm
  | .auth => authArm

/-- auth.rs `validate_auth_packet(reason_code, &Some(props))`: the loop, the three duplicate
    checks, then the two cross-property rules (Authentication Data requires Authentication
    Method; a reason code other than Success requires Authentication Method) -/
def validateAuth (rcIsSuccess : Bool) (ps : List PropId) : Verdict :=
  match loop authArm ps Counters.zero with
  | none => .protocolError
  | some c =>
    if c .authenticationMethod > 1 then .protocolError
    else if c .authenticationData > 1 then .protocolError
    else if c .reasonString > 1 then .protocolError
    else if c .authenticationData > 0 ∧ c .authenticationMethod = 0 then .protocolError
    else if rcIsSuccess = false ∧ c .authenticationMethod = 0 then .protocolError
    else .ok

/-- the validator of each location; `rcIsSuccess` is looked at by AUTH only -/
def validate (l : Location) (rcIsSuccess : Bool) (ps : List PropId) : Verdict :=
  match l with
  | .auth => validateAuth rcIsSuccess ps
  | l => validateWith (arm l) ps

/-! ## the loop, characterised for lists of any length and order -/

theorem loop_some_iff (arm : PropId → Arm) (ps : List PropId) (c : Counters) :
    (∃ c', loop arm ps c = some c') ↔ ∀ p ∈ ps, arm p ≠ .reject := by
  induction ps generalizing c with
  | nil => simp [loop]
  | cons p ps ih =>
    cases h : arm p <;> simp [loop, h, ih]

theorem loop_counts (arm : PropId → Arm) (ps : List PropId) (c c' : Counters)
    (h : loop arm ps c = some c') (q : PropId) :
    c' q = c q + (if arm q = .count then ps.count q else 0) := by
  induction ps generalizing c with
  | nil => simp [loop] at h; subst h; simp
  | cons p ps ih =>
    cases hp : arm p with
    | count =>
      simp only [loop, hp] at h
      rw [ih _ h, List.count_cons]
      by_cases hq : q = p
      · subst hq; simp [Counters.bump, hp]; omega
      · have : (p == q) = false := by simp; exact fun e => hq e.symm
        simp [Counters.bump, hq, this]
    | free =>
      simp only [loop, hp] at h
      rw [ih _ h, List.count_cons]
      by_cases hq : q = p
      · subst hq; simp [hp]
      · have : (p == q) = false := by simp; exact fun e => hq e.symm
        simp [this]
    | reject => simp [loop, hp] at h

theorem mem_all (p : PropId) : p ∈ PropId.all := by cases p <;> decide

theorem anyAboveOne_eq_false (c : Counters) : anyAboveOne c = false ↔ ∀ p, c p ≤ 1 := by
  unfold anyAboveOne
  rw [List.any_eq_false]
  constructor
  · intro h p
    have := h p (mem_all p)
    simpa using this
  · intro h p _
    have := h p
    simp; omega

theorem validateWith_ok_iff (arm : PropId → Arm) (ps : List PropId) :
    validateWith arm ps = .ok ↔
      (∀ p ∈ ps, arm p ≠ .reject) ∧ (∀ p, arm p = .count → ps.count p ≤ 1) := by
  unfold validateWith
  cases h : loop arm ps Counters.zero with
  | none =>
    have hn : ¬ ∀ p ∈ ps, arm p ≠ .reject := fun hh => by
      have ⟨c', hc'⟩ := (loop_some_iff arm ps Counters.zero).mpr hh
      simp [h] at hc'
    constructor
    · intro hv; simp at hv
    · intro ⟨h1, _⟩; exact absurd h1 hn
  | some c =>
    have hall := (loop_some_iff arm ps Counters.zero).mp ⟨c, h⟩
    have hz : ∀ q, c q = if arm q = .count then ps.count q else 0 := by
      intro q; simpa [Counters.zero] using loop_counts arm ps _ _ h q
    show (if anyAboveOne c = true then Verdict.protocolError else Verdict.ok) = .ok ↔ _
    constructor
    · intro hv
      have ha : anyAboveOne c = false := by
        cases ha : anyAboveOne c with
        | false => rfl
        | true => simp [ha] at hv
      refine ⟨hall, fun p hp => ?_⟩
      have := (anyAboveOne_eq_false c).mp ha p
      rw [hz p, if_pos hp] at this; exact this
    · intro ⟨_, h2⟩
      have ha : anyAboveOne c = false := (anyAboveOne_eq_false c).mpr (fun p => by
        rw [hz p]; split
        · exact h2 p ‹_›
        · omega)
      simp [ha]

theorem authArm_count {p : PropId} (h : authArm p = .count) :
    p = .authenticationMethod ∨ p = .authenticationData ∨ p = .reasonString := by
  cases p <;> simp [authArm] at h ⊢

theorem guard_ok_iff {c : Prop} [Decidable c] {x : Verdict} :
    (if c then Verdict.protocolError else x) = .ok ↔ ¬ c ∧ x = .ok := by
  by_cases hc : c <;> simp [hc]

theorem validateAuth_ok_iff (rc : Bool) (ps : List PropId) :
    validateAuth rc ps = .ok ↔
      (∀ p ∈ ps, authArm p ≠ .reject) ∧ (∀ p, authArm p = .count → ps.count p ≤ 1)
      ∧ (.authenticationData ∈ ps → .authenticationMethod ∈ ps)
      ∧ (rc = false → .authenticationMethod ∈ ps) := by
  unfold validateAuth
  cases h : loop authArm ps Counters.zero with
  | none =>
    have hn : ¬ ∀ p ∈ ps, authArm p ≠ .reject := fun hh => by
      have ⟨c', hc'⟩ := (loop_some_iff authArm ps Counters.zero).mpr hh
      simp [h] at hc'
    exact ⟨fun hv => by simp at hv, fun ⟨h1, _⟩ => absurd h1 hn⟩
  | some c =>
    have hall := (loop_some_iff authArm ps Counters.zero).mp ⟨c, h⟩
    have hz : ∀ q, authArm q = .count → c q = ps.count q := fun q hq => by
      simpa [Counters.zero, hq] using loop_counts authArm ps _ _ h q
    have cnt : (∀ p, authArm p = .count → ps.count p ≤ 1) ↔
        ps.count .authenticationMethod ≤ 1 ∧ ps.count .authenticationData ≤ 1 ∧ ps.count .reasonString ≤ 1 :=
      ⟨fun hh => ⟨hh _ rfl, hh _ rfl, hh _ rfl⟩, fun ⟨a, b, d⟩ p hp => by
        rcases authArm_count hp with rfl | rfl | rfl <;> assumption⟩
    show (if c .authenticationMethod > 1 then Verdict.protocolError
      else if c .authenticationData > 1 then .protocolError
      else if c .reasonString > 1 then .protocolError
      else if c .authenticationData > 0 ∧ c .authenticationMethod = 0 then .protocolError
      else if rc = false ∧ c .authenticationMethod = 0 then .protocolError
      else .ok) = .ok ↔ _
    rw [hz _ rfl, hz _ rfl, hz _ rfl, cnt, ← List.count_pos_iff, ← List.count_pos_iff]
    simp only [guard_ok_iff, and_true]
    constructor
    · intro ⟨g1, g2, g3, g4, g5⟩
      exact ⟨hall, ⟨by omega, by omega, by omega⟩, fun _ => by omega, fun hrc =>
        Nat.pos_of_ne_zero fun h0 => g5 ⟨hrc, h0⟩⟩
    · intro ⟨_, ⟨a, b, d⟩, e, f⟩
      exact ⟨by omega, by omega, by omega, fun ⟨x, y⟩ => by omega, fun ⟨h1, h2⟩ => by have := f h1; omega⟩

end MqttVerif.Codec.Validate
