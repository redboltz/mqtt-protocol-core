import MqttVerif.Codec.LemmasRTKinds
/-!
CONNECT round trip (C02).  What follows the variable header (client id, will, user name, password) is common to
both versions: a `ConnTail`, serialised by `tailEnc` and read back by `parseConnectTail` under `TailOk`.
-/
namespace MqttVerif.Codec

theorem parseConnectHead_at {level flags ka : Nat} {d rest : List Nat} (h : At d 0 (connectBody level flags ka ++ rest))
    (hk : ka < 65536) (hfl : ¬ (flags % 2 ≠ 0 ∨ flags / 8 % 4 = 3 ∨ (flags / 4 % 2 = 0 ∧ flags / 8 % 8 ≠ 0))) :
    parseConnectHead level d = .ok (flags, ka) 10 := by
  cases h.zero_eq
  have : ka / 256 * 256 + ka % 256 = ka := by omega
  unfold parseConnectHead connectBody encU16
  simp only [List.cons_append, List.nil_append, List.length_cons, idx_cons_zero, idx_cons_succ]
  rw [if_neg (by omega), if_neg (by simp), if_neg (by omega), if_neg (by simp), if_neg (by omega), if_neg hfl,
    if_neg (by omega), this]

def willEnc (v5 : Bool) (t : ConnTail) : List Nat :=
  (if v5 then vbiEnc t.willPropLen ++ Props.encode t.willProps else []) ++ (encStr t.willTopic ++ encStr t.willPayload)

def tailEnc (v5 : Bool) (flags : Nat) (t : ConnTail) : List Nat :=
  encStr t.clientId ++ ((if willFlag flags then willEnc v5 t else []) ++
    ((if userNameFlag flags then encStr t.userName else []) ++ (if passwordFlag flags then encStr t.password else [])))

/-- well-formedness of the tail (what the CONNECT checks say about it) -/
structure TailOk (v5 : Bool) (flags : Nat) (t : ConnTail) : Prop where
  cid : strOk t.clientId = true
  wt : strOk t.willTopic = true
  wp : t.willPayload.length ≤ 65535
  un : strOk t.userName = true
  pw : t.password.length ≤ 65535
  pwNeedsUser : passwordFlag flags = true → userNameFlag flags = true
  noWill : willFlag flags = false → t.willTopic = [] ∧ t.willPayload = [] ∧ t.willProps = [] ∧ t.willPropLen = 0
  noUser : userNameFlag flags = false → t.userName = []
  noPass : passwordFlag flags = false → t.password = []
  wprops : propsOk t.willProps = true ∧ propsAllowed willAllowed willUniq t.willProps = true
            ∧ t.willPropLen = t.willProps.size ∧ t.willPropLen ≤ vbiMax
  v3 : v5 = false → t.willProps = [] ∧ t.willPropLen = 0

def ConnTail.wOk (t : ConnTail) : Prop :=
  (Props.encode t.willProps).length = t.willProps.size ∧ t.willPropLen ≤ vbiMax

theorem TailOk.wOk {v5 : Bool} {flags : Nat} {t : ConnTail} (h : TailOk v5 flags t) : t.wOk :=
  ⟨Props.encode_length _ h.wprops.1, h.wprops.2.2.2⟩

def willLen (v5 : Bool) (t : ConnTail) : Nat :=
  (if v5 then vbiSize t.willPropLen + t.willProps.size else 0) + (strSize t.willTopic + strSize t.willPayload)

def tailLen (v5 : Bool) (flags : Nat) (t : ConnTail) : Nat :=
  strSize t.clientId + (if willFlag flags then willLen v5 t else 0)
    + (if userNameFlag flags then strSize t.userName else 0) + (if passwordFlag flags then strSize t.password else 0)

theorem willEnc_length (v5 : Bool) (t : ConnTail) (h : t.wOk) : (willEnc v5 t).length = willLen v5 t := by
  unfold willEnc willLen
  cases v5 with
  | false => simp [encStr_length]
  | true => simp only [if_true, List.length_append, encStr_length, vbiEnc_length _ h.2, h.1]

theorem parseWill_at {v5 : Bool} {flags c : Nat} {d suf : List Nat} {t : ConnTail} (h : TailOk v5 flags t)
    (h0 : At d c (willEnc v5 t ++ suf)) :
    parseWill v5 d c { clientId := t.clientId } =
      .ok { t with userName := [], password := [] } (c + (willEnc v5 t).length) := by
  obtain ⟨wtl, wtu⟩ := (strOk_iff _).1 h.wt
  obtain ⟨hwo, hwa, hwl, hwm⟩ := h.wprops
  unfold parseWill
  cases v5 with
  | false =>
    obtain ⟨e1, e2⟩ := h.v3 rfl
    have h1 : At d c (encStr t.willTopic ++ (encStr t.willPayload ++ suf)) := by
      rw [← List.append_assoc]; exact h0
    simp only [Bool.false_eq_true, if_false, bind_ok]
    rw [h1.sliceFrom, decStr_enc _ _ wtl wtu, bind_ok, (h1.adv (encStr_length _)).sliceFrom, decBin_enc _ _ h.wp, bind_ok,
      e1, e2, Nat.add_assoc, ← encStr_length, ← encStr_length, ← List.length_append]
    rfl
  | true =>
    have h1 : At d c (vbiEnc t.willPropLen ++ (Props.encode t.willProps ++ (encStr t.willTopic ++
        (encStr t.willPayload ++ suf)))) := by
      simpa only [willEnc, if_true, List.append_assoc] using h0
    have h2 := (h1.adv (vbiEnc_length _ hwm)).adv (Props.encode_length _ hwo)
    rw [hwl] at h1 h2 hwm ⊢
    simp only [if_true]
    rw [h1.sliceFrom, ← List.append_assoc, Props.parse_enc _ _ hwo hwm, bind_ok,
      show validateWillProps t.willProps = none from validateProps_eq_none.2 hwa]
    dsimp only
    rw [vbiOf_le _ _ _ hwm, bind_ok, ← Nat.add_assoc, h2.sliceFrom, decStr_enc _ _ wtl wtu, bind_ok]
    dsimp only
    rw [(h2.adv (encStr_length _)).sliceFrom, decBin_enc _ _ h.wp, bind_ok]
    simp only [willEnc, if_true, List.length_append, encStr_length, hwl, vbiEnc_length _ hwm, Props.encode_length _ hwo]
    congr 1
    omega

/-- An optional piece of the body, present iff `flag`, which `P` parses when it is there: the walk goes on behind it with
    the value `v`, which is the default when the piece is absent. -/
theorem optPiece {α β : Type} {flag : Bool} {d enc s : List Nat} {c : Nat} {P : PRes α} {v dflt : α}
    {k : α → Nat → PRes β} {r : PRes β} (h : At d c ((if flag then enc else []) ++ s))
    (hp : flag = true → At d c (enc ++ s) → P = .ok v (c + enc.length)) (hno : flag = false → v = dflt)
    (hk : At d (c + (if flag then enc else []).length) s → k v (c + (if flag then enc else []).length) = r) :
    (if flag then P else .ok dflt c).bind k = r := by
  cases flag with
  | true => rw [if_pos rfl, hp rfl h, bind_ok]; exact hk (h.adv rfl)
  | false => rw [if_neg Bool.false_ne_true, ← hno rfl, bind_ok]; exact hk (h.adv rfl)

theorem parseConnectTail_at {v5 : Bool} {flags c : Nat} {d : List Nat} {t : ConnTail} (h : TailOk v5 flags t)
    (h0 : At d c (tailEnc v5 flags t)) : parseConnectTail v5 flags d c = .ok t d.length := by
  obtain ⟨cl, cu⟩ := (strOk_iff _).1 h.cid
  unfold parseConnectTail
  rw [h0.sliceFrom, tailEnc, decStr_enc _ _ cl cu, mapErr_ok, bind_ok]
  dsimp only
  refine optPiece (v := { t with userName := [], password := [] }) (h0.adv (encStr_length _))
    (fun _ hw => parseWill_at h hw) (fun hw => ?_) fun h2 => ?_
  · obtain ⟨e1, e2, e3, e4⟩ := h.noWill hw
    rw [e1, e2, e3, e4]
  dsimp only
  refine optPiece (v := { t with password := [] }) h2 (fun _ hu => ?_) (fun hu => by rw [h.noUser hu]) fun h3 => ?_
  · obtain ⟨ul, uu⟩ := (strOk_iff _).1 h.un
    rw [hu.sliceFrom, decStr_enc _ _ ul uu, mapErr_ok, bind_ok, encStr_length]
  dsimp only
  refine optPiece (v := t) (s := []) (by rw [List.append_nil]; exact h3) (fun _ hp => ?_)
    (fun hp => by rw [← h.noPass hp]) fun h4 => ?_
  · rw [hp.sliceFrom, decBin_enc _ _ h.pw, mapErr_ok, bind_ok, encStr_length]
  rw [if_neg (by intro ⟨a, b⟩; exact b (h.pwNeedsUser a)), ← h4.len, List.length_nil, Nat.add_zero]

theorem tailEnc_length (v5 : Bool) (flags : Nat) (t : ConnTail) (h : t.wOk) :
    (tailEnc v5 flags t).length = tailLen v5 flags t := by
  unfold tailEnc tailLen
  simp only [List.length_append, encStr_length, apply_ite List.length, willEnc_length v5 t h, List.length_nil]
  omega

theorem connectFlagChecks_iff (flags : Nat) (wt wp un pwd : List Nat)
    (h : allOk (connectFlagChecks flags wt wp un pwd) = true) :
    flags < 256 ∧ (passwordFlag flags = true → userNameFlag flags = true) ∧ (willFlag flags = false → wt = [] ∧ wp = [])
      ∧ (userNameFlag flags = false → un = []) ∧ (passwordFlag flags = false → pwd = [])
      ∧ ¬ (flags % 2 ≠ 0 ∨ flags / 8 % 4 = 3 ∨ (flags / 4 % 2 = 0 ∧ flags / 8 % 8 ≠ 0)) := by
  simp only [connectFlagChecks, allOk_cns, allOk_nl, Bool.and_true, Bool.and_eq_true,
    Bool.or_eq_true, List.isEmpty_iff, Bool.not_eq_true', beq_iff_eq, decide_eq_true_eq, willFlag] at h
  obtain ⟨hb, hres, hq, hnw, hpu, ⟨hw, hu⟩, hp⟩ := h
  refine ⟨hb, ?_, ?_, ?_, ?_, ?_⟩
  · intro a; rcases hpu with b | b
    · rw [a] at b; simp at b
    · exact b
  · intro a; rcases hw with b | b
    · simp only [willFlag, beq_eq_false_iff_ne] at a; exact absurd b a
    · exact b
  · intro a; rcases hu with b | b
    · rw [a] at b; simp at b
    · exact b
  · intro a; rcases hp with b | b
    · rw [a] at b; simp at b
    · exact b
  · rcases hnw with b | ⟨b1, b2⟩ <;> omega

/-! ### CONNECT v3.1.1 -/

def Connect3.tail (p : Connect3) : ConnTail :=
  { clientId := p.clientId, willPropLen := 0, willProps := [], willTopic := p.willTopic, willPayload := p.willPayload,
    userName := p.userName, password := p.password }

def Connect3.body (p : Connect3) : List Nat := connectBody 4 p.flags p.keepAlive ++ tailEnc false p.flags p.tail

theorem Connect3.roundtrip (p : Connect3) (h : allOk p.checks = true) :
    Connect3.parse p.body = .ok p p.body.length ∧ p.encode = 0x10 :: vbiEnc p.remLen ++ p.body
      ∧ p.size = p.encode.length ∧ p.remLen = p.body.length ∧ p.remLen ≤ vbiMax := by
  unfold Connect3.checks at h
  rw [allOk_append] at h
  obtain ⟨hf, h2⟩ := h
  obtain ⟨_, hpu, hnw, hnu, hnp, hfl⟩ := connectFlagChecks_iff _ _ _ _ _ hf
  simp only [allOk_cns, allOk_nl, Bool.and_true, Bool.and_eq_true, beq_iff_eq,
    decide_eq_true_eq, binOk] at h2
  obtain ⟨hka, ⟨⟨⟨⟨⟨⟨hcid, hwt⟩, hwp⟩, _⟩, hun⟩, hpw⟩, _⟩, hrl, hmax⟩ := h2
  have htok : TailOk false p.flags p.tail :=
    { cid := hcid, wt := hwt, wp := hwp, un := hun, pw := hpw, pwNeedsUser := hpu,
      noWill := fun a => ⟨(hnw a).1, (hnw a).2, rfl, rfl⟩, noUser := hnu, noPass := hnp,
      wprops := ⟨rfl, rfl, rfl, by unfold vbiMax; exact Nat.zero_le _⟩, v3 := fun _ => ⟨rfl, rfl⟩ }
  refine roundtrip_of (by simp [Connect3.encode, Connect3.body, tailEnc, willEnc, Connect3.tail, List.append_assoc])
    hmax fun d h0 => ?_
  have h1 := h0.adv0 (a := connectBody 4 p.flags p.keepAlive) (n := 10) rfl
  have hbl : p.remLen = d.length := by
    have := h1.len
    rw [tailEnc_length false p.flags p.tail htok.wOk] at this
    simp only [hrl, Connect3.remaining, Connect3.tail, tailLen, willLen, Bool.false_eq_true, if_false, Nat.zero_add] at this ⊢
    omega
  refine ⟨hbl, ?_⟩
  unfold Connect3.parse
  rw [parseConnectHead_at h0 hka hfl, bind_ok]
  dsimp only
  rw [parseConnectTail_at htok h1, bind_ok, ← hbl, vbiOf_le _ _ _ hmax]
  rfl

/-! ### CONNECT v5.0 -/

def Connect5.tail (p : Connect5) : ConnTail :=
  { clientId := p.clientId, willPropLen := p.willPropLen, willProps := p.willProps, willTopic := p.willTopic,
    willPayload := p.willPayload, userName := p.userName, password := p.password }

def Connect5.body (p : Connect5) : List Nat :=
  connectBody 5 p.flags p.keepAlive ++ (vbiEnc p.propLen ++ (Props.encode p.props ++ tailEnc true p.flags p.tail))

theorem Connect5.roundtrip (p : Connect5) (h : allOk p.checks = true) :
    Connect5.parse p.body = .ok p p.body.length ∧ p.encode = 0x10 :: vbiEnc p.remLen ++ p.body
      ∧ p.size = p.encode.length ∧ p.remLen = p.body.length ∧ p.remLen ≤ vbiMax := by
  unfold Connect5.checks at h
  rw [allOk_append, allOk_append, allOk_append, propsChecks_iff] at h
  obtain ⟨⟨⟨hf, h2⟩, hpo, hpa, hpl, hplm⟩, h4⟩ := h
  obtain ⟨_, hpu, hnw, hnu, hnp, hfl⟩ := connectFlagChecks_iff _ _ _ _ _ hf
  simp only [allOk_cns, allOk_nl, Bool.and_true, Bool.and_eq_true, beq_iff_eq,
    decide_eq_true_eq, binOk, Bool.or_eq_true, List.isEmpty_iff] at h2 h4
  obtain ⟨hka, ⟨⟨⟨⟨⟨hcid, hwt⟩, hwp⟩, _⟩, hun⟩, hpw⟩, _⟩ := h2
  obtain ⟨hwo, hwa, ⟨hwl, hwm⟩, hwn, hrl, hmax⟩ := h4
  have hnwp : willFlag p.flags = false → p.willProps = [] := by
    intro a; rcases hwn with b | b
    · rw [a] at b; simp at b
    · exact b
  have htok : TailOk true p.flags p.tail :=
    { cid := hcid, wt := hwt, wp := hwp, un := hun, pw := hpw, pwNeedsUser := hpu,
      noWill := fun a => ⟨(hnw a).1, (hnw a).2, hnwp a, by
        show p.willPropLen = 0
        rw [hwl, hnwp a]; rfl⟩,
      noUser := hnu, noPass := hnp,
      wprops := ⟨hwo, hwa, hwl, hwm⟩, v3 := fun a => by simp at a }
  refine roundtrip_of (by simp [Connect5.encode, Connect5.body, tailEnc, willEnc, Connect5.tail, List.append_assoc])
    hmax fun d h0 => ?_
  have h1 := h0.adv0 (a := connectBody 5 p.flags p.keepAlive) (n := 10) rfl
  have h2 := (h1.adv (vbiEnc_length p.propLen hplm)).adv (Props.encode_length p.props hpo)
  have hbl : p.remLen = d.length := by
    have := h2.len
    rw [tailEnc_length true p.flags p.tail htok.wOk] at this
    simp only [hrl, Connect5.remaining, Connect5.tail, tailLen, willLen, if_true] at this ⊢
    by_cases hw : willFlag p.flags = true <;> simp only [hw, if_true, if_false, Bool.false_eq_true] at this ⊢ <;> omega
  refine ⟨hbl, ?_⟩
  unfold Connect5.parse
  rw [parseConnectHead_at h0 hka hfl, bind_ok]
  dsimp only
  rw [parsePropsAt_at (validate := validateConnectProps) h1 hpo hpl hplm (validateProps_eq_none.2 hpa), bind_ok]
  dsimp only
  rw [← Nat.add_assoc, parseConnectTail_at htok h2, bind_ok, ← hbl, vbiOf_le _ _ _ hmax]
  rfl

end MqttVerif.Codec
