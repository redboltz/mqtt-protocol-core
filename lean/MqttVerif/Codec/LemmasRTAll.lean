import MqttVerif.Codec.LemmasRTConnect
/-!
Round trip over the sum type `Packet` (C02): the per-kind results, brought to the one statement `RoundTrips`.
-/
namespace MqttVerif.Codec

/-- the body and the header byte of a packet of the sum type, kind by kind as the per-kind results name them -/
def Packet.body (pw : Nat) : Packet → List Nat
  | .connect3 q => q.body | .connack3 q => q.body | .publish3 q => q.body pw
  | .puback3 q | .pubrec3 q | .pubrel3 q | .pubcomp3 q => q.body pw
  | .subscribe3 q => q.body pw | .suback3 q => q.body pw | .unsubscribe3 q => q.body pw | .unsuback3 q => q.body pw
  | .pingreq3 _ | .pingresp3 _ | .disconnect3 _ | .pingreq5 _ | .pingresp5 _ => []
  | .connect5 q => q.body | .connack5 q => q.body | .publish5 q => q.body pw
  | .puback5 q | .pubrec5 q | .pubrel5 q | .pubcomp5 q => q.body pw
  | .subscribe5 q => q.body pw | .suback5 q | .unsuback5 q => q.body pw | .unsubscribe5 q => q.body pw
  | .disconnect5 q | .auth5 q => q.body

def Packet.fh : Packet → Nat
  | .connect3 _ | .connect5 _ => 0x10 | .connack3 _ | .connack5 _ => 0x20
  | .publish3 q => q.fh | .publish5 q => q.fh
  | .puback3 _ | .puback5 _ => 0x40 | .pubrec3 _ | .pubrec5 _ => 0x50
  | .pubrel3 _ | .pubrel5 _ => 0x62 | .pubcomp3 _ | .pubcomp5 _ => 0x70
  | .subscribe3 _ | .subscribe5 _ => 0x82 | .suback3 _ | .suback5 _ => 0x90
  | .unsubscribe3 _ | .unsubscribe5 _ => 0xa2 | .unsuback3 _ | .unsuback5 _ => 0xb0
  | .pingreq3 _ | .pingreq5 _ => 0xc0 | .pingresp3 _ | .pingresp5 _ => 0xd0
  | .disconnect3 _ | .disconnect5 _ => 0xe0 | .auth5 _ => 0xf0

theorem map_ok {α β : Type} (a : α) (c : Nat) (f : α → β) : (PRes.ok a c).map f = .ok (f a) c := rfl

theorem AckKind.fh_div (k : AckKind) : k.fh / 16 = match k with | .puback => 4 | .pubrec => 5 | .pubrel => 6 | .pubcomp => 7 := by
  cases k <;> rfl

theorem Packet.parse_publish (version pw : Nat) {fh : Nat} (body : List Nat) (h : fh / 16 = 3) :
    Packet.parse version pw fh body =
      if version = 5 then some ((Publish5.parse pw (fh % 16) body).map .publish5)
      else some ((Publish3.parse pw (fh % 16) body).map .publish3) := by
  unfold Packet.parse
  simp only [h]

theorem Publish3.fh_ok {pw : Nat} {q : Publish3} (h : allOk (q.checks pw) = true) : q.fh / 16 = 3 ∧ q.fh < 64 :=
  (publishHeadChecks_iff _ _ _ _ _ (allOk_append.1 h).1).1

theorem Publish5.fh_ok {pw : Nat} {q : Publish5} (h : allOk (q.checks pw) = true) : q.fh / 16 = 3 ∧ q.fh < 64 :=
  (publishHeadChecks_iff _ _ _ _ _ (allOk_append.1 (allOk_append.1 h).1).1).1

/-- a kind's round trip, read in the sum type: `version` and `fh` select the kind's parser (by evaluation, for which the
    header must be given as a literal) -/
theorem framed {α : Type} {x : PRes α} {a : α} {n pw : Nat} {body : List Nat} {rest : Prop} (version fh : Nat)
    (mk : α → Packet) (hsel : Packet.parse version pw fh body = some (x.map mk)) (h : x = .ok a n ∧ rest) :
    Packet.parse version pw fh body = some (.ok (mk a) n) ∧ rest := by
  rw [hsel, h.1]
  exact ⟨rfl, h.2⟩

/-- the per-kind round trips as one statement about the sum type: the header byte selects the parser of the packet's own
    kind (evaluation of `Packet.parse` on the literal header) -/
theorem Packet.frame (pw : Nat) (p : Packet) (hpw : pw = 2 ∨ pw = 4) (h : p.wf pw = true) :
    Packet.parse p.version pw p.fh (p.body pw) = some (.ok p (p.body pw).length)
      ∧ p.encode pw = p.fh :: vbiEnc p.remLen ++ p.body pw ∧ p.size = (p.encode pw).length
      ∧ p.remLen = (p.body pw).length ∧ p.remLen ≤ vbiMax :=
  match p with
  | .connect3 q => framed 4 0x10 .connect3 rfl (Connect3.roundtrip q h)
  | .connack3 q => framed 4 0x20 .connack3 rfl (Connack3.roundtrip q h)
  | .publish3 q =>
    framed 4 q.fh .publish3 (Packet.parse_publish 4 pw _ (Publish3.fh_ok h).1) (Publish3.roundtrip pw q hpw h)
  | .puback3 q => framed 4 0x40 .puback3 rfl (Ack3.roundtrip .puback pw q hpw h)
  | .pubrec3 q => framed 4 0x50 .pubrec3 rfl (Ack3.roundtrip .pubrec pw q hpw h)
  | .pubrel3 q => framed 4 0x62 .pubrel3 rfl (Ack3.roundtrip .pubrel pw q hpw h)
  | .pubcomp3 q => framed 4 0x70 .pubcomp3 rfl (Ack3.roundtrip .pubcomp pw q hpw h)
  | .subscribe3 q => framed 4 0x82 .subscribe3 rfl (Subscribe3.roundtrip pw q hpw h)
  | .suback3 q => framed 4 0x90 .suback3 rfl (Suback3.roundtrip pw q hpw h)
  | .unsubscribe3 q => framed 4 0xa2 .unsubscribe3 rfl (Unsubscribe3.roundtrip pw q hpw h)
  | .unsuback3 q => framed 4 0xb0 .unsuback3 rfl (Unsuback3.roundtrip pw q hpw h)
  | .pingreq3 q => framed 4 0xc0 .pingreq3 rfl (Empty.roundtrip 0xc0 q h)
  | .pingresp3 q => framed 4 0xd0 .pingresp3 rfl (Empty.roundtrip 0xd0 q h)
  | .disconnect3 q => framed 4 0xe0 .disconnect3 rfl (Empty.roundtrip 0xe0 q h)
  | .connect5 q => framed 5 0x10 .connect5 rfl (Connect5.roundtrip q h)
  | .connack5 q => framed 5 0x20 .connack5 rfl (Connack5.roundtrip q h)
  | .publish5 q =>
    framed 5 q.fh .publish5 (Packet.parse_publish 5 pw _ (Publish5.fh_ok h).1) (Publish5.roundtrip pw q hpw h)
  | .puback5 q => framed 5 0x40 .puback5 rfl (Ack5.roundtrip .puback pw q hpw h)
  | .pubrec5 q => framed 5 0x50 .pubrec5 rfl (Ack5.roundtrip .pubrec pw q hpw h)
  | .pubrel5 q => framed 5 0x62 .pubrel5 rfl (Ack5.roundtrip .pubrel pw q hpw h)
  | .pubcomp5 q => framed 5 0x70 .pubcomp5 rfl (Ack5.roundtrip .pubcomp pw q hpw h)
  | .subscribe5 q => framed 5 0x82 .subscribe5 rfl (Subscribe5.roundtrip pw q hpw h)
  | .suback5 q => framed 5 0x90 .suback5 rfl (Codes5.roundtrip subackRc5Ok 0x90 pw q hpw h)
  | .unsubscribe5 q => framed 5 0xa2 .unsubscribe5 rfl (Unsubscribe5.roundtrip pw q hpw h)
  | .unsuback5 q => framed 5 0xb0 .unsuback5 rfl (Codes5.roundtrip unsubackRc5Ok 0xb0 pw q hpw h)
  | .pingreq5 q => framed 5 0xc0 .pingreq5 rfl (Empty.roundtrip 0xc0 q h)
  | .pingresp5 q => framed 5 0xd0 .pingresp5 rfl (Empty.roundtrip 0xd0 q h)
  | .disconnect5 q => framed 5 0xe0 .disconnect5 rfl (Disconnect5.roundtrip q h)
  | .auth5 q => framed 5 0xf0 .auth5 rfl (Auth5.roundtrip q h)

/-- the statement of C02 for one packet: its serialisation is `fh :: vbi(remLen) ++ body`, the frame
    splits accordingly, the parser selected by `fh` returns the packet and consumes the body,
    `size` = serialised length, Remaining Length = body length -/
def RoundTrips (pw : Nat) (p : Packet) : Prop :=
  ∃ fh body, p.encode pw = fh :: vbiEnc p.remLen ++ body ∧
    frameBody (p.encode pw) = some (fh, p.remLen, body) ∧
    Packet.parse p.version pw fh body = some (.ok p body.length) ∧
    p.size = (p.encode pw).length ∧ p.remLen = body.length

theorem Packet.roundTrips (pw : Nat) (p : Packet) (hpw : pw = 2 ∨ pw = 4) (h : p.wf pw = true) : RoundTrips pw p :=
  have ⟨hparse, henc, hsize, hrl, hmax⟩ := Packet.frame pw p hpw h
  ⟨p.fh, p.body pw, henc, henc ▸ frameBody_enc p.fh p.remLen (p.body pw) hmax, hparse, hsize, hrl⟩

end MqttVerif.Codec
