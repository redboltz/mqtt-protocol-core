import MqttVerif.Codec.LemmasRTConnect
/-!
The 29 parsers (C04): no panic, `consumed ≤ input.length`, and what holds of accepted input.

`X.parse_tri : Tri g (X.parse … data) (fun p c => c ≤ data.length ∧ …)` — for every `List Nat`; one walk per parser.
`g` is the bound under which the parser cannot panic: parsers that cache a Remaining Length computed from a quantity
that grows with the input need `data.length ≤ vbiMax` (the Rust `from_u32(..).unwrap()` panics beyond; the framing
layer never delivers such a body; `<` for the v5.0 PUBLISH, which counts one byte for an absent property length).
Of accepted input, without assuming well-formedness: `size = |encode|` (id widths 2 and 4), packet identifiers in
`[1, 256^pw − 1]` when the input consists of bytes, value rules of the properties, and the builder rules the parsers
enforce themselves (CONNECT flags, CONNACK flags, PUBLISH topic).

The parts shared by several parsers (CONNECT head and tail, PUBLISH head, id at the front, `[rc [props]]`) have no
such site and are analysed once, as `Sat`.
-/
namespace MqttVerif.Codec

/-! ### CONNECT -/

/-- reserved bit clear, Will QoS ≤ 2, no Will QoS / Will Retain without the Will Flag -/
def ConnFlagsOk (flags : Nat) : Prop :=
  flags % 2 = 0 ∧ flags / 8 % 4 ≤ 2 ∧ (flags / 4 % 2 = 0 → flags / 8 % 4 = 0 ∧ flags / 32 % 2 = 0)

theorem parseConnectHead_sat (level : Nat) (data : List Nat) :
    Sat (parseConnectHead level data) (fun fk c => c = 10 ∧ 10 ≤ data.length ∧ ConnFlagsOk fk.1) := by
  unfold parseConnectHead
  refine sat_ite_err fun _ => ?_
  refine sat_idx (by omega) fun n0 => sat_idx (by omega) fun n1 => sat_idx (by omega) fun n2 =>
    sat_idx (by omega) fun n3 => sat_idx (by omega) fun n4 => sat_idx (by omega) fun n5 => ?_
  refine sat_ite_err fun _ => sat_ite_err fun _ => sat_idx (by omega) fun ver => ?_
  refine sat_ite_err fun _ => sat_ite_err fun _ => sat_idx (by omega) fun flags => ?_
  refine sat_ite_err fun hf => sat_ite_err fun _ => sat_idx (by omega) fun k0 => sat_idx (by omega) fun k1 => ?_
  rw [sat_ok]
  unfold ConnFlagsOk
  omega

theorem ConnTail.wOk_default (cid : List Nat) : ConnTail.wOk { clientId := cid } := ⟨rfl, Nat.zero_le _⟩

theorem parseWill_sat (v5 : Bool) (data : List Nat) (cursor : Nat) (t : ConnTail) (hc : cursor ≤ data.length)
    (ht : t.wOk) :
    Sat (parseWill v5 data cursor t)
      (fun t' c => c = cursor + willLen v5 t' ∧ c ≤ data.length ∧ t'.clientId = t.clientId ∧ t'.wOk) := by
  unfold parseWill
  refine sat_bind (P := fun t1 c1 => c1 = cursor + (if v5 then vbiSize t1.willPropLen + t1.willProps.size else 0)
      ∧ c1 ≤ data.length ∧ t1.clientId = t.clientId ∧ t1.wOk) ?_ fun t1 c1 ⟨h1, h2, h3, h4⟩ => ?_
  · refine sat_ite (fun hv => ?_) fun hv => (sat_ok _ _ _).2 ⟨by rw [if_neg hv]; rfl, hc, rfl, ht⟩
    refine sat_sliceFrom hc fun d hd => ?_
    refine sat_bind (Props.parse_sat d) fun wp c ⟨b, hl, hm, _, a⟩ => sat_optErr fun _ => sat_vbiOf hm ?_
    rw [sat_ok]
    exact ⟨by rw [if_pos hv]; dsimp only; omega, by omega, rfl, a.1, hm⟩
  · refine sat_sliceFrom h2 fun d hd => sat_bind (decStr_sat d) fun wt c ⟨e4, l4, _⟩ => ?_
    refine sat_sliceFrom (by omega) fun d2 hd2 => sat_bind (decBin_sat d2) fun wp c2 ⟨e5, l5⟩ => ?_
    rw [sat_ok]
    refine ⟨?_, by omega, h3, h4⟩
    simp only [willLen, strSize]
    omega

theorem parseConnectTail_sat (v5 : Bool) (flags : Nat) (data : List Nat) (cursor : Nat) (hc : cursor ≤ data.length) :
    Sat (parseConnectTail v5 flags data cursor)
      (fun t c => c = cursor + tailLen v5 flags t ∧ c ≤ data.length ∧ t.wOk) := by
  unfold parseConnectTail
  refine sat_sliceFrom hc fun d hd => sat_bind (sat_mapErr (decStr_sat d)) fun cid c ⟨h0, l0, _⟩ => ?_
  refine sat_bind
    (P := fun t c1 => c1 = cursor + strSize t.clientId + (if willFlag flags then willLen v5 t else 0)
            ∧ c1 ≤ data.length ∧ t.wOk) ?_ fun t1 c1 ⟨h1, l1, w1⟩ => ?_
  · refine sat_ite (fun hw => ?_) fun hw => (sat_ok _ _ _).2 ⟨by rw [if_neg hw]; simp only [strSize]; omega, by omega,
      ConnTail.wOk_default cid⟩
    refine (parseWill_sat v5 data (cursor + c) { clientId := cid } (by omega) (ConnTail.wOk_default cid)).mono
      fun t' c' ⟨a, l, b, w⟩ => ⟨?_, l, w⟩
    rw [if_pos hw, b, a]
    simp only [strSize]
    omega
  refine sat_bind
    (P := fun t c2 => c2 = cursor + strSize t.clientId + (if willFlag flags then willLen v5 t else 0)
            + (if userNameFlag flags then strSize t.userName else 0) ∧ c2 ≤ data.length ∧ t.wOk) ?_
    fun t2 c2 ⟨h2, l2, w2⟩ => ?_
  · refine sat_ite (fun hu => ?_) fun hu => (sat_ok _ _ _).2 ⟨by rw [if_neg hu]; omega, l1, w1⟩
    refine sat_sliceFrom l1 fun d hd => sat_bind (sat_mapErr (decStr_sat d)) fun u c ⟨e, l, _⟩ => ?_
    rw [sat_ok]
    refine ⟨?_, by omega, w1⟩
    rw [if_pos hu]
    simp only [willLen, strSize] at h1 ⊢
    omega
  refine sat_bind (P := fun t c3 => c3 = cursor + tailLen v5 flags t ∧ c3 ≤ data.length ∧ t.wOk) ?_
    fun t3 c3 h3 => sat_ite_err fun _ => (sat_ok _ _ _).2 h3
  refine sat_ite (fun hp => ?_) fun hp => (sat_ok _ _ _).2 ⟨by simp only [tailLen, if_neg hp]; omega, l2, w2⟩
  refine sat_sliceFrom l2 fun d hd => sat_bind (sat_mapErr (decBin_sat d)) fun p c ⟨e, l⟩ => ?_
  rw [sat_ok]
  refine ⟨?_, by omega, w2⟩
  simp only [tailLen, willLen, strSize, if_pos hp] at h2 ⊢
  omega

theorem Connect3.parse_tri (data : List Nat) :
    Tri (data.length ≤ vbiMax) (Connect3.parse data)
      (fun p c => c ≤ data.length ∧ p.size = p.encode.length ∧ ConnFlagsOk p.flags) := by
  unfold Connect3.parse
  refine tri_bind (parseConnectHead_sat 4 data).tri fun fk c ⟨hc, hlen, hf⟩ => ?_
  subst hc
  refine tri_bind (parseConnectTail_sat false fk.1 data 10 hlen).tri fun t c2 ⟨h2, h4, w⟩ => ?_
  refine tri_vbiOf (fun hl => by omega) fun hv => tri_ok ⟨h4, ?_, hf⟩
  have := size_of_frame 0x10 c2 (connectBody 4 fk.1 fk.2 ++ tailEnc false fk.1 t) hv
    (by rw [List.length_append, tailEnc_length false fk.1 t w, h2]; simp [connectBody, encU16] <;> omega)
  simpa [Connect3.size, Connect3.encode, List.append_assoc, tailEnc, willEnc] using this

theorem Connect5.parse_tri (data : List Nat) :
    Tri (data.length ≤ vbiMax) (Connect5.parse data)
      (fun p c => c ≤ data.length ∧ p.size = p.encode.length ∧ ConnFlagsOk p.flags ∧ propsValid p.props) := by
  unfold Connect5.parse
  refine tri_bind (parseConnectHead_sat 5 data).tri fun fk c ⟨hc, hlen, hf⟩ => ?_
  subst hc
  refine tri_bind (parsePropsAt_sat _ _ data 10 hlen).tri fun pp pc ⟨e, hl2, _, _, _, a, b⟩ => ?_
  refine tri_bind (parseConnectTail_sat true fk.1 data (10 + pc) hl2).tri fun t c2 ⟨h2, h4, w⟩ => ?_
  refine tri_vbiOf (fun hl => by omega) fun hv => tri_ok ⟨h4, ?_, hf, a.2⟩
  have := size_of_frame 0x10 c2 (connectBody 5 fk.1 fk.2 ++ (vbiEnc pp.2 ++ (Props.encode pp.1 ++ tailEnc true fk.1 t))) hv
    (by simp only [List.length_append, tailEnc_length true fk.1 t w, h2, vbiEnc_length _ b, a.1]
        simp [connectBody, encU16] <;> omega)
  simpa [Connect5.size, Connect5.encode, List.append_assoc, tailEnc, willEnc] using this

/-! ### CONNACK -/

theorem Connack3.parse_tri (data : List Nat) :
    Tri True (Connack3.parse data) (fun p c => c ≤ data.length ∧ p.size = p.encode.length) := by
  unfold Connack3.parse
  refine tri_ite_err fun _ => tri_idx (by omega) fun f => tri_idx (by omega) fun code => tri_ite_err fun _ =>
    tri_ok ⟨by omega, size_of_frame 0x20 2 [f % 2, code] (by decide) rfl⟩

/-- `remaining_length` is the consumed byte count: right because `decode_stream` rejects non-minimal encodings -/
theorem Connack5.parse_tri (data : List Nat) :
    Tri (data.length ≤ vbiMax) (Connack5.parse data)
      (fun p c => c ≤ data.length ∧ p.size = p.encode.length ∧ propsValid p.props ∧ p.flags ≤ 1) := by
  unfold Connack5.parse
  refine tri_ite_err fun _ => tri_idx (by omega) fun flags => tri_ite_err fun hf => tri_idx (by omega) fun code =>
    tri_ite_err fun _ => ?_
  refine tri_bind (parsePropsAt_sat _ _ data 2 (by omega)).tri fun pp pc ⟨e, h4, _, _, _, a, b⟩ => ?_
  refine tri_vbiOf (fun hl => by omega) fun hv => tri_ok ⟨h4, ?_, a.2, Nat.le_of_not_gt hf⟩
  have := size_of_frame 0x20 (2 + pc) ([flags, code] ++ (vbiEnc pp.2 ++ Props.encode pp.1)) hv
    (by simp only [List.length_append, List.length_cons, List.length_nil, vbiEnc_length _ b, a.1]; omega)
  simpa [Connack5.size, Connack5.encode, List.append_assoc] using this

/-! ### PUBLISH -/

/-- QoS and packet id of an accepted PUBLISH (`flags` = low nibble of the fixed header) -/
def PubOk (pw flags : Nat) (pid : Option Nat) : Prop :=
  flags / 2 % 4 ≤ 2 ∧ (flags / 2 % 4 = 0 → pid = none) ∧ (flags / 2 % 4 > 0 → ∃ id, pid = some id ∧ IdIn pw id)

theorem parsePublishHead_sat (v5 : Bool) (pw flags : Nat) (data : List Nat) :
    Sat (parsePublishHead v5 pw flags data)
      (fun tp c => c ≤ data.length ∧ strSize tp.1 + (if tp.2.isSome then pw else 0) = c
        ∧ (isBytes data → PubOk pw flags tp.2)
        ∧ noWildcard tp.1 = true ∧ (v5 = false → tp.1 ≠ []) ∧ utf8Ok tp.1 = true) := by
  unfold parsePublishHead
  refine sat_ite_err fun hq => sat_sliceFrom (by omega) fun d hd => ?_
  refine sat_bind (decStr_sat d) fun topic c ⟨h1, h2, hu⟩ => sat_ite_err fun hc => ?_
  have hw : noWildcard topic = true ∧ (v5 = false → topic ≠ []) := by
    simp only [Bool.or_eq_true, Bool.and_eq_true, Bool.not_eq_true', not_or, not_and, Bool.not_eq_true] at hc
    obtain ⟨⟨h1, h2⟩, h3⟩ := hc
    refine ⟨by unfold noWildcard; rw [h2, h3]; rfl, fun hv htn => ?_⟩
    have := h1 hv
    rw [htn] at this
    simp at this
  refine sat_ite (fun hq0 => ?_) fun hq0 => ?_
  · refine sat_ite_err fun _ => sat_slice (by omega) (by omega) fun idb hl hm => sat_ite_err fun hz => ?_
    rw [sat_ok]
    refine ⟨by omega, by simp only [strSize, Option.isSome_some, if_true]; omega, fun hb => ?_, hw.1, hw.2, hu⟩
    exact ⟨by omega, fun h => absurd h hq0, fun _ => ⟨_, rfl, idIn_of_slice (by omega) hm hz hb⟩⟩
  · rw [sat_ok]
    refine ⟨by omega, by simp only [strSize, Option.isSome_none, Bool.false_eq_true, if_false]; omega, fun _ => ?_, hw.1, hw.2, hu⟩
    exact ⟨by omega, fun _ => rfl, fun h => by omega⟩

/-- `fh = 0x30 + flags % 16`: the QoS bits of the stored header byte are those of `flags` -/
theorem pubOk_fh {pw flags : Nat} {pid : Option Nat} (h : PubOk pw flags pid) :
    PubOk pw ((0x30 + flags % 16) % 16) pid := by
  have e : (0x30 + flags % 16) % 16 / 2 % 4 = flags / 2 % 4 := by omega
  unfold PubOk at h ⊢
  rw [e]
  exact h

theorem Publish3.parse_tri (pw flags : Nat) (data : List Nat) :
    Tri (data.length ≤ vbiMax) (Publish3.parse pw flags data)
      (fun p c => c ≤ data.length ∧ (pw = 2 ∨ pw = 4 → p.size = (p.encode pw).length)
        ∧ (isBytes data → PubOk pw (p.fh % 16) p.pid) ∧ noWildcard p.topic = true ∧ p.topic ≠ [] ∧ utf8Ok p.topic = true) := by
  unfold Publish3.parse
  refine tri_bind (parsePublishHead_sat false pw flags data).tri fun tp c ⟨h1, h2, hp, t1, t2, t3⟩ => ?_
  refine tri_usub h1 (tri_sliceFrom h1 fun payload hl => tri_vbiOf (fun hg => by omega) fun hv =>
    tri_ok ⟨Nat.le_refl _, fun hpw => ?_, fun hb => pubOk_fh (hp hb), t1, t2 rfl, t3⟩)
  have := size_of_frame (0x30 + flags % 16) _ (encStr tp.1 ++ (encOptId pw tp.2 ++ payload)) hv
    (by simp only [List.length_append, encStr_length, encOptId_length pw _ hpw, hl]; omega)
  simpa [Publish3.size, Publish3.encode, List.append_assoc] using this

theorem Publish5.parse_tri (pw flags : Nat) (data : List Nat) :
    Tri (data.length < vbiMax) (Publish5.parse pw flags data)
      (fun p c => c ≤ data.length ∧ (pw = 2 ∨ pw = 4 → p.size = (p.encode pw).length)
        ∧ (isBytes data → PubOk pw (p.fh % 16) p.pid) ∧ noWildcard p.topic = true ∧ utf8Ok p.topic = true) := by
  unfold Publish5.parse
  refine tri_bind (parsePublishHead_sat true pw flags data).tri fun tp c ⟨h1, h2, hp, t1, _, t3⟩ => ?_
  refine tri_bind (P := fun pp c' => c ≤ c' ∧ c' ≤ data.length ∧ c + vbiSize pp.2 + pp.1.size ≤ c' + 1
      ∧ (Props.encode pp.1).length = pp.1.size ∧ pp.2 ≤ vbiMax) ?_ fun pp c' ⟨h3, h4, h5, e1, e2⟩ => ?_
  · refine tri_ite (fun _ => ?_) fun _ => tri_ok ⟨Nat.le_refl _, h1, Nat.le_refl _, rfl, by decide⟩
    exact tri_bind (parsePropsAt_sat _ _ data c h1).tri fun pp pc ⟨h6, h7, _, _, _, a, b⟩ =>
      tri_ok ⟨by omega, by omega, by omega, a.1, b⟩
  · refine tri_usub h4 (tri_sliceFrom h4 fun payload hl => tri_vbiOf (fun hg => by omega) fun hv =>
      tri_ok ⟨Nat.le_refl _, fun hpw => ?_, fun hb => pubOk_fh (hp hb), t1, t3⟩)
    have := size_of_frame (0x30 + flags % 16) _
      (encStr tp.1 ++ (encOptId pw tp.2 ++ (vbiEnc pp.2 ++ (Props.encode pp.1 ++ payload)))) hv
      (by simp only [List.length_append, encStr_length, encOptId_length pw _ hpw, hl, vbiEnc_length _ e2, e1]; omega)
    simpa [Publish5.size, Publish5.encode, List.append_assoc] using this

/-! ### acks, DISCONNECT, AUTH -/

theorem Ack3.parse_tri (k : AckKind) (pw : Nat) (data : List Nat) :
    Tri (pw + 1 ≤ vbiMax) (Ack3.parse k pw data)
      (fun p c => c ≤ data.length ∧ (pw = 2 ∨ pw = 4 → p.size = (p.encode k pw).length) ∧ (isBytes data → IdIn pw p.pid)) := by
  unfold Ack3.parse
  refine tri_ite_err fun _ => tri_slice (by omega) (by omega) fun idb hl hm => tri_ite_err fun hz => ?_
  have hid := idIn_of_slice (pw := pw) (by omega) hm hz
  refine tri_ite (fun _ => tri_idx (by omega) fun rc => tri_ite_err fun _ => tri_vbiOf (fun hg => hg) fun hv =>
      tri_ok ⟨by omega, fun hpw => ?_, hid⟩)
    fun _ => tri_vbiOf (fun hg => by omega) fun hv => tri_ok ⟨by omega, fun hpw => ?_, hid⟩
  · have := size_of_frame k.fh (pw + 1) (encId pw (beNat idb) ++ [rc]) hv (by simp [encId_length pw _ hpw])
    simpa [Ack3.size, Ack3.encode, encOptByte] using this
  · have := size_of_frame k.fh pw (encId pw (beNat idb)) hv (encId_length pw _ hpw)
    simpa [Ack3.size, Ack3.encode, encOptByte] using this

theorem parseRcProps_sat (site : String) (rcOk : Nat → Bool) (validate : Props → Option Err)
    (data : List Nat) (cursor : Nat) (hc : cursor ≤ data.length) :
    Sat (parseRcProps site rcOk validate data cursor)
      (fun r c => cursor ≤ c ∧ c ≤ data.length ∧ cursor + rcPropsRemaining r.1 r.2.1 r.2.2 ≤ c
        ∧ (encOptByte r.1 ++ encOptProps r.2.2 r.2.1).length = rcPropsRemaining r.1 r.2.1 r.2.2) := by
  unfold parseRcProps
  refine sat_ite (fun _ => ?_) fun _ => (sat_ok _ _ _).2 ⟨Nat.le_refl _, hc, Nat.le_refl _, rfl⟩
  refine sat_idx (by omega) fun rc => sat_ite_err fun _ => sat_ite (fun _ => ?_) fun _ =>
    (sat_ok _ _ _).2 ⟨by omega, by omega, Nat.le_refl _, rfl⟩
  refine sat_bind (parsePropsAt_sat _ _ data (cursor + 1) (by omega)) fun pp pc ⟨h1, h2, _, _, _, hp, hm⟩ => ?_
  rw [sat_ok]
  simp only [rcPropsRemaining, optPropsSize, encOptByte, encOptProps, Option.isSome_some, if_true, List.length_append,
    List.length_cons, List.length_nil, vbiEnc_length _ hm, hp.1]
  omega

theorem Ack5.parse_tri (k : AckKind) (pw : Nat) (data : List Nat) :
    Tri (data.length ≤ vbiMax) (Ack5.parse k pw data)
      (fun p c => c ≤ data.length ∧ (pw = 2 ∨ pw = 4 → p.size = (p.encode k pw).length) ∧ (isBytes data → IdIn pw p.pid)) := by
  unfold Ack5.parse
  refine tri_ite_err fun _ => tri_slice (by omega) (by omega) fun idb hl hm => tri_ite_err fun hz => ?_
  refine tri_bind (parseRcProps_sat _ _ _ data pw (by omega)).tri fun r c ⟨h1, h2, h3, e⟩ => ?_
  refine tri_vbiOf (fun hg => by simp only [rcPropsRemaining] at h3; omega) fun hv =>
    tri_ok ⟨h2, fun hpw => ?_, idIn_of_slice (by omega) hm hz⟩
  have := size_of_frame k.fh _ (encId pw (beNat idb) ++ (encOptByte r.1 ++ encOptProps r.2.2 r.2.1)) hv
    (by rw [List.length_append, encId_length pw _ hpw, e]; unfold rcPropsRemaining; omega)
  simpa [Ack5.size, Ack5.encode, List.append_assoc] using this

theorem Disconnect5.parse_tri (data : List Nat) :
    Tri (data.length ≤ vbiMax) (Disconnect5.parse data) (fun p c => c ≤ data.length ∧ p.size = (p.encode 0xe0).length) := by
  unfold Disconnect5.parse
  refine tri_bind (parseRcProps_sat _ _ _ data 0 (Nat.zero_le _)).tri fun r c ⟨h1, h2, h3, e⟩ => ?_
  refine tri_vbiOf (fun hg => by omega) fun hv => tri_ok ⟨h2, ?_⟩
  rw [rcProps5_encode]
  exact size_of_frame 0xe0 _ _ hv e

theorem Auth5.parse_tri (data : List Nat) :
    Tri (data.length ≤ vbiMax) (Auth5.parse data) (fun p c => c ≤ data.length ∧ p.size = (p.encode 0xf0).length) := by
  unfold Auth5.parse
  refine tri_bind (parseRcProps_sat _ _ _ data 0 (Nat.zero_le _)).tri fun r c ⟨h1, h2, h3, e⟩ => ?_
  refine tri_optErr fun _ => tri_vbiOf (fun hg => by omega) fun hv => tri_ok ⟨h2, ?_⟩
  rw [rcProps5_encode]
  exact size_of_frame 0xf0 _ _ hv e

/-! ### SUBSCRIBE / SUBACK / UNSUBSCRIBE / UNSUBACK -/

theorem parseIdFront_sat (site : String) (pw : Nat) (data : List Nat) :
    Sat (parseIdFront site pw data) (fun id c => c = pw ∧ pw ≤ data.length ∧ (isBytes data → IdIn pw id)) := by
  unfold parseIdFront
  refine sat_ite_err fun _ => sat_slice (by omega) (by omega) fun idb hi hm => sat_ite_err fun hz => ?_
  rw [sat_ok]
  exact ⟨rfl, by omega, idIn_of_slice (by omega) hm hz⟩

theorem size_idFrame {pw rl : Nat} (hpw : pw = 2 ∨ pw = 4) (fh pid : Nat) (rest : List Nat) (hv : rl ≤ vbiMax)
    (hr : pw + rest.length = rl) : sizeOfRem rl = (fh :: vbiEnc rl ++ encId pw pid ++ rest).length := by
  rw [List.append_assoc]
  exact size_of_frame fh rl _ hv (by rw [List.length_append, encId_length pw _ hpw, hr])

theorem size_idPropsFrame {pw rl pl pc : Nat} {props : Props} (hpw : pw = 2 ∨ pw = 4) (fh pid : Nat) (rest : List Nat)
    (hv : rl ≤ vbiMax) (hp : (vbiEnc pl ++ Props.encode props).length = pc) (hr : pw + pc + rest.length = rl) :
    sizeOfRem rl = (fh :: vbiEnc rl ++ encId pw pid ++ vbiEnc pl ++ Props.encode props ++ rest).length := by
  have e : pw + (vbiEnc pl ++ Props.encode props ++ rest).length = rl := by rw [List.length_append, hp, ← hr, Nat.add_assoc]
  simpa only [List.append_assoc] using size_idFrame hpw fh pid _ hv e

/-- the id at the front, the property list, the rest of the body: the head that SUBSCRIBE, UNSUBSCRIBE and their
    acknowledgements share in v5.0 -/
theorem tri_idProps {α : Type} {g : Prop} {s1 s2 s3 : String} {validate : Props → Option Err} {pw : Nat} {data : List Nat}
    {k : Nat → Nat → Props × Nat → Nat → List Nat → PRes α} {Q : α → Nat → Prop}
    (hk : ∀ pid pp pc rest, (isBytes data → IdIn pw pid) → pw + pc + rest.length = data.length →
      (vbiEnc pp.2 ++ Props.encode pp.1).length = pc → Tri g (k pid pw pp pc rest) Q) :
    Tri g ((parseIdFront s1 pw data).bind fun pid cursor => (parsePropsAt s2 validate data cursor).bind fun pp pc =>
      sliceFrom s3 data (cursor + pc) fun rest => k pid cursor pp pc rest) Q := by
  refine tri_bind (parseIdFront_sat _ pw data).tri fun pid c ⟨h1, h2, hid⟩ => ?_
  subst h1
  refine tri_bind (parsePropsAt_sat _ _ data c (by omega)).tri fun pp pc ⟨e, h4, _, _, _, a, b⟩ => ?_
  exact tri_sliceFrom h4 fun rest hr => hk pid pp pc rest hid (by omega)
    (by rw [List.length_append, vbiEnc_length _ b, a.1, e])

theorem Subscribe3.parse_tri (pw : Nat) (data : List Nat) :
    Tri (data.length ≤ vbiMax) (Subscribe3.parse pw data)
      (fun p c => c ≤ data.length ∧ (pw = 2 ∨ pw = 4 → p.size = (p.encode pw).length) ∧ (isBytes data → IdIn pw p.pid)) := by
  unfold Subscribe3.parse
  refine tri_bind (parseIdFront_sat _ pw data).tri fun pid c ⟨h1, h2, hid⟩ => ?_
  refine tri_sliceFrom (by omega) fun rest hr => ?_
  refine tri_bind (entriesLoop_sat rest.length rest (Nat.le_refl _)).tri fun es c2 ⟨h3, h4⟩ => ?_
  refine tri_ite_err fun _ => tri_vbiOf (fun hg => by omega) fun hv => tri_ok ⟨by omega, fun hpw => ?_, hid⟩
  exact size_idFrame hpw 0x82 pid _ hv (by rw [entriesEncode_length])

theorem Suback3.parse_tri (pw : Nat) (data : List Nat) :
    Tri (data.length ≤ vbiMax) (Suback3.parse pw data)
      (fun p c => c ≤ data.length ∧ (pw = 2 ∨ pw = 4 → p.size = (p.encode pw).length) ∧ (isBytes data → IdIn pw p.pid)) := by
  unfold Suback3.parse
  refine tri_bind (parseIdFront_sat _ pw data).tri fun pid c ⟨h1, h2, hid⟩ => ?_
  refine tri_sliceFrom (by omega) fun codes hr => ?_
  refine tri_ite_err fun _ => tri_ite_err fun _ => tri_vbiOf (fun hg => by omega) fun hv =>
    tri_ok ⟨by omega, fun hpw => ?_, hid⟩
  exact size_idFrame hpw 0x90 pid codes hv rfl

theorem Unsubscribe3.parse_tri (pw : Nat) (data : List Nat) :
    Tri (data.length ≤ vbiMax) (Unsubscribe3.parse pw data)
      (fun p c => c ≤ data.length ∧ (pw = 2 ∨ pw = 4 → p.size = (p.encode pw).length) ∧ (isBytes data → IdIn pw p.pid)) := by
  unfold Unsubscribe3.parse
  refine tri_bind (parseIdFront_sat _ pw data).tri fun pid c ⟨h1, h2, hid⟩ => ?_
  refine tri_sliceFrom (by omega) fun rest hr => ?_
  refine tri_bind (topicsLoop_sat rest.length rest (Nat.le_refl _)).tri fun ts c2 ⟨h3, h4⟩ => ?_
  refine tri_ite_err fun _ => tri_vbiOf (fun hg => by omega) fun hv => tri_ok ⟨by omega, fun hpw => ?_, hid⟩
  exact size_idFrame hpw 0xa2 pid _ hv (by rw [topicsEncode_length])

theorem Unsuback3.parse_tri (pw : Nat) (data : List Nat) :
    Tri (pw ≤ vbiMax) (Unsuback3.parse pw data)
      (fun p c => c ≤ data.length ∧ (pw = 2 ∨ pw = 4 → p.size = (p.encode pw).length) ∧ (isBytes data → IdIn pw p.pid)) := by
  unfold Unsuback3.parse
  refine tri_bind (parseIdFront_sat _ pw data).tri fun pid c ⟨h1, h2, hid⟩ => tri_vbiOf (fun hg => hg) fun hv =>
    tri_ok ⟨by omega, fun hpw => ?_, hid⟩
  exact size_of_frame 0xb0 pw (encId pw pid) hv (encId_length pw _ hpw)

theorem Subscribe5.parse_tri (pw : Nat) (data : List Nat) :
    Tri (data.length ≤ vbiMax) (Subscribe5.parse pw data)
      (fun p c => c ≤ data.length ∧ (pw = 2 ∨ pw = 4 → p.size = (p.encode pw).length) ∧ (isBytes data → IdIn pw p.pid)) := by
  unfold Subscribe5.parse
  refine tri_idProps fun pid pp pc rest hid hr hp => ?_
  refine tri_bind (entriesLoop_sat rest.length rest (Nat.le_refl _)).tri fun es c2 ⟨h5, h6⟩ => ?_
  exact tri_ite_err fun _ => tri_ite_err fun _ => tri_vbiOf (fun hg => by omega) fun hv =>
    tri_ok ⟨by omega, fun hpw => size_idPropsFrame hpw 0x82 pid _ hv hp (by rw [entriesEncode_length]), hid⟩

theorem Codes5.parse_tri (rcOk : Nat → Bool) (fh pw : Nat) (data : List Nat) :
    Tri (data.length ≤ vbiMax) (Codes5.parse rcOk pw data)
      (fun p c => c ≤ data.length ∧ (pw = 2 ∨ pw = 4 → p.size = (p.encode fh pw).length) ∧ (isBytes data → IdIn pw p.pid)) := by
  unfold Codes5.parse
  refine tri_idProps fun pid pp pc codes hid hr hp => ?_
  exact tri_ite_err fun _ => tri_ite_err fun _ => tri_vbiOf (fun hg => by omega) fun hv =>
    tri_ok ⟨by omega, fun hpw => size_idPropsFrame hpw fh pid codes hv hp rfl, hid⟩

theorem Unsubscribe5.parse_tri (pw : Nat) (data : List Nat) :
    Tri (data.length ≤ vbiMax) (Unsubscribe5.parse pw data)
      (fun p c => c ≤ data.length ∧ (pw = 2 ∨ pw = 4 → p.size = (p.encode pw).length) ∧ (isBytes data → IdIn pw p.pid)) := by
  unfold Unsubscribe5.parse
  refine tri_idProps fun pid pp pc rest hid hr hp => ?_
  refine tri_bind (topicsLoop_sat rest.length rest (Nat.le_refl _)).tri fun ts c2 ⟨h5, h6⟩ => ?_
  exact tri_ite_err fun _ => tri_ite_err fun _ => tri_vbiOf (fun hg => by omega) fun hv =>
    tri_ok ⟨by omega, fun hpw => size_idPropsFrame hpw 0xa2 pid _ hv hp (by rw [topicsEncode_length]), hid⟩

theorem Empty.parse_tri (fh : Nat) (data : List Nat) :
    Tri True (Empty.parse data) (fun p c => c ≤ data.length ∧ p.size = (p.encode fh).length) :=
  tri_ok ⟨Nat.zero_le _, size_of_frame fh 0 [] (by decide) rfl⟩

/-! ### the sum type -/

/-- what holds of the result of each of the 29 parsers holds of whatever `Packet.parse` selects
    (the flag: a v5.0 parser was selected) -/
theorem Packet.parse_cases {version pw fh : Nat} {body : List Nat} {r : PRes Packet} {Q : Bool → PRes Packet → Prop}
    (h : Packet.parse version pw fh body = some r)
    (connect5 : Q true ((Connect5.parse body).map .connect5)) (connack5 : Q true ((Connack5.parse body).map .connack5))
    (publish5 : Q true ((Publish5.parse pw (fh % 16) body).map .publish5))
    (puback5 : Q true ((Ack5.parse .puback pw body).map .puback5)) (pubrec5 : Q true ((Ack5.parse .pubrec pw body).map .pubrec5))
    (pubrel5 : Q true ((Ack5.parse .pubrel pw body).map .pubrel5)) (pubcomp5 : Q true ((Ack5.parse .pubcomp pw body).map .pubcomp5))
    (subscribe5 : Q true ((Subscribe5.parse pw body).map .subscribe5))
    (suback5 : Q true ((Codes5.parse subackRc5Ok pw body).map .suback5))
    (unsubscribe5 : Q true ((Unsubscribe5.parse pw body).map .unsubscribe5))
    (unsuback5 : Q true ((Codes5.parse unsubackRc5Ok pw body).map .unsuback5))
    (pingreq5 : Q true ((Empty.parse body).map .pingreq5)) (pingresp5 : Q true ((Empty.parse body).map .pingresp5))
    (disconnect5 : Q true ((Disconnect5.parse body).map .disconnect5)) (auth5 : Q true ((Auth5.parse body).map .auth5))
    (connect3 : Q false ((Connect3.parse body).map .connect3)) (connack3 : Q false ((Connack3.parse body).map .connack3))
    (publish3 : Q false ((Publish3.parse pw (fh % 16) body).map .publish3))
    (puback3 : Q false ((Ack3.parse .puback pw body).map .puback3)) (pubrec3 : Q false ((Ack3.parse .pubrec pw body).map .pubrec3))
    (pubrel3 : Q false ((Ack3.parse .pubrel pw body).map .pubrel3)) (pubcomp3 : Q false ((Ack3.parse .pubcomp pw body).map .pubcomp3))
    (subscribe3 : Q false ((Subscribe3.parse pw body).map .subscribe3)) (suback3 : Q false ((Suback3.parse pw body).map .suback3))
    (unsubscribe3 : Q false ((Unsubscribe3.parse pw body).map .unsubscribe3))
    (unsuback3 : Q false ((Unsuback3.parse pw body).map .unsuback3))
    (pingreq3 : Q false ((Empty.parse body).map .pingreq3)) (pingresp3 : Q false ((Empty.parse body).map .pingresp3))
    (disconnect3 : Q false ((Empty.parse body).map .disconnect3)) : Q (decide (version = 5)) r := by
  unfold Packet.parse at h
  simp only at h
  -- the branch that selects no parser is closed by `cases h`; the goals that remain are in the order of the premises
  split at h
  · rw [decide_eq_true ‹version = 5›]
    split at h <;> cases h
    exact connect5
    exact connack5
    exact publish5
    exact puback5
    exact pubrec5
    exact pubrel5
    exact pubcomp5
    exact subscribe5
    exact suback5
    exact unsubscribe5
    exact unsuback5
    exact pingreq5
    exact pingresp5
    exact disconnect5
    exact auth5
  · rw [decide_eq_false ‹¬ version = 5›]
    split at h <;> cases h
    exact connect3
    exact connack3
    exact publish3
    exact puback3
    exact pubrec3
    exact pubrel3
    exact pubcomp3
    exact subscribe3
    exact suback3
    exact unsubscribe3
    exact unsuback3
    exact pingreq3
    exact pingresp3
    exact disconnect3

end MqttVerif.Codec
