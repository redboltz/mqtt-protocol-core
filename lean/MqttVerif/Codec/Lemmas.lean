import MqttVerif.Codec.Wf
/-!
Hoare-style rules for the parsers (C04).

`Sat x Q` : the parser result `x` is not a panic and, if it is `ok a c`, then `Q a c`.
Each Rust index / slice / unwrap site (`idx`, `slice`, `sliceFrom`, `vbiOf`, `usub`) has a rule
whose premise is the guard that makes the site safe.
`Post x Q` is the partial-correctness half (`x = ok a c → Q a c`); `Tri g x Q` is `Post x Q` together with
"no panic provided `g`", for the parsers whose `from_u32(..).unwrap()` is safe only for bodies the framing layer delivers.
-/
namespace MqttVerif.Codec

def Sat {α : Type} (x : PRes α) (Q : α → Nat → Prop) : Prop :=
  match x with
  | .ok a c => Q a c
  | .err _ => True
  | .panic _ => False

@[simp] theorem sat_ok {α : Type} (a : α) (c : Nat) (Q : α → Nat → Prop) : Sat (.ok a c) Q ↔ Q a c := Iff.rfl
@[simp] theorem sat_err {α : Type} (e : Err) (Q : α → Nat → Prop) : Sat (.err e : PRes α) Q ↔ True := Iff.rfl
@[simp] theorem sat_panic {α : Type} (s : String) (Q : α → Nat → Prop) : Sat (.panic s : PRes α) Q ↔ False := Iff.rfl

theorem Sat.noPanic {α : Type} {x : PRes α} {Q : α → Nat → Prop} (h : Sat x Q) : ∀ s, x ≠ .panic s := by
  intro s e; subst e; exact h

theorem Sat.post {α : Type} {x : PRes α} {Q : α → Nat → Prop} (h : Sat x Q) : ∀ a c, x = .ok a c → Q a c := by
  intro a c e; subst e; exact h

theorem Sat.mono {α : Type} {x : PRes α} {P Q : α → Nat → Prop} (h : Sat x P) (hpq : ∀ a c, P a c → Q a c) :
    Sat x Q := by
  cases x with
  | ok a c => exact hpq a c h
  | err e => trivial
  | panic s => exact h

theorem sat_bind {α β : Type} {x : PRes α} {f : α → Nat → PRes β} {P : α → Nat → Prop} {Q : β → Nat → Prop}
    (hx : Sat x P) (hf : ∀ a c, P a c → Sat (f a c) Q) : Sat (x.bind f) Q := by
  cases x with
  | ok a c => exact hf a c hx
  | err e => trivial
  | panic s => exact hx

theorem sat_mapErr {α : Type} {x : PRes α} {e : Err} {Q : α → Nat → Prop} (h : Sat x Q) : Sat (x.mapErr e) Q := by
  cases x with
  | ok a c => exact h
  | err e => trivial
  | panic s => exact h

theorem sat_ite_err {α : Type} {c : Prop} [Decidable c] {e : Err} {x : PRes α} {Q : α → Nat → Prop}
    (h : ¬ c → Sat x Q) : Sat (if c then .err e else x) Q := by
  by_cases hc : c
  · rw [if_pos hc]; trivial
  · rw [if_neg hc]; exact h hc

theorem sat_ite {α : Type} {c : Prop} [Decidable c] {x y : PRes α} {Q : α → Nat → Prop}
    (ht : c → Sat x Q) (he : ¬ c → Sat y Q) : Sat (if c then x else y) Q := by
  by_cases hc : c
  · rw [if_pos hc]; exact ht hc
  · rw [if_neg hc]; exact he hc

theorem sat_optErr {α : Type} {o : Option Err} {x : PRes α} {Q : α → Nat → Prop} (h : o = none → Sat x Q) :
    Sat (match o with | some e => .err e | none => x) Q := by
  cases o with
  | none => exact h rfl
  | some e => trivial

theorem sat_idx {α : Type} {site : String} {data : List Nat} {i : Nat} {k : Nat → PRes α} {Q : α → Nat → Prop}
    (hi : i < data.length) (hk : ∀ b, Sat (k b) Q) : Sat (idx site data i k) Q := by
  unfold idx
  rw [List.getElem?_eq_getElem hi]
  exact hk _

theorem sat_sliceFrom {α : Type} {site : String} {data : List Nat} {a : Nat} {k : List Nat → PRes α}
    {Q : α → Nat → Prop} (ha : a ≤ data.length) (hk : ∀ d, d.length = data.length - a → Sat (k d) Q) :
    Sat (sliceFrom site data a k) Q := by
  unfold sliceFrom
  rw [if_pos ha]
  exact hk _ (by simp)

theorem sat_slice {α : Type} {site : String} {data : List Nat} {a b : Nat} {k : List Nat → PRes α}
    {Q : α → Nat → Prop} (hab : a ≤ b) (hb : b ≤ data.length)
    (hk : ∀ d, d.length = b - a → (∀ x ∈ d, x ∈ data) → Sat (k d) Q) : Sat (slice site data a b k) Q := by
  unfold slice
  rw [if_pos ⟨hab, hb⟩]
  exact hk _ (by simp; omega) (fun x hx => List.mem_of_mem_drop (List.mem_of_mem_take hx))

theorem sat_vbiOf {α : Type} {site : String} {n : Nat} {k : Nat → PRes α} {Q : α → Nat → Prop}
    (hn : n ≤ vbiMax) (hk : Sat (k n) Q) : Sat (vbiOf site n k) Q := by
  unfold vbiOf
  rw [if_pos hn]
  exact hk

/-! The rules of `Tri` are those of `Sat`; only the `from_u32(..).unwrap()` sites (`vbiOf`) may rely on `g`. -/

def Tri {α : Type} (g : Prop) (x : PRes α) (Q : α → Nat → Prop) : Prop :=
  match x with
  | .ok a c => Q a c
  | .err _ => True
  | .panic _ => ¬ g

theorem tri_ok {α : Type} {g : Prop} {a : α} {c : Nat} {Q : α → Nat → Prop} (h : Q a c) : Tri g (.ok a c) Q := h

theorem Sat.tri {α : Type} {g : Prop} {x : PRes α} {Q : α → Nat → Prop} (h : Sat x Q) : Tri g x Q := by
  cases x with
  | ok a c => exact h
  | err e => trivial
  | panic s => exact h.elim

theorem Tri.sat {α : Type} {g : Prop} {x : PRes α} {Q : α → Nat → Prop} (h : Tri g x Q) (hg : g) : Sat x Q := by
  cases x with
  | ok a c => exact h
  | err e => trivial
  | panic s => exact h hg

theorem Tri.post {α : Type} {g : Prop} {x : PRes α} {Q : α → Nat → Prop} (h : Tri g x Q) :
    ∀ a c, x = .ok a c → Q a c := by
  intro a c e; subst e; exact h

theorem Tri.mono {α : Type} {g : Prop} {x : PRes α} {P Q : α → Nat → Prop} (h : Tri g x P) (hpq : ∀ a c, P a c → Q a c) :
    Tri g x Q := by
  cases x with
  | ok a c => exact hpq a c h
  | err e => trivial
  | panic s => exact h

theorem Tri.map {α β : Type} {g g' : Prop} {x : PRes α} {f : α → β} {P : α → Nat → Prop} {Q : β → Nat → Prop}
    (hx : Tri g x P) (hg : g' → g) (hf : ∀ a c, P a c → Q (f a) c) : Tri g' (x.map f) Q := by
  cases x with
  | ok a c => exact hf a c hx
  | err e => trivial
  | panic s => exact fun h => hx (hg h)

theorem tri_bind {α β : Type} {g : Prop} {x : PRes α} {f : α → Nat → PRes β} {P : α → Nat → Prop}
    {Q : β → Nat → Prop} (hx : Tri g x P) (hf : ∀ a c, P a c → Tri g (f a c) Q) : Tri g (x.bind f) Q := by
  cases x with
  | ok a c => exact hf a c hx
  | err e => trivial
  | panic s => exact hx

theorem tri_ite_err {α : Type} {g c : Prop} [Decidable c] {e : Err} {x : PRes α} {Q : α → Nat → Prop}
    (h : ¬ c → Tri g x Q) : Tri g (if c then .err e else x) Q := by
  by_cases hc : c
  · rw [if_pos hc]; trivial
  · rw [if_neg hc]; exact h hc

theorem tri_ite {α : Type} {g c : Prop} [Decidable c] {x y : PRes α} {Q : α → Nat → Prop}
    (ht : c → Tri g x Q) (he : ¬ c → Tri g y Q) : Tri g (if c then x else y) Q := by
  by_cases hc : c
  · rw [if_pos hc]; exact ht hc
  · rw [if_neg hc]; exact he hc

theorem tri_optErr {α : Type} {g : Prop} {o : Option Err} {x : PRes α} {Q : α → Nat → Prop}
    (h : o = none → Tri g x Q) : Tri g (match o with | some e => .err e | none => x) Q := by
  cases o with
  | none => exact h rfl
  | some e => trivial

theorem tri_idx {α : Type} {g : Prop} {site : String} {data : List Nat} {i : Nat} {k : Nat → PRes α}
    {Q : α → Nat → Prop} (hi : i < data.length) (hk : ∀ b, Tri g (k b) Q) : Tri g (idx site data i k) Q := by
  unfold idx
  rw [List.getElem?_eq_getElem hi]
  exact hk _

theorem tri_sliceFrom {α : Type} {g : Prop} {site : String} {data : List Nat} {a : Nat} {k : List Nat → PRes α}
    {Q : α → Nat → Prop} (ha : a ≤ data.length) (hk : ∀ d, d.length = data.length - a → Tri g (k d) Q) :
    Tri g (sliceFrom site data a k) Q := by
  unfold sliceFrom
  rw [if_pos ha]
  exact hk _ (by simp)

theorem tri_slice {α : Type} {g : Prop} {site : String} {data : List Nat} {a b : Nat} {k : List Nat → PRes α}
    {Q : α → Nat → Prop} (hab : a ≤ b) (hb : b ≤ data.length)
    (hk : ∀ d, d.length = b - a → (∀ x ∈ d, x ∈ data) → Tri g (k d) Q) : Tri g (slice site data a b k) Q := by
  unfold slice
  rw [if_pos ⟨hab, hb⟩]
  exact hk _ (by simp; omega) (fun x hx => List.mem_of_mem_drop (List.mem_of_mem_take hx))

theorem tri_usub {α : Type} {g : Prop} {site : String} {a b : Nat} {k : Nat → PRes α} {Q : α → Nat → Prop}
    (hb : b ≤ a) (hk : Tri g (k (a - b)) Q) : Tri g (usub site a b k) Q := by
  unfold usub
  rw [if_pos hb]
  exact hk

theorem tri_vbiOf {α : Type} {g : Prop} {site : String} {n : Nat} {k : Nat → PRes α} {Q : α → Nat → Prop}
    (hn : g → n ≤ vbiMax) (hk : n ≤ vbiMax → Tri g (k n) Q) : Tri g (vbiOf site n k) Q := by
  unfold vbiOf
  by_cases h : n ≤ vbiMax
  · rw [if_pos h]; exact hk h
  · rw [if_neg h]; exact fun hg => h (hn hg)

/-! ### VariableByteInteger -/

theorem vbiSize_pos (v : Nat) : 1 ≤ vbiSize v := by unfold vbiSize; split <;> (try split) <;> (try split) <;> omega
theorem vbiSize_le (v : Nat) : vbiSize v ≤ 4 := by unfold vbiSize; split <;> (try split) <;> (try split) <;> omega
theorem vbiSize_mono {a b : Nat} (h : a ≤ b) : vbiSize a ≤ vbiSize b := by
  unfold vbiSize
  repeat' split
  all_goals omega

/-- postcondition of `decode_stream`; `vbiSize v = c` is the rejection of non-minimal encodings -/
def VRes.Post (r : VRes) (len : Nat) : Prop :=
  match r with
  | .ok v c => v ≤ vbiMax ∧ vbiSize v = c ∧ c ≤ len ∧ c ≤ 4
  | _ => True

theorem vbiDecAux_post (fuel : Nat) (buf : List Nat) (mult value i len : Nat)
    (hf : i + fuel = 4) (hl : i + buf.length ≤ len) :
    (vbiDecAux fuel buf mult value i len).Post len := by
  induction fuel generalizing buf mult value i with
  | zero => unfold vbiDecAux; split <;> trivial
  | succ fuel ih =>
    cases buf with
    | nil => unfold vbiDecAux; split <;> trivial
    | cons b rest =>
      unfold vbiDecAux
      simp only
      simp only [List.length_cons] at hl
      split
      · trivial
      · rename_i hle
        split
        · split
          · rename_i hs
            exact ⟨by omega, hs, by omega, by omega⟩
          · trivial
        · exact ih rest (mult * 128) _ (i + 1) (by omega) (by omega)

theorem vbiDec_post (buf : List Nat) : (vbiDec buf).Post buf.length := by
  unfold vbiDec
  exact vbiDecAux_post 4 buf 1 0 0 buf.length (by omega) (by omega)

theorem vbiDec_ok {buf : List Nat} {v c : Nat} (h : vbiDec buf = .ok v c) :
    v ≤ vbiMax ∧ vbiSize v = c ∧ c ≤ buf.length ∧ c ≤ 4 := by
  have := vbiDec_post buf
  rw [h] at this
  exact this

theorem vbiEncAux_last (fuel v : Nat) (h : v < 128) : vbiEncAux (fuel + 1) v = [v] := by
  rw [vbiEncAux, if_neg (by omega), Nat.mod_eq_of_lt h]

theorem vbiEncAux_more (fuel v : Nat) (h : 128 ≤ v) :
    vbiEncAux (fuel + 1) v = (v % 128 + 128) :: vbiEncAux fuel (v / 128) := by
  rw [vbiEncAux, if_pos (by omega)]

theorem vbiEnc_eq (v : Nat) (hv : v ≤ vbiMax) :
    vbiEnc v =
      if v < 128 then [v]
      else if v < 16384 then [v % 128 + 128, v / 128]
      else if v < 2097152 then [v % 128 + 128, v / 128 % 128 + 128, v / 128 / 128]
      else [v % 128 + 128, v / 128 % 128 + 128, v / 128 / 128 % 128 + 128, v / 128 / 128 / 128] := by
  unfold vbiMax at hv
  unfold vbiEnc
  split
  · rw [vbiEncAux_last _ _ ‹_›]
  rw [vbiEncAux_more _ _ (by omega)]
  split
  · rw [vbiEncAux_last _ _ (by omega)]
  rw [vbiEncAux_more _ _ (by omega)]
  split
  · rw [vbiEncAux_last _ _ (by omega)]
  rw [vbiEncAux_more _ _ (by omega), vbiEncAux_last _ _ (by omega)]

theorem vbiEnc_length (v : Nat) (hv : v ≤ vbiMax) : (vbiEnc v).length = vbiSize v := by
  rw [vbiEnc_eq v hv]
  unfold vbiSize
  split
  · rfl
  split
  · rfl
  split <;> rfl

/-! ### MqttString / MqttBinary -/

theorem encStr_length (s : List Nat) : (encStr s).length = strSize s := by
  simp [encStr, strSize]; omega

theorem decBin_sat (data : List Nat) :
    Sat (decBin data) (fun s c => c = 2 + s.length ∧ c ≤ data.length) := by
  unfold decBin
  refine sat_ite_err fun _ => sat_idx (by omega) fun b0 => sat_idx (by omega) fun b1 => sat_ite_err fun _ => ?_
  refine sat_slice (by omega) (by omega) fun d hd _ => ?_
  rw [sat_ok]
  omega

theorem decStr_sat (data : List Nat) :
    Sat (decStr data) (fun s c => c = 2 + s.length ∧ c ≤ data.length ∧ utf8Ok s = true) := by
  unfold decStr
  refine sat_ite_err fun _ => sat_idx (by omega) fun b0 => sat_idx (by omega) fun b1 => sat_ite_err fun _ => ?_
  refine sat_slice (by omega) (by omega) fun d hd _ => sat_ite (fun hu => ?_) fun _ => trivial
  rw [sat_ok]
  exact ⟨by omega, by omega, hu⟩

theorem SubEntry.parse_sat (data : List Nat) :
    Sat (SubEntry.parse data) (fun e c => c = e.size ∧ c ≤ data.length ∧ utf8Ok e.topic = true) := by
  unfold SubEntry.parse
  refine sat_sliceFrom (by omega) fun d hd => sat_bind (decStr_sat d) fun topic c ⟨hc, hle, hu⟩ => ?_
  refine sat_ite_err fun _ => sat_idx (by omega) fun o => sat_ite (fun _ => ?_) fun _ => trivial
  rw [sat_ok]
  exact ⟨by simp only [SubEntry.size, strSize]; omega, by omega, hu⟩

/-! ### Property / Properties

Besides the bytes consumed, a parsed property re-encodes to its reported size and has passed the value validator of its
kind. -/

/-- the value validators of `Property::parse` -/
def Property.valid : Property → Prop
  | .u16 id v => (id = 33 ∨ id = 35) → v ≠ 0
  | .u32 id v => id = 39 → v ≠ 0
  | .vbi id v => id = 11 → v ≠ 0
  | _ => True

def Property.Parsed (p : Property) : Prop := p.encode.length = p.size ∧ p.valid

/-- a property's size is the length of its encoding; of its value only the range of a variable byte integer matters -/
theorem Property.encode_length_of (p : Property) (h : ∀ id v, p = .vbi id v → v ≤ vbiMax) : p.encode.length = p.size := by
  cases p with
  | u8 id v => rfl
  | u16 id v => rfl
  | u32 id v => rfl
  | vbi id v => simp only [Property.encode, Property.size, List.length_cons, vbiEnc_length v (h id v rfl)]; omega
  | str id s => simp only [Property.encode, Property.size, List.length_cons, encStr_length]; omega
  | bin id b => simp only [Property.encode, Property.size, List.length_cons, encStr_length]; omega
  | pair id k v => simp only [Property.encode, Property.size, List.length_cons, List.length_append, encStr_length]; omega

theorem parseVbi_sat (id : Nat) (bytes : List Nat) :
    Sat (parseVbi id bytes) (fun p c => p.size = c + 1 ∧ c ≤ bytes.length ∧ 1 ≤ c ∧ p.Parsed) := by
  unfold parseVbi
  split
  · rename_i v len h
    obtain ⟨hm, hs, hl, _⟩ := vbiDec_ok h
    have := vbiSize_pos v
    refine sat_ite (fun hv => ?_) fun _ => trivial
    rw [sat_ok]
    refine ⟨by simp only [Property.size]; omega, hl, by omega, Property.encode_length_of _ fun _ _ e => by cases e; exact hm,
      fun hid => ?_⟩
    simp only [validVbi, hid, if_true, bne_iff_ne, ne_eq] at hv
    exact hv
  · trivial
  · trivial

theorem parseU8_sat (id : Nat) (rest : List Nat) :
    Sat (parseU8 id rest) (fun p c => p.size = c + 1 ∧ c ≤ rest.length ∧ 1 ≤ c ∧ p.Parsed) := by
  unfold parseU8
  refine sat_ite_err fun _ => sat_idx (by omega) fun v => sat_ite (fun _ => ?_) fun _ => trivial
  rw [sat_ok]
  exact ⟨rfl, by omega, Nat.le_refl _, rfl, trivial⟩

theorem parseU16_sat (id : Nat) (rest : List Nat) :
    Sat (parseU16 id rest) (fun p c => p.size = c + 1 ∧ c ≤ rest.length ∧ 1 ≤ c ∧ p.Parsed) := by
  unfold parseU16
  refine sat_ite_err fun _ => sat_idx (by omega) fun b0 => sat_idx (by omega) fun b1 =>
    sat_ite (fun hv => ?_) fun _ => trivial
  rw [sat_ok]
  refine ⟨rfl, by omega, by omega, rfl, fun hid => ?_⟩
  simp only [validU16, hid, if_true, bne_iff_ne, ne_eq] at hv
  exact hv

theorem parseU32_sat (id : Nat) (rest : List Nat) :
    Sat (parseU32 id rest) (fun p c => p.size = c + 1 ∧ c ≤ rest.length ∧ 1 ≤ c ∧ p.Parsed) := by
  unfold parseU32
  refine sat_ite_err fun _ => sat_idx (by omega) fun b0 => sat_idx (by omega) fun b1 =>
    sat_idx (by omega) fun b2 => sat_idx (by omega) fun b3 => sat_ite (fun hv => ?_) fun _ => trivial
  rw [sat_ok]
  refine ⟨rfl, by omega, by omega, rfl, fun hid => ?_⟩
  simp only [validU32, hid, if_true, bne_iff_ne, ne_eq] at hv
  exact hv

theorem parsePStr_sat (id : Nat) (rest : List Nat) :
    Sat (parsePStr id rest) (fun p c => p.size = c + 1 ∧ c ≤ rest.length ∧ 1 ≤ c ∧ p.Parsed) := by
  unfold parsePStr
  refine sat_bind (decStr_sat rest) fun s c ⟨h1, h2, _⟩ => ?_
  rw [sat_ok]
  exact ⟨by simp only [Property.size, strSize]; omega, h2, by omega, Property.encode_length_of _ nofun, trivial⟩

theorem parsePBin_sat (id : Nat) (rest : List Nat) :
    Sat (parsePBin id rest) (fun p c => p.size = c + 1 ∧ c ≤ rest.length ∧ 1 ≤ c ∧ p.Parsed) := by
  unfold parsePBin
  refine sat_bind (decBin_sat rest) fun s c ⟨h1, h2⟩ => ?_
  rw [sat_ok]
  exact ⟨by simp only [Property.size, strSize]; omega, h2, by omega, Property.encode_length_of _ nofun, trivial⟩

theorem parsePair_sat (id : Nat) (rest : List Nat) :
    Sat (parsePair id rest) (fun p c => p.size = c + 1 ∧ c ≤ rest.length ∧ 1 ≤ c ∧ p.Parsed) := by
  unfold parsePair
  refine sat_bind (decStr_sat rest) fun k kc ⟨h1, h2, _⟩ => ?_
  refine sat_sliceFrom (by omega) fun d hd => ?_
  refine sat_bind (decStr_sat d) fun v vc ⟨h3, h4, _⟩ => ?_
  rw [sat_ok]
  exact ⟨by simp only [Property.size, strSize]; omega, by omega, by omega, Property.encode_length_of _ nofun, trivial⟩

theorem Property.parse_sat (bytes : List Nat) :
    Sat (Property.parse bytes) (fun p c => p.size = c ∧ c ≤ bytes.length ∧ 1 ≤ c ∧ p.Parsed) := by
  unfold Property.parse
  refine sat_ite_err fun hne => ?_
  have hpos : 0 < bytes.length := by
    cases bytes with
    | nil => simp at hne
    | cons _ _ => simp
  refine sat_idx hpos fun id => ?_
  split
  · trivial
  · rename_i sh _
    refine sat_sliceFrom (by omega) fun rest hr => ?_
    refine sat_bind (P := fun p c => p.size = c + 1 ∧ c ≤ rest.length ∧ 1 ≤ c ∧ p.Parsed) ?_ fun p c ⟨h1, h2, h3, h4⟩ => ?_
    · cases sh
      · exact parseU8_sat id rest
      · exact parseU16_sat id rest
      · exact parseU32_sat id rest
      · exact parseVbi_sat id rest
      · exact parsePStr_sat id rest
      · exact parsePBin_sat id rest
      · exact parsePair_sat id rest
    · rw [sat_ok]
      exact ⟨h1, by omega, by omega, h4⟩

theorem Props.size_cons (p : Property) (ps : Props) : Props.size (p :: ps) = p.size + Props.size ps := by
  simp [Props.size]

theorem Props.encode_cons (p : Property) (ps : Props) : Props.encode (p :: ps) = p.encode ++ Props.encode ps := by
  simp [Props.encode]


def propsValid (ps : Props) : Prop := ∀ p ∈ ps, p.valid

def Props.Parsed (ps : Props) : Prop := (Props.encode ps).length = ps.size ∧ propsValid ps

theorem Props.parsed_nil : Props.Parsed [] := ⟨rfl, fun _ h => nomatch h⟩

theorem Props.encode_length_of {ps : Props} (h : ∀ p ∈ ps, p.encode.length = p.size) : (Props.encode ps).length = ps.size := by
  induction ps with
  | nil => rfl
  | cons p ps ih =>
    rw [Props.encode_cons, List.length_append, Props.size_cons, h p (List.mem_cons_self ..),
      ih fun q hq => h q (List.mem_cons_of_mem _ hq)]

/-- the shape of the three `while cursor < end { item }` loops of the model (`propsLoop`, `entriesLoop`, `topicsLoop`) -/
def itemsLoop {α : Type} (item : List Nat → PRes α) (site : String) : Nat → List Nat → PRes (List α)
  | 0, rest => if rest.isEmpty then .ok [] 0 else .panic site
  | fuel + 1, rest =>
    if rest.isEmpty then .ok [] 0
    else
      (item rest).bind fun e c =>
      (itemsLoop item site fuel (rest.drop c)).bind fun es c' => .ok (e :: es) (c + c')

theorem propsLoop_eq : propsLoop = itemsLoop Property.parse "Properties::parse:fuel" := by
  funext fuel
  induction fuel with
  | zero => rfl
  | succ fuel ih => funext rest; rw [propsLoop, itemsLoop, ih]

theorem entriesLoop_eq : entriesLoop = itemsLoop SubEntry.parse "subscribe::parse:fuel" := by
  funext fuel
  induction fuel with
  | zero => rfl
  | succ fuel ih => funext rest; rw [entriesLoop, itemsLoop, ih]

theorem topicsLoop_eq : topicsLoop = itemsLoop decStr "unsubscribe::parse:fuel" := by
  funext fuel
  induction fuel with
  | zero => rfl
  | succ fuel ih => funext rest; rw [topicsLoop, itemsLoop, ih]

/-- every item consumes at least one byte, so fuel = length never runs out and the loop consumes all of `rest` -/
theorem itemsLoop_sat {α : Type} {item : List Nat → PRes α} {site : String} {size : α → Nat} {P : α → Prop}
    (hitem : ∀ d, Sat (item d) fun a c => size a = c ∧ c ≤ d.length ∧ 1 ≤ c ∧ P a)
    (fuel : Nat) (rest : List Nat) (hf : rest.length ≤ fuel) :
    Sat (itemsLoop item site fuel rest) fun xs c => (xs.map size).sum = c ∧ c = rest.length ∧ ∀ x ∈ xs, P x := by
  induction fuel generalizing rest with
  | zero =>
    have : rest = [] := List.eq_nil_of_length_eq_zero (by omega)
    subst this
    exact ⟨rfl, rfl, fun _ h => nomatch h⟩
  | succ fuel ih =>
    unfold itemsLoop
    refine sat_ite (fun he => ?_) fun _ => ?_
    · have : rest = [] := by simpa using he
      subst this
      exact ⟨rfl, rfl, fun _ h => nomatch h⟩
    · refine sat_bind (hitem rest) fun a c ⟨h1, h2, h3, hp⟩ => ?_
      refine sat_bind (ih (rest.drop c) (by simp; omega)) fun xs c' ⟨h4, h5, hps⟩ => ?_
      rw [sat_ok, List.map_cons, List.sum_cons]
      simp only [List.length_drop] at h5
      exact ⟨by omega, by omega, fun x hx => (List.mem_cons.1 hx).elim (fun e => e ▸ hp) (hps x)⟩

theorem Props.parsed_of_all {ps : Props} (h : ∀ p ∈ ps, p.Parsed) : Props.Parsed ps :=
  ⟨Props.encode_length_of fun p hp => (h p hp).1, fun p hp => (h p hp).2⟩

theorem propsLoop_sat (fuel : Nat) (region : List Nat) (hf : region.length ≤ fuel) :
    Sat (propsLoop fuel region) (fun ps c => ps.size = c ∧ c = region.length ∧ Props.Parsed ps) := by
  rw [propsLoop_eq]
  exact (itemsLoop_sat Property.parse_sat fuel region hf).mono fun ps c ⟨h1, h2, h3⟩ => ⟨h1, h2, Props.parsed_of_all h3⟩

theorem Props.parse_sat (data : List Nat) :
    Sat (Props.parse data)
      (fun ps c => vbiSize ps.size + ps.size = c ∧ c ≤ data.length ∧ ps.size ≤ vbiMax ∧ 1 ≤ c ∧ Props.Parsed ps) := by
  unfold Props.parse
  refine sat_ite_err fun _ => ?_
  split
  · rename_i v cons h
    obtain ⟨hv, hs, hc, _⟩ := vbiDec_ok h
    have hpos := vbiSize_pos v
    refine sat_ite (fun h0 => ?_) fun _ => sat_ite_err fun _ => ?_
    · subst h0
      rw [sat_ok]
      exact ⟨by simpa [Props.size] using hs, hc, Nat.zero_le _, by omega, Props.parsed_nil⟩
    · refine sat_slice (by omega) (by omega) fun region hr _ => ?_
      refine sat_bind (propsLoop_sat region.length region (Nat.le_refl _)) fun ps c ⟨h1, h2, hp⟩ => ?_
      rw [sat_ok]
      have : ps.size = v := by omega
      rw [this]
      exact ⟨by omega, by omega, hv, by omega, hp⟩
  · trivial

theorem parsePropsAt_sat (site : String) (validate : Props → Option Err) (data : List Nat) (cursor : Nat)
    (hc : cursor ≤ data.length) :
    Sat (parsePropsAt site validate data cursor)
      (fun pp c => vbiSize pp.2 + pp.1.size = c ∧ cursor + c ≤ data.length ∧ pp.2 = pp.1.size ∧ 1 ≤ c
                    ∧ validate pp.1 = none ∧ Props.Parsed pp.1 ∧ pp.2 ≤ vbiMax) := by
  unfold parsePropsAt
  refine sat_sliceFrom hc fun d hd => ?_
  refine sat_bind (Props.parse_sat d) fun ps c ⟨h1, h2, h3, h4, hp⟩ => sat_optErr fun hv => sat_vbiOf h3 ?_
  rw [sat_ok]
  exact ⟨h1, by omega, rfl, h4, hv, hp, h3⟩

theorem entriesSize_cons (e : SubEntry) (es : List SubEntry) : entriesSize (e :: es) = e.size + entriesSize es := by
  simp [entriesSize]
theorem topicsSize_cons (t : List Nat) (ts : List (List Nat)) : topicsSize (t :: ts) = strSize t + topicsSize ts := by
  simp [topicsSize]

theorem entriesLoop_sat (fuel : Nat) (rest : List Nat) (hf : rest.length ≤ fuel) :
    Sat (entriesLoop fuel rest) (fun es c => entriesSize es = c ∧ c ≤ rest.length) := by
  rw [entriesLoop_eq]
  refine (itemsLoop_sat (size := SubEntry.size) (P := fun _ => True) (fun d => ?_) fuel rest hf).mono
    fun es c ⟨h1, h2, _⟩ => ⟨h1, Nat.le_of_eq h2⟩
  exact (SubEntry.parse_sat d).mono fun e c ⟨h1, h2, _⟩ =>
    ⟨h1.symm, h2, by simp only [SubEntry.size, strSize] at h1; omega, trivial⟩

theorem topicsLoop_sat (fuel : Nat) (rest : List Nat) (hf : rest.length ≤ fuel) :
    Sat (topicsLoop fuel rest) (fun ts c => topicsSize ts = c ∧ c ≤ rest.length) := by
  rw [topicsLoop_eq]
  refine (itemsLoop_sat (size := strSize) (P := fun _ => True) (fun d => ?_) fuel rest hf).mono
    fun ts c ⟨h1, h2, _⟩ => ⟨h1, Nat.le_of_eq h2⟩
  exact (decStr_sat d).mono fun t c ⟨h1, h2, _⟩ => ⟨by simp only [strSize]; omega, h2, by omega, trivial⟩

/-! ### packet identifiers: the big-endian value of a slice that is not all zero -/

theorem foldl_be_ne_zero (l : List Nat) (acc : Nat) (h : acc ≠ 0 ∨ allZero l = false) :
    l.foldl (fun a b => a * 256 + b) acc ≠ 0 := by
  induction l generalizing acc with
  | nil =>
    rcases h with h | h
    · exact h
    · simp [allZero] at h
  | cons b t ih =>
    simp only [List.foldl_cons]
    apply ih
    rcases h with h | h
    · left; omega
    · simp only [allZero, List.all_cons, Bool.and_eq_false_iff, beq_eq_false_iff_ne, ne_eq] at h
      rcases h with h | h
      · left; omega
      · right; exact h

theorem foldl_be_lt (l : List Nat) (acc : Nat) (h : ∀ b ∈ l, b < 256) :
    l.foldl (fun a b => a * 256 + b) acc < (acc + 1) * 256 ^ l.length := by
  induction l generalizing acc with
  | nil => simp
  | cons b t ih =>
    simp only [List.foldl_cons, List.length_cons]
    have hb : b < 256 := h b (by simp)
    have := ih (acc * 256 + b) (fun x hx => h x (by simp [hx]))
    have h2 : (acc * 256 + b + 1) * 256 ^ t.length ≤ ((acc + 1) * 256) * 256 ^ t.length :=
      Nat.mul_le_mul_right _ (by omega)
    rw [Nat.pow_succ, Nat.mul_comm (256 ^ t.length) 256, ← Nat.mul_assoc]
    omega

def isBytes (l : List Nat) : Prop := ∀ b ∈ l, b < 256

def IdIn (pw id : Nat) : Prop := 1 ≤ id ∧ id < 256 ^ pw

theorem idIn_of_slice {pw : Nat} {data idb : List Nat} (hl : idb.length = pw) (hm : ∀ x ∈ idb, x ∈ data)
    (hz : ¬ allZero idb = true) (hb : isBytes data) : IdIn pw (beNat idb) := by
  refine ⟨Nat.one_le_iff_ne_zero.2 (foldl_be_ne_zero idb 0 (Or.inr (by simpa using hz))), ?_⟩
  have := foldl_be_lt idb 0 (fun b hbm => hb b (hm b hbm))
  rw [← hl]
  simpa [beNat] using this

/-! ### the check lists of `Wf.lean`, taken apart along `::` and `++` -/

theorem allOk_nl : allOk [] = true := rfl
theorem allOk_cns (n : String) (b : Bool) (cs : List (String × Bool)) : allOk ((n, b) :: cs) = (b && allOk cs) := rfl

theorem allOk_append {a b : List (String × Bool)} : allOk (a ++ b) = true ↔ allOk a = true ∧ allOk b = true := by
  simp [allOk, List.all_append]

theorem validateProps_eq_none {allowed uniq : List Nat} {ps : Props} :
    validateProps allowed uniq ps = none ↔ propsAllowed allowed uniq ps = true := by
  unfold validateProps
  split <;> simp [*]

end MqttVerif.Codec
