import MqttVerif.Framing.Model
/-! For C09: `feed`, which copies the payload in bulk as the Rust loop does, computes what the byte-at-a-time
`feedSpec` computes, and `feedSpec` is `runSpec` up to the first output. -/
set_option linter.unusedSimpArgs false
set_option linter.unusedVariables false
namespace MqttVerif.Framing

/-- a frame with Remaining Length 0 completes in the `remLen` state, so the payload state always expects a byte -/
def Inv (pb : PB) : Prop := pb.st = .payload → 0 < pb.remaining

theorem inv_reset : Inv PB.reset := by intro h; simp [PB.reset] at h

/-- the seven ways `stepByte` consumes a byte, each with what it knows of the state -/
theorem stepByte_cases {pb : PB} {b : Nat} {Q : PB × Option Out → Prop}
    (header : pb.st = .fixedHeader → Q ({ pb with header := pb.header ++ [b], st := .remLen }, none))
    (long : pb.st = .remLen → Q (PB.reset, some .error))
    (empty : pb.st = .remLen → Q (PB.reset, some (.complete (pb.header.headD 0) [])))
    (lenEnd : pb.st = .remLen → pb.remaining + b % 128 * pb.mult ≠ 0 →
      Q ({ pb with header := pb.header ++ [b], remaining := pb.remaining + b % 128 * pb.mult, mult := pb.mult * 128,
                   buf := [], st := .payload }, none))
    (lenMore : pb.st = .remLen →
      Q ({ pb with header := pb.header ++ [b], remaining := pb.remaining + b % 128 * pb.mult, mult := pb.mult * 128 }, none))
    (last : pb.st = .payload → Q (PB.reset, some (.complete (pb.header.headD 0) (pb.buf ++ [b]))))
    (more : pb.st = .payload → pb.remaining ≠ 1 →
      Q ({ pb with buf := pb.buf ++ [b], remaining := pb.remaining - 1 }, none)) :
    Q (stepByte pb b) := by
  obtain ⟨st, hd, rem, mult, buf⟩ := pb
  unfold stepByte
  cases st with
  | fixedHeader => exact header rfl
  | remLen =>
    dsimp only
    split
    · exact long rfl
    · split
      · split
        · exact empty rfl
        · exact lenEnd rfl ‹_›
      · exact lenMore rfl
  | payload =>
    dsimp only
    split
    · exact last rfl
    · exact more rfl ‹_›

theorem stepByte_inv (pb : PB) (b : Nat) (h : Inv pb) : Inv (stepByte pb b).1 :=
  stepByte_cases (Q := fun r => Inv r.1) (fun _ h' => nomatch h') (fun _ => inv_reset) (fun _ => inv_reset)
    (fun _ hz _ => Nat.pos_of_ne_zero hz) (fun hst h' => nomatch hst.symm.trans h') (fun _ => inv_reset)
    fun hst h1 _ => by have := h hst; show 0 < pb.remaining - 1; omega

theorem stepByte_out_reset (pb : PB) (b : Nat) (h : (stepByte pb b).2 ≠ none) : (stepByte pb b).1 = PB.reset := by
  revert h
  exact stepByte_cases (Q := fun r => r.2 ≠ none → r.1 = PB.reset) (fun _ h => absurd rfl h) (fun _ _ => rfl) (fun _ _ => rfl)
    (fun _ _ h => absurd rfl h) (fun _ h => absurd rfl h) (fun _ _ => rfl) (fun _ _ h => absurd rfl h)

theorem runSpec_inv (pb : PB) (inp : List Nat) (h : Inv pb) : Inv (runSpec pb inp).1 := by
  induction inp generalizing pb with
  | nil => exact h
  | cons b rest ih =>
    have hi := stepByte_inv pb b h
    rw [runSpec]
    cases hs : stepByte pb b with
    | mk pb' o =>
      rw [hs] at hi
      cases o with
      | none => exact ih pb' hi
      | some o => exact ih pb' hi

theorem runSpec_append (pb : PB) (a b : List Nat) :
    runSpec pb (a ++ b) =
      ((runSpec (runSpec pb a).1 b).1, (runSpec pb a).2 ++ (runSpec (runSpec pb a).1 b).2) := by
  induction a generalizing pb with
  | nil => simp [runSpec]
  | cons x xs ih =>
    simp only [List.cons_append, runSpec]
    cases h : stepByte pb x with
    | mk pb' o =>
      cases o with
      | none => simp only [ih]
      | some o => simp only [ih, List.cons_append]

theorem feedSpec_payload_partial (n : Nat) (pb : PB) (inp : List Nat)
    (hst : pb.st = .payload) (hn : n ≤ inp.length) (hr : n < pb.remaining) :
    feedSpec pb inp =
      feedSpec { pb with buf := pb.buf ++ inp.take n, remaining := pb.remaining - n } (inp.drop n) := by
  induction n generalizing pb inp with
  | zero => simp
  | succ k ih =>
    cases inp with
    | nil => simp at hn
    | cons b rest =>
      have h1 : pb.remaining ≠ 1 := by omega
      rw [feedSpec]
      simp only [stepByte, hst, h1, if_false]
      rw [ih _ rest rfl (by simpa using hn) (by simp; omega)]
      simp only [List.take_succ_cons, List.drop_succ_cons, List.append_assoc, List.singleton_append]
      congr 2
      omega

theorem feedSpec_payload_complete (pb : PB) (inp : List Nat)
    (hst : pb.st = .payload) (hr : 0 < pb.remaining) (hn : pb.remaining ≤ inp.length) :
    feedSpec pb inp =
      (PB.reset, some (.complete (pb.header.headD 0) (pb.buf ++ inp.take pb.remaining)),
       inp.drop pb.remaining) := by
  have hk : pb.remaining - 1 < pb.remaining := by omega
  rw [feedSpec_payload_partial (pb.remaining - 1) pb inp hst (by omega) hk]
  have hlen : (inp.drop (pb.remaining - 1)).length ≥ 1 := by simp; omega
  cases hd : inp.drop (pb.remaining - 1) with
  | nil => simp [hd] at hlen
  | cons b rest =>
    rw [feedSpec]
    have e1 : pb.remaining - (pb.remaining - 1) = 1 := by omega
    simp only [stepByte, hst, e1, if_true]
    have e2 : inp.take pb.remaining = inp.take (pb.remaining - 1) ++ [b] := by
      have : pb.remaining = (pb.remaining - 1) + 1 := by omega
      rw [this, List.take_succ]
      simp only [Nat.add_sub_cancel]
      congr 1
      have := congrArg List.head? hd
      simp only [List.head?_drop, List.head?_cons] at this
      simp [this]
    have e3 : inp.drop pb.remaining = rest := by
      have e : inp.drop pb.remaining = (inp.drop (pb.remaining - 1)).drop 1 := by
        rw [List.drop_drop]; congr 1; omega
      rw [e, hd]; rfl
    rw [e2, e3, List.append_assoc]

theorem feedLoop_eq_spec (fuel : Nat) (pb : PB) (inp : List Nat)
    (hinv : Inv pb) (hf : inp.length < fuel) :
    feedLoop fuel pb inp = feedSpec pb inp := by
  induction fuel generalizing pb inp with
  | zero => omega
  | succ fuel ih =>
    unfold feedLoop
    cases hst : pb.st with
    | fixedHeader =>
      simp only
      cases inp with
      | nil => simp [feedSpec]
      | cons b rest =>
        simp only
        rw [ih _ rest (by intro h; simp at h) (by simpa using hf)]
        simp [feedSpec, stepByte, hst]
    | remLen =>
      simp only
      cases inp with
      | nil => simp [feedSpec]
      | cons b rest =>
        simp only
        have hr : rest.length < fuel := by simpa using hf
        by_cases herr : pb.mult = 128 * 128 * 128 ∧ b ≥ 128
        · simp [feedSpec, stepByte, hst, herr]
        · simp only [herr, if_false]
          by_cases hb : b < 128
          · simp only [hb, if_true]
            by_cases hz : pb.remaining + b % 128 * pb.mult = 0
            · simp [feedSpec, stepByte, hst, herr, hb, hz]
            · simp only [hz, if_false]
              rw [ih _ rest (by intro _; simp; omega) hr]
              have hz' : ¬ (pb.remaining = 0 ∧ b % 128 * pb.mult = 0) := by
                intro c; exact hz (by omega)
              simp [feedSpec, stepByte, hst, herr, hb, hz']
          · simp only [hb, if_false]
            rw [ih _ rest (by intro h; simp [hst] at h) hr]
            simp [feedSpec, stepByte, hst, herr, hb]
    | payload =>
      simp only
      have hpos := hinv hst
      by_cases hn0 : min pb.remaining inp.length = 0
      · have : inp = [] := by
          cases inp with
          | nil => rfl
          | cons _ _ => simp at hn0; omega
        subst this
        simp [feedSpec]
      · simp only [hn0, if_false]
        by_cases hle : pb.remaining ≤ inp.length
        · have hmin : min pb.remaining inp.length = pb.remaining := by omega
          simp only [hmin, Nat.sub_self, if_true]
          rw [feedSpec_payload_complete pb inp hst hpos hle]
        · have hmin : min pb.remaining inp.length = inp.length := by omega
          have hne : pb.remaining - inp.length ≠ 0 := by omega
          simp only [hmin, hne, if_false]
          rw [feedSpec_payload_partial inp.length pb inp hst (Nat.le_refl _) (by omega)]
          simp [feedSpec, hst]

theorem feed_eq_spec (pb : PB) (inp : List Nat) (hinv : Inv pb) :
    feed pb inp = feedSpec pb inp := by
  unfold feed
  split
  · rename_i h; subst h; simp [feedSpec]
  · exact feedLoop_eq_spec _ pb inp hinv (by omega)

theorem feedSpec_props (pb : PB) (inp : List Nat) (h : Inv pb) :
    Inv (feedSpec pb inp).1 ∧
    (∃ pre, inp = pre ++ (feedSpec pb inp).2.2) ∧
    (inp ≠ [] → (feedSpec pb inp).2.2.length < inp.length) ∧
    ((feedSpec pb inp).2.1 = none → (feedSpec pb inp).2.2 = [] ∧
        runSpec pb inp = ((feedSpec pb inp).1, [])) ∧
    (∀ o, (feedSpec pb inp).2.1 = some o →
        runSpec pb inp = ((runSpec (feedSpec pb inp).1 (feedSpec pb inp).2.2).1,
                          o :: (runSpec (feedSpec pb inp).1 (feedSpec pb inp).2.2).2)) := by
  induction inp generalizing pb with
  | nil => simp [feedSpec, runSpec, h]
  | cons b rest ih =>
    have hi := stepByte_inv pb b h
    simp only [feedSpec, runSpec]
    cases hs : stepByte pb b with
    | mk pb' o =>
      rw [hs] at hi
      cases o with
      | some o =>
        simp only
        exact ⟨hi, ⟨[b], rfl⟩, fun _ => by simp, fun c => by simp at c,
          fun o' ho => by simp at ho; subst ho; rfl⟩
      | none =>
        simp only
        obtain ⟨a1, ⟨pre, a2⟩, a3, a4, a5⟩ := ih pb' hi
        refine ⟨a1, ⟨b :: pre, by rw [List.cons_append, ← a2]⟩, fun _ => ?_, a4, a5⟩
        by_cases hr : rest = []
        · subst hr; simp [feedSpec]
        · have := a3 hr; simp; omega

end MqttVerif.Framing
