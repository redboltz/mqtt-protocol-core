import MqttVerif.Alloc.Spec
/-! For C20: under the representation invariant `Ok`, each pool operation changes the set of free values `Free` by
exactly the one value the specification names, and keeps `Ok`.  On top of that, for an allocator whose pool is
well-formed (`Wf`), the operations as Boolean equations on `isUsed`: this is what C20 and the connection's chains cite. -/
namespace MqttVerif.Alloc

@[simp] theorem free_nil (v : Nat) : ¬ Free [] v := by simp [Free]
@[simp] theorem free_cons (iv : Iv) (p : List Iv) (v : Nat) :
    Free (iv :: p) v ↔ (iv.lo ≤ v ∧ v ≤ iv.hi) ∨ Free p v := by simp [Free]
@[simp] theorem free_append (p q : List Iv) (v : Nat) :
    Free (p ++ q) v ↔ Free p v ∨ Free q v := by
  simp [Free, List.mem_append, or_and_right, exists_or]

/-- representation invariant: sorted, disjoint, **non-adjacent** (maximally merged),
    non-empty intervals, all ≥ `lb` -/
def Ok : Nat → List Iv → Prop
  | _, [] => True
  | lb, iv :: rest => lb ≤ iv.lo ∧ iv.lo ≤ iv.hi ∧ Ok (iv.hi + 2) rest

instance : (lb : Nat) → (p : List Iv) → Decidable (Ok lb p)
  | _, [] => isTrue trivial
  | lb, iv :: rest =>
    have := instDecidableOk (iv.hi + 2) rest
    by unfold Ok; infer_instance

theorem Ok.mono {lb lb' : Nat} {p : List Iv} (h : Ok lb p) (hl : lb' ≤ lb) : Ok lb' p := by
  cases p with
  | nil => trivial
  | cons iv rest => exact ⟨by have := h.1; omega, h.2.1, h.2.2⟩

theorem not_free_lt {lb : Nat} {p : List Iv} (h : Ok lb p) {v : Nat} (hv : v < lb) : ¬ Free p v := by
  induction p generalizing lb with
  | nil => simp
  | cons iv rest ih =>
    obtain ⟨h1, h2, h3⟩ := h
    have := ih h3 (by omega : v < iv.hi + 2)
    simp only [free_cons]; grind

theorem allocateP_none {p : List Iv} (h : allocateP p = none) (v : Nat) : ¬ Free p v := by
  cases p <;> simp_all [allocateP]

theorem useValueP_none {p : List Iv} {v : Nat} (h : useValueP v p = none) : ¬ Free p v := by
  induction p with
  | nil => simp
  | cons iv rest ih =>
    simp only [useValueP] at h
    split at h
    · simp at h
    · simp only [Option.map_eq_none_iff] at h
      have := ih h
      simp only [free_cons]; grind

/-- the bound that `Ok lb p` leaves for whatever follows `p` -/
def nxt : Nat → List Iv → Nat
  | lb, [] => lb
  | _, iv :: rest => nxt (iv.hi + 2) rest

theorem Ok_append {lb : Nat} {p q : List Iv} : Ok lb (p ++ q) ↔ Ok lb p ∧ Ok (nxt lb p) q := by
  induction p generalizing lb with
  | nil => simp only [List.nil_append, Ok, nxt, true_and]
  | cons iv rest ih => simp only [List.cons_append, Ok, nxt, ih, and_assoc]

/-! Each operation rewrites a window `p` of at most two intervals at the head of a pool `p ++ q` and leaves `q` alone.
What it does to `Free` and `Ok` is a fact `hw` about the window; `removes_append` and `Adds.append` carry it to the
pool: `q` only has to fit behind the new window as it did behind the old one.  At every use `p` and `p'` are explicit
lists, so that `hw`, with `Ok`, `nxt` and `Free` unfolded, is linear arithmetic over the hypotheses at hand: this is
its default proof. -/

theorem removes_append {lb v : Nat} (p p' q : List Iv) (h : Ok lb (p ++ q)) (hv : v < nxt lb p)
    (hw : Ok lb p → (∀ w, Free p' w ↔ Free p w ∧ w ≠ v) ∧ Ok lb p' ∧ nxt lb p' ≤ nxt lb p := by
      simp only [Ok, nxt, free_cons, free_nil, or_false, false_iff, and_true, true_and]
      exact fun _ => ⟨fun w => by omega, by omega⟩) :
    (∀ w, Free (p' ++ q) w ↔ Free (p ++ q) w ∧ w ≠ v) ∧ Ok lb (p' ++ q) :=
  have ⟨hp, hq⟩ := Ok_append.1 h
  have ⟨hf, hok, hn⟩ := hw hp
  have hne : ∀ w, Free q w → w ≠ v := fun _ hw e => not_free_lt hq hv (e ▸ hw)
  ⟨fun w => by rw [free_append, free_append, hf, or_and_right, and_iff_left_of_imp (hne w)],
    Ok_append.2 ⟨hok, hq.mono hn⟩⟩

theorem useValueP_some {lb : Nat} {p p' : List Iv} {v : Nat} (h : Ok lb p)
    (hu : useValueP v p = some p') :
    Free p v ∧ (∀ w, Free p' w ↔ (Free p w ∧ w ≠ v)) ∧ Ok lb p' := by
  induction p generalizing lb p' with
  | nil => cases hu
  | cons iv rest ih =>
    simp only [useValueP] at hu
    split at hu
    · rename_i hc
      cases hu
      have hv : v < iv.hi + 2 := by omega
      refine ⟨(free_cons ..).2 (.inl hc), ?_⟩
      by_cases a : iv.lo < v
      · rw [if_pos a]
        by_cases b : v < iv.hi
        · rw [if_pos b]
          exact removes_append [iv] [⟨iv.lo, v - 1⟩, ⟨v + 1, iv.hi⟩] rest h hv
        · rw [if_neg b]
          exact removes_append [iv] [⟨iv.lo, v - 1⟩] rest h hv
      · rw [if_neg a]
        by_cases b : v < iv.hi
        · rw [if_pos b]
          exact removes_append [iv] [⟨v + 1, iv.hi⟩] rest h hv
        · rw [if_neg b]
          exact removes_append [iv] [] rest h hv
    · rename_i hc
      obtain ⟨q, hq, rfl⟩ := Option.map_eq_some_iff.1 hu
      obtain ⟨f1, f2, f3⟩ := ih h.2.2 hq
      have hne : ∀ w, iv.lo ≤ w ∧ w ≤ iv.hi → w ≠ v := fun _ hw e => hc (e ▸ hw)
      exact ⟨(free_cons ..).2 (.inr f1),
        fun w => by rw [free_cons, free_cons, f2, or_and_right, and_iff_left_of_imp (hne w)], h.1, h.2.1, f3⟩

theorem allocateP_some {lb : Nat} {p p' : List Iv} {v : Nat} (h : Ok lb p)
    (ha : allocateP p = some (v, p')) : useValueP v p = some p' ∧ ∀ w, Free p w → v ≤ w := by
  cases p with
  | nil => cases ha
  | cons iv rest =>
    cases ha
    refine ⟨?_, fun w hw => Nat.le_of_not_lt fun c => not_free_lt (lb := iv.lo) (p := iv :: rest) ⟨Nat.le_refl _, h.2⟩ c hw⟩
    simp only [useValueP, Nat.le_refl, h.2.1, and_self, if_true, Nat.lt_irrefl, if_false, List.nil_append]
    split
    · rfl
    · rfl

/-- `r` is a pool above `lb` whose free values are those of `p` and `v` -/
def Adds (lb v : Nat) (p : List Iv) (r : DRes) : Prop :=
  ∃ p', r = .ok p' ∧ (∀ w, Free p' w ↔ (Free p w ∨ w = v)) ∧ Ok lb p'

theorem Adds.cons {lb v : Nat} {a : Iv} {p : List Iv} {r : DRes} (h1 : lb ≤ a.lo) (h2 : a.lo ≤ a.hi)
    (h : Adds (a.hi + 2) v p r) : Adds lb v (a :: p) (r.map (a :: ·)) :=
  have ⟨p', e, hf, hok⟩ := h
  ⟨a :: p', e ▸ rfl, fun w => by rw [free_cons, free_cons, hf, or_assoc], h1, h2, hok⟩

theorem Adds.append {lb v : Nat} (p p' q : List Iv) (h : Ok lb (p ++ q)) (hq : Ok (nxt lb p) q → Ok (nxt lb p') q)
    (hw : Ok lb p → (∀ w, Free p' w ↔ Free p w ∨ w = v) ∧ Ok lb p' := by
      simp only [Ok, free_cons, free_nil, or_false, false_or, and_true]
      exact fun _ => ⟨fun w => by omega, by omega⟩) :
    Adds lb v (p ++ q) (.ok (p' ++ q)) :=
  have ⟨hp, hq'⟩ := Ok_append.1 h
  have ⟨hf, hok⟩ := hw hp
  ⟨_, rfl, fun w => by rw [free_append, free_append, hf, or_right_comm], Ok_append.2 ⟨hok, hq hq'⟩⟩

theorem deallocLR_none {tmax v lb : Nat} {r : Iv} {rest : List Iv} (h : Ok lb (r :: rest)) (hlb : lb ≤ v)
    (hr : v < r.lo) (ht : v ≠ tmax) : Adds lb v (r :: rest) (deallocLR tmax v none r rest) := by
  simp only [deallocLR, if_neg ht]
  by_cases hm : v + 1 = r.lo
  · rw [if_pos hm]
    exact .append [r] [⟨v, r.hi⟩] rest h id
  · rw [if_neg hm, if_neg (by omega)]
    exact .append [r] [⟨v, v⟩, r] rest h id

theorem deallocLR_some {tmax v lb : Nat} {l r : Iv} {rest : List Iv} (h : Ok lb (l :: r :: rest))
    (hl : l.hi < v) (hr : v < r.lo) (ht : v ≠ tmax) :
    Adds lb v (l :: r :: rest) (deallocLR tmax v (some l) r rest) := by
  by_cases he : l.hi + 1 = v
  · simp only [deallocLR, if_pos he, if_neg ht]
    by_cases hm : v + 1 = r.lo
    · rw [if_pos hm]
      exact .append [l, r] [⟨l.lo, r.hi⟩] rest h id
    · rw [if_neg hm]
      exact .append [l, r] [⟨l.lo, v⟩, r] rest h id
  · -- `l` is not touched: the arms are those of `none`, behind `l`
    have far : deallocLR tmax v (some l) r rest = (deallocLR tmax v none r rest).map (l :: ·) := by
      simp only [deallocLR, if_neg he, apply_ite (DRes.map (l :: ·))]
      rfl
    rw [far]
    exact .cons h.1 h.2.1 (deallocLR_none h.2.2 (by omega) hr ht)

theorem deallocRaw_used {tmax v lb : Nat} {p : List Iv} (h : Ok lb p) (hv : ¬ Free p v)
    (hlb : lb ≤ v) (hmax : ∀ iv ∈ p, iv.hi ≤ tmax) :
    ∃ p', deallocRaw tmax v p = .ok p' ∧ (∀ w, Free p' w ↔ (Free p w ∨ w = v)) ∧ Ok lb p' := by
  induction p generalizing lb with
  | nil => exact Adds.append [] [⟨v, v⟩] [] h id
  | cons a rest ih =>
    rw [free_cons, not_or] at hv
    have skip := fun hlb => Adds.cons h.1 h.2.1 (ih h.2.2 hv.2 hlb fun iv hm => hmax iv (List.mem_cons_of_mem _ hm))
    unfold deallocRaw
    by_cases hlt : a.hi < v
    · rw [if_pos hlt]
      cases rest with
      | nil =>
        by_cases he : a.hi + 1 = v
        · simp only [if_pos he]
          exact Adds.append [a] [⟨a.lo, v⟩] [] h id
        · simp only [if_neg he]
          exact skip (by omega)
      | cons b rest' =>
        have hb := h.2.2.2.1
        by_cases hbv : b.hi < v
        · simp only [if_pos hbv]
          exact skip (by have := h.2.2.1; omega)
        · simp only [if_neg hbv]
          rw [free_cons, not_or] at hv
          have hr : v < b.lo := by omega
          exact deallocLR_some h hlt hr (by have := hmax b (by simp); omega)
    · rw [if_neg hlt]
      exact deallocLR_none h hlb (by omega) (by have := hmax a (by simp); have := h.2.1; omega)

theorem hi_le_of_free {lb ub : Nat} {p : List Iv} (h : Ok lb p) (hf : ∀ w, Free p w → w ≤ ub) :
    ∀ iv ∈ p, iv.hi ≤ ub := by
  induction p generalizing lb with
  | nil => simp
  | cons a rest ih =>
    obtain ⟨h1, h2, h3⟩ := h
    intro iv hm
    rcases List.mem_cons.1 hm with rfl | hm
    · exact hf _ (by simp; omega)
    · exact ih h3 (fun w hw => hf w (by simp [hw])) iv hm

/-! ### the operations on the set `{v | isUsed a v}`

`lowest ≤ highest` is needed only to build a pool (`new`, `clear`), `highest ≤ T::MAX` only by `deallocate`, whose
`value + 1` must not overflow. -/

structure Wf (a : A) : Prop where
  ok : Ok a.lowest a.pool
  hi : ∀ iv ∈ a.pool, iv.hi ≤ a.highest

theorem isUsed_range {a : A} {v : Nat} (h : isUsed a v = true) : a.lowest ≤ v ∧ v ≤ a.highest := by
  simp only [isUsed, Bool.and_eq_true, decide_eq_true_eq] at h
  exact h.1

theorem isUsed_iff (a : A) (v : Nat) :
    isUsed a v = true ↔ (a.lowest ≤ v ∧ v ≤ a.highest) ∧ ¬ Free a.pool v := by
  simp only [isUsed, Bool.and_eq_true, decide_eq_true_eq, Bool.not_eq_true', decide_eq_false_iff_not]

theorem Wf.free_range {a : A} (w : Wf a) {v : Nat} (h : Free a.pool v) : a.lowest ≤ v ∧ v ≤ a.highest :=
  ⟨Nat.le_of_not_lt fun hv => not_free_lt w.ok hv h,
    let ⟨iv, hm, _, hv⟩ := h; Nat.le_trans hv (w.hi iv hm)⟩

theorem Wf.free_iff {a : A} (w : Wf a) (v : Nat) :
    Free a.pool v ↔ (a.lowest ≤ v ∧ v ≤ a.highest ∧ isUsed a v = false) := by
  rw [← Bool.not_eq_true, isUsed_iff]
  exact ⟨fun h => ⟨(w.free_range h).1, (w.free_range h).2, fun c => c.2 h⟩,
    fun ⟨h1, h2, h3⟩ => Classical.not_not.1 fun c => h3 ⟨⟨h1, h2⟩, c⟩⟩

theorem allocate_bounds (a : A) :
    (allocate a).2.lowest = a.lowest ∧ (allocate a).2.highest = a.highest ∧ (allocate a).2.tmax = a.tmax := by
  unfold allocate
  cases allocateP a.pool <;> exact ⟨rfl, rfl, rfl⟩

theorem useValue_bounds (a : A) (v : Nat) :
    (useValue a v).2.lowest = a.lowest ∧ (useValue a v).2.highest = a.highest ∧ (useValue a v).2.tmax = a.tmax := by
  unfold useValue
  cases useValueP v a.pool <;> exact ⟨rfl, rfl, rfl⟩

theorem deallocate_bounds (a : A) (v : Nat) :
    (deallocate a v).2.lowest = a.lowest ∧ (deallocate a v).2.highest = a.highest ∧
      (deallocate a v).2.tmax = a.tmax := by
  unfold deallocate
  split
  · exact ⟨rfl, rfl, rfl⟩
  · split
    · exact ⟨rfl, rfl, rfl⟩
    · cases deallocRaw a.tmax v a.pool <;> exact ⟨rfl, rfl, rfl⟩

theorem step_bounds (a : A) (op : Op) :
    (step a op).1.lowest = a.lowest ∧ (step a op).1.highest = a.highest ∧ (step a op).1.tmax = a.tmax := by
  cases op with
  | allocate => exact allocate_bounds a
  | useValue v => exact useValue_bounds a v
  | deallocate v => exact deallocate_bounds a v
  | _ => exact ⟨rfl, rfl, rfl⟩

theorem Wf.useValue {a : A} (w : Wf a) (v : Nat) :
    Wf (useValue a v).2 ∧ (useValue a v).1 = decide (Free a.pool v) ∧
      ∀ x, isUsed (useValue a v).2 x = (isUsed a x || ((useValue a v).1 && x == v)) := by
  unfold Alloc.useValue
  cases hu : useValueP v a.pool with
  | none => exact ⟨w, (decide_eq_false (useValueP_none hu)).symm, fun _ => (Bool.or_false _).symm⟩
  | some p =>
    obtain ⟨f1, f2, f3⟩ := useValueP_some w.ok hu
    refine ⟨⟨f3, hi_le_of_free f3 fun x hx => (w.free_range ((f2 x).1 hx).1).2⟩, (decide_eq_true f1).symm, fun x => ?_⟩
    have hr := w.free_range f1
    rw [Bool.eq_iff_iff]
    simp only [isUsed_iff, f2, Bool.or_eq_true, Bool.and_eq_true, beq_iff_eq, true_and]
    grind

theorem Wf.useValue_iff {a : A} (w : Wf a) (v : Nat) :
    (Alloc.useValue a v).1 = true ↔ (a.lowest ≤ v ∧ v ≤ a.highest ∧ isUsed a v = false) := by
  rw [(w.useValue v).2.1, decide_eq_true_iff, w.free_iff]

theorem allocate_fst (a : A) : (allocate a).1 = firstVacant a := by
  unfold allocate firstVacant
  cases a.pool <;> rfl

theorem allocate_none {a : A} (h : (allocate a).1 = none) : allocate a = (none, a) ∧ ∀ v, ¬ Free a.pool v := by
  unfold allocate at h ⊢
  cases hp : allocateP a.pool with
  | none => exact ⟨rfl, allocateP_none hp⟩
  | some vp => rw [hp] at h; cases h

theorem Wf.allocate_eq {a : A} (w : Wf a) {v : Nat} (h : (Alloc.allocate a).1 = some v) :
    Alloc.allocate a = (some v, (Alloc.useValue a v).2) ∧ (Alloc.useValue a v).1 = true ∧
      ∀ u, Free a.pool u → v ≤ u := by
  unfold Alloc.allocate at h ⊢
  unfold Alloc.useValue
  cases ha : allocateP a.pool with
  | none => rw [ha] at h; cases h
  | some vp =>
    rw [ha] at h
    cases h
    rw [(allocateP_some w.ok ha).1]
    exact ⟨rfl, rfl, (allocateP_some w.ok ha).2⟩

theorem Wf.allocate {a : A} (w : Wf a) : Wf (Alloc.allocate a).2 := by
  cases h : (Alloc.allocate a).1 with
  | none => rw [(allocate_none h).1]; exact w
  | some v => rw [(w.allocate_eq h).1]; exact (w.useValue v).1

theorem Wf.allocate_some {a : A} (w : Wf a) {v : Nat} (h : (Alloc.allocate a).1 = some v) :
    Free a.pool v ∧ (∀ u, Free a.pool u → v ≤ u) ∧
      ∀ x, isUsed (Alloc.allocate a).2 x = (isUsed a x || x == v) := by
  obtain ⟨e, ht, hmin⟩ := w.allocate_eq h
  refine ⟨?_, hmin, fun x => ?_⟩
  · rwa [(w.useValue v).2.1, decide_eq_true_iff] at ht
  · rw [e, (w.useValue v).2.2, ht, Bool.true_and]

theorem Wf.allocate_mono {a : A} (w : Wf a) {x : Nat} (hx : isUsed a x = true) :
    isUsed (Alloc.allocate a).2 x = true := by
  cases h : (Alloc.allocate a).1 with
  | none => rw [(allocate_none h).1]; exact hx
  | some v => rw [(w.allocate_some h).2.2, hx]; rfl

theorem Wf.deallocate {a : A} (w : Wf a) (ht : a.highest ≤ a.tmax) (v : Nat) :
    Wf (Alloc.deallocate a v).2 ∧ ((a.lowest ≤ v ∧ v ≤ a.highest) → (Alloc.deallocate a v).1 = none) ∧
      ∀ x, isUsed (Alloc.deallocate a v).2 x = (isUsed a x && x != v) := by
  have hsame : ∀ x, isUsed a v = false → isUsed a x = (isUsed a x && x != v) := fun x hv => by
    by_cases e : x = v
    · rw [e, hv]; rfl
    · rw [bne_iff_ne.2 e, Bool.and_true]
  unfold Alloc.deallocate
  by_cases hr : a.lowest ≤ v ∧ v ≤ a.highest
  · rw [if_neg (fun h => h hr)]
    cases hu : isUsed a v with
    | false => exact ⟨w, fun _ => rfl, fun x => hsame x hu⟩
    | true =>
      obtain ⟨p', hd, hf, hok⟩ := deallocRaw_used (tmax := a.tmax) w.ok ((isUsed_iff a v).1 hu).2 hr.1
        fun iv hm => Nat.le_trans (w.hi iv hm) ht
      simp only [Bool.not_true, Bool.false_eq_true, if_false, hd]
      refine ⟨⟨hok, hi_le_of_free hok fun x hx => ?_⟩, fun _ => trivial, fun x => ?_⟩
      · rcases (hf x).1 hx with h | h
        · exact (w.free_range h).2
        · exact h ▸ hr.2
      · rw [Bool.eq_iff_iff]
        simp only [isUsed_iff, hf, Bool.and_eq_true, bne_iff_ne]
        grind
  · rw [if_pos hr]
    exact ⟨w, fun h => absurd h hr, fun x => hsame x (Bool.eq_false_iff.2 fun h => hr (isUsed_range h))⟩

theorem clear_isUsed (a : A) (v : Nat) : isUsed (clear a) v = false :=
  Bool.eq_false_iff.2 fun h => ((isUsed_iff _ v).1 h).2 ⟨_, List.mem_singleton_self _, ((isUsed_iff _ v).1 h).1⟩

theorem wf_clear {a : A} (h : a.lowest ≤ a.highest) : Wf (clear a) :=
  ⟨⟨Nat.le_refl _, h, trivial⟩, fun _ hm => by rw [List.mem_singleton.1 hm]; exact Nat.le_refl _⟩

theorem new_isUsed (lo hi t v : Nat) : isUsed (new lo hi t) v = false := clear_isUsed ⟨lo, hi, t, []⟩ v
theorem wf_new {lo hi : Nat} (h : lo ≤ hi) (t : Nat) : Wf (new lo hi t) := wf_clear (a := ⟨lo, hi, t, []⟩) h

/-! ### the specification's search and run count -/

theorem findFree_none {s : S} {v n : Nat} (h : s.findFree v n = none) :
    ∀ w, v ≤ w → w < v + n → ¬ s.free w := by
  induction n generalizing v with
  | zero => intro w h1 h2; omega
  | succ n ih =>
    simp only [S.findFree] at h
    split at h
    · simp at h
    · rename_i hv
      intro w h1 h2
      by_cases e : w = v
      · subst e; exact hv
      · exact ih h w (by omega) (by omega)

theorem findFree_some {s : S} {v n w : Nat} (h : s.findFree v n = some w) :
    s.free w ∧ v ≤ w ∧ w < v + n ∧ ∀ u, v ≤ u → u < w → ¬ s.free u := by
  induction n generalizing v with
  | zero => simp [S.findFree] at h
  | succ n ih =>
    simp only [S.findFree] at h
    split at h
    · rename_i hv
      simp only [Option.some.injEq] at h; subst h
      exact ⟨hv, Nat.le_refl _, by omega, fun u h1 h2 => by omega⟩
    · rename_i hv
      obtain ⟨a, b, c, d⟩ := ih h
      refine ⟨a, by omega, by omega, ?_⟩
      intro u h1 h2
      by_cases e : u = v
      · subst e; exact hv
      · exact d u (by omega) h2

/-- the number of maximal free runs seen by the specification equals the number of intervals
    of a pool satisfying the representation invariant.  Two cases, by whether the previous
    value was free (then we are inside an interval ending at `hi`). -/
theorem runs_eq (s : S) (n : Nat) :
    (∀ v p, Ok v p → (∀ iv ∈ p, iv.hi < v + n) → (∀ w, v ≤ w → (s.free w ↔ Free p w)) →
        s.runs v n false = p.length) ∧
    (∀ v hi p, v ≤ hi + 1 → hi < v + n → Ok (hi + 2) p → (∀ iv ∈ p, iv.hi < v + n) →
        (∀ w, v ≤ w → (s.free w ↔ (w ≤ hi ∨ Free p w))) →
        s.runs v n true = p.length) := by
  induction n with
  | zero =>
    constructor
    · intro v p hok hb _
      cases p with
      | nil => rfl
      | cons a rest => have := hb a (by simp); have := hok.1; have := hok.2.1; omega
    · intro v hi p h1 h2 hok hb _
      cases p with
      | nil => rfl
      | cons a rest => have := hb a (by simp); have := hok.1; have := hok.2.1; omega
  | succ n ih =>
    obtain ⟨ihA, ihB⟩ := ih
    constructor
    · intro v p hok hb hf
      simp only [S.runs]
      cases p with
      | nil =>
        have : ¬ s.free v := by rw [hf v (Nat.le_refl _)]; simp
        simp only [this, false_and, if_false, decide_false, Nat.zero_add]
        exact ihA (v + 1) [] trivial (by simp) (fun w hw => hf w (by omega))
      | cons a rest =>
        obtain ⟨h1, h2, h3⟩ := hok
        have hr : ∀ w, w ≤ a.hi + 1 → ¬ Free rest w := fun w hw => not_free_lt h3 (by omega)
        by_cases e : a.lo = v
        · have hfree : s.free v := by rw [hf v (Nat.le_refl _)]; simp; omega
          simp only [hfree, true_and, Bool.not_false, if_true, decide_true, List.length_cons]
          have := ihB (v + 1) a.hi rest (by omega) (by have := hb a (by simp); omega) h3
            (fun iv hm => by have := hb iv (by simp [hm]); omega)
            (fun w hw => by
              rw [hf w (by omega)]; simp only [free_cons]
              have := hr w; grind)
          omega
        · have hnf : ¬ s.free v := by
            rw [hf v (Nat.le_refl _)]; simp only [free_cons]
            have := hr v; grind
          simp only [hnf, false_and, if_false, decide_false, Nat.zero_add]
          exact ihA (v + 1) (a :: rest) ⟨by omega, h2, h3⟩
            (fun iv hm => by have := hb iv hm; omega) (fun w hw => hf w (by omega))
    · intro v hi p h1 h2 hok hb hf
      simp only [S.runs]
      by_cases e : v ≤ hi
      · have hfree : s.free v := by rw [hf v (Nat.le_refl _)]; exact Or.inl e
        simp only [hfree, true_and, Bool.not_true, decide_true, Bool.false_eq_true, if_false, Nat.zero_add]
        exact ihB (v + 1) hi p (by omega) (by omega) hok
          (fun iv hm => by have := hb iv hm; omega) (fun w hw => hf w (by omega))
      · have hnf : ¬ s.free v := by
          rw [hf v (Nat.le_refl _)]
          have := not_free_lt hok (by omega : v < hi + 2)
          grind
        simp only [hnf, false_and, if_false, decide_false, Nat.zero_add]
        exact ihA (v + 1) p (Ok.mono hok (by omega))
          (fun iv hm => by have := hb iv hm; omega)
          (fun w hw => by rw [hf w (by omega)]; constructor
                          · rintro (h | h); omega; exact h
                          · exact Or.inr)

end MqttVerif.Alloc
