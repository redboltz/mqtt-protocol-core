-- The root imports only the connection model (`Conn.Step`) and the monitors its theorems conclude (`Monitors`).
-- The property modules `MqttVerif/Props/Cxx.lean` are built one by one (`./check <Cxx>`): lemma files of different
-- properties declare some equal names (`Conn.Quiet`, `Conn.PidWf`, `Conn.mem_ins`, …) and cannot be imported together.
import MqttVerif.Conn.Step
import MqttVerif.Monitors
